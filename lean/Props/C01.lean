/-
  Props.C01 — property theorems for C01 (query filters select exactly what MongoDB's rules
  select).  The lemmas behind the statements are in Proofs/C01*.lean.

  Impl  = MongoModel.filterApplies   (faithful model of mongomock/filtering.py, tied to the
                                      code by the per-run correspondence check)
  Spec  = MongoModel.Spec.specMatches (the rules of the property text)
  D     = MongoModel.Spec.inD        (decidable; its negation is the list of named exclusion
                                      classes of Spec/MatchDomain.lean)
-/
import Proofs.C01

namespace MongoModel.Props.C01
open MongoModel MongoModel.Spec

/-- The full-strength statement: wherever both the model and the oracle give an answer, they
    give the same one. -/
def matches_eq_spec_full : Prop :=
  ∀ f d b b', filterApplies f d = .ok b → specMatches f d = .ok b' → b = b'

/-- It is false of the code as it stands (known finding `boolnum`): `{a: 1}` selects
    `{a: true}` because Python's `==` identifies `True` with `1`. The same witness is replayed
    on the real code by the check. -/
theorem matches_eq_spec_full_fails : ¬ matches_eq_spec_full := by
  intro h
  have := h (.doc [("a", .int 1)]) (.doc [("a", .bool true)]) true false (by decide +kernel) (by decide +kernel)
  exact absurd this (by decide)

/-- **Main theorem (partial: on D).** On every (filter, document) pair of the domain the
    matcher answers exactly what the rules say, without raising. -/
theorem matches_eq_spec_partial (f d : Val) (h : inD f d = true) :
    filterApplies f d = specMatches f d :=
  Proofs.C01.matches_eq_spec f d h

/-- D is inhabited by non-trivial pairs: a nested connective, a dotted path through an array of
    sub-documents, an ordering operator, `$in`, `$not`. -/
example : inD
    (.doc [("$or", .arr [.doc [("a.b", .doc [("$gt", .int 2)])],
                         .doc [("c", .doc [("$not", .doc [("$in", .arr [.str "x", .null])])])]]),
           ("d", .int 5)])
    (.doc [("a", .arr [.doc [("b", .int 3)], .doc [("b", .int 7)]]), ("c", .str "y"), ("d", .int 5)])
    = true := by decide +kernel

/-! The library defects `ext:$all` (an empty `$all` selected everything, a null item of `$all`
missed a missing field), `ext:$size` (`$size` applied to scalars and sub-documents),
`emptydocoperand`, `nullorder` and `deadend` are repaired (known_findings.json, status "fixed");
`$all`, `$size`, the empty sub-document operand, ordering against null and paths that run into a
scalar are part of D, so `matches_eq_spec_partial` covers them.  The witnesses of these findings,
as positive examples: each lies in D and the matcher answers what the rules say. -/

/-- `{a: {$all: []}}` selects nothing (it selected `{a: -1}`). -/
example :
    inD (.doc [("a", .doc [("$all", .arr [])])]) (.doc [("a", .int (-1))]) = true ∧
    filterApplies (.doc [("a", .doc [("$all", .arr [])])]) (.doc [("a", .int (-1))]) = .ok false ∧
    specMatches (.doc [("a", .doc [("$all", .arr [])])]) (.doc [("a", .int (-1))]) = .ok false := by
  decide +kernel

/-- `{a: {$all: [null]}}` selects a document without `a` (it did not). -/
example :
    inD (.doc [("a", .doc [("$all", .arr [.null])])]) (.doc []) = true ∧
    filterApplies (.doc [("a", .doc [("$all", .arr [.null])])]) (.doc []) = .ok true ∧
    specMatches (.doc [("a", .doc [("$all", .arr [.null])])]) (.doc []) = .ok true := by
  decide +kernel

/-- `$all` over the elements of an array value and over several reached scalars is in D. -/
example :
    inD (.doc [("a.b", .doc [("$all", .arr [.int 1, .str "x"])])])
      (.doc [("a", .arr [.doc [("b", .int 1)], .doc [("b", .str "x")], .doc []])]) = true ∧
    inD (.doc [("a", .doc [("$not", .doc [("$all", .arr [.int 1, .int 3])])])])
      (.doc [("a", .arr [.int 1, .int 2])]) = true := by
  decide +kernel

/-- `{a: {$size: 1}}` does not select `{a: "ba"}` (it did: a truthy scalar counted as one). -/
example :
    inD (.doc [("a", .doc [("$size", .int 1)])]) (.doc [("a", .str "ba")]) = true ∧
    filterApplies (.doc [("a", .doc [("$size", .int 1)])]) (.doc [("a", .str "ba")]) = .ok false ∧
    specMatches (.doc [("a", .doc [("$size", .int 1)])]) (.doc [("a", .str "ba")]) = .ok false := by
  decide +kernel

/-- `{a: {}}` does not select `{}` (it did), it selects `{a: {}}` and `{a: [{}]}`. -/
example :
    inD (.doc [("a", .doc [])]) (.doc []) = true ∧
    filterApplies (.doc [("a", .doc [])]) (.doc []) = .ok false ∧
    specMatches (.doc [("a", .doc [])]) (.doc []) = .ok false ∧
    filterApplies (.doc [("a", .doc [])]) (.doc [("a", .doc [])]) = .ok true ∧
    filterApplies (.doc [("a", .doc [])]) (.doc [("a", .arr [.doc []])]) = .ok true := by
  decide +kernel

/-- `{c: {$lte: null}}` selects a document without `c` (it did not). -/
example :
    inD (.doc [("c", .doc [("$lte", .null)])]) (.doc [("a", .int 2)]) = true ∧
    filterApplies (.doc [("c", .doc [("$lte", .null)])]) (.doc [("a", .int 2)]) = .ok true ∧
    specMatches (.doc [("c", .doc [("$lte", .null)])]) (.doc [("a", .int 2)]) = .ok true := by
  decide +kernel

/-- `{'a.b': null}` selects `{a: 5}` (it did not: the path dead-ended in the scalar and the
    matcher saw no candidate at all).  Since the repair the matcher reaches exactly the values
    the rules say a path reaches (`Proofs.C01Lemmas.cands_eq_reach`); D has no class for such
    paths. -/
example :
    inD (.doc [("a.b", .null)]) (.doc [("a", .int 5)]) = true ∧
    filterApplies (.doc [("a.b", .null)]) (.doc [("a", .int 5)]) = .ok true ∧
    specMatches (.doc [("a.b", .null)]) (.doc [("a", .int 5)]) = .ok true ∧
    inD (.doc [("a.b", .doc [("$exists", .bool false)])]) (.doc [("a", .null)]) = true ∧
    filterApplies (.doc [("a.b", .doc [("$exists", .bool false)])]) (.doc [("a", .null)]) = .ok true := by
  decide +kernel

/-- The empty field name is a field name (repaired defect `emptykey`: `{'': 1}` compared the whole
    document with `1`, so it missed `{'': 1}`).  Since the repair every dot-separated component of
    a key, the empty one included, names a field: keys like `''`, `'a.'`, `'.'`, `'a..b'` are
    inside D (the class `badkey` holds negative array indexes only), the matcher answers what the
    rules say, and the rules read `'a.'` as "the field `''` inside `a`" — through arrays of
    sub-documents too. -/
example :
    inD (.doc [("", .int 2)]) (.doc [("", .int 2)]) = true ∧
    filterApplies (.doc [("", .int 2)]) (.doc [("", .int 2)]) = .ok true ∧
    specMatches (.doc [("", .int 2)]) (.doc [("", .int 2)]) = .ok true ∧
    filterApplies (.doc [("", .int 2)]) (.doc [("a", .int 2)]) = .ok false ∧
    inD (.doc [("a.", .doc [("$gt", .int 2)])])
      (.doc [("a", .arr [.doc [("", .int 5)], .doc [("b", .int 7)]])]) = true ∧
    filterApplies (.doc [("a.", .doc [("$gt", .int 2)])])
      (.doc [("a", .arr [.doc [("", .int 5)], .doc [("b", .int 7)]])]) = .ok true ∧
    inD (.doc [(".", .null)]) (.doc [("", .int 2)]) = true ∧
    filterApplies (.doc [(".", .null)]) (.doc [("", .int 2)]) = .ok true ∧
    inD (.doc [("a..b", .str "x")]) (.doc [("a", .doc [("", .doc [("b", .str "x")])])]) = true ∧
    filterApplies (.doc [("a..b", .str "x")]) (.doc [("a", .doc [("", .doc [("b", .str "x")])])])
      = .ok true := by
  decide +kernel

/-- `$elemMatch` is outside D as a scope limit, not as a finding: on the witness of the repaired
    finding `ext:$elemMatch`, `{c: {$elemMatch: {$size: 1}}}` on `{c: ["b", 2]}`, the matcher and
    the rules agree since the `$size` repair. -/
example :
    filterApplies (.doc [("c", .doc [("$elemMatch", .doc [("$size", .int 1)])])])
      (.doc [("c", .arr [.str "b", .int 2])]) = .ok false ∧
    specMatches (.doc [("c", .doc [("$elemMatch", .doc [("$size", .int 1)])])])
      (.doc [("c", .arr [.str "b", .int 2])]) = .ok false := by
  decide +kernel

/-! ### Laws that hold for every input (no domain hypothesis) -/

/-- `$ne` holds exactly when `$eq` does not — for every key, operand and document. -/
theorem ne_eq_not_eq (key : String) (v d : Val) :
    applyKey (.doc [("$ne", v)]) key d = (applyKey (.doc [("$eq", v)]) key d).map (!·) :=
  Proofs.C01.ne_eq_not_eq key v d

/-- `$nin` holds exactly when `$in` does not (and raises exactly when `$in` raises). -/
theorem nin_eq_not_in (key : String) (v d : Val) :
    applyKey (.doc [("$nin", v)]) key d = (applyKey (.doc [("$in", v)]) key d).map (!·) :=
  Proofs.C01.nin_eq_not_in key v d

/-- `$not` is the negation of its operand condition whenever the path reaches something. -/
theorem not_eq_neg (key : String) (gs : Fields) (d : Val) (cs : List (Option Val))
    (hc : candsKey key d = .ok cs) (hne : cs ≠ [])
    (hk : gs.all (fun kv => operatorMapKeys.contains kv.1 || logicalKeys.contains kv.1) = true) :
    applyKey (.doc [("$not", .doc gs)]) key d = (applyKey (.doc gs) key d).map (!·) :=
  Proofs.C01.not_eq_neg key gs d cs hc hne hk

/-- Ordering operators never relate values of different BSON type classes. -/
theorem cmp_bracketed (op : CmpOp) (a b : Val) (h : a.tc ≠ b.tc) :
    bsonCompare op a b false = .ok false :=
  Proofs.Bson.bsonCompare_of_tc_ne op false h

/-- `$and` is conjunction, `$or` disjunction, `$nor` negated disjunction of the sub-filters
    (stated on sub-filters that do not raise). -/
theorem and_is_conj (qs : List Val) (d : Val) (bs : List Bool)
    (h : qs.map (applyVal · d) = bs.map .ok) : allApply qs d = .ok (bs.all id) :=
  Proofs.C01.and_is_conj qs d bs h

theorem or_is_disj (qs : List Val) (d : Val) (bs : List Bool)
    (h : qs.map (applyVal · d) = bs.map .ok) : anyApply qs d = .ok (bs.any id) :=
  Proofs.C01.or_is_disj qs d bs h

theorem nor_is_neg_disj (qs : List Val) (d : Val) (bs : List Bool)
    (h : qs.map (applyVal · d) = bs.map .ok) : norApply qs d = .ok (!(bs.any id)) :=
  Proofs.C01.nor_is_neg_disj qs d bs h

/-- Path traversal: whenever the matcher follows a dotted path (it gives up only on a negative
    array index) it reaches exactly the values the rules say the path reaches — a branch that
    runs into null or a scalar counts as a missing field.  (False before the `deadend` repair:
    `a.b` reached nothing in `{a: 5}`.)  The components are arbitrary strings: an empty one is a
    field name like any other. -/
theorem path_reaches_spec (ps : List String) (d : Val) (cs : List (Option Val))
    (h : cands ps d = .ok cs) : cs = reach ps d :=
  Proofs.C01Lemmas.cands_eq_reach ps d cs h

example :
    (match cands ["a", "b"] (.doc [("a", .arr [.doc [("b", .int 1)], .int 5, .doc [("b", .null)],
        .doc [("c", .int 2)]])]) with
     | .ok cs => cs == [some (.int 1), some .null, none]
     | .error _ => false) = true ∧
    (match cands ["a", "b"] (.doc [("a", .int 5)]) with
     | .ok cs => cs == [none]
     | .error _ => false) = true := by decide +kernel

/-- The same for the key as the filter spells it — **every** key, no exclusion: the matcher
    splits the key at its dots and each component, the empty one included, is a field name
    (`''` is the field named `''`, `'a.'` the field `''` inside `a`, `'.'` the field `''` inside
    the field `''`).  Before the repair "a filter looks the empty field name up like any other
    field" the matcher ended the path at an empty remainder (`''` reached the document itself,
    `'a.'` reached what `'a'` reaches). -/
theorem key_reaches_spec (key : String) (d : Val) (cs : List (Option Val))
    (h : candsKey key d = .ok cs) : cs = reach (splitDots key) d :=
  Proofs.C01Lemmas.cands_eq_reach (splitDots key) d cs h

example :
    let reaches (key : String) (d : Val) (want : List (Option Val)) : Bool :=
      match candsKey key d with
      | .ok cs => cs == want
      | .error _ => false
    reaches "" (.doc [("", .int 1), ("a", .int 2)]) [some (.int 1)] = true ∧
    reaches "" (.doc [("a", .int 2)]) [none] = true ∧
    reaches "a." (.doc [("a", .arr [.doc [("", .int 3)], .doc [("", .arr [.int 4])], .int 7, .doc []])])
      [some (.int 3), some (.arr [.int 4]), none] = true ∧
    reaches "a.1." (.doc [("a", .arr [.int 0, .doc [("", .int 5)]])]) [some (.int 5)] = true ∧
    reaches "." (.doc [("", .doc [("", .int 9)])]) [some (.int 9)] = true ∧
    reaches "a..b" (.doc [("a", .int 5)]) [none] = true := by decide +kernel

/-- On a document the empty key looks the field `''` up, and nothing else. -/
theorem empty_key_is_a_field (fs : Fields) : candsKey "" (.doc fs) = .ok [dget "" fs] := by
  have h : splitDots "" = [""] := by decide
  simp only [candsKey, h, cands]

/-! ### Malformed filters: what is rejected whatever the document, and what still is not

The rules reject a filter with a malformed part whatever the document is (`specMatches` raises).
The matcher validates while it evaluates.  Since the repair "the operators of a condition are
checked also when its key reaches no value" the operator *names* of a condition are checked once
per key, before the candidates are looked at; what is still reached only by evaluation — names
inside `$not` and `$elemMatch`, the operators' arguments, and every key that follows one that has
already failed — is the known finding `lazyvalidation`. -/

/-- An operator condition that holds a name which is no operator is rejected for **every** key
    and **every** document — whatever the key reaches, nothing included (an index past the end of
    an array, a field name over an array of scalars), and whatever the other operators of the
    condition say (`$all` failing first, `$exists: false` on no value).  Before the repair the
    check sat inside the loop over the reached values, so that `{'a.0': {$foo: 1}}` was accepted
    on `{a: []}`.  (`$options` next to `$regex` is outside the model.) -/
theorem unknown_operator_rejected (fs : Fields) (key : String) (d : Val)
    (hops : isOpsFilter (.doc fs) = true)
    (hunk : ∃ op, op ∈ dkeys fs ∧ operatorMapKeys.contains op = false ∧ op ≠ "$not")
    (hopt : ¬ ("$options" ∈ dkeys fs ∧ "$regex" ∈ dkeys fs)) :
    applyKey (.doc fs) key d = .error .opFail ∨ applyKey (.doc fs) key d = .error .notImpl :=
  Proofs.C01.unknown_operator_rejected fs key d hops hunk hopt

/-- the hypotheses hold for `{$all: [5], $foo: 1}` and `{$exists: false, $near: 1}`; on a key that
    reaches nothing the first is an `OperationFailure`, the second a `NotImplementedError` -/
example :
    isOpsFilter (.doc [("$all", .arr [.int 5]), ("$foo", .int 1)]) = true ∧
    (∃ op, op ∈ dkeys [("$all", Val.arr [.int 5]), ("$foo", .int 1)] ∧
      operatorMapKeys.contains op = false ∧ op ≠ "$not") ∧
    ¬ ("$options" ∈ dkeys [("$all", Val.arr [.int 5]), ("$foo", .int 1)] ∧
       "$regex" ∈ dkeys [("$all", Val.arr [.int 5]), ("$foo", .int 1)]) ∧
    applyKey (.doc [("$all", .arr [.int 5]), ("$foo", .int 1)]) "a.0" (.doc [("a", .arr [])])
      = .error .opFail ∧
    applyKey (.doc [("$exists", .bool false), ("$near", .int 1)]) "a.b" (.doc [("a", .arr [.int 1])])
      = .error .notImpl :=
  ⟨by decide +kernel, ⟨"$foo", by decide +kernel, by decide +kernel, by decide +kernel⟩,
   by decide +kernel, by decide +kernel, by decide +kernel⟩

/-- The full-strength statement about malformed filters: whatever the rules reject, the matcher
    rejects (on the inputs the oracle expresses). -/
def rejects_malformed_full : Prop :=
  ∀ f d e, specMatches f d = .error e → e ≠ .unmodelled → ∃ e', filterApplies f d = .error e'

/-- It is false of the code as it stands (known finding `lazyvalidation`): `{c: 1, $or: []}` is
    accepted — and does not select — when `c` differs from 1, because the keys of a filter are
    evaluated in order and the first one that fails ends the evaluation.  The same witness is
    replayed on the real code by the check. -/
theorem rejects_malformed_full_fails : ¬ rejects_malformed_full := by
  intro h
  obtain ⟨e', he⟩ := h (.doc [("c", .int 1), ("$or", .arr [])]) (.doc [("c", .int 2)]) .opFail
    (by decide +kernel) (by decide)
  have hok : filterApplies (.doc [("c", .int 1), ("$or", .arr [])]) (.doc [("c", .int 2)]) = .ok false := by
    decide +kernel
  rw [hok] at he
  cases he

/-- The other places that are reached by evaluation only (same finding): a name inside `$not`
    or an argument of an operator on a key that reaches nothing, an argument behind an operator
    of the same condition that already failed.  The rules reject each of these filters. -/
example :
    filterApplies (.doc [("a.0", .doc [("$not", .doc [("$foo", .int 1)])])]) (.doc [("a", .arr [])])
      = .ok false ∧
    specMatches (.doc [("a.0", .doc [("$not", .doc [("$foo", .int 1)])])]) (.doc [("a", .arr [])])
      = .error .opFail ∧
    filterApplies (.doc [("a.0", .doc [("$in", .int 5)])]) (.doc [("a", .arr [])]) = .ok false ∧
    specMatches (.doc [("a.0", .doc [("$in", .int 5)])]) (.doc [("a", .arr [])]) = .error .opFail ∧
    filterApplies (.doc [("a", .doc [("$gt", .int 1), ("$in", .int 5)])]) (.doc [("a", .int 0)])
      = .ok false ∧
    specMatches (.doc [("a", .doc [("$gt", .int 1), ("$in", .int 5)])]) (.doc [("a", .int 0)])
      = .error .opFail := by
  decide +kernel

/-- **Partial (a condition made of one unknown operator).**  Whatever the key is and whatever it
    reaches in the document, the matcher rejects the filter with the error the rules give
    (`NotImplementedError` for an operator of MongoDB's vocabulary that the library does not
    implement, `OperationFailure` for any other name). -/
theorem rejects_malformed_partial (key op : String) (sv d : Val)
    (hk : key.startsWith "$" = false) (hop : op.startsWith "$" = true)
    (hunk : operatorMapKeys.contains op = false) (hn : op ≠ "$not") :
    ∃ e, (e = .opFail ∨ e = .notImpl) ∧
      filterApplies (.doc [(key, .doc [(op, sv)])]) d = .error e ∧
      specMatches (.doc [(key, .doc [(op, sv)])]) d = .error e :=
  Proofs.C01Lemmas.unknown_single_eq_spec key op sv d hk hop (by
    simp only [Proofs.C01Lemmas.unknownOp, hunk, bne_iff_ne.mpr hn, Bool.not_false, Bool.and_self])

/-- non-vacuity: `{'a.0': {$foo: 1}}` and `{'': {$geoWithin: 1}}` on documents in which the key
    reaches nothing (the first was accepted before the repair) -/
example :
    ("a.0".startsWith "$" = false ∧ "$foo".startsWith "$" = true ∧
      operatorMapKeys.contains "$foo" = false ∧ "$foo" ≠ "$not") ∧
    filterApplies (.doc [("a.0", .doc [("$foo", .int 1)])]) (.doc [("a", .arr [])]) = .error .opFail ∧
    specMatches (.doc [("a.0", .doc [("$foo", .int 1)])]) (.doc [("a", .arr [])]) = .error .opFail ∧
    filterApplies (.doc [("", .doc [("$geoWithin", .int 1)])]) (.doc [("a", .arr [])]) = .error .notImpl ∧
    specMatches (.doc [("", .doc [("$geoWithin", .int 1)])]) (.doc [("a", .arr [])]) = .error .notImpl := by
  decide +kernel

/-- Equality to null also matches a missing field. -/
theorem null_eq_missing (key : String) (d : Val) (h : candsKey key d = .ok [none]) :
    applyKey .null key d = .ok true :=
  Proofs.C01.null_eq_missing key d h

end MongoModel.Props.C01
