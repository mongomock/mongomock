/-
  Props.C06 — unique indexes hold in every reachable state, across every write path.
  The lemmas are in Proofs/C06*.lean.  Model: `MongoModel.stepColl` (insert, insert_many,
  update, replacement, upsert, delete, the reads, create_index, drop_index(es), drop) and, from
  `stepX_uniq_inv_full` on, the extended step `stepX` / `runX` (find_one, the find-and-modify
  family, bulk_write, the bulk builder) with the duplicate inside a bulk; tied to mongomock by
  the history correspondence of harness/props/c06.py.

  DOMAIN.  `UniqInv` (Spec/Unique.lean): no two documents covered by a unique index have equal
  keys.  It is stated where indexed paths run through sub-documents and end in a value that is not
  an array — a scalar or an embedded document, whatever its keys look like — or are missing
  (`ValueInv`; outside lies the known finding `multikey`: `step_uniq_inv_full_fails`).  On that
  domain EVERY operation preserves `UniqInv`, with no further hypothesis (`step_uniq_inv_partial`),
  and so does every history (`reachable_uniq_partial`).

  Repaired in the library (the first and the third with their witnesses as regression examples
  below):
  * `partial-type-sensitive` (d244509): `_apply_update` stored an edited document WITHOUT calling
    `_ensure_uniques` when it was Python-`==` to the one it replaced.
  * `deadend-null` (69ced08, the matcher): an indexed path that runs into a scalar is a missing
    field; such paths are inside `ValueInv`.
  * `operator-like-value` (9ef8b46): the look-up of `_ensure_uniques` was the query `{key: value}`,
    which read an embedded document with `$`-prefixed keys as a query operator; since the repair
    it is `{key: {$eq: value}}` — the value is data, and the domain takes every embedded document
    (`Spec.isKeyable`).
-/
import Proofs.C06
import Proofs.C06Ext

namespace MongoModel.Props.C06
open MongoModel MongoModel.Spec

theorem init_uniq : UniqInv ({} : Coll) := Proofs.C06.init_uniq

def step_uniq_inv_full : Prop :=
  ∀ (cfg : Cfg) (now : Int) (c : Coll) (op : Val), UniqInv c → UniqInv (stepColl cfg now c op).1

/-- The unrestricted statement is FALSE of the code.  Witness (closed, evaluated in the kernel;
    `Proofs.C06Lemmas.cexColl`, `cexOp`): unique index on `a.b`, document `{_id: 1, a: [{b: 1}]}`,
    `insert_one({_id: 2, a: [{b: 1}]})` — the same key however one reads it (the multikey key `1`;
    or null, as `get_value_by_dot` finds no `a.b`), but the look-up `{a.b: {$eq: null}}` of
    `_ensure_uniques` is answered by the matcher, which walks into the array, and the insert is
    accepted (known finding `multikey`: arrays at or along an indexed path lie outside
    `ValueInv`).  (The former witnesses — a dotted index path dead-ending in a scalar, finding
    `deadend-null`; a value `{$size: "x"}` read as a query operator, finding `operator-like-value`
    — were repaired in the library and are inside the domain now.) -/
theorem step_uniq_inv_full_fails : ¬ step_uniq_inv_full := Proofs.C06Lemmas.step_uniq_false

/-- **Every operation preserves uniqueness** — whatever write path is taken (insert, insert_many,
    update, replacement, upsert; the "modified" and the "unchanged by `==`" branch of an update),
    successful or rejected, and for delete, the reads, index creation and removal — PROVIDED the
    resulting collection is in the value-key domain (`ValueInv`: indexed paths end in scalars or
    embedded documents; excluded: known finding `multikey`).
    Nothing is assumed of the documents BEFORE the operation (not even `ValueInv c`), of the
    store keys, of the partial filters, nor of the operation. -/
theorem step_uniq_inv_partial (cfg : Cfg) (now : Int) (c : Coll) (op : Val)
    (hu : UniqInv c) (hs' : ValueInv (stepColl cfg now c op).1) :
    UniqInv (stepColl cfg now c op).1 :=
  Proofs.C06.step_uniq_inv_alt cfg now c op hu hs'

/-- For a concrete state and operation the hypotheses of `step_uniq_inv_partial` can be
    discharged by evaluation (`uniqB`, `valB` decide `UniqInv`, `ValueInv`). -/
theorem step_uniq_inv_check (cfg : Cfg) (now : Int) (c : Coll) (op : Val)
    (h : (Proofs.C06Lemmas.uniqB c && Proofs.C06Lemmas.valB (stepColl cfg now c op).1) = true) :
    UniqInv (stepColl cfg now c op).1 :=
  Proofs.C06.step_uniq_inv_check cfg now c op h

/-- non-vacuity of `step_uniq_inv_partial`: a unique index on `k` and a sparse compound unique
    index on `(a.b, c)`, three documents, and an `update_many` that edits the first document and
    is rejected (DuplicateKeyError) on the second -/
example : UniqInv (stepColl {} 0
    { docs := [(.int 1, .doc [("_id", .int 1), ("k", .int 5), ("a", .doc [("b", .str "x")])]),
               (.int 2, .doc [("_id", .int 2), ("k", .int 6), ("c", .null)]),
               (.int 3, .doc [("_id", .int 3), ("k", .int 7), ("a", .doc [("b", .str "x")]), ("c", .int 1)])],
      indexes := [Index.mk "k_1" [("k", .int 1)] true false none none,
                  Index.mk "a.b_1_c_-1" [("a.b", .int 1), ("c", .int (-1))] true true none none] }
    (.arr [.str "update_many", .doc [], .doc [("$set", .doc [("k", .int 9)])], .bool false])).1 :=
  step_uniq_inv_check _ _ _ _ (by decide +kernel)

/-- regression example (the witness of the repaired finding `operator-like-value`,
    `Proofs.C06Lemmas.olvColl`, `olvOp`, `olvOp2`): unique index on `a`, document
    `{_id: 1, a: {$size: "x"}}`.  `insert_one({_id: 2, a: {$size: "x"}})` is rejected with
    DuplicateKeyError and stores nothing; `insert_one({_id: 2, a: {$foo: 1}})` (which used to raise
    OperationFailure, "unknown operator") is accepted; both collections are in the domain and the
    invariant holds (by the theorem). -/
example :
    ValueInv Proofs.C06Lemmas.olvColl ∧
    UniqInv (stepColl {} 0 Proofs.C06Lemmas.olvColl Proofs.C06Lemmas.olvOp).1 ∧
    UniqInv (stepColl {} 0 Proofs.C06Lemmas.olvColl Proofs.C06Lemmas.olvOp2).1 ∧
    (match (stepColl {} 0 Proofs.C06Lemmas.olvColl Proofs.C06Lemmas.olvOp).2 with
     | .err .dupKey => true | _ => false) = true ∧
    (stepColl {} 0 Proofs.C06Lemmas.olvColl Proofs.C06Lemmas.olvOp).1.docs.length = 1 ∧
    (stepColl {} 0 Proofs.C06Lemmas.olvColl Proofs.C06Lemmas.olvOp2).2.isErr = false :=
  ⟨(Proofs.C06Lemmas.valB_iff _).1 Proofs.C06Lemmas.olv_before.2,
   step_uniq_inv_check _ _ _ _ (by decide +kernel),
   step_uniq_inv_check _ _ _ _ (Bool.and_eq_true_iff.2
     ⟨Proofs.C06Lemmas.olv_before.1, Proofs.C06Lemmas.olv_after.2.2.2.2⟩),
   Proofs.C06Lemmas.olv_after.1, Proofs.C06Lemmas.olv_after.2.1, Proofs.C06Lemmas.olv_after.2.2.1⟩

/-- regression example (the witness of the repaired finding `partial-type-sensitive`,
    `Proofs.C06Lemmas.ptsColl`, `ptsOp`): unique index on `k` with
    `partialFilterExpression: {t: {$type: "double"}}`, documents `{_id: 1, k: 5, t: 1.0}` (covered)
    and `{_id: 2, k: 5, t: 1}` (not covered), `update_one({_id: 2}, {$set: {t: 1.0}})`.  The edited
    document is `==` to the old one; the update is rejected all the same, `t` stays an int and the
    invariant holds (by the theorem, and by evaluation). -/
example :
    UniqInv (stepColl {} 0 Proofs.C06Lemmas.ptsColl Proofs.C06Lemmas.ptsOp).1 ∧
    (stepColl {} 0 Proofs.C06Lemmas.ptsColl Proofs.C06Lemmas.ptsOp).2.isErr = true ∧
    (stepColl {} 0 Proofs.C06Lemmas.ptsColl Proofs.C06Lemmas.ptsOp).1.docs.map
      (fun p => Proofs.C06Lemmas.tKind p.2) = ["double", "int"] :=
  ⟨step_uniq_inv_check _ _ _ _ (by decide +kernel), Proofs.C06Lemmas.pts_after.1,
    Proofs.C06Lemmas.pts_after.2.2⟩

/-- **In every reachable state** (any history from the empty collection, `run`: every step is
    followed by the harness's observation) no two documents covered by a unique index have equal
    keys, PROVIDED the final state is in the value-key domain (`ValueInv`).  The intermediate
    states need NOT be in the value-key domain (a document with an array-valued key that is later
    deleted, expired or overwritten does no harm): the proof carries "uniqueness among the
    value-keyed, covered documents", which every operation preserves with no hypothesis at all
    (`Proofs.C06.step_carried`). -/
theorem reachable_uniq_partial (cfg : Cfg) (ops : List Val)
    (hs : ValueInv (run cfg ops).2.c) : UniqInv (run cfg ops).2.c :=
  Proofs.C06.reachable_uniq_alt cfg ops hs

theorem reachable_uniq_check (cfg : Cfg) (ops : List Val)
    (h : Proofs.C06Lemmas.valB (run cfg ops).2.c = true) : UniqInv (run cfg ops).2.c :=
  Proofs.C06.reachable_uniq_check cfg ops h

/-- the history used below: unique index, inserts (one rejected: `5 == 5.0`), an unordered
    insert_many with one rejection, an update_many rejected half-way, an update through the
    "unchanged by `==`" branch (`6 → 6.0`: stored and checked), a rejected upserting replacement, a sparse compound unique
    index, an accepted upsert, an insert rejected by the compound index, an accepted one, a delete -/
def demoHistory : List Val := [
  .arr [.str "create_index", .arr [.arr [.str "k", .int 1]], .doc [("unique", .bool true)]],
  .arr [.str "insert_one", .doc [("_id", .int 1), ("k", .int 5)]],
  .arr [.str "insert_one", .doc [("_id", .int 2), ("k", .dbl 5 0)]],
  .arr [.str "insert_many", .arr [.doc [("_id", .int 3), ("k", .int 6)],
    .doc [("_id", .int 4), ("k", .int 6)], .doc [("_id", .int 5)]], .bool false],
  .arr [.str "update_many", .doc [], .doc [("$set", .doc [("k", .int 9)])], .bool false],
  .arr [.str "update_one", .doc [("_id", .int 3)], .doc [("$set", .doc [("k", .dbl 6 0)])], .bool false],
  .arr [.str "replace_one", .doc [("_id", .int 7)], .doc [("k", .int 9)], .bool true],
  .arr [.str "create_index", .arr [.arr [.str "a.b", .int 1], .arr [.str "c", .int (-1)]],
    .doc [("unique", .bool true), ("sparse", .bool true)]],
  .arr [.str "update_one", .doc [("_id", .int 8)],
    .doc [("$set", .doc [("a.b", .str "x"), ("k", .int 10)])], .bool true],
  .arr [.str "insert_one", .doc [("_id", .int 9), ("k", .int 11), ("a", .doc [("b", .str "x")])]],
  .arr [.str "insert_one", .doc [("_id", .int 10), ("k", .int 12), ("a", .doc [("b", .str "x")]), ("c", .int 1)]],
  .arr [.str "delete_one", .doc [("_id", .int 1)]]]

/-- `demoHistory`: the final state is in the domain; which steps were rejected, the final `_id`s
    and indexes -/
private theorem demoHistory_facts : Proofs.C06Lemmas.valB (run {} demoHistory).2.c = true ∧
    ((run {} demoHistory).1.map (fun r => r.1.isErr) =
      [false, false, true, true, true, false, true, false, false, true, false, false] ∧
    (run {} demoHistory).2.c.docs.map (fun p => p.1 == Val.int 3 || p.1 == Val.int 5 || p.1 == Val.int 8
      || p.1 == Val.int 10) = [true, true, true, true] ∧
    (run {} demoHistory).2.c.indexes.map (·.name) = ["k_1", "a.b_1_c_-1"]) := by
  decide +kernel

/-- non-vacuity of `reachable_uniq_partial` -/
example : UniqInv (run {} demoHistory).2.c := reachable_uniq_check _ _ demoHistory_facts.1

/-- … and what happened along `demoHistory`: which steps were rejected, the final `_id`s -/
example : (run {} demoHistory).1.map (fun r => r.1.isErr) =
      [false, false, true, true, true, false, true, false, false, true, false, false] ∧
    (run {} demoHistory).2.c.docs.map (fun p => p.1 == Val.int 3 || p.1 == Val.int 5 || p.1 == Val.int 8
      || p.1 == Val.int 10) = [true, true, true, true] ∧
    (run {} demoHistory).2.c.indexes.map (·.name) = ["k_1", "a.b_1_c_-1"] :=
  demoHistory_facts.2

/-- the rejection theorem with the conclusion "… is rejected with a WriteError" -/
def dup_write_rejected_full : Prop :=
  ∀ (now : Int) (c : Coll) (d : Val) (ix : Index) (p : Val × Val),
    ValueInv c → ix ∈ c.indexes → ix.unique = true → c.ttlIndexes = [] → p ∈ c.docs →
    covers ix p.2 = true → covers ix (patchDT d) = true → valueKeys ix (patchDT d) = true →
    keyEq (keyVals ix p.2) (keyVals ix (patchDT d)) = true →
    (∃ fs, d = .doc fs ∧ dhas "_id" fs = true) →
    ∃ e, insertDoc now c d = .error e ∧ e.isWriteError = true

/-- It is FALSE: the insert is rejected, but an earlier check can raise something else first.
    Witness: `{_id: [], k: 5}` against `{_id: 1, k: 5}` under a unique index on `k` — the list `_id` is
    unhashable and `insert_one` raises TypeError.  (Likewise: another unique index, earlier in the
    index dict, whose own query raises — `{b: {$foo: 1}}` gives OperationFailure.) -/
theorem dup_write_rejected_full_fails : ¬ dup_write_rejected_full := by
  intro H
  obtain ⟨h1, h2, h3, h4, h5⟩ := Proofs.C06Lemmas.cex_insert_hyps
  obtain ⟨e, he, hw⟩ := H 0 Proofs.C06Lemmas.cexCollK Proofs.C06Lemmas.cexDoc Proofs.C06Lemmas.cexIxK
    (.int 1, .doc [("_id", .int 1), ("k", .int 5)])
    ((Proofs.C06Lemmas.valB_iff _).1 h1) (List.mem_singleton_self _) rfl rfl
    (List.mem_singleton_self _) h2 h3 h4 h5 ⟨_, rfl, by decide +kernel⟩
  have := Proofs.C06Lemmas.cex_insert
  rw [he] at this
  simp [Proofs.C06Lemmas.rejectedWith, hw] at this

/-- **A write that would create a duplicate key under a unique index is rejected** (insert path;
    no TTL index: expiry is C09's business): if a stored document covered by the index has the
    key of the new document, which is covered too, `insert_one` raises — whatever the other
    indexes and documents are.  (The collection is left as the expiry pass alone leaves it:
    C08.) -/
theorem dup_write_rejected_partial (now : Int) (c : Coll) (d : Val) (ix : Index) (p : Val × Val)
    (hs : ValueInv c) (hix : ix ∈ c.indexes) (hu : ix.unique = true) (hnt : c.ttlIndexes = [])
    (hp : p ∈ c.docs) (hcp : covers ix p.2 = true) (hcd : covers ix (patchDT d) = true)
    (hsd : valueKeys ix (patchDT d) = true)
    (heq : keyEq (keyVals ix p.2) (keyVals ix (patchDT d)) = true)
    (hid : ∃ fs, d = .doc fs ∧ dhas "_id" fs = true) :
    ∃ e, insertDoc now c d = .error e := by
  obtain ⟨fs, rfl, hid⟩ := hid
  obtain ⟨hdf, hsc⟩ := hs ix hix hu
  cases h : insertDoc now c (.doc fs) with
  | error e => exact ⟨e, rfl⟩
  | ok r =>
    exact absurd h (Proofs.C06Lemmas.insert_dup_rejected now c fs ix p hdf (hsc p hp) hix hu hnt hp
      hcp hcd hsd heq hid r.1 r.2)

/-- … **with DuplicateKeyError**, PROVIDED the `_id` is storable (`hk`; excluded: list `_id`s,
    TypeError), `ix` is the only unique index (`hone`; excluded: another unique index whose own
    query raises first) and the partial filter of `ix` raises on no stored document (`hpf`). -/
theorem dup_write_rejected_dupkey (now : Int) (c : Coll) (d : Val) (ix : Index) (p : Val × Val)
    (hs : ValueInv c) (hix : ix ∈ c.indexes) (hu : ix.unique = true) (hnt : c.ttlIndexes = [])
    (hp : p ∈ c.docs) (hcp : covers ix p.2 = true) (hcd : covers ix (patchDT d) = true)
    (hsd : valueKeys ix (patchDT d) = true)
    (heq : keyEq (keyVals ix p.2) (keyVals ix (patchDT d)) = true)
    (hid : ∃ fs, d = .doc fs ∧ dhas "_id" fs = true)
    (hk : ∃ k, storeKey (idOfDoc (patchDT d)) = .ok k)
    (hone : ∀ i ∈ c.indexes, i.unique = true → i = ix)
    (hpf : ∀ f, ix.partialFilter = some f → ∀ q ∈ c.docs, ∃ b, filterApplies f q.2 = .ok b) :
    insertDoc now c d = .error .dupKey :=
  Proofs.C06.dup_write_rejected_dupkey_alt now c d ix p hs hix hu hnt hp hcp hcd hsd heq hid hk hone hpf

/-- the unique index of the examples below: on `k`, restricted to the documents with `live: true` -/
def demoIx : Index :=
  Index.mk "k_1" [("k", .int 1)] true false none (some (.doc [("live", .bool true)]))

/-- a covered document with key `[5]`, and one the partial filter leaves out -/
def demoColl : Coll :=
  { docs := [(.int 1, .doc [("_id", .int 1), ("k", .int 5), ("live", .bool true)]),
             (.int 2, .doc [("_id", .int 2), ("k", .int 5)])],
    indexes := [Index.mk "n_1" [("n", .int 1)] false false none none, demoIx],
    forceCreated := true }

/-- inserting `{_id: 3, k: 5.0, live: true}` into `demoColl` (`5.0 == 5`) raises DuplicateKeyError,
    by `dup_write_rejected_dupkey` -/
private theorem demoColl_dup :
    insertDoc 0 demoColl (.doc [("_id", .int 3), ("k", .dbl 5 0), ("live", .bool true)]) =
      .error .dupKey :=
  dup_write_rejected_dupkey 0 demoColl _ demoIx
    (.int 1, .doc [("_id", .int 1), ("k", .int 5), ("live", .bool true)])
    ((Proofs.C06Lemmas.valB_iff _).1 (by decide +kernel)) (by simp [demoColl]) rfl rfl
    (by simp [demoColl]) (by decide +kernel) (by decide +kernel) (by decide +kernel)
    (by decide +kernel) ⟨_, rfl, by decide +kernel⟩ ⟨.int 3, rfl⟩
    (by
      intro i hi hu
      simp only [demoColl, List.mem_cons, List.not_mem_nil, or_false] at hi
      rcases hi with rfl | rfl
      · cases hu
      · rfl)
    (by
      intro f hf q hq
      cases hf
      simp only [demoColl, List.mem_cons, List.not_mem_nil, or_false] at hq
      rcases hq with rfl | rfl
      · exact ⟨true, by decide +kernel⟩
      · exact ⟨false, by decide +kernel⟩)

/-- non-vacuity of `dup_write_rejected_partial` and `dup_write_rejected_dupkey`: inserting
    `{_id: 3, k: 5.0, live: true}` (`5.0 == 5`) raises DuplicateKeyError -/
example : insertDoc 0 demoColl (.doc [("_id", .int 3), ("k", .dbl 5 0), ("live", .bool true)]) =
    .error .dupKey :=
  demoColl_dup

/-! ### the look-up compares values as data (after library commit 9ef8b46) -/

/-- **The look-up `_ensure_uniques` issues for a new document, `{key: {$eq: value}, …}`, answers
    on a stored document `e` exactly "the index key of `e` equals the index key of the new
    document"** — provided the indexed paths of the STORED document are value paths (`valueKeys`).
    NOTHING is asked of the new document: whatever its indexed values are — scalars, embedded
    documents with `$`-prefixed keys (`{$size: "x"}`, `{$foo: 1}`, `{$in: 3}`), arrays — they are
    operands of `$eq`, i.e. data, and the look-up never raises.  (Before the repair the look-up was
    `{key: value}`: a `$`-keyed value was run as a query operator — known finding
    `operator-like-value`, now fixed — and this statement was false.) -/
theorem lookup_is_key_equality (ix : Index) (new e : Val) (he : valueKeys ix e = true) :
    applyFields (ix.keys.map (fun k => (k.1, eqCond (match getByDot new k.1 with
      | .ok v => v
      | .error _ => .null)))) e = .ok (keyEq (keyVals ix e) (keyVals ix new)) := by
  rw [Proofs.C06Lemmas.keyVals_eq, Proofs.C06Lemmas.keyVals_eq,
    ← Proofs.C06Lemmas.applyFields_kw ix.keys new e (Proofs.C06Lemmas.okKeys_of_valueKeys he)]
  refine congrArg (applyFields · e) (List.map_congr_left fun k _ => ?_)
  unfold Proofs.C06Lemmas.kv1
  cases getByDot new k.1 <;> rfl

/-- … and these are the `find_kwargs` the code builds (distinct field names, new document in the
    domain). -/
theorem lookup_kwargs (ix : Index) (new : Val) (hd : distinctFields ix = true)
    (hn : valueKeys ix new = true) :
    valuesFor ix.keys new = .ok (ix.keys.map (fun k => (k.1, eqCond (match getByDot new k.1 with
      | .ok v => v
      | .error _ => .null)))) := by
  rw [Proofs.C06Lemmas.valuesFor_ok ix.keys new (Proofs.C06Lemmas.okKeys_of_valueKeys hn)
    (Proofs.C06Lemmas.distinctFields_nodup hd)]
  refine congrArg Except.ok (List.map_congr_left fun k _ => ?_)
  unfold Proofs.C06Lemmas.kv1
  cases getByDot new k.1 <;> rfl

/-- non-vacuity of both: compound index on `(a, c.d)`; the stored document holds `{$size: "x"}`
    under `a`, the new one `{$size: "x"}` and an ARRAY under `c.d` — the look-up answers `false`
    (keys differ in the second component) without raising; against a new document with the same
    key it answers `true` -/
example :
    let ix : Index := Index.mk "i" [("a", .int 1), ("c.d", .int 1)] true false none none
    let e : Val := .doc [("_id", .int 1), ("a", .doc [("$size", .str "x")]), ("c", .doc [("d", .int 2)])]
    let new1 : Val := .doc [("_id", .int 2), ("a", .doc [("$size", .str "x")]), ("c", .doc [("d", .arr [.int 2])])]
    let new2 : Val := .doc [("_id", .int 3), ("c", .doc [("d", .dbl 2 0)]), ("a", .doc [("$size", .str "x")])]
    (valueKeys ix e && distinctFields ix && valueKeys ix new2 && !valueKeys ix new1 &&
      !keyEq (keyVals ix e) (keyVals ix new1) && keyEq (keyVals ix e) (keyVals ix new2)) = true := by
  decide +kernel

/-- **An embedded document is an index key like any other value**: under the hypotheses of
    `dup_write_rejected_dupkey` — which ask nothing of the SHAPE of the indexed values beyond "not
    an array" — two documents whose indexed value is the same embedded document, `$`-prefixed keys
    or not, cannot both be inserted.  Instance on the former witness of `operator-like-value`. -/
theorem dollar_keyed_value_rejected :
    insertDoc 0 Proofs.C06Lemmas.olvColl
      (.doc [("_id", .int 2), ("a", .doc [("$size", .str "x")])]) = .error .dupKey :=
  dup_write_rejected_dupkey 0 Proofs.C06Lemmas.olvColl _ Proofs.C06Lemmas.olvIx
    (.int 1, .doc [("_id", .int 1), ("a", .doc [("$size", .str "x")])])
    ((Proofs.C06Lemmas.valB_iff _).1 Proofs.C06Lemmas.olv_before.2)
    (by simp [Proofs.C06Lemmas.olvColl]) rfl rfl (by simp [Proofs.C06Lemmas.olvColl])
    (by decide +kernel) (by decide +kernel) (by decide +kernel) (by decide +kernel)
    ⟨_, rfl, by decide +kernel⟩ ⟨.int 2, rfl⟩
    (by
      intro i hi _
      simp only [Proofs.C06Lemmas.olvColl, List.mem_cons, List.not_mem_nil, or_false] at hi
      exact hi)
    (by intro f hf; cases hf)

/-- Creating a unique index over data that already contains duplicates fails with
    DuplicateKeyError and leaves no index behind (non-sparse, non-partial index under a new name,
    value keys: scalars or embedded documents; no TTL index). -/
theorem create_over_dups_fails_clean (now : Int) (c : Coll) (ix : Index) (a b : Val × Val)
    (hu : ix.unique = true) (hnt : c.ttlIndexes = []) (hnew : ∀ i ∈ c.indexes, i.name ≠ ix.name)
    (hsc : ∀ p ∈ c.docs, valueKeys ix p.2 = true) (hpf : ix.partialFilter = none)
    (hns : ix.sparse = false)
    (hab : [a, b].Sublist c.docs)
    (heq : keyEq (keyVals ix a.2) (keyVals ix b.2) = true) :
    (createIndexColl now c ix).2 = .error .dupKey ∧
    (createIndexColl now c ix).1.indexes = c.indexes :=
  Proofs.C06.create_over_dups_fails_clean now c ix a b hu hnt hnew hsc hpf hns hab heq

/-- non-vacuity: `{k: 5}`, `{k: 6}`, `{k: 5.0}`; the first and the third clash -/
example :
    let c : Coll := { docs := [(.int 1, .doc [("_id", .int 1), ("k", .int 5)]),
                               (.int 2, .doc [("_id", .int 2), ("k", .int 6)]),
                               (.int 3, .doc [("_id", .int 3), ("k", .dbl 5 0)])] }
    let ix : Index := Index.mk "k_1" [("k", .int 1)] true false none none
    (createIndexColl 0 c ix).2 = .error .dupKey ∧ (createIndexColl 0 c ix).1.indexes = c.indexes := by
  intro c ix
  refine create_over_dups_fails_clean 0 c ix (.int 1, .doc [("_id", .int 1), ("k", .int 5)])
    (.int 3, .doc [("_id", .int 3), ("k", .dbl 5 0)]) rfl rfl (fun i hi => by cases hi) ?_ rfl rfl
    (.cons_cons _ (.cons _ (.cons_cons _ .slnil))) (by decide +kernel)
  intro p hp
  simp only [c, List.mem_cons, List.not_mem_nil, or_false] at hp
  rcases hp with rfl | rfl | rfl <;> decide +kernel

/-- A successful creation of a (non-sparse, non-partial) unique index establishes uniqueness for
    that index, whatever the documents are. -/
theorem create_establishes_uniq (now : Int) (c c' : Coll) (ix : Index) (name : String)
    (hu : ix.unique = true) (hpf : ix.partialFilter = none) (hns : ix.sparse = false)
    (h : createIndexColl now c ix = (c', .ok name)) :
    c'.docs.Pairwise (fun a b => keyEq (keyVals ix a.2) (keyVals ix b.2) = false) :=
  Proofs.C06.create_establishes_uniq now c c' ix name hu hpf hns h

/-- For ANY unique index (sparse, partial, compound): after a successful creation no two documents
    the index covers have equal keys.  (The pre-check skips a sparse document only when ALL its
    indexed fields are missing, and a partial one when the filter says no: it skips no covered
    document.) -/
theorem create_establishes_uniq_covered (now : Int) (c c' : Coll) (ix : Index) (name : String)
    (hu : ix.unique = true) (h : createIndexColl now c ix = (c', .ok name)) :
    (c'.docs.filter (fun p => covers ix p.2)).Pairwise
      (fun a b => keyEq (keyVals ix a.2) (keyVals ix b.2) = false) :=
  Proofs.C06.create_establishes_uniq_covered now c c' ix name hu h

/-- non-vacuity of both: the partial index `demoIx` can be created over `demoColl`'s documents
    (equal keys, but only one of them covered), and so can a plain unique index on `_id` -/
example :
    (createIndexColl 0 { demoColl with indexes := [] } demoIx).2 = .ok "k_1" ∧
    (createIndexColl 0 demoColl (Index.mk "i" [("_id", .int 1)] true false none none)).2 = .ok "i" := by
  decide +kernel

/-! ### uniqueness over ALL modelled operations (extended step)

`stepX` / `stepXS` (MongoModel/FindModify.lean) add `find_one`, `find_one_and_update / _replace /
_delete`, `bulk_write` and the bulk builder to the operations of `stepColl`; `runX`
(Spec/HistoryExt.lean) is `run` over `stepXS`.  The theorems below lift
`step_uniq_inv_partial` / `reachable_uniq_partial` to them, with the same single hypothesis: the RESULTING collection is in the value-key domain.  Nothing is asked of the
collections between the requests of a bulk. -/

def stepX_uniq_inv_full : Prop :=
  ∀ (cfg : Cfg) (now : Int) (c : Coll) (op : Val), UniqInv c → UniqInv (stepX cfg now c op).1

/-- It is FALSE of the code, for the reason `step_uniq_inv_full` is (known finding `multikey`):
    on the collection of `step_uniq_inv_full_fails` (`{_id: 1, a: [{b: 1}]}`, unique index on
    `a.b`), `bulk_write([InsertOne({_id: 2, a: {$size: "x"}})])` is accepted although neither
    document has an `a.b` for `get_value_by_dot` (`Proofs.C06Ext.cexBulk`). -/
theorem stepX_uniq_inv_full_fails : ¬ stepX_uniq_inv_full := by
  intro H
  have h1 := (Proofs.C06Lemmas.uniqB_iff _).2 (H {} 0 Proofs.C06Lemmas.cexColl Proofs.C06Ext.cexBulk
    ((Proofs.C06Lemmas.uniqB_iff _).1 Proofs.C06Lemmas.cex_before.1))
  rw [Proofs.C06Ext.cexBulk_after] at h1
  cases h1

/-- **Every modelled operation preserves uniqueness** — the basic ones, `find_one`,
    `find_one_and_update / _replace / _delete` (with or without upsert, sort, projection,
    `after`), `bulk_write` (ordered or not, whatever requests fail, aborted or not) and a bulk
    builder executed any number of times — PROVIDED the resulting collection is in the
    value-key domain (`ValueInv`; excluded: known finding `multikey`).
    Nothing is assumed of the collection before, of the collections between the requests of a
    bulk, nor of the operation. -/
theorem stepX_uniq_inv_partial (cfg : Cfg) (now : Int) (c : Coll) (op : Val)
    (hu : UniqInv c) (hs' : ValueInv (stepX cfg now c op).1) : UniqInv (stepX cfg now c op).1 :=
  Proofs.C06Ext.stepX_uniq_inv_alt cfg now c op hu hs'

/-- … on states with a clock (`stepXS`). -/
theorem stepXS_uniq_inv_partial (cfg : Cfg) (s : St) (op : Val)
    (hu : UniqInv s.c) (hs' : ValueInv (stepXS cfg s op).1.c) : UniqInv (stepXS cfg s op).1.c :=
  Proofs.C06Lemmas.uniqInv_of_uniqS (Proofs.ExtGen.stepXS_pres Proofs.C06Lemmas.carried
    (fun _ => True) (fun _ h _ => h) s op (Proofs.C06Lemmas.uniqS_of_uniqInv hu)
    (fun _ _ => trivial)) hs'

theorem stepX_uniq_inv_check (cfg : Cfg) (now : Int) (c : Coll) (op : Val)
    (h : (Proofs.C06Lemmas.uniqB c && Proofs.C06Lemmas.valB (stepX cfg now c op).1) = true) :
    UniqInv (stepX cfg now c op).1 :=
  Proofs.C06Ext.stepX_uniq_inv_check cfg now c op h

/-- a unique index on `k`, three documents -/
def demoCollX : Coll :=
  { docs := [(.int 1, .doc [("_id", .int 1), ("k", .int 5)]),
             (.int 2, .doc [("_id", .int 2), ("k", .int 6)]),
             (.int 3, .doc [("_id", .int 3), ("k", .int 7)])],
    indexes := [Index.mk "k_1" [("k", .int 1)] true false none none] }

/-- an unordered bulk mixing all kinds: an accepted insert, one rejected (`8.0 == 8`), an
    `UpdateMany` that edits the first document and is rejected on the second, a rejected upserting
    replacement, an accepted upsert, a delete -/
def demoBulk : Val :=
  .arr [.str "bulk_write", .arr [
    .arr [.str "InsertOne", .doc [("_id", .int 4), ("k", .int 8)]],
    .arr [.str "InsertOne", .doc [("_id", .int 5), ("k", .dbl 8 0)]],
    .arr [.str "UpdateMany", .doc [], .doc [("$set", .doc [("k", .int 9)])], .bool false],
    .arr [.str "ReplaceOne", .doc [("_id", .int 6)], .doc [("k", .int 6)], .bool true],
    .arr [.str "UpdateOne", .doc [("_id", .int 7)], .doc [("$set", .doc [("k", .int 10)])], .bool true],
    .arr [.str "DeleteOne", .doc [("k", .int 7)]]], .bool false]

/-- the three operations of the examples below on `demoCollX`: the hypotheses of
    `stepX_uniq_inv_check`, and what the operations did -/
private theorem demoCollX_facts :
    (Proofs.C06Lemmas.uniqB demoCollX && Proofs.C06Lemmas.valB (stepX {} 0 demoCollX demoBulk).1) = true ∧
    (Proofs.C06Lemmas.uniqB demoCollX && Proofs.C06Lemmas.valB (stepX {} 0 demoCollX
      (.arr [.str "find_one_and_update", .doc [],
      .doc [("$set", .doc [("k", .int 6)])], .null, .arr [.arr [.str "k", .int (-1)]],
      .bool false, .bool true])).1) = true ∧
    (Proofs.C06Lemmas.uniqB demoCollX && Proofs.C06Lemmas.valB (stepX {} 0 demoCollX
      (.arr [.str "find_one_and_replace", .doc [("_id", .int 9)],
      .doc [("k", .int 1)], .null, .null, .bool true, .bool true])).1) = true ∧
    ((match (stepX {} 0 demoCollX demoBulk).2 with
     | .bulkErr (.doc d) => dget "writeErrors" d
     | _ => none) == some (.arr [.doc [("index", .int 1), ("code", .int 11000)],
                                 .doc [("index", .int 2), ("code", .int 11000)],
                                 .doc [("index", .int 3), ("code", .int 11000)]]) ∧
    (stepX {} 0 demoCollX demoBulk).1.docs.map (fun p => keyVals Proofs.C06Lemmas.cexIxK p.2) ==
      [[.int 9], [.int 6], [.int 8], [.int 10]] ∧
    (stepX {} 0 demoCollX (.arr [.str "find_one_and_update", .doc [],
      .doc [("$set", .doc [("k", .int 6)])], .null, .arr [.arr [.str "k", .int (-1)]],
      .bool false, .bool true])).2.isErr = true ∧
    (stepX {} 0 demoCollX (.arr [.str "find_one_and_replace", .doc [("_id", .int 9)],
      .doc [("k", .int 1)], .null, .null, .bool true, .bool true])).1.docs.length = 4) := by
  decide +kernel

/-- non-vacuity of `stepX_uniq_inv_partial`: `demoBulk` on `demoCollX`; a rejected
    `find_one_and_update` (sorted, `k: 7 → 6`); an upserting `find_one_and_replace` -/
example :
    UniqInv (stepX {} 0 demoCollX demoBulk).1 ∧
    UniqInv (stepX {} 0 demoCollX (.arr [.str "find_one_and_update", .doc [],
      .doc [("$set", .doc [("k", .int 6)])], .null, .arr [.arr [.str "k", .int (-1)]],
      .bool false, .bool true])).1 ∧
    UniqInv (stepX {} 0 demoCollX (.arr [.str "find_one_and_replace", .doc [("_id", .int 9)],
      .doc [("k", .int 1)], .null, .null, .bool true, .bool true])).1 :=
  ⟨stepX_uniq_inv_check _ _ _ _ demoCollX_facts.1, stepX_uniq_inv_check _ _ _ _ demoCollX_facts.2.1,
   stepX_uniq_inv_check _ _ _ _ demoCollX_facts.2.2.1⟩

/-- … what they did: the bulk raised BulkWriteError with DuplicateKeyError at the indexes 1, 2, 3
    and left four documents with the keys 9, 6, 8, 10; the `find_one_and_update` was rejected;
    the `find_one_and_replace` upserted -/
example :
    (match (stepX {} 0 demoCollX demoBulk).2 with
     | .bulkErr (.doc d) => dget "writeErrors" d
     | _ => none) == some (.arr [.doc [("index", .int 1), ("code", .int 11000)],
                                 .doc [("index", .int 2), ("code", .int 11000)],
                                 .doc [("index", .int 3), ("code", .int 11000)]]) ∧
    (stepX {} 0 demoCollX demoBulk).1.docs.map (fun p => keyVals Proofs.C06Lemmas.cexIxK p.2) ==
      [[.int 9], [.int 6], [.int 8], [.int 10]] ∧
    (stepX {} 0 demoCollX (.arr [.str "find_one_and_update", .doc [],
      .doc [("$set", .doc [("k", .int 6)])], .null, .arr [.arr [.str "k", .int (-1)]],
      .bool false, .bool true])).2.isErr = true ∧
    (stepX {} 0 demoCollX (.arr [.str "find_one_and_replace", .doc [("_id", .int 9)],
      .doc [("k", .int 1)], .null, .null, .bool true, .bool true])).1.docs.length = 4 :=
  demoCollX_facts.2.2.2

/-- **In every state reachable through ANY of the modelled operations** (`runX`: any history
    from the empty collection over the basic operations, `find_one`, the find-and-modify family,
    `bulk_write` and the bulk builder) no two documents covered by a unique index have equal keys,
    PROVIDED the final state is in the value-key domain (`ValueInv`).  Neither the states along
    the history nor the collections between the requests of its bulks need be in that domain:
    the proof carries "uniqueness among the value-keyed, covered documents", which every
    operation preserves with no hypothesis (`Proofs.C06Ext.stepX_carried`). -/
theorem reachableX_uniq_partial (cfg : Cfg) (ops : List Val)
    (hs : ValueInv (runX cfg ops).2.c) : UniqInv (runX cfg ops).2.c :=
  Proofs.C06Ext.reachableX_uniq_alt cfg ops hs

theorem reachableX_uniq_check (cfg : Cfg) (ops : List Val)
    (h : Proofs.C06Lemmas.valB (runX cfg ops).2.c = true) : UniqInv (runX cfg ops).2.c :=
  Proofs.C06Ext.reachableX_uniq_check cfg ops h

/-- the history used below: a unique index, an insert, an upserting `find_one_and_update`, one
    rejected (`5.0 == 5`), a rejected sorted `find_one_and_replace`, an unordered `bulk_write`
    mixing kinds with three failing requests, an ordered bulk builder that stops at a duplicate
    and is executed twice, a `find_one_and_delete` -/
def demoHistoryX : List Val := [
  .arr [.str "create_index", .arr [.arr [.str "k", .int 1]], .doc [("unique", .bool true)]],
  .arr [.str "insert_one", .doc [("_id", .int 1), ("k", .int 5)]],
  .arr [.str "find_one_and_update", .doc [("_id", .int 2)], .doc [("$set", .doc [("k", .int 6)])],
    .null, .null, .bool true, .bool true],
  .arr [.str "find_one_and_update", .doc [("_id", .int 3)], .doc [("$set", .doc [("k", .dbl 5 0)])],
    .null, .null, .bool true, .bool true],
  .arr [.str "find_one_and_replace", .doc [("k", .int 6)], .doc [("k", .int 5)],
    .null, .arr [.arr [.str "k", .int (-1)]], .bool false, .bool true],
  .arr [.str "bulk_write", .arr [
    .arr [.str "InsertOne", .doc [("_id", .int 4), ("k", .int 7)]],
    .arr [.str "InsertOne", .doc [("_id", .int 5), ("k", .dbl 7 0)]],
    .arr [.str "UpdateMany", .doc [], .doc [("$set", .doc [("k", .int 9)])], .bool false],
    .arr [.str "ReplaceOne", .doc [("_id", .int 6)], .doc [("k", .int 6)], .bool true],
    .arr [.str "UpdateOne", .doc [("_id", .int 7)], .doc [("$set", .doc [("k", .int 8)])], .bool true],
    .arr [.str "DeleteOne", .doc [("k", .int 7)]]], .bool false],
  .arr [.str "bulk_builder", .arr [
    .arr [.str "InsertOne", .doc [("_id", .int 8), ("k", .int 1)]],
    .arr [.str "InsertOne", .doc [("_id", .int 9), ("k", .int 1)]],
    .arr [.str "InsertOne", .doc [("_id", .int 10), ("k", .int 2)]]], .bool true, .int 2],
  .arr [.str "find_one_and_delete", .doc [("k", .int 5)], .null, .null]]

/-- `demoHistoryX`: the final state is in the domain; which steps raised, the final keys -/
private theorem demoHistoryX_facts : Proofs.C06Lemmas.valB (runX {} demoHistoryX).2.c = true ∧
    ((runX {} demoHistoryX).1.map (fun r => r.1.isErr) =
      [false, false, false, true, true, true, false, false] ∧
    (runX {} demoHistoryX).2.c.docs.map (fun p => keyVals Proofs.C06Lemmas.cexIxK p.2) ==
      [[.int 9], [.int 6], [.int 8], [.int 1]]) := by
  decide +kernel

/-- non-vacuity of `reachableX_uniq_partial` -/
example : UniqInv (runX {} demoHistoryX).2.c := reachableX_uniq_check _ _ demoHistoryX_facts.1

/-- … and what happened along `demoHistoryX`: which steps raised, the final keys -/
example :
    (runX {} demoHistoryX).1.map (fun r => r.1.isErr) =
      [false, false, false, true, true, true, false, false] ∧
    (runX {} demoHistoryX).2.c.docs.map (fun p => keyVals Proofs.C06Lemmas.cexIxK p.2) ==
      [[.int 9], [.int 6], [.int 8], [.int 1]] :=
  demoHistoryX_facts.2

/-- **An `InsertOne` request that would create a duplicate key under a unique index yields a
    write error** (DuplicateKeyError, reported by `bulkLoop` at the request's index) **and
    leaves the collection unchanged at that step** — under the hypotheses of
    `dup_write_rejected_dupkey` (no TTL index: expiry is C09's business), on a collection in which
    existence is recorded (`Coll.Recorded`, every reachable one: a collection with an index has
    its created flag set; the rejected insert, which had already stored the document when the
    uniqueness check refused it, sets that flag once more). -/
theorem bulk_dup_write_rejected (cfg : Cfg) (now : Int) (c : Coll) (idx : Nat) (d : Val)
    (ix : Index) (p : Val × Val) (hr : c.Recorded)
    (hs : ValueInv c) (hix : ix ∈ c.indexes) (hu : ix.unique = true) (hnt : c.ttlIndexes = [])
    (hp : p ∈ c.docs) (hcp : covers ix p.2 = true) (hcd : covers ix (patchDT d) = true)
    (hsd : valueKeys ix (patchDT d) = true)
    (heq : keyEq (keyVals ix p.2) (keyVals ix (patchDT d)) = true)
    (hid : ∃ fs, d = .doc fs ∧ dhas "_id" fs = true)
    (hk : ∃ k, storeKey (idOfDoc (patchDT d)) = .ok k)
    (hone : ∀ i ∈ c.indexes, i.unique = true → i = ix)
    (hpf : ∀ f, ix.partialFilter = some f → ∀ q ∈ c.docs, ∃ b, filterApplies f q.2 = .ok b) :
    bulkOne cfg now c idx (.arr [.str "InsertOne", d]) = (c, .writeErr .dupKey) :=
  Proofs.C06Ext.bulk_dup_write_rejected cfg now c idx d ix p hr hs hix hu hnt hp hcp hcd hsd heq hid hk hone hpf

/-- … hence, at the level of the loop: the error is recorded at the request's index with code
    11000; an ordered bulk stops there, an unordered one goes on from the same collection. -/
theorem bulk_dup_write_error_at_index (cfg : Cfg) (now : Int) (ordered : Bool) (c : Coll)
    (idx : Nat) (d : Val) (rest : List Val) (t : BulkTotals)
    (h : bulkOne cfg now c idx (.arr [.str "InsertOne", d]) = (c, .writeErr .dupKey)) :
    bulkLoop cfg now ordered (.arr [.str "InsertOne", d] :: rest) idx c t =
      if ordered then
        (c, .bulkErr ({ t with errors := t.errors ++
          [Val.doc [("index", .int idx), ("code", .int 11000)]] }).toVal)
      else
        bulkLoop cfg now ordered rest (idx + 1) c { t with errors := t.errors ++
          [Val.doc [("index", .int idx), ("code", .int 11000)]] } := by
  rw [Proofs.C15Lemmas.loop_cons, h]
  rfl

/-- non-vacuity of `bulk_dup_write_error_at_index`: `InsertOne({_id: 3, k: 5.0, live: true})`
    against `demoColl` (`5.0 == 5` under the partial unique index `demoIx`), as the request of
    index 4 of an ordered bulk; its hypothesis from `demoColl_dup` by
    `Proofs.C06Ext.bulkOne_insert_dup` (`demoColl` has its created flag set) -/
example : bulkLoop {} 0 true
      [.arr [.str "InsertOne", .doc [("_id", .int 3), ("k", .dbl 5 0), ("live", .bool true)]],
       .arr [.str "DeleteMany", .doc []]] 4 demoColl {} =
    (demoColl, .bulkErr ({ ({} : BulkTotals) with errors :=
      [Val.doc [("index", .int 4), ("code", .int 11000)]] }).toVal) :=
  bulk_dup_write_error_at_index {} 0 true demoColl 4 _ _ {}
    (Proofs.C06Ext.bulkOne_insert_dup {} 0 demoColl 4 _ rfl (by decide +kernel) rfl demoColl_dup)

end MongoModel.Props.C06
