/-
  Props.C13 — upsert inserts exactly one well-formed document iff nothing matches.
  Proofs in Proofs/C13*.lean.  Model: the upsert path of `applyUpdateColl`
  (Store.lean), `upsertSeed` = `discardOps`, then `expandDots` (Update.lean).  `c1` is the
  collection the expiry pass leaves, `sel` the documents the filter selects.
-/
import Proofs.C13
import Proofs.C13ExtId
import Proofs.C13ExtPaths

namespace MongoModel.Props.C13
open MongoModel MongoModel.Spec

private def gives (r : R Val) (v : Val) : Bool :=
  match r with
  | .ok x => x == v
  | .error _ => false

private def raisesWriteError (r : R Val) : Bool :=
  match r with
  | .error .writeErr => true
  | _ => false

/-- When something matches, `upsert=True` changes nothing: the call is the same call without
    upsert (same result, same collection). -/
theorem upsert_like_plain_when_matched (cfg : Cfg) (now : Int) (c c1 : Coll) (fs : Fields) (u : Val)
    (multi : Bool) (q : Val × Val) (rest : List (Val × Val))
    (he : expire now c = .ok c1) (hi : IdInv c) (hg : GoodKeys c)
    (hs : selectDocs (patchDT (.doc fs)) c1.docs = .ok (q :: rest))
    (hok : ∀ e, (applyUpdateColl cfg now c (.doc fs) u false multi).2 ≠ .error e) :
    (applyUpdateColl cfg now c (.doc fs) u true multi).1.docs =
      (applyUpdateColl cfg now c (.doc fs) u false multi).1.docs ∧
    ((applyUpdateColl cfg now c (.doc fs) u true multi).2.toOption.map (fun r => (r.n, r.nModified, r.upserted.isSome)))
      = ((applyUpdateColl cfg now c (.doc fs) u false multi).2.toOption.map (fun r => (r.n, r.nModified, r.upserted.isSome))) :=
  Proofs.C13.upsert_like_plain_when_matched cfg now c c1 fs u multi q rest he hi hg hs hok

/-- When something matches, the call with `upsert=True` equals the call without it — whole state,
    whole result, errors included (no success hypothesis needed). -/
theorem upsert_eq_plain_when_matched (cfg : Cfg) (now : Int) (c c1 : Coll) (fs : Fields) (u : Val)
    (multi : Bool) (q : Val × Val) (rest : List (Val × Val))
    (he : expire now c = .ok c1) (hi : IdInv c) (hg : GoodKeys c)
    (hs : selectDocs (patchDT (.doc fs)) c1.docs = .ok (q :: rest)) :
    applyUpdateColl cfg now c (.doc fs) u true multi =
      applyUpdateColl cfg now c (.doc fs) u false multi :=
  Proofs.C13.upsert_eq_plain_when_matched cfg now c c1 fs u multi q rest he hi hg hs

/-- Without upsert nothing is ever inserted. -/
theorem no_upsert_no_insert (cfg : Cfg) (now : Int) (c c' : Coll) (f u : Val) (multi : Bool)
    (r : UpdateResult) (h : applyUpdateColl cfg now c f u false multi = (c', .ok r)) :
    r.upserted = none ∧ c'.docs.length ≤ c.docs.length :=
  Proofs.C13.no_upsert_no_insert cfg now c c' f u multi r h

/-- A successful upsert call reports an upserted `_id` exactly when the filter selected nothing;
    then exactly one document was appended, it is stored under the reported `_id`, `n = 1`,
    nothing counts as modified and nothing existing was touched. -/
theorem upsert_iff_no_match (cfg : Cfg) (now : Int) (c c1 c' : Coll) (fs : Fields) (u : Val)
    (multi : Bool) (sel : List (Val × Val)) (r : UpdateResult)
    (he : expire now c = .ok c1) (hne : c1.docs ≠ []) (hn : c.ttlIndexes = [])
    (hi : IdInv c) (hg : GoodKeys c)
    (hs : selectDocs (patchDT (.doc fs)) c1.docs = .ok sel)
    (h : applyUpdateColl cfg now c (.doc fs) u true multi = (c', .ok r)) :
    (r.upserted.isSome ↔ sel = []) ∧
    (sel = [] → ∃ id d, r.upserted = some id ∧ c'.docs = c1.docs ++ [(id, d)] ∧
        idOf d = some id ∧ r.n = 1 ∧ r.nModified = 0 ∧ r.updatedExisting = false) :=
  Proofs.C13.upsert_iff_no_match cfg now c c1 c' fs u multi sel r he hne hn hi hg hs h

/-- The reported result of an upsert: matched_count 0 and the stored `_id` as upserted_id
    (`updateOut` is what `UpdateResult` shows) — whatever the `_id`, null included.  (An upsert
    storing `_id: null` used to report matched_count 1; the repaired defect is recorded under
    C10 as `upsert-null-id-matched` — the counts are C10's —, C13's own records of the null `_id`
    are `nullid` and `fam-upsert-null-id-return`.) -/
theorem upsert_result (r : UpdateResult) (id : Val) (h : r.upserted = some id) :
    updateOut r = .doc [("matched", .int 0), ("modified", .int r.nModified), ("upserted", id)] :=
  Proofs.C13.upsert_result r id h

/-- non-vacuity: an upsert whose filter gives `_id: null` stores that `_id` and reports
    matched_count 0 -/
example : (match applyUpdateColl {} 0 Proofs.C13.exColl (.doc [("_id", .null), ("a", .int 7)])
      (.doc [("$set", .doc [("b", .int 2)])]) true false with
    | (c', .ok r) => r.upserted == some .null && c'.docs.length == 2 &&
        updateOut r == .doc [("matched", .int 0), ("modified", .int 0), ("upserted", .null)]
    | _ => false) = true := by decide +kernel

/-- The seed: `_discard_operators` keeps the equality conditions of the filter
    (`Spec.equalities`): an equality condition on a plain (undotted) field puts that value into
    the seed, an operator condition contributes nothing, `$eq` contributes its operand; and
    `_expand_dots` leaves such conditions as they are. -/
theorem seed_plain_equalities (ss : Fields) (hk : ss.all (fun kv => !kv.1.toList.contains '.' && !kv.1.startsWith "$") = true)
    (hd : (dkeys ss).Nodup) :
    expandDots (equalities ss) = .ok (equalities ss) ∧
    (∀ k v, dget k ss = some v → isScalar v = true → dget k (equalities ss) = some v) ∧
    (∀ k ops, dget k ss = some (.doc ops) → isOps ops = true → dget "$eq" ops = none →
        dget k (equalities ss) = none) ∧
    (∀ k x, dget k ss = some (.doc [("$eq", x)]) → dget k (equalities ss) = some x) :=
  Proofs.C13.seed_plain_equalities ss hk hd

/-- A dotted equality condition is expanded into nested sub-documents (any component may be the
    empty field name). -/
theorem seed_expands_dots (a b : String) (v : Val)
    (ha : a.toList.contains '.' = false) (hb : b.toList.contains '.' = false) :
    expandDots [(a ++ "." ++ b, v)] = .ok [(a, .doc [(b, v)])] :=
  Proofs.C13.seed_expands_dots a b v ha hb

/-- `$setOnInsert` is applied only when inserting, and then it acts as `$set` (positional paths
    included: C02); without a `$` in its paths that is `updateFields .set`. -/
theorem setOnInsert_only_on_insert (spec now body : Val) (d : Val) :
    applyUpdate spec (.doc [("$setOnInsert", body)]) now false d = .ok d ∧
    applyUpdate spec (.doc [("$setOnInsert", body)]) now true d =
      applyUpdate spec (.doc [("$set", body)]) now true d ∧
    (positionalUpdate [("$setOnInsert", body)] = false →
      applyUpdate spec (.doc [("$setOnInsert", body)]) now true d = updateFields .set now body d) :=
  Proofs.C13.setOnInsert_only_on_insert spec now body d

/-- non-vacuity: an upsert on a non-empty collection where nothing matches; the seed carries the
    filter's equality, the operator condition is dropped, `$setOnInsert` and `$set` are applied -/
example : (match applyUpdateColl {} 0
      { docs := [(.int 1, .doc [("_id", .int 1), ("a", .int 1)])] }
      (.doc [("a", .int 2), ("b", .doc [("$gt", .int 5)]), ("c.d", .str "x")])
      (.doc [("$set", .doc [("e", .int 9)]), ("$setOnInsert", .doc [("f", .bool true)])]) true false with
    | (c', .ok r) => r.upserted.isSome && c'.docs.length == 2 &&
        (c'.docs.map (·.2))[1]? == some (.doc [("a", .int 2), ("c", .doc [("d", .str "x")]),
          ("_id", .oid 1000), ("e", .int 9), ("f", .bool true)])
    | _ => false) = true := by decide +kernel

/-- non-vacuity: the hypotheses of `upsert_iff_no_match` and `upsert_like_plain_when_matched`
    (expiry, non-empty, no TTL index, `IdInv`, `GoodKeys`) hold on the collection used above -/
example : expire 0 Proofs.C13.exColl = .ok Proofs.C13.exColl ∧ Proofs.C13.exColl.docs ≠ [] ∧
    Proofs.C13.exColl.ttlIndexes = [] ∧ IdInv Proofs.C13.exColl ∧ GoodKeys Proofs.C13.exColl :=
  Proofs.C13.exColl_hyps

/-- non-vacuity: on `exColl` `{a: 2}` selects nothing and `{a: 1}` selects one document -/
example : (match selectDocs (patchDT (.doc [("a", .int 2)])) Proofs.C13.exColl.docs,
      selectDocs (patchDT (.doc [("a", .int 1)])) Proofs.C13.exColl.docs with
    | .ok s0, .ok s1 => s0.length == 0 && s1.length == 1
    | _, _ => false) = true := by decide +kernel

/-- non-vacuity: an upsert whose filter matches inserts nothing and reports no upserted `_id` -/
example : (match applyUpdateColl {} 0 Proofs.C13.exColl (.doc [("a", .int 1)])
      (.doc [("$set", .doc [("e", .int 9)]), ("$setOnInsert", .doc [("f", .bool true)])]) true false with
    | (c', .ok r) => r.upserted.isNone && r.n == 1 && r.nModified == 1 && c'.docs.length == 1 &&
        (c'.docs.map (·.2))[0]? == some (.doc [("_id", .int 1), ("a", .int 1), ("e", .int 9)])
    | _ => false) = true := by decide +kernel

/-- non-vacuity: a filter with an equality, an operator condition and an `$eq` satisfies the
    hypotheses of `seed_plain_equalities`; its seed is `{a: 2, c: 7}` -/
example : let ss : Fields := [("a", .int 2), ("b", .doc [("$gt", .int 5)]), ("c", .doc [("$eq", .int 7)])]
    (ss.all (fun kv => !kv.1.toList.contains '.' && !kv.1.startsWith "$") &&
      decide ((dkeys ss).Nodup) &&
      (equalities ss == [("a", .int 2), ("c", .int 7)]) &&
      (match expandDots (equalities ss) with | .ok ex => ex == equalities ss | _ => false)) = true := by
  decide +kernel

/-! The last clause of C13 — "when the filter consists of equality conditions that the update
    does not overwrite, the new document is matched by that same filter afterwards" — and which
    `_id` the new document gets.

    Shapes (Spec/UpsertExt.lean): `plainEqualities ss` = every key of the filter is a top-level
    field name (no dot, no leading `$`; the empty name included) and every value a scalar;
    `plainKeys ss` = the same on the keys only (any conditions); `isOperatorUpdate` /
    `isReplacement` / `leavesId` for the update; `HoldsAll ss fs` = the document `fs` holds `k: v`
    for every `(k, v)` of `ss`. -/

/-- Any document that holds `k: v` for every condition `k: v` of a plain-equality filter is
    matched by the filter (no distinctness of keys needed, `null` included: a scalar is `==` to
    itself). -/
theorem holds_all_matches (ss fs : Fields) (hk : plainEqualities ss = true) (hf : HoldsAll ss fs) :
    filterApplies (.doc ss) (.doc fs) = .ok true :=
  Proofs.C13Ext.holds_matches ss fs hk hf

/-- For a filter of plain equality conditions with pairwise
    distinct keys — the empty field name included — and whatever `_id` the upsert path chooses
    (the filter's own when it has one, else any value: generated, or taken from the update), the
    seed `upsertSeed` builds exists and is matched by the filter.  (Repaired defect
    `upsert-empty-key`: the matcher used to read the key `""` as "the document itself", so the seed
    of `{"": 2}` was not matched and repeating the call inserted again.) -/
theorem seed_matches_filter (ss : Fields) (hk : plainEqualities ss = true) (hd : (dkeys ss).Nodup)
    (idv : Val) (hid : ∀ v, dget "_id" ss = some v → idv = v) :
    ∃ sf, upsertSeed ss idv = .ok (.doc sf) ∧ HoldsAll ss sf ∧
      filterApplies (.doc ss) (.doc sf) = .ok true :=
  Proofs.C13Ext.seed_matches_filter ss hk hd idv hid

/-- the witness of the repaired defect `upsert-empty-key`: the filter `{"": 2}` satisfies the
    hypotheses, its seed is `{"": 2, _id: …}` and is matched; on the collection of the witness the
    upsert inserts, the filter then selects exactly the new document, and a second identical call
    matches it instead of inserting again -/
example : let ss : Fields := [("", .int 2)]
    (plainEqualities ss && decide ((dkeys ss).Nodup) &&
      (match upsertSeed ss (.oid 7) with
       | .ok seed => seed == .doc [("", .int 2), ("_id", .oid 7)] &&
           filterApplies (.doc ss) seed == .ok true
       | _ => false) &&
      (match applyUpdateColl {} 0 Proofs.C13.exColl (.doc ss) (.doc [("$set", .doc [("e", .int 9)])]) true false with
       | (c', .ok r) => r.upserted.isSome && c'.docs.length == 2 &&
           (selectDocs (.doc ss) c'.docs).toOption.map (·.length) == some 1 &&
           (match applyUpdateColl {} 0 c' (.doc ss) (.doc [("$set", .doc [("e", .int 9)])]) true false with
            | (c'', .ok r') => r'.upserted.isNone && r'.n == 1 && c''.docs.length == 2
            | _ => false)
       | _ => false)) = true := by decide +kernel

/-- non-vacuity: a three-condition filter (a number, `null`, an aware datetime) is a plain-equality
    filter with distinct keys; its seed is the filter itself with the chosen `_id` -/
example : let ss : Fields := [("a", .int 2), ("b", .null), ("c", .date 1500 (some 60))]
    (plainEqualities ss && decide ((dkeys ss).Nodup) &&
      gives (upsertSeed ss (.int 5)) (.doc (ss ++ [("_id", .int 5)]))) = true := by decide +kernel

/-- **The clause itself.**  Filter `ss`: plain equality conditions, distinct keys.  Update `ufs`:
    an operator update none of whose paths starts at a key of the filter (`Spec.addressed`; it MAY
    address `_id` when the filter has no `_id`).  If the upsert call succeeds and reports an
    upserted `_id`, then exactly one document `(id, fs)` was appended, it carries that `_id`, it
    holds every pair of the (normalised) filter, it is matched by the filter, and it is the one
    document of the new collection the filter selects — so a following `find(filter)` returns
    exactly it (`Props.C10.find_is_selection`).
    The clause does not apply to replacements: a replacement overwrites every field of the seed
    but `_id` (see the example below). -/
theorem upsert_then_matched (cfg : Cfg) (now : Int) (c c1 c' : Coll) (ss ufs : Fields)
    (multi : Bool) (sel : List (Val × Val)) (r : UpdateResult)
    (he : expire now c = .ok c1) (hne : c1.docs ≠ []) (hn : c.ttlIndexes = [])
    (hi : IdInv c) (hg : GoodKeys c)
    (hk : plainEqualities ss = true) (hd : (dkeys ss).Nodup)
    (hu : isOperatorUpdate ufs = true)
    (hx : ∀ k ∈ dkeys ss, k ∉ addressed ufs)
    (hs : selectDocs (patchDT (.doc ss)) c1.docs = .ok sel)
    (h : applyUpdateColl cfg now c (.doc ss) (.doc ufs) true multi = (c', .ok r))
    (hup : r.upserted.isSome = true) :
    ∃ id fs, r.upserted = some id ∧ c'.docs = c1.docs ++ [(id, .doc fs)] ∧
      dget "_id" fs = some id ∧
      HoldsAll (patchFields ss) fs ∧
      filterApplies (patchDT (.doc ss)) (.doc fs) = .ok true ∧
      selectDocs (patchDT (.doc ss)) c'.docs = .ok [(id, .doc fs)] :=
  Proofs.C13Ext.upsert_then_matched cfg now c c1 c' ss ufs multi sel r he hne hn hi hg hk hd hu hx hs h hup

/-- non-vacuity: on `exColl` (hypotheses: `exColl_hyps` above) the filter `{a: 2, b: "x"}` with the
    update `{$set: {e: 9}, $inc: {"n.m": 1}}` satisfies every decidable hypothesis, nothing is
    selected, the call succeeds with an upserted `_id`, and the new document is matched -/
example : let ss : Fields := [("a", .int 2), ("b", .str "x")]
    let ufs : Fields := [("$set", .doc [("e", .int 9)]), ("$inc", .doc [("n.m", .int 1)])]
    (plainEqualities ss && decide ((dkeys ss).Nodup) && isOperatorUpdate ufs &&
      decide (∀ k ∈ dkeys ss, k ∉ addressed ufs) &&
      (match selectDocs (patchDT (.doc ss)) Proofs.C13.exColl.docs,
          applyUpdateColl {} 0 Proofs.C13.exColl (.doc ss) (.doc ufs) true false with
       | .ok sel, (c', .ok r) => sel.isEmpty && r.upserted.isSome &&
          (c'.docs.map (·.2))[1]? == some (.doc [("a", .int 2), ("b", .str "x"), ("_id", .oid 1000),
            ("e", .int 9), ("n", .doc [("m", .int 1)])])
       | _, _ => false)) = true := by decide +kernel

/-- the restriction is needed: when the update overwrites a field of the filter, or is a
    replacement, the new document is NOT matched by the filter -/
example :
    (match applyUpdateColl {} 0 Proofs.C13.exColl (.doc [("a", .int 3)]) (.doc [("$inc", .doc [("a", .int 9)])]) true false,
           applyUpdateColl {} 0 Proofs.C13.exColl (.doc [("a", .int 3)]) (.doc [("z", .int 9)]) true false with
     | (c', .ok _), (c'', .ok _) =>
        (selectDocs (.doc [("a", .int 3)]) c'.docs).toOption.map (·.length) == some 0 &&
        (selectDocs (.doc [("a", .int 3)]) c''.docs).toOption.map (·.length) == some 0
     | _, _ => false) = true := by decide +kernel

/-- The upserted `_id`, case 1: the filter's.  Filter with top-level keys only (any conditions),
    distinct keys, and a scalar `_id: v`; update that leaves `_id` alone (`leavesId`: an operator
    update not addressing `_id`, or a replacement without `_id`).  The reported `_id` is `v`,
    normalised.  (An update that `$set`s `_id` wins over the filter: see `upsert_id_from_set`.) -/
theorem upsert_id_from_filter (cfg : Cfg) (now : Int) (c c1 c' : Coll) (ss ufs : Fields)
    (multi : Bool) (sel : List (Val × Val)) (r : UpdateResult) (id v : Val)
    (he : expire now c = .ok c1) (hne : c1.docs ≠ []) (hn : c.ttlIndexes = [])
    (hi : IdInv c) (hg : GoodKeys c)
    (hk : plainKeys ss = true) (hd : (dkeys ss).Nodup)
    (hv : dget "_id" ss = some v) (hsv : isScalar v = true) (hl : leavesId ufs = true)
    (hs : selectDocs (patchDT (.doc ss)) c1.docs = .ok sel)
    (h : applyUpdateColl cfg now c (.doc ss) (.doc ufs) true multi = (c', .ok r))
    (hup : r.upserted = some id) : id = patchDT v :=
  Proofs.C13Ext.upsert_id_from_filter cfg now c c1 c' ss ufs multi sel r id v he hne hn hi hg hk hd hv hsv hl hs h hup

/-- The upserted `_id`, case 2: the replacement's.  No `_id` in the filter, a replacement
    (distinct keys) carrying a scalar `_id: w`: the reported `_id` is `w`, normalised. -/
theorem upsert_id_from_replacement (cfg : Cfg) (now : Int) (c c1 c' : Coll) (ss ufs : Fields)
    (multi : Bool) (sel : List (Val × Val)) (r : UpdateResult) (id w : Val)
    (he : expire now c = .ok c1) (hne : c1.docs ≠ []) (hn : c.ttlIndexes = [])
    (hi : IdInv c) (hg : GoodKeys c)
    (hk : plainKeys ss = true) (hd : (dkeys ss).Nodup)
    (hv : dget "_id" ss = none)
    (hr : isReplacement ufs = true) (hw : dget "_id" ufs = some w) (hsw : isScalar w = true)
    (hnd : (dkeys ufs).Nodup)
    (hs : selectDocs (patchDT (.doc ss)) c1.docs = .ok sel)
    (h : applyUpdateColl cfg now c (.doc ss) (.doc ufs) true multi = (c', .ok r))
    (hup : r.upserted = some id) : id = patchDT w :=
  Proofs.C13Ext.upsert_id_from_replacement cfg now c c1 c' ss ufs multi sel r id w he hne hn hi hg hk hd hv hr hw hsw hnd hs h hup

/-- The upserted `_id`, case 3: the one the update `$set`s / `$setOnInsert`s.  The update is an
    operator update `pre ++ [op: body] ++ post` with `op` = `$set` or `$setOnInsert`, `body` holds
    `_id: w` (any value) and no other path starting at `_id`, and neither `pre` nor `post`
    addresses `_id`.  The filter may have a scalar `_id` or none: the reported `_id` is `w`,
    normalised — on an insert mongomock lets the update overwrite the filter's `_id`. -/
theorem upsert_id_from_set (cfg : Cfg) (now : Int) (c c1 c' : Coll) (ss pre post body : Fields)
    (op : String) (multi : Bool) (sel : List (Val × Val)) (r : UpdateResult) (id w : Val)
    (he : expire now c = .ok c1) (hne : c1.docs ≠ []) (hn : c.ttlIndexes = [])
    (hi : IdInv c) (hg : GoodKeys c)
    (hk : plainKeys ss = true) (hd : (dkeys ss).Nodup)
    (hv : ∀ v, dget "_id" ss = some v → isScalar v = true)
    (hop : op = "$set" ∨ op = "$setOnInsert")
    (hall : (pre ++ (op, .doc body) :: post).all (fun kv => kv.1.startsWith "$") = true)
    (hpre : "_id" ∉ addressed pre) (hpost : "_id" ∉ addressed post)
    (hw : dget "_id" body = some w)
    (hf : (dkeys body).filter (fun k => headOf k = "_id") = ["_id"])
    (hs : selectDocs (patchDT (.doc ss)) c1.docs = .ok sel)
    (h : applyUpdateColl cfg now c (.doc ss) (.doc (pre ++ (op, .doc body) :: post)) true multi = (c', .ok r))
    (hup : r.upserted = some id) : id = patchDT w :=
  Proofs.C13Ext.upsert_id_from_set cfg now c c1 c' ss pre post body op multi sel r id w he hne hn hi hg hk hd hv hop hall hpre hpost hw hf hs h hup

/-- The upserted `_id`, case 4: otherwise a fresh ObjectId.  No `_id` in the filter and an update
    that leaves `_id` alone: the reported `_id` is the next generated ObjectId of the collection. -/
theorem upsert_id_fresh (cfg : Cfg) (now : Int) (c c1 c' : Coll) (ss ufs : Fields)
    (multi : Bool) (sel : List (Val × Val)) (r : UpdateResult) (id : Val)
    (he : expire now c = .ok c1) (hne : c1.docs ≠ []) (hn : c.ttlIndexes = [])
    (hi : IdInv c) (hg : GoodKeys c)
    (hk : plainKeys ss = true) (hd : (dkeys ss).Nodup)
    (hv : dget "_id" ss = none) (hl : leavesId ufs = true)
    (hs : selectDocs (patchDT (.doc ss)) c1.docs = .ok sel)
    (h : applyUpdateColl cfg now c (.doc ss) (.doc ufs) true multi = (c', .ok r))
    (hup : r.upserted = some id) : id = .oid c.nextOid :=
  Proofs.C13Ext.upsert_id_fresh cfg now c c1 c' ss ufs multi sel r id he hne hn hi hg hk hd hv hl hs h hup

/-- the upserted `_id` of a call on `exColl`, `none` when the call fails or upserts nothing -/
def exUpsertedId (f u : Val) : Option Val :=
  match applyUpdateColl {} 0 Proofs.C13.exColl f u true false with
  | (_, .ok r) => r.upserted
  | _ => none

/-- non-vacuity of the four `_id` theorems on `exColl`: the filter's (an aware datetime, reported
    normalised; also under a replacement without `_id`), the replacement's, the `$setOnInsert`'s
    (also against a filter `_id`), a fresh one; the decidable hypotheses hold on these inputs -/
example :
    (plainKeys [("_id", .date 1500 (some 1)), ("a", .doc [("$gt", .int 5)])] &&
     leavesId [("$set", .doc [("e", .int 9)])] && leavesId [("z", .int 1)] && leavesId [] &&
     exUpsertedId (.doc [("_id", .date 1500 (some 1)), ("a", .doc [("$gt", .int 5)])])
        (.doc [("$set", .doc [("e", .int 9)])]) == some (patchDT (.date 1500 (some 1))) &&
     exUpsertedId (.doc [("_id", .int 7)]) (.doc [("z", .int 1)]) == some (.int 7) &&
     exUpsertedId (.doc [("_id", .int 7)]) (.doc []) == some (.int 7) &&
     isReplacement [("z", .int 1), ("_id", .str "k")] &&
     exUpsertedId (.doc [("a", .int 2)]) (.doc [("z", .int 1), ("_id", .str "k")]) == some (.str "k") &&
     decide ((dkeys ([("_id", .int 9), ("f.g", .int 1)] : Fields)).filter (fun k => headOf k = "_id") = ["_id"]) &&
     decide ("_id" ∉ addressed [("$set", .doc [("e", .int 9)])]) &&
     exUpsertedId (.doc [("a", .int 2)]) (.doc [("$set", .doc [("e", .int 9)]),
        ("$setOnInsert", .doc [("_id", .int 9), ("f.g", .int 1)])]) == some (.int 9) &&
     exUpsertedId (.doc [("_id", .int 7)]) (.doc [("$set", .doc [("_id", .int 9)])]) == some (.int 9) &&
     exUpsertedId (.doc [("a", .int 2)]) (.doc [("$set", .doc [("e", .int 9)])])
        == some (.oid Proofs.C13.exColl.nextOid) &&
     exUpsertedId (.doc [("a", .int 2)]) (.doc [("z", .int 1)]) == some (.oid Proofs.C13.exColl.nextOid))
    = true := by decide +kernel

/-- the hypothesis "leaves `_id` alone" of `upsert_id_fresh` is needed: an update that `$unset`s
    `_id` removes the seed's generated ObjectId and `insertDoc` generates the next one -/
example : (exUpsertedId (.doc [("a", .int 5)]) (.doc [("$unset", .doc [("_id", .int 1)])])
    == some (.oid (Proofs.C13.exColl.nextOid + 1))) = true := by decide +kernel

/-! The seed of ANY filter (generalises `seed_plain_equalities` and `seed_expands_dots` to dotted
    paths of any depth), and when it cannot be built.

    `equalities ss` = what `_discard_operators` keeps of the filter; `prefixFree eqs`: no key is a
    dotted prefix of (or equal to) another; `noDollarKeys ss`: no top-level key is an operator (so
    no `$and` / `$or`); `getPath`: reading a dotted path (Spec/UpdateSpec.lean).

    Repaired defect `upsert-op-under-eq`: `_expand_dots` used to run BEFORE `_discard_operators`,
    so an operator condition below an equality (`{b: {}, "b.k": {$gt: 1}}`) was merged into the
    equality's value and took it away.  Only the equality conditions are expanded, and
    prefix-freeness of those is what the code enforces: the expansion succeeds exactly then
    (`seed_conflict_iff`). -/

/-- **`_expand_dots` succeeds exactly on prefix-free keys**, and raises the WriteError 'cannot
    infer query fields to set' on every other set of conditions (a key stated twice, a key that is
    a dotted prefix of another one, in either order, whatever the values). -/
theorem seed_conflict_iff (eqs : Fields) :
    ((∃ ex, expandDots eqs = .ok ex) ↔ prefixFree eqs) ∧
    (¬ prefixFree eqs → expandDots eqs = .error .writeErr) :=
  ⟨Proofs.C13Ext.expand_ok_iff eqs, Proofs.C13Ext.expand_conflict eqs⟩

/-- The seed of a filter (with the chosen `_id`) can be built exactly when no EQUALITY condition
    lies at or below another one — operator conditions do not count — and otherwise the upsert
    raises the WriteError 'cannot infer query fields to set'. -/
theorem upsert_seed_conflict (ss : Fields) (idv : Val)
    (hnd : noDollarKeys (dset "_id" idv ss) = true) :
    ((∃ seed, upsertSeed ss idv = .ok seed) ↔ prefixFree (equalities (dset "_id" idv ss))) ∧
    (¬ prefixFree (equalities (dset "_id" idv ss)) → upsertSeed ss idv = .error .writeErr) := by
  rw [Proofs.C13Ext.upsertSeed_eq ss idv hnd]
  constructor
  · rw [← Proofs.C13Ext.expand_ok_iff]
    constructor
    · rintro ⟨seed, h⟩
      cases he : expandDots (equalities (dset "_id" idv ss)) with
      | error e => rw [he] at h; cases h
      | ok ex => exact ⟨ex, rfl⟩
    · rintro ⟨ex, h⟩; rw [h]; exact ⟨_, rfl⟩
  · intro hp
    rw [Proofs.C13Ext.expand_conflict _ hp]; rfl

/-- When the equality conditions of a filter (distinct keys, no
    top-level operator) expand, they are prefix-free, the seed holds at the path of every condition
    that is not dropped what `_discard_operators` leaves of it, and at the path of a dropped
    (operator) condition it holds nothing — unless an equality condition lies at, above or below
    that path. -/
theorem seed_at_paths (ss ex : Fields) (hnd : noDollarKeys ss = true) (hk : (dkeys ss).Nodup)
    (h : expandDots (equalities ss) = .ok ex) :
    prefixFree (equalities ss) ∧
    (∀ kv ∈ ss, (discardOps kv.2).2 = false →
        getPath (splitDots kv.1) (.doc ex) = some (discardOps kv.2).1) ∧
    (∀ kv ∈ ss, (discardOps kv.2).2 = true →
        (∀ kv' ∈ ss, (discardOps kv'.2).2 = false →
          ¬ splitDots kv'.1 <+: splitDots kv.1 ∧ ¬ splitDots kv.1 <+: splitDots kv'.1) →
        getPath (splitDots kv.1) (.doc ex) = none) := by
  open Proofs.C13Ext Proofs.C13Lemmas in
  refine ⟨expand_ok_prefixFree _ ex h, ?_, ?_⟩
  · intro kv hkv hd
    exact expand_paths _ ex h (kv.1, (discardOps kv.2).1)
      ((mem_equalities ss hnd hk _ _).2 ⟨kv.2, hkv, hd, rfl⟩)
  · intro kv hkv hd hfree
    apply expand_nothing _ ex h _ (splitDots_ne_nil kv.1)
    intro b hb
    obtain ⟨k, w⟩ := b
    obtain ⟨v, hv, hdv, _⟩ := (mem_equalities ss hnd hk k w).1 hb
    exact hfree (k, v) hv hdv

/-- The cases of `seed_at_paths`: in the seed an equality condition `p: v` (scalar `v`) puts `v`
    at the path `p`, `p: {$eq: x}` puts `x` there, and an operator condition leaves nothing at its
    path (when no equality condition reaches there). -/
theorem seed_at_paths_cases (ss ex : Fields) (hnd : noDollarKeys ss = true) (hk : (dkeys ss).Nodup)
    (h : expandDots (equalities ss) = .ok ex) :
    (∀ k v, (k, v) ∈ ss → isScalar v = true → getPath (splitDots k) (.doc ex) = some v) ∧
    (∀ k x, (k, Val.doc [("$eq", x)]) ∈ ss → getPath (splitDots k) (.doc ex) = some x) ∧
    (∀ k ops, (k, Val.doc ops) ∈ ss → isOps ops = true → dget "$eq" ops = none →
        (∀ kv' ∈ ss, (discardOps kv'.2).2 = false →
          ¬ splitDots kv'.1 <+: splitDots k ∧ ¬ splitDots k <+: splitDots kv'.1) →
        getPath (splitDots k) (.doc ex) = none) := by
  obtain ⟨_, h1, h2⟩ := seed_at_paths ss ex hnd hk h
  refine ⟨?_, ?_, ?_⟩
  · intro k v hm hs
    have := h1 (k, v) hm (by simp [Proofs.C13Lemmas.discardOps_scalar v hs])
    simpa [Proofs.C13Lemmas.discardOps_scalar v hs] using this
  · intro k x hm
    have := h1 (k, _) hm (by simp [Proofs.C13Lemmas.discardOps_eq])
    simpa [Proofs.C13Lemmas.discardOps_eq] using this
  · intro k ops hm ho he hfree
    exact h2 (k, _) hm (by simp [Proofs.C13Lemmas.discardOps_ops ops ho he]) hfree

/-- The seed of the upsert is the expansion of the equality conditions of the filter with the
    chosen `_id` (no top-level operator key). -/
theorem upsert_seed_is_expansion (ss : Fields) (idv : Val)
    (hnd : noDollarKeys (dset "_id" idv ss) = true) :
    upsertSeed ss idv = (expandDots (equalities (dset "_id" idv ss))).map Val.doc :=
  Proofs.C13Ext.upsertSeed_eq ss idv hnd

/-- non-vacuity: a filter with paths of depth 3, 2, 1, an operator condition and an `$eq`, sharing
    prefixes, has distinct keys and no top-level operator; its equality conditions are
    prefix-free, expand, and the seed is as stated -/
example : let ss : Fields := [("a.b.c", .int 1), ("a.b.d", .doc [("$gt", .int 2)]), ("a.e", .str "x"),
      ("f", .doc [("$eq", .int 4)]), ("g.h", .doc [("$in", .arr [.int 1])])]
    (noDollarKeys ss && decide ((dkeys ss).Nodup) && decide (prefixFree (equalities ss)) &&
      (equalities ss == [("a.b.c", .int 1), ("a.e", .str "x"), ("f", .int 4)]) &&
      (match expandDots (equalities ss) with
       | .ok ex => ex == [("a", .doc [("b", .doc [("c", .int 1)]), ("e", .str "x")]), ("f", .int 4)]
       | _ => false)) = true := by decide +kernel

/-- the witness of the repaired defect `upsert-op-under-eq`: in `{b: {}, "b.k": {$gt: 1}}` the
    operator condition is dropped BEFORE the expansion, so the equality `b: {}` is the only
    condition left, nothing conflicts, and the seed holds `b: {}` (it used to lose `b`) — in either
    key order, and also over a scalar value -/
example :
    (gives (upsertSeed [("b", .doc []), ("b.k", .doc [("$gt", .int 1)])] (.oid 7))
        (.doc [("b", .doc []), ("_id", .oid 7)]) &&
     gives (upsertSeed [("b.k", .doc [("$gt", .int 1)]), ("b", .doc [])] (.oid 7))
        (.doc [("b", .doc []), ("_id", .oid 7)]) &&
     gives (upsertSeed [("b", .int 3), ("b.k", .doc [("$gt", .int 1)])] (.oid 7))
        (.doc [("b", .int 3), ("_id", .oid 7)]) &&
     (match applyUpdateColl {} 0 Proofs.C13.exColl
          (.doc [("b", .doc []), ("b.k", .doc [("$gt", .int 1)])]) (.doc [("$set", .doc [("n", .int 1)])]) true false with
      | (c', .ok r) => r.upserted.isSome &&
          (c'.docs.map (·.2))[1]? == some (.doc [("b", .doc []), ("_id", .oid 1000), ("n", .int 1)])
      | _ => false)) = true := by decide +kernel

/-- what the code enforces: an EQUALITY below another one is a conflict, in either order and
    whatever the upper value is (it used to be merged into a sub-document given as the value); so
    is an `_id.x` condition next to an `_id` (given or generated) -/
example :
    (decide (prefixFree [("a", .doc [("c", .int 2)]), ("a.b", .int 1)]) == false &&
     raisesWriteError (upsertSeed [("a", .doc [("c", .int 2)]), ("a.b", .int 1)] (.oid 7)) &&
     raisesWriteError (upsertSeed [("a.b", .int 1), ("a", .doc [("c", .int 2)])] (.oid 7)) &&
     raisesWriteError (upsertSeed [("a", .int 5), ("a.b", .int 1)] (.oid 7)) &&
     raisesWriteError (upsertSeed [("a.b", .doc [("$eq", .int 1)]), ("a.b.c", .int 1)] (.oid 7)) &&
     raisesWriteError (upsertSeed [("_id.k", .int 1)] (.oid 7)) &&
     raisesWriteError (upsertSeed [("_id", .doc [("j", .int 1)]), ("_id.k", .int 1)] (.doc [("j", .int 1)])))
    = true := by decide +kernel

end MongoModel.Props.C13
