/-
  Props.C02 — update operators and replacements transform documents exactly as specified.
  The proofs that need more than a few lines are in Proofs/C02*.lean.  Model: MongoModel/Update.lean (`runUpdater`,
  `updateSingleField`, `pushValue`, `addEach`, `pullList`, `replaceWhole`, `applyOps`,
  `applyUpdate`, `validateOps`) and `emptyOperatorCheck` / `updatePrecheck` (Store.lean).  The theorems give, operator by operator,
  the EFFECT on the addressed path and the FRAME (what is left untouched).
-/
import Proofs.C02
import Proofs.C02Ext
import Proofs.C02ExtReplace
import Proofs.C02Validate
import Proofs.C05Loop
import Proofs.C02Positional
import MongoModel.FindModify

namespace MongoModel.Props.C02
open MongoModel MongoModel.Spec

/-- After a successful `$set` the path holds the value — whatever had to be created on the way
    (sub-documents for missing intermediates, nulls to pad an array). -/
theorem set_get (now v : Val) (parts : List String) (d d' : Val) (hp : parts ≠ [])
    (hw : writable parts d = true)
    (h : updateSingleField .set now v parts d = .ok d') : getPath parts d' = some v :=
  Proofs.C02.set_get now v parts d d' hp hw h

/-- A writable path never makes `$set` raise. -/
theorem set_total (now v : Val) (parts : List String) (d : Val) (hp : parts ≠ [])
    (hw : writable parts d = true) : ∃ d', updateSingleField .set now v parts d = .ok d' :=
  Proofs.C02.set_total now v parts d hp hw

/-- `$set` on an array index pads with nulls: the array becomes `padSet xs i v`. -/
theorem set_pads_with_null (now v : Val) (xs : List Val) (i : Nat) :
    runUpdater .set now (.arr xs) (toString i) v = .ok (.arr (padSet xs i v)) :=
  Proofs.C02.set_pads_with_null now v xs i

/-- Frame, top level: any single-field updater leaves every other top-level field as it was, and
    keeps the order of the fields that were there. -/
theorem single_field_frame (u : Updater) (now v : Val) (p : String) (rest : List String)
    (fs fs' : Fields) (h : updateSingleField u now v (p :: rest) (.doc fs) = .ok (.doc fs')) :
    (∀ k, k ≠ p → dget k fs' = dget k fs) ∧
    (dkeys fs').filter (· ≠ p) = (dkeys fs).filter (· ≠ p) :=
  Proofs.C02.single_field_frame u now v p rest fs fs' h

/-- `$unset` removes the (first) entry of the field: afterwards the field is gone — provided the
    document did not hold the key twice — and every other field reads as before. -/
theorem unset_removes (now v : Val) (f : String) (fs : Fields) :
    runUpdater .unset now (.doc fs) f v = .ok (.doc (derase f fs)) ∧
    ((dkeys fs).count f ≤ 1 → dget f (derase f fs) = none) ∧
    (∀ k, k ≠ f → dget k (derase f fs) = dget k fs) :=
  Proofs.C02.unset_removes now v f fs

/-- `$inc` adds to the current number, a missing field counting as 0; ints stay ints. -/
theorem inc_adds (now : Val) (f : String) (fs : Fields) (n k : Int) :
    (dget f fs = some (.int n) → runUpdater .inc now (.doc fs) f (.int k) = .ok (.doc (dset f (.int (n + k)) fs))) ∧
    (dget f fs = none → runUpdater .inc now (.doc fs) f (.int k) = .ok (.doc (dset f (.int k) fs))) :=
  Proofs.C02.inc_adds now f fs n k

/-- `$max` keeps the larger of the two numbers, `$min` the smaller (ints). -/
theorem min_max_spec (now : Val) (f : String) (fs : Fields) (n k : Int) (h : dget f fs = some (.int n)) :
    runUpdater .max now (.doc fs) f (.int k) = .ok (.doc (dset f (.int (if k > n then k else n)) fs)) ∧
    runUpdater .min now (.doc fs) f (.int k) = .ok (.doc (dset f (.int (if k < n then k else n)) fs)) :=
  Proofs.C02.min_max_spec now f fs n k h

/-- … and the same on an element of an array (the parent of the last path component is an array,
    addressed by index `i`): the element becomes the larger / smaller of the two, the other
    elements stay; an index past the end stores the value there, padding with nulls.  (Repaired
    defect `minmax-array-noop`: the operators used to leave an array alone.) -/
theorem min_max_array_spec (now : Val) (xs : List Val) (i : Nat) :
    (∀ n k : Int, xs[i]? = some (.int n) →
      runUpdater .max now (.arr xs) (toString i) (.int k) =
        .ok (.arr (xs.set i (.int (if k > n then k else n)))) ∧
      runUpdater .min now (.arr xs) (toString i) (.int k) =
        .ok (.arr (xs.set i (.int (if k < n then k else n))))) ∧
    (∀ v : Val, xs[i]? = none →
      runUpdater .max now (.arr xs) (toString i) v = .ok (.arr (padSet xs i v)) ∧
      runUpdater .min now (.arr xs) (toString i) v = .ok (.arr (padSet xs i v))) :=
  Proofs.C02.min_max_array_spec now xs i

/-- `$pop: 1` drops the last element, `$pop: -1` the first; nothing else changes. -/
theorem pop_spec (now : Val) (f : String) (fs : Fields) (xs : List Val) (h : dget f fs = some (.arr xs)) :
    runUpdater .pop now (.doc fs) f (.int 1) = .ok (.doc (dset f (.arr xs.dropLast) fs)) ∧
    runUpdater .pop now (.doc fs) f (.int (-1)) = .ok (.doc (dset f (.arr (xs.drop 1)) fs)) :=
  Proofs.C02.pop_spec now f fs xs h

/-- … and `$pop` of a path the document does not hold leaves the document alone: a missing
    top-level field, and a dotted path whose first sub-document is missing (nothing is created on
    the way, whatever the operand).  (Repaired defect `pop-missing-refused`: it used to raise
    KeyError, after creating the parents.) -/
theorem pop_missing_noop (now : Val) (f : String) (fs : Fields) (h : dget f fs = none) :
    runUpdater .pop now (.doc fs) f (.int 1) = .ok (.doc fs) ∧
    runUpdater .pop now (.doc fs) f (.int (-1)) = .ok (.doc fs) ∧
    (∀ (v : Val) (q : String) (rest : List String),
      updateSingleField .pop now v (f :: q :: rest) (.doc fs) = .ok (.doc fs)) :=
  have hp : ∀ last, (match dget f fs with
      | none => pure (Val.doc fs)
      | some (.arr xs) => pure (.doc (dset f (.arr (popList xs last)) fs))
      | some _ => Except.error Err.writeErr) = Except.ok (Val.doc fs) := fun _ => by rw [h]; rfl
  ⟨hp true, hp false, fun v q rest => by rw [Proofs.C02Lemmas.usf_doc, h]; rfl⟩

/-- `$rename` moves the value under the new name and removes the old one. -/
theorem rename_spec (src dst : String) (fs : Fields) (x : Val)
    (hs : src.toList.contains '.' = false) (hd : dst.toList.contains '.' = false)
    (h : dget src fs = some x) :
    renameFields (.doc [(src, .str dst)]) (.doc fs) = .ok (.doc (dset dst x (derase src fs))) :=
  Proofs.C02.rename_spec src dst fs x hs hd h

/-- Python slicing splits a list: `xs[0:i] ++ xs[i:] = xs` for every `i` (negative too). -/
theorem pySlice_split (xs : List Val) (i : Int) :
    pySlice xs (some 0) (some i) ++ pySlice xs (some i) none = xs :=
  Proofs.C02.pySlice_split xs i

/-- `$push` with `$each` (and optionally `$position`) inserts the new elements as one block and
    keeps the order of the old ones: the result is `old.take k ++ each ++ old.drop k` for a
    position `k` inside the old list. -/
theorem push_keeps_order (xs es : List Val) (pos : Option Int) :
    ∃ k, k ≤ xs.length ∧ pushValue (.arr xs) (.doc (("$each", .arr es) ::
        (match pos with | some p => [("$position", .int p)] | none => []))) =
      .ok (.arr (xs.take k ++ es ++ xs.drop k)) :=
  Proofs.C02.push_keeps_order xs es pos

/-- … and the position is the Python one: `old[0:p] + each + old[p:]` (negative `p` counts from
    the end, out-of-range `p` is clamped). -/
theorem push_position_spec (xs es : List Val) (p : Int) :
    pushValue (.arr xs) (.doc [("$each", .arr es), ("$position", .int p)]) =
      .ok (.arr (pySlice xs (some 0) (some p) ++ es ++ pySlice xs (some p) none)) :=
  Proofs.C02.push_position_spec xs es p

/-- a plain `$push` appends -/
theorem push_appends (xs : List Val) (v : Val) (h : ∀ fs, v = .doc fs → dget "$each" fs = none) :
    pushValue (.arr xs) v = .ok (.arr (xs ++ [v])) :=
  Proofs.C02.push_appends xs v h

/-- `$slice` after the push keeps a contiguous part: the first `n` or the last `-n` elements. -/
theorem push_slice_spec (xs es : List Val) (n : Int) :
    pushValue (.arr xs) (.doc [("$each", .arr es), ("$slice", .int n)]) =
      .ok (.arr (if n < 0 then (xs ++ es).drop ((xs ++ es).length - n.natAbs)
                 else (xs ++ es).take n.toNat)) :=
  Proofs.C02.push_slice_spec xs es n

/-- `$addToSet` of a single value appends it unless an equal element is there (`addOne`); with
    `$each` the listed values are added one after the other (`addAll = foldl addOne`), so a value
    listed twice is added once.  (Repaired defect `addtoset-each-dups`: every listed value used to
    be compared with the old array only.) -/
theorem addToSet_spec (xs es : List Val) (v : Val) (hv : ∀ fs, v = .doc fs → dget "$each" fs = none) :
    addToSetValue (.arr xs) (.doc [("$each", .arr es)]) = .ok (.arr (addAll xs es)) ∧
    addToSetValue (.arr xs) v = .ok (.arr (addOne xs v)) :=
  Proofs.C02.addToSet_spec xs es v hv

/-- … which keeps the old elements in order in front, and appends only listed values that were
    not there, no two of them equal. -/
theorem addToSet_each_once (xs es : List Val) :
    ∃ added, addAll xs es = xs ++ added ∧
      (∀ o ∈ added, o ∈ es ∧ pyIn o xs = false) ∧
      added.Pairwise (fun a b => pyEq a b = false) :=
  Proofs.C02.addToSet_each_once xs es

/-- **`$addToSet` takes no clause next to `$each`**: whatever the target holds, `{$each: …}` with
    any other key beside it is a write error (unlike `$push`, which has `$position` / `$sort` /
    `$slice`).  (Repaired defect: the other clause used to be dropped silently.) -/
theorem addToSet_each_only (cur : Val) (vs : Fields) (he : (dget "$each" vs).isSome = true)
    (k : String) (hk : k ∈ dkeys vs) (hne : k ≠ "$each") :
    addToSetValue cur (.doc vs) = .error .writeErr := by
  have hany : vs.any (fun kv => kv.1 != "$each") = true := by
    simp only [dkeys, List.mem_map] at hk
    obtain ⟨kv, hm, rfl⟩ := hk
    exact List.any_eq_true.2 ⟨kv, hm, by simpa using hne⟩
  simp [addToSetValue, eachWithOtherClause, he, hany]

/-- … and so is the whole update `{$addToSet: {f: {$each: …, k: …}}}` applied to a document
    (matched or being upserted), for a top-level field `f`. -/
theorem addToSet_each_only_update (spec now : Val) (wasInsert : Bool) (f : String) (vs fs : Fields)
    (hf1 : f.toList.contains '.' = false) (hf2 : f.toList.contains '$' = false) (hf3 : f ≠ "")
    (he : (dget "$each" vs).isSome = true) (k : String) (hk : k ∈ dkeys vs) (hne : k ≠ "$each") :
    applyUpdate spec (.doc [("$addToSet", .doc [(f, .doc vs)])]) now wasInsert (.doc fs) =
      .error .writeErr := by
  have hsplit := splitDots_nodot f hf1
  have hkey : keyOk f = true := by simp [keyOk, hsplit, hf3]
  have hdol : hasDollarPart f = false := hf2
  show applyUpdate spec (.doc (single ("$addToSet", f, .doc vs))) now wasInsert (.doc fs) = _
  rw [Proofs.C02Lemmas.applyUpdate_single spec now wasInsert ("$addToSet", f, .doc vs) _
    (show "$addToSet".startsWith "$" = true by decide +kernel) (by simp [positionalUpdate, single, hdol])]
  unfold Proofs.C02Lemmas.estep Proofs.C02Lemmas.opRun
  rw [Proofs.C02Lemmas.opClass_addToSet]
  show eachField (.doc [(f, .doc vs)]) (.doc fs) (addToSetField spec) = _
  rw [Proofs.C02Lemmas.eachField_single]
  unfold addToSetField
  rw [hdol, hkey, hsplit]
  exact Proofs.C02Lemmas.bind_error (addToSet_each_only _ vs he k hk hne)

/-- That is the only thing the clause test refuses: it fires exactly when `$each` is there together
    with another key. -/
theorem addToSet_clause_test (vs : Fields) :
    eachWithOtherClause (.doc vs) = true ↔
      (dget "$each" vs).isSome = true ∧ ∃ k ∈ dkeys vs, k ≠ "$each" := by
  simp only [eachWithOtherClause, Bool.and_eq_true, List.any_eq_true, dkeys, List.mem_map]
  constructor
  · rintro ⟨h1, kv, hm, hne⟩
    exact ⟨h1, kv.1, ⟨kv, hm, rfl⟩, by simpa using hne⟩
  · rintro ⟨h1, k, ⟨kv, hm, rfl⟩, hne⟩
    exact ⟨h1, kv, hm, by simpa using hne⟩

/-- `$pullAll` removes exactly the elements equal to a listed value, keeping the others in
    order. -/
theorem pullAll_spec (xs vs : List Val) :
    pullAllValue (.arr xs) (.arr vs) = .ok (.arr (xs.filter (fun o => !pyIn o vs))) :=
  Proofs.C02.pullAll_spec xs vs

/-- `$pullAll` through a path that ends in the index of an array item (`c.0` on `c: [[…], …]`):
    the listed values are removed from that item, the other items stay; an index past the end
    reaches nothing.  (Repaired defect `pullall-array-element`: nothing used to be pulled.) -/
theorem pullAll_array_item_spec (xs vs : List Val) (last : String) (i : Nat)
    (hd : isDigits last = true) (hi : pyInt? last = some (i : Int)) :
    (∀ ys, xs[i]? = some (.arr ys) →
      pullAllAt (.arr vs) (.arr xs) last =
        .ok (.arr (xs.set i (.arr (ys.filter (fun o => !pyIn o vs)))))) ∧
    (xs[i]? = none → pullAllAt (.arr vs) (.arr xs) last = .ok (.arr xs)) := by
  have hneg : ¬ ((i : Int) < 0) := by omega
  constructor
  · intro ys hx
    simp [pullAllAt, hd, hi, hneg, hx, pullAllValue, bind, Except.bind, pure, Except.pure]
  · intro hx
    simp [pullAllAt, hd, hi, hneg, hx]

/-- … and through a path whose last container is neither a sub-document nor an array (a scalar,
    null, a string): nothing to pull from, the container stays.  (Repaired defect
    `pullall-through-scalar-refused`: it used to raise TypeError.) -/
theorem pullAll_through_scalar_noop (value parent : Val) (last : String)
    (hp : ∀ fs, parent ≠ .doc fs) (ha : ∀ xs, parent ≠ .arr xs) :
    pullAllAt value parent last = .ok parent := by
  cases parent with
  | doc fs => exact absurd rfl (hp fs)
  | arr xs => exact absurd rfl (ha xs)
  | _ => rfl

/-- `$pull` of a scalar from an array of scalars removes exactly the equal elements. -/
theorem pull_spec (v : Val) (xs : List Val) (hv : isScalar v = true) (hx : xs.all isScalar = true) :
    pullList v xs = .ok (xs.filter (fun o => !pyEq v o)) :=
  Proofs.C02.pull_spec v xs hv hx

/-- `$pull` along a dotted path edits the array the path leads to (sub-documents by key, arrays by
    index: `getPath`) and nothing else: when the path holds an array, afterwards it holds the
    pulled array; when it does not exist or holds something else, the document is unchanged.
    (Repaired defect `pull-through-array`: the walk used to stop at the first component it could
    not follow and pull from the array it had reached.) -/
theorem pull_path_spec (value : Val) (parts : List String) (d d' : Val)
    (h : pullWalk value parts d = .ok d') :
    (∀ xs, getPath parts d = some (.arr xs) →
      ∃ ys, pullList value xs = .ok ys ∧ getPath parts d' = some (.arr ys)) ∧
    ((∀ xs, getPath parts d ≠ some (.arr xs)) → d' = d) :=
  Proofs.C02.pull_path_spec value parts d d' h

/-- `$pullAll` on a path that does not exist leaves the document exactly as it was — no
    intermediate sub-document is created.  (Repaired defect `pullall-creates-path`.) -/
theorem pullAll_missing_path_noop (spec d : Val) (field : String) (value d' : Val)
    (hm : getPath (splitDots field) d = none)
    (h : pullAllField spec d field value = .ok d') : d' = d :=
  Proofs.C02.pullAll_missing_path_noop spec d field value d' hm h

/-- A replacement yields `_id` followed by the replacement's fields (the kept `_id` must be `==`
    to itself, which every value without duplicate keys is: see the example below). -/
theorem replace_spec (doc : Fields) (existing : Fields) (id : Val)
    (hid : dget "_id" existing = some id) (hrefl : pyEq id id = true) (hn : dget "_id" doc = none)
    (hd : doc.all (fun kv => !kv.1.startsWith "$") = true) (hk : (dkeys doc).Nodup) :
    replaceWhole doc (.doc existing) = .ok (.doc (("_id", id) :: doc)) :=
  Proofs.C02.replace_spec doc existing id hid hrefl hn hd hk

/-- **Every top-level field the specification does not address is left untouched**, for any
    operator update that succeeds. -/
theorem untouched_fields (spec now : Val) (wasInsert : Bool) (u : Fields) (fs fs' : Fields)
    (hu : u.all (fun kv => kv.1.startsWith "$") = true) (hne : u ≠ [])
    (h : applyUpdate spec (.doc u) now wasInsert (.doc fs) = .ok (.doc fs')) :
    ∀ k, k ∉ addressed u → dget k fs' = dget k fs :=
  Proofs.C02.untouched_fields spec now wasInsert u fs fs' hu hne h

/-- … and a successful operator update of a document always yields a document (so the `.doc fs'`
    shape in `untouched_fields` and `single_field_frame` is no restriction). -/
theorem update_stays_document (spec now : Val) (wasInsert : Bool) (u : Fields) (fs : Fields) (d' : Val)
    (hu : u.all (fun kv => kv.1.startsWith "$") = true) (hne : u ≠ [])
    (h : applyUpdate spec (.doc u) now wasInsert (.doc fs) = .ok d') : ∃ fs', d' = .doc fs' :=
  Proofs.C02.update_stays_document spec now wasInsert u fs d' hu hne h

theorem single_field_stays_document (u : Updater) (now v : Val) (p : String) (rest : List String)
    (fs : Fields) (d' : Val) (h : updateSingleField u now v (p :: rest) (.doc fs) = .ok d') :
    ∃ fs', d' = .doc fs' :=
  Proofs.C02.single_field_stays_document u now v p rest fs d' h

/-- Before server 5.0 an empty operator document is a write error; from 5.0 on it is accepted
    (and does nothing). -/
theorem empty_operator (fs : Fields) (op : String) (hop : updaterKeys.contains op = true)
    (h : dget op fs = some (.doc [])) :
    emptyOperatorCheck { preV5 := true } fs = .error .writeErr ∧
    emptyOperatorCheck { preV5 := false } fs = .ok () :=
  Proofs.C02.empty_operator fs op hop h

/-- **Which update documents pass `_validate_update_operators`**: the ones made of known operators
    only, and the replacement documents (first key not a known operator, no key starting with
    `$`).  Everything else is a `ValueError`. -/
theorem validated_update_shapes (u : Fields) :
    validateOps u = .ok () ↔
      (u.all (fun kv => knownOperator kv.1) = true ∨
       (∃ k v rest, u = (k, v) :: rest ∧ knownOperator k = false ∧
          u.all (fun kv => !kv.1.startsWith "$") = true)) := by
  cases u with
  | nil => exact ⟨fun _ => .inl rfl, fun _ => rfl⟩
  | cons p r =>
    obtain ⟨k, v⟩ := p
    rw [Proofs.C02Lemmas.validateOps_cons, List.all_cons]
    cases hk : knownOperator k with
    | true =>
      rw [if_pos rfl, Bool.true_and]
      constructor
      · intro h
        exact .inl (by by_contra hn; rw [if_neg hn] at h; cases h)
      · rintro (h | ⟨k', v', rest, he, hf, _⟩)
        · rw [if_pos h]
        · cases he; rw [hk] at hf; cases hf
    | false =>
      rw [if_neg Bool.false_ne_true, ← List.not_any_eq_all_not]
      cases ((k, v) :: r).any (fun kv => kv.1.startsWith "$") with
      | true => exact ⟨nofun, fun h => by rcases h with h | ⟨_, _, _, _, _, h⟩ <;> cases h⟩
      | false => exact ⟨fun _ => .inr ⟨k, v, r, rfl, hk, rfl⟩, fun _ => rfl⟩

/-- **An unknown `$operator` anywhere in the update document is refused** (a typo, `$mul`, `$bit`):
    first, last, alone or next to valid operators. -/
theorem unknown_operator_invalid (u : Fields) (k : String) (hk : k ∈ dkeys u)
    (hd : k.startsWith "$" = true) (hu : knownOperator k = false) :
    validateOps u = .error .valueErr := by
  obtain ⟨kv, hm, rfl⟩ := List.mem_map.mp hk
  cases u with
  | nil => cases hm
  | cons p r =>
    obtain ⟨k0, v0⟩ := p
    rw [Proofs.C02Lemmas.validateOps_cons]
    by_cases hk0 : knownOperator k0 = true
    · have hr : kv ∈ r := by
        rcases List.mem_cons.mp hm with rfl | h
        · rw [hk0] at hu; cases hu
        · exact h
      rw [if_pos hk0, if_neg]
      rw [Bool.not_eq_true, List.all_eq_false]
      exact ⟨kv, hr, by rw [hu]; decide⟩
    · rw [if_neg hk0, if_pos (List.any_eq_true.mpr ⟨kv, hm, hd⟩)]

/-- **… before any document is looked for**: when the update document fails the precheck (the
    pre-5.0 empty-operator rule, then the operator names), the call raises and returns the
    collection exactly as it was handed in — no expiry pass, no filter evaluation, no match needed —
    for every collection, every filter (a mapping or not, valid or not), upsert or not, one or
    many.  (Repaired defect: the error used to depend on a document matching.) -/
theorem invalid_update_refused_before_matching (cfg : Cfg) (now : Int) (c : Coll) (f : Val)
    (u : Fields) (upsert multi : Bool) (e : Err) (h : updatePrecheck cfg (patchFields u) = .error e) :
    ∃ e', applyUpdateColl cfg now c f (.doc u) upsert multi = (c, .error e') ∧
      (∀ fs, f = .doc fs → e' = e) := by
  rw [Proofs.C05Lemmas.applyUpdateColl_eq, Proofs.C18.patchDT_doc u]
  cases hf : patchDT f with
  | doc ss =>
    simp only [h]
    exact ⟨e, rfl, fun _ _ => rfl⟩
  | _ =>
    exact ⟨.typeErr, rfl, fun fs hfs => by
      subst hfs; rw [Proofs.C18.patchDT_doc] at hf; cases hf⟩

/-- … which is the case for every update document holding an unknown `$operator` (the error is
    the `ValueError` from 5.0 on; before 5.0 the empty-operator `WriteError` comes first when
    both apply). -/
theorem unknown_operator_fails_precheck (cfg : Cfg) (u : Fields) (k : String) (hk : k ∈ dkeys u)
    (hd : k.startsWith "$" = true) (hu : knownOperator k = false) :
    ∃ e, updatePrecheck cfg (patchFields u) = .error e ∧ (cfg.preV5 = false → e = .valueErr) := by
  have hv : validateOps (patchFields u) = .error .valueErr := by
    rw [Proofs.C02Lemmas.validateOps_patch]
    exact unknown_operator_invalid u k hk hd hu
  unfold updatePrecheck
  cases he : emptyOperatorCheck cfg (patchFields u) with
  | error e =>
    refine ⟨e, rfl, fun hp => ?_⟩
    unfold emptyOperatorCheck at he
    simp [hp] at he
  | ok _ => exact ⟨.valueErr, hv, fun _ => rfl⟩

/-- non-vacuity: `{$set: {a: 1}, $typo: 1}` is refused on a collection where nothing matches, on one
    where the filter matches (`a` is NOT set), and with a malformed filter; `{$pop: {a: 5}, $typo:
    1}` on a matching document gives the ValueError for `$typo`, not the WriteError of the
    `$pop` argument (applied alone, the operators would give that WriteError first) -/
example :
    let c : Coll := { docs := [(.int 1, .doc [("_id", .int 1), ("a", .arr [.int 0])])] }
    let u : Val := .doc [("$set", .doc [("a", .int 1)]), ("$typo", .int 1)]
    let isValueErr (r : Coll × R UpdateResult) : Bool :=
      match r with
      | (c', .error .valueErr) => c'.docs == c.docs
      | _ => false
    (isValueErr (applyUpdateColl {} 0 c (.doc [("_id", .int 9)]) u false false) &&
     isValueErr (applyUpdateColl {} 0 c (.doc [("_id", .int 1)]) u false true) &&
     isValueErr (applyUpdateColl {} 0 c (.doc [("a", .doc [("$foo", .int 1)])]) u true false) &&
     isValueErr (applyUpdateColl {} 0 c (.doc []) (.doc [("$pop", .doc [("a", .int 5)]), ("$typo", .int 1)]) false false) &&
     (match applyUpdate (.doc []) (.doc [("$pop", .doc [("a", .int 5)]), ("$typo", .int 1)]) .null false
          (.doc [("_id", .int 1), ("a", .arr [.int 0])]) with
      | .error .writeErr => true | _ => false) &&
     knownOperator "$typo" == false && knownOperator "$mul" == false && knownOperator "$push" &&
     (match validateOps [("x", .int 1), ("y", .int 2)] with | .ok () => true | _ => false)) = true := by
  decide +kernel

/-- result of a model call equals the expected value (structural equality) -/
private def okIs (r : R Val) (v : Val) : Bool :=
  match r with
  | .ok x => x == v
  | .error _ => false

/-- the witnesses of the three repaired defects, as whole updates: `{$pullAll: {'c.0': [0]}}` on
    `c: [[-1, 0], 2]`, `{$pullAll: {'d.c': [1]}}` on `d: 2`, `{$pop: {b: 1}}` and `{$pop: {'b.x': 1}}`
    on a document without `b` (no `b: {}` is left behind) -/
example :
    okIs (applyUpdate (.doc []) (.doc [("$pullAll", .doc [("c.0", .arr [.int 0])])]) .null false
        (.doc [("_id", .int 1), ("c", .arr [.arr [.int (-1), .int 0], .int 2])]))
      (.doc [("_id", .int 1), ("c", .arr [.arr [.int (-1)], .int 2])]) = true ∧
    okIs (applyUpdate (.doc []) (.doc [("$pullAll", .doc [("d.c", .arr [.int 1])])]) .null true
        (.doc [("_id", .int 7), ("d", .int 2)])) (.doc [("_id", .int 7), ("d", .int 2)]) = true ∧
    okIs (applyUpdate (.doc []) (.doc [("$pop", .doc [("b", .int 1), ("b.x", .int 1)])]) .null true
        (.doc [("d", .str "x")])) (.doc [("d", .str "x")]) = true ∧
    isDigits "0" = true ∧ pyInt? "0" = some 0 := by decide +kernel

/-- `$set` group: a `$set` through a missing sub-document and past the end of an array; the path
    is `writable` and afterwards reads the value (hypotheses and conclusion of `set_get`) -/
example : (match updateSingleField .set .null (.int 7) ["a", "l", "3"]
      (.doc [("_id", .int 1), ("a", .doc [("l", .arr [.int 0])])]) with
    | .ok d' => d' == .doc [("_id", .int 1), ("a", .doc [("l", .arr [.int 0, .null, .null, .int 7])])]
    | .error _ => false) = true := by decide +kernel

example : writable ["a", "l", "3"] (.doc [("_id", .int 1), ("a", .doc [("l", .arr [.int 0])])]) = true ∧
    writable ["b", "c", "d"] (.doc [("_id", .int 1)]) = true ∧
    writable ["a", "x"] (.doc [("a", .int 1)]) = false := by decide +kernel

example : (getPath ["a", "l", "3"]
      (.doc [("_id", .int 1), ("a", .doc [("l", .arr [.int 0, .null, .null, .int 7])])])
    == some (.int 7)) = true := by decide +kernel

example : okIs (runUpdater .set .null (.arr [.int 0]) (toString 3) (.int 7))
    (.arr [.int 0, .null, .null, .int 7]) = true := by decide +kernel

/-- known finding `nonnumeric-component-skipped` (outside `writable` / `getPath`, which the theorems
    above are stated on): a path component that is no index is dropped when it meets an array, and
    the walk goes on with the next component — the model follows the code: `$pop` of `d.x.0` pops
    from `d[0]`, `$set` of `d.x.0` stores `d[0]`, although nothing is at `d.x.0` -/
example :
    let d : Val := .doc [("_id", .int 1), ("d", .arr [.arr [.str "b", .str "ba"]])]
    getPath ["d", "x", "0"] d = none ∧ writable ["d", "x", "0"] d = false ∧
    okIs (updateSingleField .pop .null (.int (-1)) ["d", "x", "0"] d)
      (.doc [("_id", .int 1), ("d", .arr [.arr [.str "ba"]])]) = true ∧
    okIs (updateSingleField .set .null (.int 5) ["d", "x", "0"] d)
      (.doc [("_id", .int 1), ("d", .arr [.int 5])]) = true := by decide +kernel

/-- `$unset/$inc/$min/$max/$pop/$rename` group -/
example : okIs (runUpdater .inc .null (.doc [("_id", .int 1), ("n", .int 2)]) "n" (.int 5))
      (.doc [("_id", .int 1), ("n", .int 7)]) = true ∧
    okIs (runUpdater .unset .null (.doc [("_id", .int 1), ("n", .int 2)]) "n" (.str ""))
      (.doc [("_id", .int 1)]) = true ∧
    okIs (runUpdater .max .null (.doc [("n", .int 2)]) "n" (.int 5)) (.doc [("n", .int 5)]) = true ∧
    okIs (runUpdater .min .null (.doc [("n", .int 2)]) "n" (.int 5)) (.doc [("n", .int 2)]) = true ∧
    okIs (runUpdater .pop .null (.doc [("l", .arr [.int 1, .int 2, .int 3])]) "l" (.int (-1)))
      (.doc [("l", .arr [.int 2, .int 3])]) = true ∧
    okIs (renameFields (.doc [("a", .str "b")]) (.doc [("a", .int 1), ("c", .int 2)]))
      (.doc [("c", .int 2), ("b", .int 1)]) = true := by decide +kernel

/-- array group: `$position: -1` inserts before the last element; `$slice: -2` keeps the last two;
    `$addToSet` skips what is there (`1 == 1.0`); `$pull: 1` removes `1`, `True` and `1.0` -/
example : okIs (pushValue (.arr [.int 1, .int 2, .int 3])
        (.doc [("$each", .arr [.int 8, .int 9]), ("$position", .int (-1))]))
      (.arr [.int 1, .int 2, .int 8, .int 9, .int 3]) = true ∧
    okIs (pushValue (.arr [.int 1, .int 2]) (.doc [("$each", .arr [.int 3]), ("$slice", .int (-2))]))
      (.arr [.int 2, .int 3]) = true ∧
    okIs (addToSetValue (.arr [.int 1, .int 2]) (.doc [("$each", .arr [.dbl 1 0, .int 3, .int 2])]))
      (.arr [.int 1, .int 2, .int 3]) = true ∧
    okIs (pullAllValue (.arr [.int 1, .int 2, .int 1, .int 3]) (.arr [.int 1, .int 3]))
      (.arr [.int 2]) = true ∧
    (match pullList (.int 1) [.int 1, .bool true, .int 2, .dbl 2 1, .str "1"] with
     | .ok r => Val.arr r == .arr [.int 2, .str "1"]
     | .error _ => false) = true := by decide +kernel

/-- `$addToSet` with a clause next to `$each` (`$position`, a typo, before or after `$each`) is a
    write error, on an array, on a missing field and on a non-array alike -/
example :
    (match addToSetValue (.arr [.int 1]) (.doc [("$each", .arr [.int 9, .int 0]), ("$typo", .int 1)]) with
     | .error .writeErr => true | _ => false) = true ∧
    (match addToSetValue (.int 5) (.doc [("$position", .int 0), ("$each", .arr [.int 9])]) with
     | .error .writeErr => true | _ => false) = true ∧
    (match applyUpdate (.doc []) (.doc [("$addToSet", .doc [("arr", .doc [("$each", .arr [.int 9, .int 0]), ("$typo", .int 1)])])])
        .null false (.doc [("_id", .int 1)]) with
     | .error .writeErr => true | _ => false) = true ∧
    eachWithOtherClause (.doc [("$each", .arr [])]) = false := by decide +kernel

/-- the four repaired defects on their witnesses: `$pullAll` on a missing path, duplicates inside
    `$each`, `$min` on an array element (and past the end), `$pull` with a path into an array of
    scalars (no-op) and through an index -/
example : okIs (applyUpdate (.doc []) (.doc [("$pullAll", .doc [("d.x", .arr [.int 1])])]) .null false
        (.doc [("_id", .int 1), ("a", .int 1)])) (.doc [("_id", .int 1), ("a", .int 1)]) = true ∧
    getPath (splitDots "d.x") (.doc [("_id", .int 1), ("a", .int 1)]) = none ∧
    okIs (applyUpdate (.doc []) (.doc [("$addToSet", .doc [("a", .doc [("$each", .arr [.int 3, .int 3])])])])
        .null false (.doc [("_id", .int 1), ("a", .arr [])])) (.doc [("_id", .int 1), ("a", .arr [.int 3])]) = true ∧
    okIs (applyUpdate (.doc []) (.doc [("$min", .doc [("a.1", .int 0), ("a.3", .int 2)])]) .null false
        (.doc [("_id", .int 1), ("a", .arr [.int 5, .int 5])]))
      (.doc [("_id", .int 1), ("a", .arr [.int 5, .int 0, .null, .int 2])]) = true ∧
    okIs (applyUpdate (.doc []) (.doc [("$pull", .doc [("d.c", .int 5), ("g.0", .int 5)])]) .null false
        (.doc [("_id", .int 1), ("d", .arr [.int 5, .int 6]), ("g", .arr [.arr [.int 5, .int 6]])]))
      (.doc [("_id", .int 1), ("d", .arr [.int 5, .int 6]), ("g", .arr [.arr [.int 6]])]) = true := by
  decide +kernel

/-- replacement / frame group: a mixed operator update succeeds, touches exactly the addressed
    top-level fields `c, e, a, d` and leaves `_id` and `z` alone -/
example : okIs (applyUpdate .null
        (.doc [("$rename", .doc [("c", .str "e")]), ("$pull", .doc [("a.b", .int 1)]),
               ("$push", .doc [("d", .int 9)])]) .null false
        (.doc [("_id", .int 1), ("a", .doc [("b", .arr [.int 1, .int 9])]), ("c", .int 9),
               ("d", .arr [.int 1]), ("z", .int 0)]))
      (.doc [("_id", .int 1), ("a", .doc [("b", .arr [.int 9])]), ("d", .arr [.int 1, .int 9]),
             ("z", .int 0), ("e", .int 9)]) = true ∧
    addressed [("$rename", .doc [("c", .str "e")]), ("$pull", .doc [("a.b", .int 1)]),
               ("$push", .doc [("d", .int 9)])] = ["c", "e", "a", "d"] := by decide +kernel

example : okIs (replaceWhole [("x", .int 1), ("y", .int 2)] (.doc [("_id", .int 5), ("x", .int 0)]))
    (.doc [("_id", .int 5), ("x", .int 1), ("y", .int 2)]) = true := by decide +kernel

/-- why `replace_spec` asks for `pyEq id id`: an `_id` holding a key twice is not `==` to itself
    and the replacement is refused (`_id` "changed") -/
example : pyEq (.doc [("a", .int 1), ("a", .int 2)]) (.doc [("a", .int 1), ("a", .int 2)]) = false ∧
    (match replaceWhole [("x", .int 1)] (.doc [("_id", .doc [("a", .int 1), ("a", .int 2)])]) with
     | .error .opFail => true
     | _ => false) = true := by decide +kernel

/-- server versions: an empty `$set` -/
example : emptyOperatorCheck { preV5 := true } [("$set", .doc [])] = .error .writeErr ∧
    emptyOperatorCheck { preV5 := false } [("$set", .doc [])] = .ok () := by decide +kernel

/-! ### a whole update is the pointwise combination of its entries

The theorems above describe one operator on one path and say that unaddressed fields stay.  The
following ones tie a WHOLE update `{op: {path: arg, …}, …}` to its parts, the entries
`(op, path, arg)` (`Spec.entries`), each taken as an update of its own (`Spec.single`).  The side
condition is that no two entries address the same top-level field: `(addressed u).Nodup`
(`addressed` lists the first component of every path and, for `$rename`, the target too). -/

/-- **Pointwise combination.**  When a (non-empty, `$`-keyed) update whose entries address
    pairwise different top-level fields succeeds on a document, then EVERY entry, run alone on the
    ORIGINAL document, succeeds too, and the result of the whole update holds under each field the
    entry addresses exactly what that entry alone puts there.  Entries do not see each other's
    effects; with `untouched_fields` (all other fields are as before) this determines the result
    field by field.  All operators of the model are covered (`$set $unset $inc $min $max $pop
    $currentDate $setOnInsert $rename $push $addToSet $pull $pullAll`), documents holding a key
    twice included. -/
theorem update_is_pointwise (spec now : Val) (wasInsert : Bool) (u fs fs' : Fields)
    (hu : u.all (fun kv => kv.1.startsWith "$") = true) (hne : u ≠ [])
    (hpos : positionalUpdate u = false) (hd : (addressed u).Nodup)
    (h : applyUpdate spec (.doc u) now wasInsert (.doc fs) = .ok (.doc fs')) :
    ∀ e, e ∈ entries u → ∃ fs₁,
      applyUpdate spec (.doc (single e)) now wasInsert (.doc fs) = .ok (.doc fs₁) ∧
      ∀ k, k ∈ addressed (single e) → dget k fs' = dget k fs₁ :=
  Proofs.C02.update_is_pointwise spec now wasInsert u fs fs' hu hne hpos hd h

/-- non-vacuity: five operators, seven entries (dotted paths, an array index, a `$rename` with
    its two fields, a `$setOnInsert` that is skipped), distinct heads; the update succeeds, and so
    does e.g. its `$inc` entry alone, leaving the same `n` -/
example :
    let u : Fields := [("$set", .doc [("a.x", .int 1), ("l.1", .int 7)]), ("$inc", .doc [("n", .int 2)]),
      ("$rename", .doc [("c", .str "e")]), ("$push", .doc [("p", .int 9)]),
      ("$setOnInsert", .doc [("s", .int 0)]), ("$unset", .doc [("z", .str "")])]
    let fs : Fields := [("_id", .int 1), ("a", .doc [("y", .int 0)]), ("l", .arr [.int 5, .int 6]),
      ("n", .int 40), ("c", .str "v"), ("z", .int 0), ("z", .int 1)]
    u.all (fun kv => kv.1.startsWith "$") = true ∧ u ≠ [] ∧ positionalUpdate u = false ∧
    (addressed u).Nodup ∧
    addressed u = ["a", "l", "n", "c", "e", "p", "s", "z"] ∧ (entries u).length = 7 ∧
    okIs (applyUpdate .null (.doc u) .null false (.doc fs))
      (.doc [("_id", .int 1), ("a", .doc [("y", .int 0), ("x", .int 1)]), ("l", .arr [.int 5, .int 7]),
             ("n", .int 42), ("z", .int 1), ("e", .str "v"), ("p", .arr [.int 9])]) = true ∧
    okIs (applyUpdate .null (.doc (single ("$inc", "n", .int 2))) .null false (.doc fs))
      (.doc [("_id", .int 1), ("a", .doc [("y", .int 0)]), ("l", .arr [.int 5, .int 6]),
             ("n", .int 42), ("c", .str "v"), ("z", .int 0), ("z", .int 1)]) = true := by
  decide +kernel

/-- why the heads must differ: in `$set a: 1` followed by `$inc a: 1` the second entry sees the
    effect of the first one (`a` becomes 2); alone on the original document it yields 6 -/
example :
    let u : Fields := [("$set", .doc [("a", .int 1)]), ("$inc", .doc [("a", .int 1)])]
    ¬ (addressed u).Nodup ∧
    okIs (applyUpdate .null (.doc u) .null false (.doc [("a", .int 5)])) (.doc [("a", .int 2)]) = true ∧
    okIs (applyUpdate .null (.doc (single ("$inc", "a", .int 1))) .null false (.doc [("a", .int 5)]))
      (.doc [("a", .int 6)]) = true := by
  decide +kernel

/-- **An entry reads only the fields it addresses.**  On two documents (without duplicate keys)
    that hold the same values under the top-level fields an entry addresses, the entry fails
    alike, or succeeds on both and leaves the same values under those fields — so an entry
    commutes with any edit of other fields.  (With `untouched_fields` for `single e`: an entry
    neither reads nor writes anything else.  This is the ingredient of `update_is_pointwise`; there
    it is used in a form that also covers documents holding a key twice.) -/
theorem entry_reads_only_its_fields (spec now : Val) (wasInsert : Bool) (e : Entry)
    (fs gs : Fields) (he : e.1.startsWith "$" = true)
    (hpos : positionalUpdate (single e) = false)
    (hk : (dkeys fs).Nodup) (hk' : (dkeys gs).Nodup)
    (hag : ∀ k, k ∈ addressed (single e) → dget k fs = dget k gs) :
    (∀ err, applyUpdate spec (.doc (single e)) now wasInsert (.doc fs) = .error err →
      applyUpdate spec (.doc (single e)) now wasInsert (.doc gs) = .error err) ∧
    (∀ fs', applyUpdate spec (.doc (single e)) now wasInsert (.doc fs) = .ok (.doc fs') →
      ∃ gs', applyUpdate spec (.doc (single e)) now wasInsert (.doc gs) = .ok (.doc gs') ∧
        ∀ k, k ∈ addressed (single e) → dget k fs' = dget k gs') :=
  Proofs.C02.entry_reads_only_its_fields spec now wasInsert e fs gs he hpos hk hk' hag

/-- non-vacuity: a `$rename c → e` on two documents that agree on `c` and `e` (both lack `e`) and
    differ elsewhere -/
example :
    let fs : Fields := [("_id", .int 1), ("c", .str "v"), ("x", .int 0)]
    let gs : Fields := [("c", .str "v"), ("_id", .int 2), ("y", .arr [])]
    let e : Entry := ("$rename", "c", .str "e")
    e.1.startsWith "$" = true ∧ positionalUpdate (single e) = false ∧
    (dkeys fs).Nodup ∧ (dkeys gs).Nodup ∧ addressed (single e) = ["c", "e"] ∧
    (dget "c" fs == dget "c" gs) = true ∧ (dget "e" fs == dget "e" gs) = true ∧
    okIs (applyUpdate .null (.doc (single e)) .null false (.doc fs))
      (.doc [("_id", .int 1), ("x", .int 0), ("e", .str "v")]) = true ∧
    okIs (applyUpdate .null (.doc (single e)) .null false (.doc gs))
      (.doc [("_id", .int 2), ("y", .arr []), ("e", .str "v")]) = true := by
  decide +kernel

/-- **Errors, one direction (no shape condition).**  If some entry alone fails on the original
    document, the whole update fails. -/
theorem update_error_of_entry (spec now : Val) (wasInsert : Bool) (u fs : Fields)
    (hu : u.all (fun kv => kv.1.startsWith "$") = true) (hne : u ≠ [])
    (hpos : positionalUpdate u = false) (hd : (addressed u).Nodup) (e : Entry) (he : e ∈ entries u) (err : Err)
    (h : applyUpdate spec (.doc (single e)) now wasInsert (.doc fs) = .error err) :
    ∃ err', applyUpdate spec (.doc u) now wasInsert (.doc fs) = .error err' :=
  Proofs.C02.update_error_of_entry spec now wasInsert u fs hu hne hpos hd e he err h

/-- **Errors, both directions.**  A well-shaped update (every key one of the model's operators,
    every argument a document — an unknown operator or a non-document argument fails without
    having any entry) with distinct heads fails exactly when one of its entries alone fails on the
    original document.  (Which error is reported may differ: e.g. the `$`-in-path check of
    `$set`-like operators is made for the whole operator document before its first field.) -/
theorem update_error_iff (spec now : Val) (wasInsert : Bool) (u fs : Fields) (hne : u ≠ [])
    (hs : wellShaped u = true) (hpos : positionalUpdate u = false) (hd : (addressed u).Nodup) :
    (∃ err, applyUpdate spec (.doc u) now wasInsert (.doc fs) = .error err) ↔
      ∃ e, e ∈ entries u ∧
        ∃ err, applyUpdate spec (.doc (single e)) now wasInsert (.doc fs) = .error err :=
  Proofs.C02.update_error_iff spec now wasInsert u fs hne hs hpos hd

/-- non-vacuity: a well-shaped update with distinct heads whose second entry (`$inc` of a string
    by a number) fails alone, and the whole update fails; and the shape condition is needed: an
    unknown operator with an empty argument has no entry and fails -/
example :
    let u : Fields := [("$set", .doc [("a", .int 1)]), ("$inc", .doc [("s", .int 1)])]
    let fs : Fields := [("_id", .int 1), ("s", .str "x")]
    u ≠ [] ∧ wellShaped u = true ∧ positionalUpdate u = false ∧ (addressed u).Nodup ∧
    (match applyUpdate .null (.doc u) .null false (.doc fs) with | .error .typeErr => true | _ => false) = true ∧
    (match applyUpdate .null (.doc (single ("$inc", "s", .int 1))) .null false (.doc fs) with
      | .error .typeErr => true | _ => false) = true ∧
    wellShaped [("$foo", .doc [])] = false ∧ (entries [("$foo", .doc [])]).length = 0 ∧
    (match applyUpdate .null (.doc [("$foo", .doc [])]) .null false (.doc fs) with
      | .error .valueErr => true | _ => false) = true := by
  decide +kernel

/-- **Order is irrelevant.**  Two updates with the same entries up to order (operators permuted,
    paths permuted inside an operator document, an operator document split or merged:
    `(entries u).Perm (entries u')`), with distinct heads, that both succeed on a document yield
    the same value under every top-level field — the results differ at most in the ORDER of their
    top-level fields. -/
theorem update_order_irrelevant (spec now : Val) (wasInsert : Bool) (u u' fs fs' fs'' : Fields)
    (hu : u.all (fun kv => kv.1.startsWith "$") = true) (hne : u ≠ [])
    (hu' : u'.all (fun kv => kv.1.startsWith "$") = true) (hne' : u' ≠ [])
    (hpos : positionalUpdate u = false)
    (hd : (addressed u).Nodup) (hp : (entries u).Perm (entries u'))
    (h : applyUpdate spec (.doc u) now wasInsert (.doc fs) = .ok (.doc fs'))
    (h' : applyUpdate spec (.doc u') now wasInsert (.doc fs) = .ok (.doc fs'')) :
    ∀ k, dget k fs' = dget k fs'' :=
  Proofs.C02.update_order_irrelevant spec now wasInsert u u' fs fs' fs'' hu hne hu' hne' hpos hd hp h h'

/-- … and the permuted update does succeed when it is well shaped. -/
theorem update_order_success (spec now : Val) (wasInsert : Bool) (u u' fs fs' : Fields)
    (hu : u.all (fun kv => kv.1.startsWith "$") = true) (hne : u ≠ []) (hne' : u' ≠ [])
    (hs' : wellShaped u' = true) (hpos : positionalUpdate u = false)
    (hd : (addressed u).Nodup) (hp : (entries u).Perm (entries u'))
    (h : applyUpdate spec (.doc u) now wasInsert (.doc fs) = .ok (.doc fs')) :
    ∃ fs'', applyUpdate spec (.doc u') now wasInsert (.doc fs) = .ok (.doc fs'') :=
  Proofs.C02.update_order_success spec now wasInsert u u' fs fs' hu hne hne' hs' hpos hd hp h

/-- non-vacuity: the same three entries in reverse order (operators swapped, the paths inside
    `$set` swapped); both succeed, the new fields `b`, `n` come out in a different order -/
example :
    let u : Fields := [("$set", .doc [("a", .int 1), ("b.c", .int 2)]), ("$inc", .doc [("n", .int 1)])]
    let u' : Fields := [("$inc", .doc [("n", .int 1)]), ("$set", .doc [("b.c", .int 2), ("a", .int 1)])]
    (entries u).Perm (entries u') ∧ positionalUpdate u = false ∧ (addressed u).Nodup ∧
    wellShaped u' = true ∧
    okIs (applyUpdate .null (.doc u) .null false (.doc [("_id", .int 1), ("a", .int 0)]))
      (.doc [("_id", .int 1), ("a", .int 1), ("b", .doc [("c", .int 2)]), ("n", .int 1)]) = true ∧
    okIs (applyUpdate .null (.doc u') .null false (.doc [("_id", .int 1), ("a", .int 0)]))
      (.doc [("_id", .int 1), ("a", .int 1), ("n", .int 1), ("b", .doc [("c", .int 2)])]) = true := by
  refine ⟨?_, by decide +kernel, by decide +kernel, by decide +kernel, by decide +kernel,
    by decide +kernel⟩
  exact (List.reverse_perm _).symm

/-- **What a replacement yields**, for ANY replacement document (`replace_spec` is the case
    without `_id` and without duplicate keys): every field reads the LAST value the replacement
    gives it (`lastGet`), `_id` — when the replacement does not give one — the `_id` of the replaced
    document, and nothing else is there; no key occurs twice; and when the replaced document had
    an `_id`, `_id` is the first field and is `==` to the old one. -/
theorem replace_then_get (doc existing fs' : Fields)
    (h : replaceWhole doc (.doc existing) = .ok (.doc fs')) :
    (∀ k, dget k fs' = match lastGet k doc with
        | some v => some v
        | none => if k = "_id" then dget "_id" existing else none) ∧
    (dkeys fs').Nodup ∧
    (∀ id, dget "_id" existing = some id →
      (dkeys fs').head? = some "_id" ∧ ∃ id', dget "_id" fs' = some id' ∧ pyEq id' id = true) :=
  Proofs.C02.replace_then_get doc existing fs' h

/-- **When a replacement is accepted**: no top-level key starts with `$`, and the `_id` it ends up
    with (its own last `_id`, else the old one) is `==` to the old `_id`. -/
theorem replace_ok_iff (doc existing : Fields) :
    (∃ fs', replaceWhole doc (.doc existing) = .ok (.doc fs')) ↔
      (doc.all (fun kv => !kv.1.startsWith "$") = true ∧
       ∀ id, dget "_id" existing = some id → pyEq ((lastGet "_id" doc).getD id) id = true) :=
  Proofs.C02.replace_ok_iff doc existing

/-- non-vacuity: a replacement giving `x` twice and an `_id` `==` to the old one (`1.0 == 1`): the
    last `x` wins, the new `_id` value is stored, first; a different `_id` is refused -/
example :
    okIs (replaceWhole [("x", .int 1), ("_id", .dbl 1 0), ("x", .int 2)] (.doc [("_id", .int 1), ("y", .int 0)]))
      (.doc [("_id", .dbl 1 0), ("x", .int 2)]) = true ∧
    (lastGet "x" [("x", .int 1), ("_id", .dbl 1 0), ("x", .int 2)] == some (.int 2)) = true ∧
    (match replaceWhole [("_id", .int 2)] (.doc [("_id", .int 1)]) with
      | .error .opFail => true | _ => false) = true := by decide +kernel

/-! The positional operator `$`: `{op: {"f.$.x": v}}` with a query that matched an element of the
array `f`.  The rule is `Spec.posIndex` (Spec/UpdatePositional.lean): `$` stands for the index of
the FIRST element satisfying the query's condition on `f`; a query without such a condition, or one
no element satisfies, makes the update an error.  The theorems hold on `Spec.posDomain f filter q`:
the query has no `$`-key, ONE condition on `f` — `f.<path>: c` or `f: {$elemMatch: {…fields…}}`,
which asks the element to match the query `q` — and no other key that merely starts with the letters
of `f`.  The matcher is C01's: the hypotheses `hC01` / `hok` say that on the pairs (`q`, element)
the model's matcher answers what the matching rules say, without raising (`Props.C01.
matches_eq_spec_partial` gives that on C01's domain).  The path is given by its components
(`splitDots key = [f, "$", x]`).  Outside the domain the code departs from the rule in the ways
listed at the end of Spec/UpdatePositional.lean; each class has a kernel-checked witness below and
a replayed one in known_findings.json. -/

/-- **`$` resolves to the first match** (`$set`): on the domain the model's answer is the rule's:
    the document with the field `x` of the FIRST element of `f` satisfying the query's condition
    set to `v` and nothing else changed, or an error when no element satisfies it. -/
theorem positional_resolves_first_match (filter : Fields) (key f x : String) (v now : Val)
    (fs : Fields) (xs : List Val) (q : Val) (hf : plainName f = true) (hx : plainName x = true)
    (hkey : splitDots key = [f, "$", x]) (hdol : hasDollarPart key = true)
    (hD : posDomain f filter q) (ha : dget f fs = some (.arr xs))
    (hnum : pyInt? x = none) (hdocs : xs.all isDocVal = true)
    (hC01 : ∀ el ∈ xs, filterApplies q el = specMatches q el)
    (hok : ∀ el ∈ xs, ∃ b, specMatches q el = .ok b) :
    Agrees (applyUpdate (.doc filter) (.doc [("$set", .doc [(key, v)])]) now false (.doc fs))
      (positionalEdit f filter false (setField x v) fs) :=
  Proofs.C02.positional_resolves_first_match filter key f x v now fs xs q hf hx hkey hdol hD ha hnum
    hdocs hC01 hok

attribute [local instance] MongoModel.Proofs.valDecEq MongoModel.Proofs.C02Lemmas.elemCondDecEq

/-- the example used below: three elements, the query asks for `k = 2` -/
private def exDoc : Fields :=
  [("_id", .int 1), ("a", .arr [.doc [("k", .int 1), ("v", .int 0)], .doc [("k", .int 2), ("v", .int 0)],
    .doc [("k", .int 2), ("v", .int 5)]]), ("c", .int 1)]

private def exXs : List Val :=
  [.doc [("k", .int 1), ("v", .int 0)], .doc [("k", .int 2), ("v", .int 0)], .doc [("k", .int 2), ("v", .int 5)]]

/-- non-vacuity: `{a.k: 2}` / `{a: {$elemMatch: {k: 2}}}` with `{$set: {a.$.v: 9}}`: every
    hypothesis holds, the rule gives index 1, the model sets `v` of the second element -/
example : plainName "a" = true ∧ plainName "v" = true ∧ splitDots "a.$.v" = ["a", "$", "v"] ∧
    hasDollarPart "a.$.v" = true ∧ dget "a" exDoc = some (.arr exXs) ∧ pyInt? "v" = none ∧
    exXs.all isDocVal = true ∧
    (∀ el ∈ exXs, filterApplies (.doc [("k", .int 2)]) el = specMatches (.doc [("k", .int 2)]) el) ∧
    posIndex "a" [("a.k", .int 2)] exXs = some (some 1) ∧
    posIndex "a" [("a", .doc [("$elemMatch", .doc [("k", .int 2)])]), ("c", .int 1)] exXs = some (some 1) ∧
    okIs (applyUpdate (.doc [("a.k", .int 2)]) (.doc [("$set", .doc [("a.$.v", .int 9)])]) .null false (.doc exDoc))
      (.doc [("_id", .int 1), ("a", .arr [.doc [("k", .int 1), ("v", .int 0)],
        .doc [("k", .int 2), ("v", .int 9)], .doc [("k", .int 2), ("v", .int 5)]]), ("c", .int 1)]) = true := by
  decide +kernel

example : posDomain "a" [("a.k", .int 2)] (.doc [("k", .int 2)]) :=
  ⟨by decide +kernel, ("a.k", .int 2), by decide +kernel, by decide +kernel, by decide +kernel⟩

example : posDomain "a" [("a", .doc [("$elemMatch", .doc [("k", .int 2)])]), ("c", .int 1)]
    (.doc [("k", .int 2)]) :=
  ⟨by decide +kernel, ("a", .doc [("$elemMatch", .doc [("k", .int 2)])]), by decide +kernel,
    by decide +kernel, by decide +kernel⟩

example : ∀ el ∈ exXs, ∃ b, specMatches (.doc [("k", .int 2)]) el = .ok b := by
  intro el hm
  simp only [exXs, List.mem_cons, List.not_mem_nil, or_false] at hm
  rcases hm with rfl | rfl | rfl
  · exact ⟨false, by decide +kernel⟩
  · exact ⟨true, by decide +kernel⟩
  · exact ⟨true, by decide +kernel⟩

/-- **Every `_updaters` operator** (`$set $unset $inc $min $max $pop`): the element at the index
    the rule gives — it satisfies the condition, no element before it does — is handed to the
    operator (`runUpdater … el x v`: the per-operator theorems above say what that does), and the
    result is the document with that element replaced. -/
theorem positional_updater_resolves (op : String) (u : Updater) (hop : updaterOf op = some u)
    (filter : Fields) (key f x : String) (v now : Val) (wi : Bool) (fs : Fields) (xs : List Val)
    (q : Val) (hf : plainName f = true) (hx : plainName x = true)
    (hkey : splitDots key = [f, "$", x]) (hdol : hasDollarPart key = true)
    (hD : posDomain f filter q) (ha : dget f fs = some (.arr xs))
    (hC01 : ∀ el ∈ xs, filterApplies q el = specMatches q el)
    (hok : ∀ el ∈ xs, ∃ b, specMatches q el = .ok b) (i : Nat)
    (hi : posIndex f filter xs = some (some i)) :
    ∃ el, xs[i]? = some el ∧ (ElemCond.sub q).sat el = true ∧
      (∀ j, j < i → ∀ ej, xs[j]? = some ej → (ElemCond.sub q).sat ej = false) ∧
      applyUpdate (.doc filter) (.doc [(op, .doc [(key, v)])]) now wi (.doc fs) =
        (runUpdater u now el x v).map (fun el' => Val.doc (dset f (.arr (xs.set i el')) fs)) :=
  Proofs.C02.positional_updater_resolves op u hop filter key f x v now wi fs xs q hf hx hkey hdol hD
    ha hC01 hok i hi

/-- non-vacuity: `$inc` through `a.$.v` with `{a.k: {$gte: 2}}` adds to the second element -/
example : updaterOf "$inc" = some .inc ∧
    posIndex "a" [("a.k", .doc [("$gte", .int 2)])] exXs = some (some 1) ∧
    okIs (applyUpdate (.doc [("a.k", .doc [("$gte", .int 2)])]) (.doc [("$inc", .doc [("a.$.v", .int 3)])])
        .null false (.doc exDoc))
      (.doc [("_id", .int 1), ("a", .arr [.doc [("k", .int 1), ("v", .int 0)],
        .doc [("k", .int 2), ("v", .int 3)], .doc [("k", .int 2), ("v", .int 5)]]), ("c", .int 1)]) = true := by
  decide +kernel

/-- **Frame.**  A successful positional update through `f.$.x` changes nothing but the field `x`
    of the element at the resolved index: every other top-level field, every other element of the
    array (and its length), every other field of that element are as before. -/
theorem positional_frame (op : String) (u : Updater) (hop : updaterOf op = some u)
    (filter : Fields) (key f x : String) (v now : Val) (wi : Bool) (fs fs' : Fields)
    (xs : List Val) (q : Val) (hf : plainName f = true) (hx : plainName x = true)
    (hkey : splitDots key = [f, "$", x]) (hdol : hasDollarPart key = true)
    (hD : posDomain f filter q) (ha : dget f fs = some (.arr xs))
    (hC01 : ∀ el ∈ xs, filterApplies q el = specMatches q el)
    (hok : ∀ el ∈ xs, ∃ b, specMatches q el = .ok b) (i : Nat)
    (hi : posIndex f filter xs = some (some i))
    (h : applyUpdate (.doc filter) (.doc [(op, .doc [(key, v)])]) now wi (.doc fs) = .ok (.doc fs')) :
    (∀ k, k ≠ f → dget k fs' = dget k fs) ∧
    ∃ ys, dget f fs' = some (.arr ys) ∧ ys.length = xs.length ∧
      (∀ j, j ≠ i → ys[j]? = xs[j]?) ∧
      (∀ es, xs[i]? = some (.doc es) →
        ∃ es', ys[i]? = some (.doc es') ∧ ∀ k, k ≠ x → dget k es' = dget k es) :=
  Proofs.C02.positional_frame op u hop filter key f x v now wi fs fs' xs q hf hx hkey hdol hD ha hC01
    hok i hi h

/-- … and at the top level the frame needs no domain at all: `untouched_fields` covers every
    modelled update, positional or not (a positional path `f.$.x` addresses `f`).  Non-vacuity:
    a positional `$unset` next to a plain `$inc` leaves `_id` and `z` alone -/
example :
    let u : Fields := [("$unset", .doc [("a.$.v", .str "")]), ("$inc", .doc [("c", .int 1)])]
    positionalUpdate u = true ∧ addressed u = ["a", "c"] ∧
    okIs (applyUpdate (.doc [("a.k", .int 2)]) (.doc u) .null false (.doc (exDoc ++ [("z", .int 0)])))
      (.doc [("_id", .int 1), ("a", .arr [.doc [("k", .int 1), ("v", .int 0)], .doc [("k", .int 2)],
        .doc [("k", .int 2), ("v", .int 5)]]), ("c", .int 2), ("z", .int 0)]) = true := by
  decide +kernel

/-- **No element satisfies the condition: an error** (`$set $inc $min $max $pop`; the rule's
    "did not find the match needed from the query"). -/
theorem positional_no_match_is_error (op : String) (u : Updater) (hop : updaterOf op = some u)
    (hu : u ≠ .unset)
    (filter : Fields) (key f x : String) (v now : Val) (wi : Bool) (fs : Fields) (xs : List Val)
    (q : Val) (hf : plainName f = true) (hx : plainName x = true)
    (hkey : splitDots key = [f, "$", x]) (hdol : hasDollarPart key = true)
    (hD : posDomain f filter q) (ha : dget f fs = some (.arr xs)) (hnum : pyInt? x = none)
    (hC01 : ∀ el ∈ xs, filterApplies q el = specMatches q el)
    (hok : ∀ el ∈ xs, ∃ b, specMatches q el = .ok b)
    (hi : posIndex f filter xs = some none) :
    ∃ e, applyUpdate (.doc filter) (.doc [(op, .doc [(key, v)])]) now wi (.doc fs) = .error e :=
  Proofs.C02.positional_no_match_is_error op u hop hu filter key f x v now wi fs xs q hf hx hkey hdol
    hD ha hnum hC01 hok hi

/-- non-vacuity: `{a.k: 9}` on the example: the rule says error, the model raises; and why
    `$unset` is left out: with no element to address it silently does nothing -/
example : posIndex "a" [("a.k", .int 9)] exXs = some none ∧
    (match applyUpdate (.doc [("a.k", .int 9)]) (.doc [("$set", .doc [("a.$.v", .int 9)])]) .null false (.doc exDoc) with
     | .error .valueErr => true | _ => false) = true ∧
    okIs (applyUpdate (.doc [("a.k", .int 9)]) (.doc [("$unset", .doc [("a.$.v", .str "")])]) .null false (.doc exDoc))
      (.doc exDoc) = true := by
  decide +kernel

/-- **`f.$` as the whole path** with `$set` replaces the element at the resolved index — as the
    rule has it.  (The statement holds for every `_updaters` operator, which is the finding
    `positional-whole-element-op`: see below.) -/
theorem positional_whole_element (op : String) (u : Updater) (hop : updaterOf op = some u)
    (filter : Fields) (key f : String) (v now : Val) (wi : Bool) (fs : Fields) (xs : List Val)
    (q : Val) (hf : plainName f = true)
    (hkey : splitDots key = [f, "$"]) (hdol : hasDollarPart key = true)
    (hD : posDomain f filter q) (ha : dget f fs = some (.arr xs))
    (hC01 : ∀ el ∈ xs, filterApplies q el = specMatches q el)
    (hok : ∀ el ∈ xs, ∃ b, specMatches q el = .ok b) (i : Nat)
    (hi : posIndex f filter xs = some (some i)) :
    applyUpdate (.doc filter) (.doc [(op, .doc [(key, v)])]) now wi (.doc fs) =
      .ok (.doc (dset f (.arr (xs.set i v)) fs)) :=
  Proofs.C02.positional_whole_element op u hop filter key f v now wi fs xs q hf hkey hdol hD ha hC01
    hok i hi

/-- non-vacuity, and the finding: `{$set: {a.$: 7}}` stores 7 as the second element; so does
    `{$inc: {a.$: 7}}` (a server refuses to increment a document), and `{$unset: {a.$: ""}}`
    stores `""` (a server stores null) -/
example : splitDots "a.$" = ["a", "$"] ∧ hasDollarPart "a.$" = true ∧
    okIs (applyUpdate (.doc [("a.k", .int 2)]) (.doc [("$set", .doc [("a.$", .int 7)])]) .null false (.doc exDoc))
      (.doc [("_id", .int 1), ("a", .arr [.doc [("k", .int 1), ("v", .int 0)], .int 7,
        .doc [("k", .int 2), ("v", .int 5)]]), ("c", .int 1)]) = true ∧
    okIs (applyUpdate (.doc [("a.k", .int 2)]) (.doc [("$inc", .doc [("a.$", .int 7)])]) .null false (.doc exDoc))
      (.doc [("_id", .int 1), ("a", .arr [.doc [("k", .int 1), ("v", .int 0)], .int 7,
        .doc [("k", .int 2), ("v", .int 5)]]), ("c", .int 1)]) = true ∧
    okIs (applyUpdate (.doc [("a.k", .int 2)]) (.doc [("$unset", .doc [("a.$", .str "")])]) .null false (.doc exDoc))
      (.doc [("_id", .int 1), ("a", .arr [.doc [("k", .int 1), ("v", .int 0)], .str "",
        .doc [("k", .int 2), ("v", .int 5)]]), ("c", .int 1)]) = true := by
  decide +kernel

/-- **`$push` through `f.$.l`**: with the query `f: {$elemMatch: q}` the value is pushed to the
    array `l` of the first element matching `q` (`pushAt`: the `$push` theorems above describe the
    edit), an error when there is none. -/
theorem positional_push_first_match (filter : Fields) (key f l : String) (v now : Val) (wi : Bool)
    (fs : Fields) (xs : List Val) (q : Val)
    (hf : plainName f = true) (hl : plainName l = true)
    (hkey : splitDots key = [f, "$", l]) (hdol : hasDollarPart key = true)
    (hq : dget f filter = some (.doc [("$elemMatch", q)]))
    (hD : posDomain f filter q) (ha : dget f fs = some (.arr xs))
    (hC01 : ∀ el ∈ xs, filterApplies q el = specMatches q el)
    (hok : ∀ el ∈ xs, ∃ b, specMatches q el = .ok b) :
    applyUpdate (.doc filter) (.doc [("$push", .doc [(key, v)])]) now wi (.doc fs) =
      match posIndex f filter xs with
      | some (some i) =>
        (match xs[i]? with
         | some el => (pushAt v el l).map (fun el' => Val.doc (dset f (.arr (xs.set i el')) fs))
         | none => unmodelled)
      | _ => .error .writeErr :=
  Proofs.C02.positional_push_first_match filter key f l v now wi fs xs q hf hl hkey hdol hq hD ha hC01
    hok

/-- non-vacuity: `$push` of 4 through `a.$.l` under `{a: {$elemMatch: {k: 2}}}` creates `l` in the
    second element; and the finding `positional-needs-elemmatch`: under the dotted condition
    `{a.k: 2}` — where the rule gives the same index — the model (as the code) raises WriteError -/
example : okIs (applyUpdate (.doc [("a", .doc [("$elemMatch", .doc [("k", .int 2)])])])
        (.doc [("$push", .doc [("a.$.l", .int 4)])]) .null false (.doc exDoc))
      (.doc [("_id", .int 1), ("a", .arr [.doc [("k", .int 1), ("v", .int 0)],
        .doc [("k", .int 2), ("v", .int 0), ("l", .arr [.int 4])], .doc [("k", .int 2), ("v", .int 5)]]),
        ("c", .int 1)]) = true ∧
    posIndex "a" [("a.k", .int 2)] exXs = some (some 1) ∧
    (match applyUpdate (.doc [("a.k", .int 2)]) (.doc [("$push", .doc [("a.$.l", .int 4)])]) .null false (.doc exDoc) with
     | .error .writeErr => true | _ => false) = true := by
  decide +kernel

/-- **A positional entry reads only the field its path starts with** — the counterpart of
    `entry_reads_only_its_fields` for `{op: {"f.$…": v}}` with `op` one of `$set $unset $inc $min
    $max $pop $currentDate`, or `$setOnInsert` on an insert (`posFieldsOp`), whatever the query and
    whatever the path behind `f`: on two documents (without duplicate keys) holding the same value
    under `f` the entry fails alike, or succeeds on both and leaves the same value under `f`.  With
    `untouched_fields` (nothing else is written) the entry neither reads nor writes anything but
    `f`.  (The whole-update theorems below `update_is_pointwise` are stated for updates without
    positional keys: behind the first positional key the code carries the container it reached
    from entry to entry — finding `positional-carried-container` — so entries are not
    independent.) -/
theorem positional_entry_reads_only_its_field (spec now : Val) (wi : Bool) (op key : String)
    (v : Val) (u : Updater) (hop : posFieldsOp op wi = some u) (hdol : hasDollarPart key = true)
    (fs gs : Fields) (hk : (dkeys fs).Nodup) (hk' : (dkeys gs).Nodup)
    (hag : dget (headOf key) fs = dget (headOf key) gs) :
    (∀ err, applyUpdate spec (.doc [(op, .doc [(key, v)])]) now wi (.doc fs) = .error err →
      applyUpdate spec (.doc [(op, .doc [(key, v)])]) now wi (.doc gs) = .error err) ∧
    (∀ fs', applyUpdate spec (.doc [(op, .doc [(key, v)])]) now wi (.doc fs) = .ok (.doc fs') →
      ∃ gs', applyUpdate spec (.doc [(op, .doc [(key, v)])]) now wi (.doc gs) = .ok (.doc gs') ∧
        dget (headOf key) fs' = dget (headOf key) gs') :=
  Proofs.C02.positional_entry_reads_only_its_field spec now wi op key v u hop hdol fs gs hk hk' hag

/-- non-vacuity: `$inc` through `a.$.v` on the example and on a document that shares nothing with
    it but `a`: both succeed and leave the same `a` -/
example :
    let gs : Fields := [("a", .arr exXs), ("_id", .int 2), ("z", .arr [])]
    posFieldsOp "$inc" false = some .inc ∧ posFieldsOp "$setOnInsert" true = some .set ∧
    posFieldsOp "$setOnInsert" false = none ∧ posFieldsOp "$push" false = none ∧
    hasDollarPart "a.$.v" = true ∧ headOf "a.$.v" = "a" ∧ (dkeys exDoc).Nodup ∧ (dkeys gs).Nodup ∧
    dget "a" exDoc = dget "a" gs ∧
    okIs (applyUpdate (.doc [("a.k", .int 2)]) (.doc [("$inc", .doc [("a.$.v", .int 3)])]) .null false (.doc gs))
      (.doc [("a", .arr [.doc [("k", .int 1), ("v", .int 0)], .doc [("k", .int 2), ("v", .int 3)],
        .doc [("k", .int 2), ("v", .int 5)]]), ("_id", .int 2), ("z", .arr [])]) = true := by
  decide +kernel

/-- the full-strength statement: whatever the query, `{$set: {"f.$.x": v}}` on a document whose
    `f` is an array of documents does what the rule says (wherever the rule says something) -/
def positional_rule_full : Prop :=
  ∀ (filter : Fields) (key f x : String) (v now : Val) (wasInsert : Bool) (fs : Fields)
    (xs : List Val), plainName f = true → plainName x = true → splitDots key = [f, "$", x] →
    dget f fs = some (.arr xs) → pyInt? x = none → xs.all isDocVal = true →
    Agrees (applyUpdate (.doc filter) (.doc [("$set", .doc [(key, v)])]) now wasInsert (.doc fs))
      (positionalEdit f filter wasInsert (setField x v) fs)

/-- It is false (known finding `positional-unconstrained`): the query `{c: 1}` holds no condition
    on `a`; the rule makes `{$set: {a.$.v: 9}}` an error, the code (and the model) write into the
    first element.  The same witness is replayed on the real code. -/
theorem positional_rule_full_fails : ¬ positional_rule_full := by
  intro h
  have := h [("c", .int 1)] "a.$.v" "a" "v" (.int 9) .null false exDoc exXs (by decide +kernel)
    (by decide +kernel) (by decide +kernel) (by decide +kernel) (by decide +kernel) (by decide +kernel)
  have hs : positionalEdit "a" [("c", .int 1)] false (setField "v" (.int 9)) exDoc = some none := by
    decide +kernel
  rw [hs] at this
  obtain ⟨e, he⟩ := this
  have hi : applyUpdate (.doc [("c", .int 1)]) (.doc [("$set", .doc [("a.$.v", .int 9)])]) .null false
      (.doc exDoc) = .ok (.doc [("_id", .int 1), ("a", .arr [.doc [("k", .int 1), ("v", .int 9)],
        .doc [("k", .int 2), ("v", .int 0)], .doc [("k", .int 2), ("v", .int 5)]]), ("c", .int 1)]) := by
    decide +kernel
  rw [hi] at he
  cases he

/-- the other classes on their witnesses (each replayed on the real code as a known finding):
    `positional-upsert` — on an upsert the rule says error, the model writes into the seed document
    built from `{a.k: 5}`; `positional-prefix-key` — the key `ab` is taken for a condition on `a`
    (AttributeError on its null operand); `positional-value-condition` — `{d: 2}` on an array of
    numbers: the rule gives index 1, the model raises; `positional-carried-container` — the second
    positional key `a.$.c.y` is applied to the element the first one reached (`y` lands in the
    element, not in its `c`); `positional-missing-intermediate` — alone, `a.$.c.y` raises KeyError
    because the element has no `c` (a server creates it) -/
example :
    positionalEdit "a" [("a.k", .int 5)] true (setField "v" (.int 9)) [("a", .doc [("k", .int 5)]), ("_id", .int 7)]
      = some none ∧
    okIs (applyUpdate (.doc [("a.k", .int 5)]) (.doc [("$set", .doc [("a.$.v", .int 9)])]) .null true
        (.doc [("a", .doc [("k", .int 5)]), ("_id", .int 7)]))
      (.doc [("a", .doc [("k", .int 5), ("v", .int 9)]), ("_id", .int 7)]) = true ∧
    posIndex "a" [("a.k", .int 2), ("ab", .null)] exXs = some (some 1) ∧
    (match applyUpdate (.doc [("a.k", .int 2), ("ab", .null)]) (.doc [("$set", .doc [("a.$.v", .int 9)])])
        .null false (.doc exDoc) with
     | .error .attrErr => true | _ => false) = true ∧
    posIndex "d" [("d", .int 2)] [.int 1, .int 2, .int 3] = some (some 1) ∧
    (match applyUpdate (.doc [("d", .int 2)]) (.doc [("$set", .doc [("d.$", .int 9)])]) .null false
        (.doc [("_id", .int 1), ("d", .arr [.int 1, .int 2, .int 3])]) with
     | .error .attrErr => true | _ => false) = true ∧
    okIs (applyUpdate (.doc [("a.k", .int 2)])
        (.doc [("$set", .doc [("a.$.v", .int 7), ("a.$.c.y", .int 3)])]) .null false (.doc exDoc))
      (.doc [("_id", .int 1), ("a", .arr [.doc [("k", .int 1), ("v", .int 0)],
        .doc [("k", .int 2), ("v", .int 7), ("y", .int 3)], .doc [("k", .int 2), ("v", .int 5)]]),
        ("c", .int 1)]) = true ∧
    (match applyUpdate (.doc [("a.k", .int 2)]) (.doc [("$set", .doc [("a.$.c.y", .int 3)])])
        .null false (.doc exDoc) with
     | .error .keyErr => true | _ => false) = true := by
  decide +kernel

/-- `positional-fam-filter-lost`: `find_one_and_update` hands `{_id: <target>}` to the update, so
    the positional path never sees the caller's condition `{a.k: 2}`: it writes into the FIRST
    element, where `update_one` with the same arguments writes into the second -/
example :
    let c : Coll := { docs := [(.int 1, .doc exDoc)] }
    let q : Val := .doc [("a.k", .int 2)]
    let u : Val := .doc [("$set", .doc [("a.$.v", .int 9)])]
    (match findAndModify {} 0 c q .null (some u) false none true with
     | (_, .ok (some d)) => d == .doc [("_id", .int 1), ("a", .arr [.doc [("k", .int 1), ("v", .int 9)],
         .doc [("k", .int 2), ("v", .int 0)], .doc [("k", .int 2), ("v", .int 5)]]), ("c", .int 1)]
     | _ => false) = true ∧
    (match applyUpdateColl {} 0 c q u false false with
     | (c', .ok _) => c'.docs.map (·.2) == [.doc [("_id", .int 1), ("a", .arr [.doc [("k", .int 1), ("v", .int 0)],
         .doc [("k", .int 2), ("v", .int 9)], .doc [("k", .int 2), ("v", .int 5)]]), ("c", .int 1)]]
     | _ => false) = true := by
  decide +kernel

/-- `$[]` / `$[id]` (all elements / `array_filters`, which the callers refuse with
    NotImplementedError): such a component is no `$` for the walk, it is looked up as a key and the
    update fails (TypeError: a list is indexed by a string) — loudly, never a partial write; two
    `$` in one path (nested arrays) re-use the same narrowed condition for the inner array -/
example :
    (match applyUpdate (.doc [("a.k", .int 2)]) (.doc [("$set", .doc [("a.$[].v", .int 9)])]) .null false (.doc exDoc) with
     | .error .typeErr => true | _ => false) = true ∧
    (match applyUpdate (.doc [("a.k", .int 2)]) (.doc [("$set", .doc [("a.$[e].v", .int 9)])]) .null false (.doc exDoc) with
     | .error .typeErr => true | _ => false) = true := by
  decide +kernel

end MongoModel.Props.C02
