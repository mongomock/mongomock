/-
  Props.C03 — property theorems for C03 (a pipeline is the composition of its stages, each acting
  as MongoDB defines it), each with an example showing its hypotheses inhabited.  What needs more
  than a few lines — the model's loops and handlers, the stages against the oracles — is proved
  in Proofs/C03*.lean (first oracle) and Proofs/C03Ext*.lean (extension).

  Impl  = MongoModel/Pipeline.lean   (namespace MongoModel.Pipe: faithful model of
                                      process_pipeline and the stage handlers of aggregate.py; tied
                                      to /repo by the per-run correspondence check)
  Spec  = Spec/Pipeline.lean         (the stages as MongoDB defines them; re-uses the oracles of
                                      C01 / C11 / C12), Spec/PipelineExt.lean (`$group`, `$lookup`,
                                      `$addFields`, `$replaceRoot`, `$bucket`, `$facet`; C04)
  D     = Spec/PipelineDomain.lean   (decidable; named exclusion classes)

  Vocabulary: `Pipe.runPipeline db p docs` runs the stage list `p` on `docs`; a stage is the raw
  document `{op: opts}`; `Pipe.simpleStage db op opts docs` is the handler of `op` (every handler
  but `$facet`).
-/
import Proofs.C03
import Proofs.C03Ext


namespace MongoModel.Props.C03
open MongoModel MongoModel.Proofs.C11 MongoModel.Spec.Pipe

def d0 : Val := .doc [("_id", .int 0), ("k", .int 1), ("a", .int 5), ("l", .arr [.int 1, .int 2])]
def d1 : Val := .doc [("_id", .int 1), ("k", .str "x"), ("a", .int 7), ("l", .arr [])]
def d2 : Val := .doc [("_id", .int 2), ("k", .int 1), ("a", .int 2)]
def d3 : Val := .doc [("_id", .int 3), ("a", .null), ("l", .arr [.int 3])]
def sample : List Val := [d0, d1, d2, d3]
def other : List Val := [.doc [("_id", .int 10), ("fk", .int 1)], .doc [("_id", .int 11), ("fk", .str "y")],
  .doc [("_id", .int 12), ("fk", .int 1)]]
def db : Pipe.Db := ⟨[("c", sample), ("other", other)]⟩

def lookupSpec : Val := .doc [("from", .str "other"), ("localField", .str "k"),
  ("foreignField", .str "fk"), ("as", .str "j")]

def isOk {α : Type} : R α → Bool
  | .ok _ => true
  | .error _ => false

def failsWith {α : Type} (r : R α) (e : Err) : Bool :=
  match r with
  | .ok _ => false
  | .error e' => e' == e

def valIs (a b : Val) : Bool := Val.beq a b

/-- **pipeline_is_fold.** Running `p ++ q` is running `p`, then `q` on its output (an error of `p`
    is the error of the whole); and the run is the monadic left fold of `runStage`. -/
theorem pipeline_is_fold (db : Pipe.Db) (p q : List Val) (docs : List Val) :
    Pipe.runPipeline db (p ++ q) docs =
      (match Pipe.runPipeline db p docs with
       | .error e => .error e
       | .ok mid => Pipe.runPipeline db q mid) ∧
    Pipe.runPipeline db p docs = p.foldlM (fun ds st => Pipe.runStage db st ds) docs :=
  ⟨Pipe.Proofs.runPipeline_append db p q docs, Pipe.Proofs.runPipeline_eq_foldlM db p docs⟩

/-- a stage document with one operator runs that operator's handler; every operator but
    `$facet` is handled without looking at the rest of the pipeline -/
theorem stage_dispatch (db : Pipe.Db) (op : String) (opts : Val) (docs : List Val) :
    Pipe.runStage db (.doc [(op, opts)]) docs = Pipe.runOp db op opts docs ∧
    (op ≠ "$facet" → Pipe.runOp db op opts docs = Pipe.simpleStage db op opts docs) :=
  ⟨Pipe.Proofs.runStage_single db op opts docs, Pipe.Proofs.runOp_simple db op opts docs⟩

/-- a stage must be a document with exactly one field: anything else — no operator, several
    operators, not a document — makes the run raise (as MongoDB rejects the pipeline), whatever
    the documents and whatever else the stage holds -/
theorem stage_must_have_one_field (db : Pipe.Db) (st : Val) (docs : List Val)
    (h : ∀ op opts, st ≠ .doc [(op, opts)]) :
    ∃ e, e ≠ Err.unmodelled ∧ Pipe.runStage db st docs = .error e := by
  refine Pipe.Proofs.runStage_rejected db st docs ?_
  unfold stageRejected
  split
  · rename_i op opts; exact absurd rfl (h op opts)
  · rfl

example : ∀ op opts, Val.doc [("$skip", .int 1), ("$limit", .int 1)] ≠ .doc [(op, opts)] := by
  intro op opts h; cases h

/-- **facet_branches.** `$facet` returns ONE document whose field `title_i` holds the output of
    the i-th sub-pipeline run on the very same input. -/
theorem facet_branches (db : Pipe.Db) (gs : Fields) (docs out : List Val)
    (h : Pipe.runOp db "$facet" (.doc gs) docs = .ok out) :
    ∃ fs, out = [.doc fs] ∧
      List.Forall₂ (fun (g o : String × Val) => ∃ p r, g = (o.1, .arr p) ∧ o.2 = .arr r ∧
        Pipe.runPipeline db p docs = .ok r) gs fs := by
  rw [Pipe.runOp, if_pos rfl] at h
  split at h
  · cases h
  next fs hf => cases h; exact ⟨fs, rfl, Pipe.Proofs.facetBranches_ok db gs docs fs hf⟩

example : isOk (Pipe.runOp db "$facet" (.doc [("p", .arr [.doc [("$limit", .int 1)]]),
    ("q", .arr [.doc [("$count", .str "n")]])]) sample) = true := by decide +kernel

/-- **match_eq_find.** `$match` returns a sub-list of its input (order kept, nothing invented):
    exactly the documents on which the find matcher `filterApplies` answers true; on stored
    documents it is the very list `find(filter)` returns. -/
theorem match_eq_find (f : Val) (docs out : List Val) (h : Pipe.matchStage f docs = .ok out) :
    out.Sublist docs ∧
    (∀ d, d ∈ out ↔ d ∈ docs ∧ filterApplies (patch f) (patch d) = .ok true) ∧
    ((∀ d ∈ docs, patch d = d) → Pipe.findDocs f docs = .ok out) := by
  obtain ⟨h1, h2⟩ := Pipe.Proofs.filterR_sub (Pipe.Proofs.matchStage_filterR h)
  exact ⟨h1, h2, fun hn => by rw [← Pipe.Proofs.matchStage_eq_findDocs f docs hn]; exact h⟩

/-- … and `$match` refuses exactly the filters `find` refuses, the empty collection included
    (the two entry points are one function of the filter and the stored documents). -/
theorem match_is_find (f : Val) (docs : List Val) (hn : ∀ d ∈ docs, patch d = d) :
    Pipe.matchStage f docs = Pipe.findDocs f docs :=
  Pipe.Proofs.matchStage_eq_findDocs f docs hn

example : isOk (Pipe.matchStage (.doc [("k", .int 1)]) sample) = true := by decide +kernel

/-- `findDocs` is the selection every read entry point is proved to share (C10's
    `Spec.selectDocs`), taken over the documents of the (key, document) store -/
theorem find_is_the_shared_selection (f : Val) (ps : List (Val × Val)) :
    (Spec.selectDocs f ps).map (fun l => l.map (·.2)) =
      Pipe.filterR (filterApplies f) (ps.map (·.2)) :=
  Pipe.Proofs.selectDocs_eq_filterR f ps

/-- **sort_perm.** Whatever the specification, when `$sort` answers its output is a permutation
    of its input. -/
theorem sort_perm (o : Val) (docs out : List Val) (h : Pipe.sortStage o docs = .ok out) :
    out.Perm docs := by
  cases o with
  | doc fs => exact Pipe.Proofs.sortFields_perm fs docs out h
  | _ => cases h

/-- **sort_eq_find_sort.** `$sort: {k₁: d₁, …}` is `find().sort([(k₁, d₁), …])` inside the domain
    of the sort oracle — the stable sort by the key-by-key BSON order. -/
theorem sort_eq_find_sort (spec : SortSpec) (docs : List Val)
    (h : Spec.Order.specReasons spec docs = []) :
    Pipe.sortStage (.doc (spec.map (fun kd => (kd.1, Val.int kd.2)))) docs
      = getDataset (some spec) docs ∧
    Pipe.sortStage (.doc (spec.map (fun kd => (kd.1, Val.int kd.2)))) docs
      = .ok (isort (Spec.Order.docLt spec) docs) := by
  have e : Pipe.sortStage (.doc (spec.map (fun kd => (kd.1, Val.int kd.2)))) docs
      = aggSort spec docs := Pipe.Proofs.sortFields_int spec docs
  exact ⟨by rw [e]; exact Props.C11.agg_sort_eq_find_sort spec docs h,
         by rw [e]; exact aggSort_eq_spec spec docs (specOk_of_reasons _ _ h)⟩

example : Spec.Order.specReasons [("a", -1), ("k", 1)] sample = [] := by decide +kernel

/-- **skip_limit_eq_slice.** `$skip n` with `n ≥ 0` / `$limit n` with `n > 0` are `drop` /
    `take` — the slices `find().skip(n)` / `.limit(n)` take; every other integer is refused
    (OperationFailure), as MongoDB refuses it. -/
theorem skip_limit_eq_slice (n : Int) (docs : List Val) :
    Pipe.skipStage (.int n) docs =
      (if 0 ≤ n then .ok (docs.drop n.toNat) else .error .opFail) ∧
    Pipe.limitStage (.int n) docs =
      (if 0 < n then .ok (docs.take n.toNat) else .error .opFail) :=
  ⟨Pipe.Proofs.skipStage_eq (.int n) docs, Pipe.Proofs.limitStage_eq (.int n) docs⟩

/-- … a double that holds a whole number is read as that integer (`$limit: 2.0` keeps two
    documents), and an argument that denotes no integer (a boolean, a fraction, a string, null,
    …) is refused -/
theorem skip_limit_count (o : Val) (docs : List Val) :
    (∀ n, sliceCount o = some n →
      Pipe.skipStage o docs = Pipe.skipStage (.int n) docs ∧
      Pipe.limitStage o docs = Pipe.limitStage (.int n) docs) ∧
    (sliceCount o = none →
      Pipe.skipStage o docs = .error .opFail ∧ Pipe.limitStage o docs = .error .opFail) := by
  simp only [Pipe.Proofs.skipStage_eq, Pipe.Proofs.limitStage_eq]
  exact ⟨fun n h => by rw [h]; exact ⟨rfl, rfl⟩, fun h => by rw [h]; exact ⟨rfl, rfl⟩⟩

example : sliceCount (.dbl 2 0) = some 2 ∧ sliceCount (.dbl 6 1) = some 3 ∧
    sliceCount (.dbl 5 1) = none ∧ sliceCount (.bool true) = none ∧ sliceCount (.str "1") = none := by
  decide +kernel

theorem skip_limit_infix (o : Val) (docs out : List Val) :
    (Pipe.skipStage o docs = .ok out → out <:+ docs) ∧
    (Pipe.limitStage o docs = .ok out → out <+: docs) := by
  rw [Pipe.Proofs.skipStage_eq, Pipe.Proofs.limitStage_eq]
  constructor <;> intro h <;> split at h
  · split at h <;> cases h; exact List.drop_suffix _ _
  · cases h
  · split at h <;> cases h; exact List.take_prefix _ _
  · cases h

/-- **skip_limit_eq_spec.** For EVERY argument the oracle speaks — documents, or REJECTED
    (`Spec.Pipe.argRejected`: no integer and no whole-number double, a negative `$skip`, a `$limit`
    that is not positive) — and the handler answers accordingly, error cases included.  (Full
    strength: `limitdouble` is repaired, a whole-number double is read as its integer.) -/
theorem skip_limit_eq_spec (db : Pipe.Db) (op : String) (o : Val) (docs : List Val)
    (hop : op = "$skip" ∨ op = "$limit") :
    ∃ v, specStageV op o docs = some v ∧ v.agrees (Pipe.simpleStage db op o docs) := by
  have total : (∃ v, specStageV op o docs = some v) ∧ stageReasons op o docs = [] := by
    rcases hop with rfl | rfl <;> refine ⟨?_, by simp [stageReasons]⟩ <;>
      cases hc : sliceCount o with
      | none => exact ⟨.rejected, by simp [specStageV, argRejected, hc]⟩
      | some n => ?_
    · by_cases hn : 0 ≤ n
      · exact ⟨.docs (docs.drop n.toNat), by
          simp [specStageV, argRejected, specStage, hc, hn, Int.not_lt.mpr hn]⟩
      · exact ⟨.rejected, by simp [specStageV, argRejected, hc, Int.not_le.mp hn]⟩
    · by_cases hn : 0 < n
      · exact ⟨.docs (docs.take n.toNat), by
          simp [specStageV, argRejected, specStage, hc, hn, Int.not_le.mpr hn]⟩
      · exact ⟨.rejected, by simp [specStageV, argRejected, hc, Int.not_lt.mp hn]⟩
  obtain ⟨⟨v, hv⟩, hD⟩ := total
  exact ⟨v, hv, Pipe.Proofs.stageV_eq_spec db op o docs v hD hv⟩

/-- the former witness of `limitdouble`: `$limit: 2.0` keeps two documents -/
example : (match Pipe.limitStage (.dbl 2 0) sample with
    | .ok out => out.length == 2 | .error _ => false) = true ∧
    isOk (Pipe.skipStage (.dbl 0 0) sample) = true ∧
    isOk (Pipe.limitStage (.dbl 5 1) sample) = false := by decide +kernel

/-- **count_eq_length.** `$count: name` answers one document `{name: len(input)}` — the number
    `count_documents({})` computes (`countDocuments n 0 absent = n`) — and NO document when there
    is no input. -/
theorem count_eq_length (o : Val) (docs out : List Val) (h : Pipe.countStage o docs = .ok out) :
    ∃ s, o = .str s ∧ out = (if docs.isEmpty then [] else [.doc [(s, .int docs.length)]]) ∧
      countDocuments docs.length 0 .absent = .ok (docs.length : Int) := by
  cases o with
  | str s =>
    rw [Pipe.Proofs.countStage_eq] at h
    split at h <;> cases h
    exact ⟨s, rfl, rfl, by simp [countDocuments]⟩
  | _ => cases h

example : isOk (Pipe.countStage (.str "n") sample) = true ∧
    isOk (Pipe.countStage (.str "n") []) = true := by decide +kernel

/-- … and on an accepted name the stage IS the oracle's `$count`, the empty input included -/
theorem count_eq_spec (s : String) (docs : List Val) (hn : countName s = true) :
    Pipe.countStage (.str s) docs =
      .ok (if docs.isEmpty then [] else [.doc [(s, .int docs.length)]]) ∧
    specStage "$count" (.str s) docs =
      some (if docs.isEmpty then [] else [.doc [(s, .int docs.length)]]) :=
  ⟨Pipe.Proofs.count_eq_spec s docs hn, by simp [specStage, hn]⟩

example : countName "n" = true := by decide +kernel

/-- **project_eq_find_projection.** On a plain inclusion / exclusion specification the `$project`
    stage is `aggProject` (for every list of documents), hence — on the common domain of the two
    projection oracles — the document the find projection `copyOnlyFields` returns (which lists
    `_id` last in an inclusion: `Props.C12.idLast_perm`). -/
theorem project_eq_find_projection (options : Fields) (docs : List Val)
    (h : options.all (fun kv => isFlag kv.2) = true) :
    Pipe.projectStage (.doc options) docs = aggProject docs (.doc options) ∧
    (∀ d, Spec.Proj.inD (.doc options) d = true → Spec.Proj.aggInD (.doc options) d = true →
      ∃ a, Pipe.projectStage (.doc options) [d] = .ok [a] ∧
        copyOnlyFields d (.doc options) =
          .ok (if Spec.Proj.modeOf (.doc options) = some true then Spec.Proj.idLast a else a)) := by
  refine ⟨Pipe.Proofs.projectStage_flags options docs h, fun d hD hA => ?_⟩
  obtain ⟨a, h1, h2⟩ := Props.C12.find_eq_agg (.doc options) d hD hA
  exact ⟨a, by rw [Pipe.Proofs.projectStage_flags options [d] h]; exact h1, h2⟩

example : [("a", Val.int 1), ("k", Val.bool true), ("_id", Val.int 0)].all (fun kv => isFlag kv.2)
    = true ∧ Spec.Proj.inD (.doc [("a", .int 1), ("k", .bool true), ("_id", .int 0)]) d0 = true ∧
    Spec.Proj.aggInD (.doc [("a", .int 1), ("k", .bool true), ("_id", .int 0)]) d0 = true := by
  decide +kernel

/-- an exclusion that keeps `_id` explicitly (`{a: 0, _id: 1}`, `_id` in any position) is inside
    both domains: the stage accepts it, as the find projection does (repaired defect
    `projectidexcl`) -/
example : [("a", Val.int 0), ("_id", Val.int 1)].all (fun kv => isFlag kv.2) = true ∧
    Spec.Proj.inD (.doc [("a", .int 0), ("_id", .int 1)]) d0 = true ∧
    Spec.Proj.aggInD (.doc [("a", .int 0), ("_id", .int 1)]) d0 = true ∧
    Spec.Proj.aggInD (.doc [("_id", .int 1), ("a", .int 0)]) d0 = true ∧
    isOk (Pipe.projectStage (.doc [("_id", .int 1), ("a", .int 0)]) sample) = true := by
  decide +kernel

/-- **group_conservation.** Whatever the key expression and accumulators, when `$group` answers
    there are groups `(key, documents)` such that the output is one document per group
    (`accumulate` of the group's documents, then `_id` = the key) and the groups together hold
    every input document exactly once (so the group sizes add up to the input length). -/
theorem group_conservation (options : Fields) (docs out : List Val)
    (h : Pipe.groupStage (.doc options) docs = .ok out) :
    ∃ rs : List (Val × List Val),
      List.Forall₂ (fun r o => ∃ fs, Pipe.accumulate options r.2 = .ok fs ∧
        o = .doc (dset "_id" r.1 fs)) rs out ∧
      (rs.flatMap (·.2)).Perm docs ∧
      (rs.map (fun r => r.2.length)).sum = docs.length := by
  obtain ⟨rs, h1, h2⟩ :=
    Pipe.Proofs.groupBody_groups options docs out (Pipe.Proofs.groupStage_ok options docs out h).2
  refine ⟨rs, Pipe.Proofs.emitGroups_ok options rs out h1, h2, ?_⟩
  rw [← h2.length_eq, List.length_flatMap]

example : isOk (Pipe.groupStage (.doc [("_id", .str "$k"), ("n", .doc [("$sum", .int 1)])]) sample)
    = true := by decide +kernel

/-- **group_partition (on D: scalar keys, no booleans).** The groups have pairwise different
    keys; the group of key `k` holds exactly the documents whose key is equal to `k`, in input
    order; every document's key has a group.  `kds` is the input paired with its keys.  The `_id`
    expression is anything but null — a constant (0, "", …) included: its value is the key of the
    one group.  (`_partial`: boolean and document keys are the findings groupboolnum, groupdockey.) -/
theorem group_partition_partial (options : Fields) (idExpr : Val) (docs out : List Val)
    (kds : List (Val × Val))
    (hid : dget "_id" options = some idExpr) (ht : Expr.isNull idExpr = false)
    (hk : Pipe.keyed idExpr docs = .ok kds) (hK : ∀ p ∈ kds, groupKeyOk p.1 = true)
    (h : Pipe.groupStage (.doc options) docs = .ok out) :
    (kds.map (·.2) = docs ∧ ∀ p ∈ kds, Pipe.groupKey idExpr p.2 = .ok p.1) ∧
    ∃ rs : List (Val × List Val),
      List.Forall₂ (fun r o => ∃ fs, Pipe.accumulate options r.2 = .ok fs ∧
        o = .doc (dset "_id" r.1 fs)) rs out ∧
      rs.Pairwise (fun a b => pyEq a.1 b.1 = false) ∧
      (∀ r ∈ rs, (∃ p ∈ kds, p.1 = r.1) ∧
        r.2 = (kds.filter (fun p => pyEq r.1 p.1)).map (·.2)) ∧
      (∀ p ∈ kds, ∃ r ∈ rs, pyEq r.1 p.1 = true) := by
  refine ⟨Pipe.Proofs.keyed_ok idExpr docs kds hk, ?_⟩
  obtain ⟨rs, h1, h2, h3, h4⟩ :=
    Pipe.Proofs.groupBody_partition options idExpr docs out kds hid ht hk hK
      (Pipe.Proofs.groupStage_ok options docs out h).2
  exact ⟨rs, Pipe.Proofs.emitGroups_ok options rs out h1, h2, h3, h4⟩

/-- the hypotheses are inhabited: keys 1, "x", 1, null (missing) over the sample; and the falsy
    constant `0` is a key expression like any other -/
example : (match Pipe.keyed (.str "$k") sample with
    | .ok kds => kds.all (fun p => groupKeyOk p.1) && kds.length == 4
    | .error _ => false) = true ∧
    Expr.isNull (.int 0) = false ∧
    (match Pipe.keyed (.int 0) sample with
     | .ok kds => kds.all (fun p => valIs p.1 (.int 0)) && kds.length == 4
     | .error _ => false) = true := by decide +kernel

/-- **group_validates_first.** The accumulators of a `$group` are checked BEFORE any document —
    or `_id` — is read (`Pipe.validateAccs`: every operator of every output field must be an
    implemented accumulator): a bad name is THE error of the stage whatever the documents, none
    included, and whatever else is wrong with the stage; a stage that answers passed the check. -/
theorem group_validates_first (options : Fields) (docs : List Val) :
    (∀ e, Pipe.validateAccs options = .error e → Pipe.groupStage (.doc options) docs = .error e) ∧
    (∀ out, Pipe.groupStage (.doc options) docs = .ok out → Pipe.validateAccs options = .ok ()) :=
  ⟨fun e h => by rw [Pipe.Proofs.groupStage_eq, h],
   fun out h => (Pipe.Proofs.groupStage_ok options docs out h).1⟩

/-- an unknown accumulator is refused over no input too, and before a bad `_id` expression -/
example : Pipe.validateAccs [("_id", .null), ("x", .doc [("$foo", .str "$a")])] = .error .notImpl ∧
    Pipe.validateAccs [("x", .doc [("$stdDevPop", .str "$a")])] = .error .notImpl ∧
    Pipe.validateAccs [("_id", .doc [("$bogus", .int 1)]), ("x", .int 5)] = .error .attrErr ∧
    Pipe.validateAccs [("_id", .str "$k"), ("n", .doc [("$sum", .int 1)])] = .ok () := by
  decide +kernel

/-- **group_null_id / group_empty_input.** `_id: null` puts every document in ONE group, in input
    order; and over no input `$group` answers no group at all — whatever the `_id` expression,
    a constant included (the accumulators being checked all the same). -/
theorem group_null_id (options : Fields) (docs : List Val)
    (hid : dget "_id" options = some .null) (hv : Pipe.validateAccs options = .ok ()) :
    Pipe.groupStage (.doc options) docs =
      Pipe.emitGroups options (if docs.isEmpty then [] else [(.null, docs)]) := by
  rw [Pipe.Proofs.groupStage_valid options docs hv, Pipe.Proofs.groupBody_null_id options docs hid]

theorem group_empty_input (options : Fields) (idExpr : Val)
    (hid : dget "_id" options = some idExpr) :
    Pipe.groupStage (.doc options) [] =
      (match Pipe.validateAccs options with
       | .error e => .error e
       | .ok _ => .ok []) := by
  rw [Pipe.Proofs.groupStage_eq]
  cases Pipe.validateAccs options with
  | error e => rfl
  | ok u => exact Pipe.Proofs.groupBody_empty options idExpr hid

example : dget "_id" [("_id", Val.null), ("n", .doc [("$sum", .int 1)])] = some .null ∧
    dget "_id" [("_id", Val.int 0), ("n", .doc [("$sum", .int 1)])] = some (.int 0) ∧
    Pipe.validateAccs [("_id", Val.null), ("n", .doc [("$sum", .int 1)])] = .ok () :=
  ⟨rfl, rfl, by decide +kernel⟩

/-- on such keys Python's `==` is MongoDB's key equality (the tie of the BSON order) -/
theorem group_key_equality (a b : Val) (ha : groupKeyOk a = true) (hb : groupKeyOk b = true) :
    pyEq a b = keyEq a b :=
  Pipe.Proofs.pyEq_eq_tie a b ha hb

/-- the keys-pairwise-distinct law without the domain hypothesis, as a decidable check -/
def distinctKeysB : List (Val × List Val) → Bool
  | [] => true
  | r :: rs => rs.all (fun r' => !pyEq r.1 r'.1) && distinctKeysB rs

def group_keys_distinct_full : Prop :=
  ∀ kds : List (Val × Val),
    (match pySorted Pipe.keyedLt false kds with
     | .ok sorted => distinctKeysB (Pipe.groupRuns sorted)
     | .error _ => true) = true

/-- False of the code as it stands (known finding `groupboolnum`): keys `true, 2, 1` sort as
    `1, 2, true` (BSON type order), so `1` and `true` — equal for `groupby` — end in two groups. -/
theorem group_keys_distinct_full_fails : ¬ group_keys_distinct_full := by
  intro h
  have := h [(.bool true, .null), (.int 2, .null), (.int 1, .null)]
  revert this
  decide +kernel

/-- the accumulators against the oracle's folds: `$push` keeps every value in input order,
    `$first` / `$last` the first / last one, `$sum` adds integers -/
theorem accumulators_spec (values : List Val) (is : List Int) :
    Pipe.accApply "$push" values = .ok (.arr values) ∧
    Pipe.accApply "$first" values = .ok (specFirst (values.map some)) ∧
    Pipe.accApply "$last" values = .ok (specLast (values.map some)) ∧
    Pipe.accApply "$sum" (is.map Val.int) = .ok (.int (specSumInt ((is.map Val.int).map some))) :=
  ⟨Pipe.Proofs.acc_push values,
   by simpa only [Pipe.Proofs.seenValues_some] using Pipe.Proofs.acc_first_seen (values.map some),
   by simpa only [Pipe.Proofs.seenValues_some] using Pipe.Proofs.acc_last_seen (values.map some),
   by simpa only [Pipe.Proofs.specPush_map_some] using
     Pipe.Proofs.acc_sum_push ((is.map Val.int).map some) (by
       rw [Pipe.Proofs.specPush_map_some]; intro v hv; obtain ⟨i, _, rfl⟩ := List.mem_map.1 hv; rfl)⟩

/-- the values an accumulator folds: its expression — evaluated like every computed field
    (`Expr.evalExpr`: an operator reads a missing operand as null) — on every document of the
    group in input order; a document on which the value is missing is skipped, except by `$first`
    / `$last`, which read null there (`seenValues`) -/
theorem accumulator_values (firstLast : Bool) (key : Val) (g vs : List Val)
    (h : Pipe.accValues firstLast key g = .ok vs) :
    ∃ rs : List (Option Val),
      List.Forall₂ (fun d r => Expr.evalExpr d key = .ok r) g rs ∧
      vs = Pipe.Proofs.seenValues firstLast rs :=
  Pipe.Proofs.accValues_ok firstLast key g vs h

example : isOk (Pipe.accValues false (.str "$a") sample) = true ∧
    isOk (Pipe.accValues true (.str "$zz") sample) = true := by decide +kernel

/-- **first_last_spec.** `$first` / `$last` answer the value of the group's first / last
    document, NULL when it is missing there — at full strength, whatever the values. -/
theorem first_last_spec (rs : List (Option Val)) :
    Pipe.accApply "$first" (Pipe.Proofs.seenValues true rs) = .ok (specFirst rs) ∧
    Pipe.accApply "$last" (Pipe.Proofs.seenValues true rs) = .ok (specLast rs) :=
  ⟨Pipe.Proofs.acc_first_seen rs, Pipe.Proofs.acc_last_seen rs⟩

/-- the former witness of `firstmissing`: the first document lacks the field → null -/
example : (match Pipe.accValues true (.str "$a")
      [.doc [("_id", .int 0)], .doc [("_id", .int 1), ("a", .int 7)]] with
    | .ok vs => (match Pipe.accApply "$first" vs with | .ok v => valIs v .null | .error _ => false)
    | .error _ => false) = true := by decide +kernel

/-- the full-strength `$addToSet` law: the distinct values -/
def addToSet_spec_full : Prop :=
  ∀ vs : List Val, (match Pipe.accApply "$addToSet" vs with
    | .ok v => valIs v (.arr (specAddToSet vs))
    | .error _ => true) = true

/-- False of the code as it stands (finding `addtosetboolnum`, of the family of `groupboolnum`):
    membership is Python's `==`, so `true` and `1` are one value.  (Falsy values are kept as they
    are since the repair of `addtosetfalsy`: see `acc_addToSet_spec_partial`.) -/
theorem addToSet_spec_full_fails : ¬ addToSet_spec_full := by
  intro h
  have := h [.bool true, .int 1]
  revert this
  decide +kernel

/-- **bucket_conservation.** When `$bucket` answers, its output is one document per bucket
    (`accumulate` of the bucket's documents under the `output` specification, `_id` = the bucket
    id) and the buckets together hold every input document exactly once. -/
theorem bucket_conservation (o : Fields) (docs out : List Val)
    (h : Pipe.bucketStage (.doc o) docs = .ok out) :
    ∃ (output : Fields) (rs : List (Val × List Val)),
      List.Forall₂ (fun r d => ∃ fs, Pipe.accumulate output r.2 = .ok fs ∧
        d = .doc (dset "_id" r.1 fs)) rs out ∧
      (rs.flatMap (·.2)).Perm docs := by
  obtain ⟨output, rs, h1, h2⟩ := Pipe.Proofs.bucketStage_groups o docs out h
  exact ⟨output, rs, Pipe.Proofs.emitGroups_ok output rs out h1, h2⟩

example : isOk (Pipe.bucketStage (.doc [("groupBy", .str "$a"),
    ("boundaries", .arr [.int 0, .int 5, .int 10]), ("default", .str "other")]) [d0, d1, d2]) = true := by
  decide +kernel

/-- `$bucket` checks the accumulators of its `output` before it classifies any document: an
    unknown one is refused over no input too (and comes after the option / boundaries checks) -/
example : failsWith (Pipe.bucketStage (.doc [("groupBy", .str "$a"),
      ("boundaries", .arr [.int 0, .int 5]),
      ("output", .doc [("x", .doc [("$foo", .str "$a")])])]) []) .notImpl = true ∧
    failsWith (Pipe.bucketStage (.doc [("groupBy", .str "$a"), ("boundaries", .arr [.int 5, .int 0]),
      ("output", .doc [("x", .doc [("$foo", .str "$a")])])]) []) .opFail = true ∧
    failsWith (Pipe.groupStage (.doc [("_id", .doc [("$bogus", .int 1)]),
      ("x", .doc [("$stdDevPop", .str "$a")])]) sample) .notImpl = true := by decide +kernel

/-- **bucket_classification.** The bucket of a document whose `groupBy` value is a number `x`:
    the largest boundary `≤ x` when `x` lies in `[first, last)`, the default bucket otherwise
    (no default: OperationFailure). -/
theorem bucket_classification (c : Pipe.BucketCfg) (d v : Val) (x : Num)
    (hv : Expr.evalExprStrict d c.groupBy = .ok (some v)) (hx : v.num? = some x) :
    let index := (c.bounds.filter (fun b => match b.num? with
                                            | some y => Num.le y x | none => false)).length
    Pipe.bucketId c d =
      (if index ≠ 0 && index < c.bounds.length then
        (match c.bounds[index - 1]? with
         | some b => .ok (false, b)
         | none => unmodelled)
       else match c.default with
         | some dv => .ok (c.defaultLast, dv)
         | none => .error .opFail) := by
  intro index
  unfold Pipe.bucketId
  simp only [hv, hx]
  rfl

/-- **unwind_flatMap.** The output is the concatenation, in input order, of what each document
    yields by itself (so its length is the sum of the per-document lengths). -/
theorem unwind_flatMap (opts : Val) (docs out : List Val)
    (h : Pipe.unwindStage opts docs = .ok out) :
    ∃ o parts, Pipe.unwindOpts opts = .ok o ∧
      List.Forall₂ (fun d p => Pipe.unwindDoc o d = .ok p) docs parts ∧ out = parts.flatten ∧
      out.length = (parts.map List.length).sum := by
  unfold Pipe.unwindStage at h
  split at h
  · cases h
  next o ho =>
    obtain ⟨parts, h1, rfl⟩ := Pipe.Proofs.flatMapR_ok h
    exact ⟨o, parts, ho, h1, rfl, List.length_flatten⟩

/-- a document whose field holds a non-empty array yields one document per element, in order:
    the input with the field replaced by the element (then the index written when asked for);
    missing / null / empty-array fields drop the document, or keep it once when
    `preserveNullAndEmptyArrays`. -/
theorem unwind_one_per_element (o : Pipe.UnwindOpts) (d : Val) (x : Val) (xs out : List Val)
    (hg : getByDot d o.path = .ok (.arr (x :: xs))) (h : Pipe.unwindDoc o d = .ok out) :
    out.length = (x :: xs).length ∧
      ∀ (j : Nat) (y : Val), (x :: xs)[j]? = some y →
        ∃ nd, out[j]? = some nd ∧ Pipe.unwindItem o d (some j) y = .ok nd := by
  unfold Pipe.unwindDoc at h
  rw [hg] at h
  replace h : mapR _ _ = .ok out := (Pipe.Proofs.unwindItems_eq_mapR o d 0 (x :: xs)).symm.trans h
  refine ⟨(Pipe.Proofs.mapR_length h).trans List.length_zipIdx, fun j y hy => ?_⟩
  exact Pipe.Proofs.mapR_get h j (y, j) (by rw [List.getElem?_zipIdx, hy, Nat.zero_add]; rfl)

example : (match getByDot d0 "l" with | .ok (.arr (_ :: _)) => true | _ => false) = true ∧
    isOk (Pipe.unwindDoc ⟨"l", false, none⟩ d0) = true := by decide +kernel

theorem unwind_missing_null_empty (o : Pipe.UnwindOpts) (d : Val) :
    (getByDot d o.path = .error .keyErr →
      Pipe.unwindDoc o d = if o.preserve then (Pipe.preserved o d).map (fun nd => [nd]) else .ok []) ∧
    (getByDot d o.path = .ok .null →
      Pipe.unwindDoc o d = if o.preserve then (Pipe.preserved o d).map (fun nd => [nd]) else .ok []) ∧
    (getByDot d o.path = .ok (.arr []) → o.preserve = false → Pipe.unwindDoc o d = .ok []) :=
  ⟨fun hg => by unfold Pipe.unwindDoc; rw [hg], fun hg => by unfold Pipe.unwindDoc; rw [hg],
   fun hg hp => by unfold Pipe.unwindDoc; rw [hg]; simp [hp]⟩

/-- a document kept by `preserveNullAndEmptyArrays` is the document itself, or — when
    `includeArrayIndex` names a field — the document with that field set to NULL -/
theorem unwind_preserved (path : String) (pres : Bool) (d : Val) (ix : String) (fs : Fields) :
    Pipe.preserved ⟨path, pres, none⟩ d = .ok d ∧
    Pipe.preserved ⟨path, pres, some ix⟩ (.doc fs) =
      .ok (.doc (withIndex (some ix) .null fs)) :=
  ⟨rfl, Pipe.Proofs.preserved_any path pres (some ix) fs⟩

/-- on a top-level field the replaced document is the input with that one field set -/
theorem unwind_item_top (path : String) (pres : Bool) (fs : Fields) (idx : Option Nat) (item : Val)
    (hp : splitDots path = [path]) :
    Pipe.unwindItem ⟨path, pres, none⟩ (.doc fs) idx item = .ok (.doc (dset path item fs)) ∧
    (∀ k, k ≠ path → dget k (dset path item fs) = dget k fs) :=
  ⟨Pipe.Proofs.unwindItem_any path pres none fs idx item hp,
   fun k hk => dget_dset_other item hk fs⟩

example : splitDots "l" = ["l"] := by decide +kernel

/-- **lookup_spec.** One output per input, in order; output `i` is input `i` with the `as` field
    set to the array of the foreign documents `find({foreignField: q})` selects — a sub-list of
    the foreign collection, in its order, exactly those the matcher accepts for the local value
    `q` (null when missing, `$in` for a list), handed over in stored form (`patch` of each:
    nothing changes on documents that are stored ones, `lookup_fetches_stored_form`); no other
    field changes. -/
theorem lookup_spec (db : Pipe.Db) (o : Fields) (docs out : List Val)
    (h : Pipe.lookupStage db (.doc o) docs = .ok out) :
    ∃ fr lf ff as, Pipe.lookupArg o "from" = .ok fr ∧ Pipe.lookupArg o "localField" = .ok lf ∧
      Pipe.lookupArg o "foreignField" = .ok ff ∧ Pipe.lookupArg o "as" = .ok as ∧
      List.Forall₂ (fun d r =>
        ∃ (fs : Fields) (q : Val) (ms : List Val), d = .doc fs ∧ Pipe.lookupQuery fs lf = .ok q ∧
          r = .doc (dset as (.arr (ms.map patch)) fs) ∧ ms.Sublist (db.get fr) ∧
          (∀ x, x ∈ ms ↔ x ∈ db.get fr ∧ filterApplies (patch (.doc [(ff, q)])) x = .ok true) ∧
          (∀ k, k ≠ as → dget k (dset as (.arr (ms.map patch)) fs) = dget k fs)) docs out := by
  obtain ⟨fr, lf, ff, as, h1, h2, h3, h4, h5⟩ := Pipe.Proofs.lookupStage_ok db o docs out h
  refine ⟨fr, lf, ff, as, h1, h2, h3, h4, ?_⟩
  refine h5.imp ?_
  intro d r hdr
  obtain ⟨fs, q, ms, e1, e2, e3, e4⟩ := Pipe.Proofs.lookupDoc_ok _ lf ff as d r hdr
  obtain ⟨e5, e6⟩ := Pipe.Proofs.findDocs_sub e3
  exact ⟨fs, q, ms, e1, e2, by rw [← MongoModel.Proofs.C18.patchList_eq_map]; exact e4, e5, e6,
    fun k hk => dget_dset_other _ hk fs⟩

/-- the fetched documents are handed over as stored: on a foreign collection that holds stored
    documents (datetimes naive, whole milliseconds) the normalisation is the identity -/
theorem lookup_fetches_stored_form (ms : List Val) (h : ∀ x ∈ ms, normalV x = true) :
    ms.map patch = ms := by
  conv => rhs; rw [← List.map_id ms]
  exact List.map_congr_left (fun x hx => by simpa using Pipe.Proofs.normalV_patch x (h x hx))

example : ∀ x ∈ other, normalV x = true := by decide +kernel

/-- the `$lookup` run over the sample, inside the oracle's domain -/
private theorem lookupSpec_run : lookupReasons db lookupSpec sample = [] ∧
    (specLookupStage db lookupSpec sample).isSome = true := by decide +kernel

example : isOk (Pipe.lookupStage db (.doc [("from", .str "other"), ("localField", .str "k"),
    ("foreignField", .str "fk"), ("as", .str "j")]) sample) = true := by
  obtain ⟨s, hs⟩ := Option.isSome_iff_exists.1 lookupSpec_run.2
  exact (congrArg isOk (Pipe.Proofs.lookup_eq_spec db lookupSpec sample s lookupSpec_run.1 hs)).trans rfl

/-- **addFields_map / replaceRoot_map.** Both stages rewrite each document independently: the
    output has one document per input, in order, and output `i` is a function of input `i` alone
    (`addFieldsDoc fs`, `replaceRootDoc e`). -/
theorem addFields_map (fs : Fields) (docs out : List Val)
    (h : Pipe.addFieldsStage (.doc fs) docs = .ok out) :
    List.Forall₂ (fun d r => Pipe.Proofs.addFieldsDoc fs d = .ok r) docs out ∧
    out.length = docs.length := by
  have := Pipe.Proofs.addFieldsStage_ok fs docs out h
  exact ⟨this, this.length_eq.symm⟩

/-- (read off the oracle's run, the case being inside its domain: evaluating `Expr.evalExpr`
    itself walks the operator tables, which is slow to check) -/
example : isOk (Pipe.addFieldsStage (.doc [("r", .doc [("$add", .arr [.str "$a", .int 1])])])
    [d0, d2]) = true := by
  have h : addFieldsReasons (.doc [("r", .doc [("$add", .arr [.str "$a", .int 1])])]) [d0, d2] = [] ∧
      (specAddFieldsStage (.doc [("r", .doc [("$add", .arr [.str "$a", .int 1])])]) [d0, d2]).isSome
        = true := by decide +kernel
  obtain ⟨s, hs⟩ := Option.isSome_iff_exists.1 h.2
  rw [Pipe.Proofs.addFields_eq_spec _ _ s h.1 hs]; rfl

theorem replaceRoot_map (fs : Fields) (docs out : List Val)
    (h : Pipe.replaceRootStage (.doc fs) docs = .ok out) :
    ∃ e, dget "newRoot" fs = some e ∧
      List.Forall₂ (fun d r => Pipe.replaceRootDoc e d = .ok r) docs out ∧
      out.length = docs.length := by
  rw [Pipe.replaceRootStage] at h
  split at h
  · cases h
  next e he =>
    have h2 := Pipe.Proofs.mapR_ok_iff.1 h
    exact ⟨e, he, h2, h2.length_eq.symm⟩

example : isOk (Pipe.replaceRootStage (.doc [("newRoot", .doc [("x", .str "$a")])]) sample) = true := by
  have h : replaceRootReasons (.doc [("newRoot", .doc [("x", .str "$a")])]) sample = [] ∧
      (specReplaceRootStage (.doc [("newRoot", .doc [("x", .str "$a")])]) sample).isSome = true := by
    decide +kernel
  obtain ⟨s, hs⟩ := Option.isSome_iff_exists.1 h.2
  rw [Pipe.Proofs.replaceRoot_eq_spec _ _ s h.1 hs]; rfl

/-- **stage_eq_spec (on D).** Wherever the oracle speaks about a stage and the case lies in the
    domain, the handler returns exactly what the oracle says. -/
theorem stage_eq_spec_partial (db : Pipe.Db) (op : String) (opts : Val) (docs s : List Val)
    (hD : stageReasons op opts docs = []) (hs : specStage op opts docs = some s) :
    Pipe.simpleStage db op opts docs = .ok s :=
  Pipe.Proofs.stage_eq_spec db op opts docs s hD hs

example : stageReasons "$unwind" (.str "$l") sample = [] ∧
    (specStage "$unwind" (.str "$l") sample).isSome = true := by decide +kernel

example : stageReasons "$match" (.doc [("a", .doc [("$gt", .int 2)])]) sample = [] ∧
    (specStage "$match" (.doc [("a", .doc [("$gt", .int 2)])]) sample).isSome = true := by
  decide +kernel

/-- **pipeline_eq_spec (on D).** A pipeline of single-operator stages each of which lies in the
    domain on the documents the oracle feeds it computes what the oracle computes. -/
theorem pipeline_eq_spec_partial (db : Pipe.Db) (p docs s : List Val)
    (hD : pipelineReasons p docs = []) (hs : specPipeline p docs = some s) :
    Pipe.runPipeline db p docs = .ok s :=
  Pipe.Proofs.pipeline_eq_spec db p docs s hD hs

example : inD [.doc [("$match", .doc [("a", .doc [("$gt", .int 2)])])],
               .doc [("$unwind", .str "$l")], .doc [("$sort", .doc [("a", .int (-1))])],
               .doc [("$limit", .int 2)], .doc [("$count", .str "n")]] sample = true := by
  decide +kernel

/-- **stage_rejected_spec.** What MongoDB rejects the code refuses: a `$limit` / `$skip` / `$count`
    argument the rules do not accept raises OperationFailure whatever the input, and a pipeline
    holding a rejected stage (or a stage that is not a one-field document) never answers
    documents — wherever that stage stands and whatever the other stages are. -/
theorem stage_rejected_spec (db : Pipe.Db) (op : String) (opts : Val) (docs : List Val)
    (h : argRejected op opts = true) : Pipe.simpleStage db op opts docs = .error .opFail :=
  Pipe.Proofs.argRejected_opFail db op opts docs h

example : argRejected "$limit" (.int 0) = true ∧ argRejected "$skip" (.int (-1)) = true ∧
    argRejected "$limit" (.dbl 5 1) = true ∧ argRejected "$count" (.str "a.b") = true ∧
    argRejected "$limit" (.bool true) = true ∧ argRejected "$skip" (.int 0) = false := by
  decide +kernel

theorem pipeline_rejected_spec (db : Pipe.Db) (p docs : List Val)
    (h : p.any stageRejected = true) : ∀ out, Pipe.runPipeline db p docs ≠ .ok out :=
  Pipe.Proofs.runPipeline_rejected db p docs h

example : [Val.doc [("$match", .doc [])], .doc [("$limit", .int (-1))]].any stageRejected = true ∧
    [Val.doc [("$match", .doc [])], .doc []].any stageRejected = true := by decide +kernel

/-- **pipelineV_eq_spec (on D).** `pipeline_eq_spec_partial` for the oracle's VERDICT: the
    documents of `specPipeline`, or rejected. -/
theorem pipelineV_eq_spec_partial (db : Pipe.Db) (p docs : List Val) (v : Verdict)
    (hD : pipelineReasonsV p docs = []) (hs : specPipelineV p docs = some v) :
    v.agrees (Pipe.runPipeline db p docs) := by
  unfold specPipelineV at hs
  unfold pipelineReasonsV at hD
  split at hs
  next hr => cases hs; exact Pipe.Proofs.runPipeline_rejected db p docs hr
  next hr =>
    rw [if_neg hr] at hD
    cases hsp : specPipeline p docs with
    | none => rw [hsp] at hs; cases hs
    | some s =>
      rw [hsp] at hs; cases hs
      exact Pipe.Proofs.pipeline_eq_spec db p docs s hD hsp

example : pipelineReasonsV [.doc [("$unwind", .str "$l")], .doc [("$skip", .int (-2))]] sample = [] ∧
    (match specPipelineV [.doc [("$unwind", .str "$l")], .doc [("$skip", .int (-2))]] sample with
     | some .rejected => true | _ => false) = true := by decide +kernel

def optDocsAre' (l r : List Val) : Bool := beqList l r

/-- **aggregate_normalises_pipeline.** `Collection.aggregate` hands the stages the pipeline with
    every datetime written in it read as UTC milliseconds, naive — the form of the stored ones
    (`Pipe.normPipeline` = `patch` of every stage): the normalised pipeline holds stored-form
    datetimes only, normalising twice changes nothing, and a pipeline already in that form is
    run as it is. -/
theorem aggregate_normalises_pipeline (db : Pipe.Db) (coll : String) (stages : List Val) :
    Pipe.aggregate db coll (.arr stages) =
      Pipe.runPipeline db (Pipe.normPipeline stages) (db.get coll) ∧
    (∀ st ∈ Pipe.normPipeline stages, normalV st = true) ∧
    Pipe.normPipeline (Pipe.normPipeline stages) = Pipe.normPipeline stages ∧
    ((∀ st ∈ stages, normalV st = true) → Pipe.normPipeline stages = stages) :=
  ⟨rfl,
   fun st hst => (Proofs.C18.allNormalB_iff st).2
     ((Proofs.C18.allDatesL_iff Normal _).1 (Proofs.C18.patchList_normal stages) st hst),
   Proofs.C18.patchList_idem stages,
   fun h => Proofs.C18.patchList_fixes_normal _ ((Proofs.C18.allDatesL_iff Normal stages).2
     fun st hst => (Proofs.C18.allNormalB_iff st).1 (h st hst))⟩

/-- an aware datetime with microseconds in `$addFields` / `$match` is the stored millisecond -/
example : beqList (Pipe.normPipeline
      [.doc [("$addFields", .doc [("t2", .date 1577856600123456 (some 330))])],
       .doc [("$match", .doc [("t", .doc [("$gte", .date 1577836800000999 none)])])]])
      [.doc [("$addFields", .doc [("t2", .date 1577836800123000 none)])],
       .doc [("$match", .doc [("t", .doc [("$gte", .date 1577836800000000 none)])])]] = true := by
  decide +kernel

/-- **aggregate_eq_spec (on D).** The entry point against the oracle's verdict: `aggregate`
    answers what the oracle says about the pipeline AS THE SERVER IS SENT IT (datetimes
    normalised), on the stored documents of the collection. -/
theorem aggregate_eq_spec_partial (db : Pipe.Db) (coll : String) (stages : List Val) (v : Verdict)
    (hD : pipelineReasonsV (Pipe.normPipeline stages) (db.get coll) = [])
    (hs : specPipelineV (Pipe.normPipeline stages) (db.get coll) = some v) :
    v.agrees (Pipe.aggregate db coll (.arr stages)) :=
  pipelineV_eq_spec_partial db (Pipe.normPipeline stages) (db.get coll) v hD hs

example : pipelineReasonsV (Pipe.normPipeline [.doc [("$match", .doc [("a", .doc [("$gt", .int 2)])])],
      .doc [("$limit", .dbl 2 0)]]) (db.get "c") = [] ∧
    (match specPipelineV (Pipe.normPipeline [.doc [("$match", .doc [("a", .doc [("$gt", .int 2)])])],
      .doc [("$limit", .dbl 2 0)]]) (db.get "c") with
     | some (.docs out) => out.length == 2 | _ => false) = true := by decide +kernel

def agreeB : R (List Val) → Option (List Val) → Bool
  | .ok a, some b => beqList a b
  | .error _, some _ => false
  | _, none => true

/-- the full-strength statement: wherever the oracle speaks, the handler answers the same -/
def stage_eq_spec_full : Prop :=
  ∀ (op : String) (opts : Val) (docs : List Val),
    agreeB (Pipe.simpleStage ⟨[]⟩ op opts docs) (specStage op opts docs) = true

/-- False of the code as it stands — not through a class of this property's own
    (`countempty`, `limitdouble` are repaired: on `$skip` / `$limit` / `$count` / `$unwind` the
    handler IS the oracle, see `skip_limit_eq_spec`, `count_eq_spec`, `unwind_eq_spec`), but
    through the findings of the rules the other oracles are built from: C01 `boolnum`, `{a: 1}`
    selects `{a: true}` (Python `==`). -/
theorem stage_eq_spec_full_fails : ¬ stage_eq_spec_full := by
  intro h
  have := h "$match" (.doc [("a", .int 1)]) [.doc [("a", .bool true)]]
  revert this
  decide +kernel

/-- **unwind_eq_spec.** `$unwind` of a top-level field against the oracle, at full strength —
    every document, `preserveNullAndEmptyArrays` or not, with or without `includeArrayIndex`
    (whatever its name): one document per element with the field replaced by the element and the
    index written after it; null index on a value that is no array and on a preserved document. -/
theorem unwind_eq_spec (f : String) (pres : Bool) (ix : Option String) (fs : Fields)
    (hf : splitDots f = [f]) :
    Pipe.unwindDoc ⟨f, pres, ix⟩ (.doc fs) = .ok (specUnwindDoc f pres ix (.doc fs)) :=
  Pipe.Proofs.unwindDoc_eq_spec f pres ix fs hf

example : splitDots "l" = ["l"] ∧
    optDocsAre' (specUnwindDoc "l" true (some "p.i") d0)
      [.doc [("_id", .int 0), ("k", .int 1), ("a", .int 5), ("l", .int 1), ("p", .doc [("i", .int 0)])],
       .doc [("_id", .int 0), ("k", .int 1), ("a", .int 5), ("l", .int 2), ("p", .doc [("i", .int 1)])]]
      = true ∧
    optDocsAre' (specUnwindDoc "l" true (some "a.i") d1)
      [.doc [("_id", .int 1), ("k", .str "x"), ("a", .doc [("i", .null)])]] = true ∧
    optDocsAre' (specUnwindDoc "l" true (some "i") d2)
      [.doc [("_id", .int 2), ("k", .int 1), ("a", .int 2), ("i", .null)]] = true := by
  decide +kernel

/-- … the stage, for the specifications the oracle reads (`unwindArgs`), on documents -/
theorem unwind_stage_eq_spec (opts : Val) (f : String) (pres : Bool) (ix : Option String)
    (docs : List Val) (ha : unwindArgs opts = some (f, pres, ix))
    (hd : ∀ d ∈ docs, ∃ fs, d = .doc fs) :
    Pipe.unwindStage opts docs = .ok (docs.flatMap (specUnwindDoc f pres ix)) :=
  Pipe.Proofs.unwind_eq_spec opts f pres ix docs ha hd

example : (unwindArgs (.doc [("path", .str "$l"), ("preserveNullAndEmptyArrays", .bool true),
    ("includeArrayIndex", .str "p.i")])).isSome = true := by decide +kernel

/-- **unwind_index_written.** What the oracle writes for `includeArrayIndex: k₁.k₂.…`: the index
    can be read back along that name through sub-documents (created, or put in the place of
    whatever was there), and no top-level field other than `k₁` changes. -/
theorem unwind_index_written (k : String) (ks : List String) (i : Val) (gs : Fields) :
    getNested (k :: ks) (setNested (k :: ks) i gs) = some i ∧
    ∀ k', k' ≠ k → dget k' (setNested (k :: ks) i gs) = dget k' gs :=
  ⟨Pipe.Proofs.getNested_setNested (k :: ks) i gs nofun,
   fun k' h => Pipe.Proofs.dget_setNested_other k k' h ks i gs⟩

/-!
  The oracle of Spec/PipelineExt.lean speaks about `$group` (with the accumulators `$sum $avg $min
  $max $first $last $push $addToSet`), `$lookup`, `$addFields` / `$set`, `$replaceRoot`, `$bucket`
  and `$facet`; expression values are those of the C04 oracle `Spec.specEval`, reached through
  `Proofs.C04.eval_eq_spec`.  Every domain is a decidable list of named reasons. -/

section Extension
open MongoModel.Spec

/-- **acc_minmax_spec.** Over scalar values of ANY types — null (skipped), booleans, numbers,
    strings, naive dates, ObjectIds: everything `Spec.Order.valLt` places (`orderScalar`; arrays
    and documents are outside that order: scope) — `$min` / `$max` answer the smallest / largest
    value in the BSON order, the earliest among equals, null when there is none. -/
theorem acc_minmax_spec (values : List Val) (h : values.all orderScalar = true) :
    Pipe.accApply "$min" values = .ok (specExtremum false (values.map some)) ∧
    Pipe.accApply "$max" values = .ok (specExtremum true (values.map some)) := by
  -- the accumulator sees every value: none is missing
  have key := fun isMax => Pipe.Proofs.acc_minmax_push isMax (values.map some)
  simp only [Pipe.Proofs.specPush_map_some] at key
  exact ⟨by simpa [Pipe.accApply] using key false h, by simpa [Pipe.accApply] using key true h⟩

def accIs (r : R Val) (v : Val) : Bool :=
  match r with
  | .ok x => valIs x v
  | .error _ => false

/-- several types at once (the former witness of `minmaxtypes` is the first line): a string is
    larger than every number, a boolean larger than both -/
example : [Val.int 1, .str "x"].all orderScalar = true ∧
    accIs (Pipe.accApply "$max" [.int 1, .str "x"]) (.str "x") = true ∧
    accIs (Pipe.accApply "$min" [.str "b", .null, .dbl 5 1, .bool false, .int (-2)]) (.int (-2)) = true ∧
    accIs (Pipe.accApply "$max" [.str "b", .null, .dbl 5 1, .bool false, .int (-2)]) (.bool false) = true ∧
    [Val.date 1000 none, .date 0 none, .oid 3].all orderScalar = true := by decide +kernel

/-- the oracle answers exactly this value (a decidable check: `Val` has structural `beq`, no
    `DecidableEq`) -/
def optValIs (r : Option Val) (v : Val) : Bool :=
  match r with
  | some x => valIs x v
  | none => false

def optDocsAre (r : Option (List Val)) (l : List Val) : Bool :=
  match r with
  | some x => beqList x l
  | none => false

/-- **acc_sum_spec.** `$sum` adds the integers and ignores what is not a number — a boolean
    included — when no value is a double (outside the integer oracle: scope). -/
theorem acc_sum_spec (values : List Val) (h : values.all sumOk = true) :
    Pipe.accApply "$sum" values = .ok (.int (specSumInt (values.map some))) := by
  have key := Pipe.Proofs.acc_sum_push (values.map some)
  rw [Pipe.Proofs.specPush_map_some] at key
  exact key (List.all_eq_true.mp h)

/-- (the second line is the former witness of `sumbool`) -/
example : [Val.int 3, .str "x", .null, .bool true, .int 4].all sumOk = true ∧
    accIs (Pipe.accApply "$sum" [.bool true, .int 2]) (.int 2) = true := by decide +kernel

/-- **acc_avg_spec.** `$avg` over integers (non-numbers — booleans included — ignored, no double)
    is the EXACT average `sum / count` written as the double `m / 2^e` in lowest terms
    (`binFraction`), null when there is no number — whenever that average is a double
    (`specAvgInt` is `some`, 53 bits of mantissa: `avgFits`). -/
theorem acc_avg_spec (values : List Val) (v : Val) (h : values.all sumOk = true)
    (hs : specAvgInt (values.map some) = some v) (hf : avgFits v = true) :
    Pipe.accApply "$avg" values = .ok v := by
  have key := Pipe.Proofs.acc_avg_push (values.map some)
  rw [Pipe.Proofs.specPush_map_some] at key
  exact key (List.all_eq_true.mp h) v hs hf

example : [Val.int 5, .str "x", .bool true, .int 2].all sumOk = true ∧
    optValIs (specAvgInt ([Val.int 5, .str "x", .bool true, .int 2].map some)) (.dbl 7 1) = true ∧
    avgFits (.dbl 7 1) = true := by decide +kernel

/-- the characterisation of the fraction: `m / 2^e = s / n` exactly, with the least `e` -/
theorem avg_is_exact (s : Int) (n : Nat) (m : Int) (e : Nat) (h : binFraction s n = some (m, e)) :
    m * (n : Int) = s * 2 ^ e ∧ ∀ e' < e, ¬ ((n : Int) ∣ s * 2 ^ e') :=
  Pipe.Proofs.binFraction_spec s n m e h

example : binFraction 7 2 = some (7, 1) ∧ binFraction 6 4 = some (3, 1) ∧ binFraction 7 3 = none := by
  decide +kernel

/-- **acc_addToSet_spec (partial).** Over scalar values that are no booleans (`setOk`; a boolean
    is merged with 0 / 1: finding `addtosetboolnum`) `$addToSet` answers each distinct value once,
    AS IT IS — 0, "" and null are values like the others —, by first appearance. -/
theorem acc_addToSet_spec_partial (values : List Val) (h : values.all setOk = true) :
    Pipe.accApply "$addToSet" values = .ok (.arr (specAddToSet values)) :=
  Pipe.Proofs.acc_addToSet values (fun v hv => List.all_eq_true.mp h v hv)

/-- (the former witness of `addtosetfalsy`, `[5, 0, 7]`, is the second line) -/
example : [Val.int 3, .str "", .null, .dbl 3 0, .int 0, .str ""].all setOk = true ∧
    beqList (specAddToSet [Val.int 5, .int 0, .int 7]) [.int 5, .int 0, .int 7] = true ∧
    beqList (specAddToSet [Val.int 3, .str "", .null, .dbl 3 0, .int 0, .str ""])
      [.int 3, .str "", .null, .int 0] = true := by decide +kernel

/-- … and the oracle's set really is "each distinct value once": a sub-list of the values with
    pairwise different elements in which every value has an equal representative. -/
theorem addToSet_is_a_set (values : List Val) :
    (specAddToSet values).Sublist values ∧
    (specAddToSet values).Pairwise (fun a b => keyEq a b = false) ∧
    ∀ v ∈ values, ∃ x ∈ specAddToSet values, keyEq x v = true :=
  ⟨Pipe.Proofs.distinctKeys_sublist values, Pipe.Proofs.distinctKeys_pairwise values,
   Pipe.Proofs.distinctKeys_cover values⟩

/-- **accumulator_eq_spec (partial).** All eight accumulators at once: on the values `vals` the
    accumulator's expression takes on a group (`none` = missing), outside the exclusion classes
    of `accReasons` (one finding — addtosetboolnum — and the scope limits sumfloat, avginexact,
    minmaxscope, setscope), the code's accumulator — which sees the present values, `$first` /
    `$last` also the missing ones as null — answers the oracle's value. -/
theorem accumulator_eq_spec_partial (op : String) (vals : List (Option Val)) (v : Val)
    (hD : accReasons op vals = []) (hs : specAcc op vals = some v) :
    Pipe.accApply op (Pipe.Proofs.seenValues (op = "$first" || op = "$last") vals) = .ok v :=
  Pipe.Proofs.accApply_eq_spec op vals v hD hs

example : accReasons "$avg" [some (.int 5), none, some (.int 2)] = [] ∧
    optValIs (specAcc "$avg" [some (.int 5), none, some (.int 2)]) (.dbl 7 1) = true ∧
    accReasons "$max" [some (.str "a"), some .null, some (.int 7)] = [] ∧
    optValIs (specAcc "$max" [some (.str "a"), some .null, some (.int 7)]) (.str "a") = true ∧
    accReasons "$first" [none, some (.int 7)] = [] ∧
    optValIs (specAcc "$first" [none, some (.int 7)]) .null = true ∧
    accReasons "$addToSet" [some (.int 0), some (.str ""), some (.int 0)] = [] := by
  decide +kernel

def groupSpec : Val := .doc [("_id", .str "$k"), ("n", .doc [("$sum", .int 1)]),
  ("s", .doc [("$sum", .str "$a")]), ("av", .doc [("$avg", .str "$a")]),
  ("mn", .doc [("$min", .str "$a")]), ("mx", .doc [("$max", .str "$a")]),
  ("f", .doc [("$first", .str "$a")]), ("l", .doc [("$last", .str "$_id")]),
  ("p", .doc [("$push", .str "$a")]), ("st", .doc [("$addToSet", .str "$k")]),
  ("t", .doc [("$sum", .doc [("$multiply", .arr [.str "$a", .str "$_id"])])])]

/-- **group_eq_spec (partial).** On the domain `groupReasons = []` — scalar non-boolean keys
    (boolean and document keys: findings groupboolnum, groupdockey), key expression in the C04
    domain — ANY expression, a constant (0, "", null) included, over any input, the empty one
    included —, accumulators among the eight whose argument is in the C04 domain (it is evaluated
    like every computed field), values outside the accumulator exclusion classes — the `$group`
    stage answers the groups of `Spec.Pipe.specGroups`, each with its accumulator values, as a
    multiset: a permutation of the oracle's documents, each up to the place of `_id`
    (`Spec.Proj.idLast`). -/
theorem group_eq_spec_partial (opts : Val) (docs s : List Val)
    (hD : groupReasons opts docs = []) (hs : specGroupStage opts docs = some s) :
    ∃ out, Pipe.groupStage opts docs = .ok out ∧ out.Perm (s.map Spec.Proj.idLast) := by
  -- the stage answers the sorted representative, which holds the oracle's documents
  obtain ⟨s', h1, h2⟩ := Pipe.Proofs.specGroupStageSorted_perm opts docs s hs
  exact ⟨_, Pipe.Proofs.group_eq_spec_sorted opts docs _ hD h1, h2.map _⟩

/-- the `$group` run over the sample, evaluated once: further examples read it off -/
private theorem groupSpec_run : groupReasons groupSpec sample = [] ∧
    (specGroupStage groupSpec sample).isSome = true ∧
    ((specGroupStage groupSpec sample).map List.length) = some 3 := by decide +kernel

example : groupReasons groupSpec sample = [] ∧ (specGroupStage groupSpec sample).isSome = true ∧
    ((specGroupStage groupSpec sample).map List.length) = some 3 := groupSpec_run

/-- a null `_id` is inside the domain: one group — and none over no input (the former witness
    of `groupnullempty`); so is a falsy constant `_id`, reported as it is (`groupfalsyid`) -/
example : groupReasons (.doc [("_id", .null), ("n", .doc [("$sum", .int 1)])]) sample = [] ∧
    optDocsAre (specGroupStage (.doc [("_id", .null), ("n", .doc [("$sum", .int 1)])]) sample)
      [.doc [("_id", .null), ("n", .int 4)]] = true ∧
    groupReasons (.doc [("_id", .null), ("n", .doc [("$sum", .int 1)])]) [] = [] ∧
    optDocsAre (specGroupStage (.doc [("_id", .null), ("n", .doc [("$sum", .int 1)])]) []) [] = true ∧
    groupReasons (.doc [("_id", .int 0), ("n", .doc [("$sum", .int 1)])]) sample = [] ∧
    optDocsAre (specGroupStage (.doc [("_id", .int 0), ("n", .doc [("$sum", .int 1)])]) sample)
      [.doc [("_id", .int 0), ("n", .int 4)]] = true ∧
    groupReasons (.doc [("_id", .str ""), ("n", .doc [("$sum", .int 1)])]) [] = [] := by
  decide +kernel

/-- an operator as accumulator argument reads a missing operand as null — the former witness of
    `accmissing`, `{$push: {$add: ["$a", "$zz"]}}`, is inside the domain and pushes null; a
    missing FIELD PATH is skipped by `$push` and read as null by `$first` -/
example : groupReasons (.doc [("_id", .null),
      ("p", .doc [("$push", .doc [("$add", .arr [.str "$a", .str "$zz"])])]),
      ("q", .doc [("$push", .str "$zz")]), ("f", .doc [("$first", .str "$zz")])]) [d0] = [] ∧
    optDocsAre (specGroupStage (.doc [("_id", .null),
      ("p", .doc [("$push", .doc [("$add", .arr [.str "$a", .str "$zz"])])]),
      ("q", .doc [("$push", .str "$zz")]), ("f", .doc [("$first", .str "$zz")])]) [d0])
      [.doc [("_id", .null), ("p", .arr [.null]), ("q", .arr []), ("f", .null)]] = true := by
  decide +kernel

/-- **group_eq_spec_sorted (partial).** … and the order is determined: the code lists the groups
    in ascending BSON order of their keys and writes `_id` last — exactly the representative
    `specGroupStageSorted` of the oracle's multiset. -/
theorem group_eq_spec_sorted_partial (opts : Val) (docs s : List Val)
    (hD : groupReasons opts docs = []) (hs : specGroupStageSorted opts docs = some s) :
    Pipe.groupStage opts docs = .ok s :=
  Pipe.Proofs.group_eq_spec_sorted opts docs s hD hs

/-- the sorted representative holds the same documents as the oracle's list -/
theorem group_sorted_is_perm (opts : Val) (docs s : List Val)
    (hs : specGroupStage opts docs = some s) :
    ∃ s' : List Val, specGroupStageSorted opts docs = some (s'.map Spec.Proj.idLast) ∧ s'.Perm s :=
  Pipe.Proofs.specGroupStageSorted_perm opts docs s hs

private theorem groupSpec_sorted : (specGroupStageSorted groupSpec sample).isSome = true := by
  obtain ⟨s, hs⟩ := Option.isSome_iff_exists.1 groupSpec_run.2.1
  obtain ⟨s', h, _⟩ := group_sorted_is_perm _ _ s hs
  rw [h]; rfl

example : groupReasons groupSpec sample = [] ∧
    (specGroupStageSorted groupSpec sample).isSome = true := ⟨groupSpec_run.1, groupSpec_sorted⟩

/-- the full-strength statement: wherever the oracle speaks the stage answers its representative -/
def group_eq_spec_full : Prop :=
  ∀ (opts : Val) (docs : List Val),
    agreeB (Pipe.groupStage opts docs) (specGroupStageSorted opts docs) = true

/-- False of the code as it stands (known finding `groupboolnum`): the keys `1` and `true` are
    one group for `itertools.groupby` (Python `==`) when the sort leaves them adjacent; MongoDB
    keeps a boolean and a number apart. -/
theorem group_eq_spec_full_fails : ¬ group_eq_spec_full := by
  intro h
  have := h (.doc [("_id", .str "$k"), ("n", .doc [("$sum", .int 1)])])
    [.doc [("_id", .int 0), ("k", .int 1)], .doc [("_id", .int 1), ("k", .bool true)]]
  revert this
  decide +kernel

/-- **lookup_eq_spec (partial).** With top-level `localField` / `foreignField` / `as`, a scalar
    local value (missing = null) and no boolean facing a number (finding `lookupboolnum`; foreign
    dates naive), `$lookup` is `specLookupDoc` on every document: the foreign documents whose
    foreign value equals the local one — or holds it, when it is an array — in foreign order. -/
theorem lookup_eq_spec_partial (db : Pipe.Db) (opts : Val) (docs s : List Val)
    (hD : lookupReasons db opts docs = []) (hs : specLookupStage db opts docs = some s) :
    Pipe.lookupStage db opts docs = .ok s :=
  Pipe.Proofs.lookup_eq_spec db opts docs s hD hs

example : lookupReasons db lookupSpec sample = [] ∧
    (specLookupStage db lookupSpec sample).isSome = true := lookupSpec_run

def lookup_eq_spec_full : Prop :=
  ∀ (db : Pipe.Db) (opts : Val) (docs : List Val),
    agreeB (Pipe.lookupStage db opts docs) (specLookupStage db opts docs) = true

/-- False of the code as it stands (known finding `lookupboolnum`): `true` joins `1`. -/
theorem lookup_eq_spec_full_fails : ¬ lookup_eq_spec_full := by
  intro h
  have := h ⟨[("other", [.doc [("_id", .int 10), ("fk", .int 1)]])]⟩ lookupSpec
    [.doc [("_id", .int 0), ("k", .bool true)]]
  revert this
  decide +kernel

def addSpec : Val := .doc [("r", .doc [("$add", .arr [.str "$a", .int 1])]), ("a", .str "$k"),
  ("z", .str "$zz")]

/-- **addFields_eq_spec (partial).** For a stage whose entries are field names — dotted ones
    included — none of which is a prefix of another, with expressions in the C04 domain, output
    `i` is input `i` with each name set, in order, to the value the oracle gives its expression
    ON THE INPUT DOCUMENT — an entry never sees what another entry of the same stage wrote, also
    after a dotted name was written into a sub-document — and left alone when that value is
    missing.  A dotted name creates the sub-documents it goes through, puts one in the place of a
    scalar, and THROUGH AN ARRAY writes into every item of it (`Spec.Pipe.setDeepIn`: an item
    that is no document becomes one, an array inside the array is gone through).
    (`_partial`: the C04 domain.) -/
theorem addFields_eq_spec_partial (opts : Val) (docs s : List Val)
    (hD : addFieldsReasons opts docs = []) (hs : specAddFieldsStage opts docs = some s) :
    Pipe.addFieldsStage opts docs = .ok s :=
  Pipe.Proofs.addFields_eq_spec opts docs s hD hs

/-- `a` is overwritten with `$k` while `r` still reads the input's `a`; `z` (missing) is omitted -/
private theorem addSpec_run : addFieldsReasons addSpec [d0, d2] = [] ∧
    optDocsAre (specAddFieldsStage addSpec [d0, d2])
    [.doc [("_id", .int 0), ("k", .int 1), ("a", .int 1), ("l", .arr [.int 1, .int 2]), ("r", .int 6)],
     .doc [("_id", .int 2), ("k", .int 1), ("a", .int 1), ("r", .int 3)]] = true := by decide +kernel

example : addFieldsReasons addSpec [d0, d2] = [] ∧ optDocsAre (specAddFieldsStage addSpec [d0, d2])
    [.doc [("_id", .int 0), ("k", .int 1), ("a", .int 1), ("l", .arr [.int 1, .int 2]), ("r", .int 6)],
     .doc [("_id", .int 2), ("k", .int 1), ("a", .int 1), ("r", .int 3)]] = true := addSpec_run

/-- the former witness of `addfieldsorder`: `d.n` is written, `r` still reads the input's `d.n`;
    `n.m` creates its parent, `a.z` puts a sub-document in the place of the number `a` -/
example : addFieldsReasons (.doc [("d.n", .int 5), ("r", .str "$d.n"), ("n.m", .str "$_id"),
      ("a.z", .int 1)]) [.doc [("_id", .int 0), ("d", .doc [("n", .int 1)]), ("a", .int 3)]] = [] ∧
    optDocsAre (specAddFieldsStage (.doc [("d.n", .int 5), ("r", .str "$d.n"), ("n.m", .str "$_id"),
      ("a.z", .int 1)]) [.doc [("_id", .int 0), ("d", .doc [("n", .int 1)]), ("a", .int 3)]])
    [.doc [("_id", .int 0), ("d", .doc [("n", .int 5)]), ("a", .doc [("z", .int 1)]), ("r", .int 1),
      ("n", .doc [("m", .int 0)])]] = true := by decide +kernel

/-- a dotted name through an array writes into every item: `q.z` over `q: [{n: 1}, 5, [{n: 2}]]`,
    and `l.z` over an empty array -/
example : addFieldsReasons (.doc [("q.z", .int 7), ("l.z", .int 1)])
      [.doc [("_id", .int 0), ("q", .arr [.doc [("n", .int 1)], .int 5, .arr [.doc [("n", .int 2)]]]),
        ("l", .arr [])]] = [] ∧
    optDocsAre (specAddFieldsStage (.doc [("q.z", .int 7), ("l.z", .int 1)])
      [.doc [("_id", .int 0), ("q", .arr [.doc [("n", .int 1)], .int 5, .arr [.doc [("n", .int 2)]]]),
        ("l", .arr [])]])
    [.doc [("_id", .int 0), ("q", .arr [.doc [("n", .int 1), ("z", .int 7)], .doc [("z", .int 7)],
        .arr [.doc [("n", .int 2), ("z", .int 7)]]]), ("l", .arr [])]] = true := by decide +kernel

/-- every entry reads the input document: running the entries of a stage one after the other as
    separate stages is in general something else — the oracle's fold never looks at `acc` to
    evaluate an expression -/
theorem addFields_reads_input (d : Val) (name : String) (e : Val) (rest acc : Fields) (k : String)
    (ks : List String) (hn : splitDots name = k :: ks) :
    specSetFields d ((name, e) :: rest) acc =
      (match exprValue e d with
       | some (some v) => specSetFields d rest (setDeepIn acc k ks v)
       | some none => specSetFields d rest acc
       | none => none) := by
  simp only [specSetFields, hn]
  cases exprValue e d with
  | none => rfl
  | some r => cases r <;> rfl

example : splitDots "q.z" = ["q", "z"] := by decide +kernel

/-- **addFields_deep_write.** What the oracle writes for a dotted name: below a document the
    named field (others untouched, in place), in every item of an array, and a fresh chain of
    documents in the place of anything else. -/
theorem addFields_deep_write (k : String) (ks : List String) (v : Val) :
    (∀ xs, setDeep (.arr xs) (k :: ks) v = .arr (xs.map (fun x => setDeep x (k :: ks) v))) ∧
    (∀ fs, setDeep (.doc fs) (k :: ks) v = .doc (setDeepIn fs k ks v)) ∧
    setDeep (.int 3) (k :: ks) v = nestDoc (k :: ks) v ∧ setDeep .null (k :: ks) v = nestDoc (k :: ks) v ∧
    (∀ fs k', k' ≠ k → dget k' (setDeepIn fs k ks v) = dget k' fs) :=
  ⟨fun xs => by rw [setDeep, Pipe.Proofs.setDeepItems_eq_map],
   fun fs => by rw [setDeep], by simp [setDeep], by simp [setDeep],
   fun fs k' h => Pipe.Proofs.dget_setDeepIn_other k k' ks v h fs⟩

/-- **replaceRoot_eq_spec (partial).** `{$replaceRoot: {newRoot: e}}` with `e` in the C04 domain
    answers, for each document, the document `e` evaluates to (the oracle is silent when `e` is
    missing or not a document). -/
theorem replaceRoot_eq_spec_partial (opts : Val) (docs s : List Val)
    (hD : replaceRootReasons opts docs = []) (hs : specReplaceRootStage opts docs = some s) :
    Pipe.replaceRootStage opts docs = .ok s :=
  Pipe.Proofs.replaceRoot_eq_spec opts docs s hD hs

example : replaceRootReasons (.doc [("newRoot", .doc [("x", .str "$a"), ("y", .int 1)])]) sample = [] ∧
    (specReplaceRootStage (.doc [("newRoot", .doc [("x", .str "$a"), ("y", .int 1)])]) sample).isSome
      = true := by decide +kernel

def bucketSpec : Val := .doc [("groupBy", .str "$a"), ("boundaries", .arr [.int 0, .int 5, .int 10]),
  ("default", .str "other"),
  ("output", .doc [("n", .doc [("$sum", .int 1)]), ("ids", .doc [("$push", .str "$_id")])])]

def d4 : Val := .doc [("_id", .int 4)]

/-- **bucket_eq_spec (partial).** `$bucket` answers what MongoDB defines: every document goes to
    the bucket `_id: bᵢ` with `bᵢ ≤ groupBy < bᵢ₊₁` (BSON order), to `default` when there is no such
    boundary; one document per non-empty bucket in ascending `_id` order — the boundary order, the
    default bucket where its `_id` sorts —, each with the `output` accumulators (those of `$group`;
    `{count: {$sum: 1}}` when not given) folded over its documents in input order.  Domain
    `bucketReasons = []`: numeric strictly ascending boundaries, `groupBy` a field path whose values
    are numbers or missing, a default that is a number outside `[b₀, bₙ)`, a string or a naive
    date, accumulators inside the `$group` domain.  Outside it, by name: the findings
    bucketcrosstype, bucketboolnum, bucketdefaulttype, bucketdupbounds, bucketdefaultinside,
    bucketgroupbyconst and the scope limits bucketexprstrict, keyscope, nospec (the stage FAILS on
    a document without bucket when there is no default: the oracle is silent there). -/
theorem bucket_eq_spec_partial (opts : Val) (docs s : List Val)
    (hD : bucketReasons opts docs = []) (hs : specBucketStage opts docs = some s) :
    Pipe.bucketStage opts docs = .ok s :=
  Pipe.Proofs.bucket_eq_spec opts docs s hD hs

private theorem bucketSpec_run : bucketReasons bucketSpec [d0, d1, d2, d4] = [] ∧
    optDocsAre (specBucketStage bucketSpec [d0, d1, d2, d4])
      [.doc [("n", .int 1), ("ids", .arr [.int 2]), ("_id", .int 0)],
       .doc [("n", .int 2), ("ids", .arr [.int 0, .int 1]), ("_id", .int 5)],
       .doc [("n", .int 1), ("ids", .arr [.int 4]), ("_id", .str "other")]] = true := by
  decide +kernel

example : bucketReasons bucketSpec [d0, d1, d2, d4] = [] ∧
    optDocsAre (specBucketStage bucketSpec [d0, d1, d2, d4])
      [.doc [("n", .int 1), ("ids", .arr [.int 2]), ("_id", .int 0)],
       .doc [("n", .int 2), ("ids", .arr [.int 0, .int 1]), ("_id", .int 5)],
       .doc [("n", .int 1), ("ids", .arr [.int 4]), ("_id", .str "other")]] = true := bucketSpec_run

/-- a numeric default below the lowest boundary comes first; without `output` the buckets are
    counted; the classes outside the domain are told by name -/
example :
    bucketReasons (.doc [("groupBy", .str "$a"), ("boundaries", .arr [.int 3, .dbl 13 1, .int 10]),
      ("default", .int (-1))]) [d0, d1, d2, d4] = [] ∧
    optDocsAre (specBucketStage (.doc [("groupBy", .str "$a"),
      ("boundaries", .arr [.int 3, .dbl 13 1, .int 10]), ("default", .int (-1))]) [d0, d1, d2, d4])
      [.doc [("count", .int 2), ("_id", .int (-1))], .doc [("count", .int 1), ("_id", .int 3)],
       .doc [("count", .int 1), ("_id", .dbl 13 1)]] = true ∧
    bucketReasons bucketSpec [d3] = ["bucketcrosstype"] ∧
    bucketReasons bucketSpec [.doc [("a", .bool true)]] = ["bucketboolnum"] ∧
    bucketReasons (.doc [("groupBy", .str "$a"), ("boundaries", .arr [.int 0, .int 5]),
      ("default", .null)]) [d0] = ["bucketdefaulttype"] ∧
    bucketReasons (.doc [("groupBy", .str "$a"), ("boundaries", .arr [.int 0, .int 5, .int 5]),
      ("default", .str "o")]) [d0] = ["bucketdupbounds"] ∧
    bucketReasons (.doc [("groupBy", .str "$a"), ("boundaries", .arr [.int 0, .int 5]),
      ("default", .int 3)]) [d0] = ["bucketdefaultinside"] ∧
    bucketReasons (.doc [("groupBy", .int 3), ("boundaries", .arr [.int 0, .int 5])]) [d0]
      = ["bucketgroupbyconst"] ∧
    bucketReasons (.doc [("groupBy", .doc [("$add", .arr [.str "$a", .int 1])]),
      ("boundaries", .arr [.int 0, .int 50])]) [d0] = ["bucketexprstrict"] ∧
    -- no default and a document outside every bucket: the oracle is silent
    (specBucketStage (.doc [("groupBy", .str "$a"), ("boundaries", .arr [.int 0, .int 5])]) [d1]).isNone
      = true := by
  decide +kernel

/-- **bucket_no_branch_fails.** Where the oracle is silent for want of a bucket — some document's
    `groupBy` value lies outside every `[bᵢ, bᵢ₊₁)` and there is no default: MongoDB fails with
    "could not find a matching branch" — the code fails too (OperationFailure), provided the
    `groupBy` values are inside the domain (a field path, numbers or missing). -/
theorem bucket_no_branch_fails (opts : Val) (a : BucketArgs) (docs : List Val)
    (ha : bucketArgs opts = some a) (hform : ∃ s, a.groupBy = .str s)
    (htags : exprTags a.groupBy docs = [])
    (hvals : ∀ d ∈ docs, ∃ r, exprValue a.groupBy d = some r ∧ bucketValueReasons r = [])
    (hk : specBucketKeyed a docs = none) :
    Pipe.bucketStage opts docs = .error .opFail := by
  obtain ⟨str, hgb⟩ := hform
  obtain ⟨hb, hasc, _, hmodel⟩ := Pipe.Proofs.bucketStage_args opts a docs ha
  -- the code's keys are the oracle's, document by document, failure included
  have := Pipe.Proofs.bucketKeyed_spec a (Pipe.Proofs.lastOf a.default a.bounds) hgb hb hasc docs
    (Pipe.Proofs.exprTags_nil _ _ htags) hvals
  rw [hk] at this
  rw [hmodel, this]

example : (match bucketArgs (.doc [("groupBy", .str "$a"), ("boundaries", .arr [.int 0, .int 5])]) with
    | some a => (match a.groupBy with | .str _ => true | _ => false) &&
        (exprTags a.groupBy [d2, d1]).isEmpty &&
        [d2, d1].all (fun d => match exprValue a.groupBy d with
          | some r => (bucketValueReasons r).isEmpty | none => false) &&
        (specBucketKeyed a [d2, d1]).isNone
    | none => false) = true ∧
    failsWith (Pipe.bucketStage (.doc [("groupBy", .str "$a"), ("boundaries", .arr [.int 0, .int 5])])
      [d2, d1]) .opFail = true := by decide +kernel

/-- **stageX_eq_spec (partial).** `stage_eq_spec_partial` with the extended oracle and domain:
    thirteen stage kinds (`$bucket` with its oracle `specBucketStage`) instead of seven. -/
theorem stageX_eq_spec_partial (db : Pipe.Db) (op : String) (opts : Val) (docs s : List Val)
    (hD : stageReasonsX db op opts docs = []) (hs : specStageX db op opts docs = some s) :
    Pipe.simpleStage db op opts docs = .ok s :=
  Pipe.Proofs.stageX_eq_spec db op opts docs s hD hs

example : stageReasonsX db "$group" groupSpec sample = [] ∧
    (specStageX db "$group" groupSpec sample).isSome = true ∧
    stageReasonsX db "$set" addSpec [d0, d2] = [] ∧
    (specStageX db "$set" addSpec [d0, d2]).isSome = true ∧
    stageReasonsX db "$bucket" bucketSpec [d0, d1, d2, d4] = [] ∧
    (specStageX db "$bucket" bucketSpec [d0, d1, d2, d4]).isSome = true := by
  -- on these operators the extended oracle and domain are the stage's own, run above
  have some_of : ∀ {r : Option (List Val)} {l}, optDocsAre r l = true → r.isSome = true := by
    intro r l h; cases r <;> [cases h; rfl]
  simp only [stageReasonsX, specStageX, String.reduceEq, ↓reduceIte, decide_false, decide_true,
    Bool.or_true]
  exact ⟨groupSpec_run.1, groupSpec_sorted, addSpec_run.1, some_of addSpec_run.2,
    bucketSpec_run.1, some_of bucketSpec_run.2⟩

/-- the extension is conservative: on the other stage kinds nothing changes -/
theorem stageX_extends (db : Pipe.Db) (op : String) (opts : Val) (docs : List Val)
    (h : ["$group", "$lookup", "$addFields", "$set", "$replaceRoot", "$bucket"].contains op = false) :
    specStageX db op opts docs = specStage op opts docs ∧
    stageReasonsX db op opts docs = stageReasons op opts docs := by
  simp only [List.contains_cons, List.contains_nil, Bool.or_false, Bool.or_eq_false_iff,
    beq_eq_false_iff_ne, ne_eq] at h
  obtain ⟨h1, h2, h3, h4, h5, h6⟩ := h
  simp [specStageX, stageReasonsX, h1, h2, h3, h4, h5, h6]

/-- … and for the verdict of the extended oracle -/
theorem pipelineXV_eq_spec_partial (db : Pipe.Db) (p docs : List Val) (v : Verdict)
    (hD : pipelineReasonsXV db p docs = []) (hs : specPipelineXV db p docs = some v) :
    v.agrees (Pipe.runPipeline db p docs) := by
  unfold specPipelineXV at hs
  unfold pipelineReasonsXV at hD
  split at hs
  next hr => cases hs; exact Pipe.Proofs.runPipeline_rejected db p docs hr
  next hr =>
    rw [if_neg hr] at hD
    cases hsp : specPipelineX db p docs with
    | none => rw [hsp] at hs; cases hs
    | some s =>
      rw [hsp] at hs; cases hs
      exact Pipe.Proofs.pipelineX_eq_spec db p docs s hD hsp

example : pipelineReasonsXV db [.doc [("$group", groupSpec)], .doc [("$limit", .int 0)]] sample = [] ∧
    (match specPipelineXV db [.doc [("$group", groupSpec)], .doc [("$limit", .int 0)]] sample with
     | some .rejected => true | _ => false) = true ∧
    pipelineReasonsXV db [.doc [("$group", groupSpec)], .doc [("$limit", .int 2)]] sample = [] ∧
    (match specPipelineXV db [.doc [("$group", groupSpec)], .doc [("$limit", .int 2)]] sample with
     | some (.docs out) => out.length == 2 | _ => false) = true := by decide +kernel

def pipeX : List Val :=
  [.doc [("$match", .doc [("a", .doc [("$gt", .int 1)])])],
   .doc [("$lookup", lookupSpec)],
   .doc [("$addFields", .doc [("nj", .doc [("$size", .str "$j")])])],
   .doc [("$group", .doc [("_id", .str "$k"), ("n", .doc [("$sum", .int 1)]),
      ("m", .doc [("$max", .str "$nj")]), ("ids", .doc [("$push", .str "$_id")])])],
   .doc [("$sort", .doc [("n", .int (-1))])],
   .doc [("$limit", .int 1)]]

/-- **pipelineX_eq_spec (partial).** A pipeline of single-operator stages, each inside the
    extended domain on the documents the oracle feeds it, computes what the oracle computes. -/
theorem pipelineX_eq_spec_partial (db : Pipe.Db) (p docs s : List Val)
    (hD : pipelineReasonsX db p docs = []) (hs : specPipelineX db p docs = some s) :
    Pipe.runPipeline db p docs = .ok s :=
  Pipe.Proofs.pipelineX_eq_spec db p docs s hD hs

example : inDX db pipeX sample = true ∧ optDocsAre (specPipelineX db pipeX sample)
    [.doc [("n", .int 2), ("m", .int 2), ("ids", .arr [.int 0, .int 2]), ("_id", .int 1)]] = true := by
  decide +kernel

/-- … with a `$bucket` stage between others -/
example : inDX db [.doc [("$match", .doc [("a", .doc [("$gt", .int 1)])])], .doc [("$bucket", bucketSpec)],
      .doc [("$sort", .doc [("n", .int (-1))])], .doc [("$limit", .int 1)]] sample = true ∧
    optDocsAre (specPipelineX db [.doc [("$match", .doc [("a", .doc [("$gt", .int 1)])])],
      .doc [("$bucket", bucketSpec)], .doc [("$sort", .doc [("n", .int (-1))])],
      .doc [("$limit", .int 1)]] sample)
    [.doc [("n", .int 2), ("ids", .arr [.int 0, .int 1]), ("_id", .int 5)]] = true := by
  decide +kernel

/-- **facet_eq_spec.** `$facet` answers ONE document that maps each name to the oracle's output of
    its sub-pipeline on the very same input, when every branch is inside the extended domain. -/
theorem facet_eq_spec (db : Pipe.Db) (gs : Fields) (docs : List Val) (fs : Fields)
    (hD : facetReasons db gs docs = []) (hs : specFacet db gs docs = some fs) :
    Pipe.runOp db "$facet" (.doc gs) docs = .ok [.doc fs] :=
  Pipe.Proofs.facet_eq_spec db gs docs fs hD hs

example : facetReasons db [("top", .arr pipeX), ("cnt", .arr [.doc [("$count", .str "n")]])] sample = [] ∧
    optValIs ((specFacet db [("top", .arr pipeX), ("cnt", .arr [.doc [("$count", .str "n")]])] sample).map
      Val.doc) (.doc
      [("top", .arr [.doc [("n", .int 2), ("m", .int 2), ("ids", .arr [.int 0, .int 2]), ("_id", .int 1)]]),
       ("cnt", .arr [.doc [("n", .int 4)]])]) = true := by decide +kernel

end Extension

end MongoModel.Props.C03
