/-
  Props.C17 — property theorems for C17 (databases, collections and indexes appear, persist,
  move, vanish as in MongoDB), proved from the lemmas of Proofs/C17*.lean.

  Impl  = MongoModel.Catalog.step / run   (faithful model of mongomock's store.py, database.py,
                                           mongo_client.py and the index catalogue of
                                           collection.py; tied to /repo by the per-run history
                                           correspondence of harness/props/c17.py)
  Spec  = MongoModel.Spec.Catalog.step / run   (the explicit-existence namespace)
  D     = MongoModel.Spec.Catalog.inD / histInD (decidable, state dependent; its negation is
                                           the list of named classes of Spec/CatalogDomain.lean:
                                           the two scope limits `unobtained_handle` and
                                           `filter_falsy_name`, and no finding)
  abs   = MongoModel.Spec.Catalog.abs     (forget everything that is not an existing collection)
  Rel   = MongoModel.Spec.Catalog.Rel     (model state and oracle state describe one namespace)
-/
import Proofs.C17Laws

namespace MongoModel.Props.C17
open MongoModel MongoModel.Catalog MongoModel.Spec.Catalog

/-! ### Concrete configuration and witness histories (shared with known_findings.json) -/

/-- clients 0 and 1 are independent, client 2 is built on client 0's store -/
def σ3 : Nat → Nat := fun c => if c = 2 then 0 else c

def d1 : DbH := ⟨0, "d1"⟩
def d2 : DbH := ⟨0, "d2"⟩
def a1 : CollH := ⟨0, "d1", "a"⟩
def a2 : CollH := ⟨0, "d2", "a"⟩
def xIdx : IndexInfo := ⟨[("x", 1)], false, false⟩

def wVanishDoc : List Op :=
  [.getDb 0 "d1", .getColl d1 "a", .coll a1 (.insert 1), .coll a1 (.deleteOne 1),
   .listCollectionNames d1 none]
def wVanishIndex : List Op :=
  [.getDb 0 "d1", .getColl d1 "a", .coll a1 (.createIndex none xIdx),
   .coll a1 (.dropIndex (.byName "x_1")), .listCollectionNames d1 none]
/-- what is read after either of them: the database, the indexes, the documents -/
def wStillThere : List Op :=
  [.listDatabaseNames 2, .coll a1 .indexInformation, .coll a1 .find]
def wRenameSelf : List Op :=
  [.getDb 0 "d1", .getColl d1 "a", .coll a1 (.insert 1), .renameCollection d1 "a" "a" true,
   .coll a1 .find]
def wFilter : List Op :=
  [.getDb 0 "d1", .getColl d1 "a", .coll a1 .find, .listCollectionNames d1 (some (.eqStr "a"))]
def wForeignDb : List Op :=
  [.getDb 0 "d1", .getColl d1 "a", .coll a1 (.insert 1), .getDb 1 "d1",
   .dropDatabase 0 (.byHandle ⟨1, "d1"⟩)]
def wForeignColl : List Op :=
  [.getDb 0 "d1", .getColl d1 "a", .coll a1 (.insert 1), .getDb 0 "d2", .getColl d2 "a",
   .coll a2 (.insert 2), .dropCollection d1 (.byHandle a2), .coll a1 .find]
def wSystem : List Op :=
  [.getDb 0 "d1", .createCollection d1 "system.js", .createCollection d1 "system.js"]
/-- `wFilter` continued: the name is written, listed, dropped, and listed again -/
def wFilter2 : List Op :=
  wFilter ++ [.coll a1 (.insert 1), .listCollectionNames d1 (some (.eqStr "a")),
    .coll a1 .drop, .listCollectionNames d1 (some (.opNe "zz"))]

/-- a history inside D with a drop, a rename and reuse of old handles through the shared client -/
def wGood : List Op :=
  [.getDb 0 "d1", .getColl d1 "a", .createCollection d1 "a", .coll a1 (.insert 1),
   .coll a1 (.createIndex none xIdx), .getDb 2 "d1", .getColl ⟨2, "d1"⟩ "b",
   .renameCollection ⟨2, "d1"⟩ "a" "b" false, .coll a1 .find, .coll ⟨2, "d1", "b"⟩ .indexInformation,
   .dropCollection d1 (.byName "b"), .coll ⟨2, "d1", "b"⟩ (.insert 7), .listDatabaseNames 2]

/-- **Main theorem, one step.**  From every well-formed state, a step of the model (in the scope
    of the model: handles obtained before use, no empty-name listing filter) and the same step
    of the oracle from the abstracted state end in states that denote the same maps, with
    equivalent outputs.  `inD` excludes no class of behaviour beyond these two scope limits. -/
theorem step_refinement (σ : Nat → Nat) (w : World) (op : Op) (hw : WF w)
    (hD : inD σ w op = true) :
    SEq (abs (Catalog.step σ w op).1) (Spec.Catalog.step σ (abs w) op).1 ∧
    OutEquiv (Catalog.step σ w op).2 (Spec.Catalog.step σ (abs w) op).2 :=
  have hs := Proofs.C17.step_refines σ w (abs w) op (Proofs.C17.rel_abs hw) hD
  ⟨Proofs.C17.rel_functional (Proofs.C17.rel_abs hs.1.1) hs.1, hs.2⟩

/-- a well-formed state (reachable: `reachable_wf`) with a collection that holds one document
    and was never explicitly created, and the step that deletes that document -/
example : WF (Catalog.run σ3 World.init (wVanishDoc.take 3)).1 ∧
    inD σ3 (Catalog.run σ3 World.init (wVanishDoc.take 3)).1 (.coll a1 (.deleteOne 1)) = true :=
  ⟨Proofs.C17.reachable_wf σ3 _ ⟨_, rfl⟩, by decide +kernel⟩

/-- the same as a simulation: related states stay related -/
theorem simulation_step (σ : Nat → Nat) (w : World) (s : SWorld) (op : Op)
    (hR : Rel w s) (hD : inD σ w op = true) :
    Rel (Catalog.step σ w op).1 (Spec.Catalog.step σ s op).1 ∧
    OutEquiv (Catalog.step σ w op).2 (Spec.Catalog.step σ s op).2 :=
  Proofs.C17.step_refines σ w s op hR hD

example : Rel World.init SWorld.init ∧ inD σ3 World.init (.getDb 0 "d1") = true :=
  ⟨Proofs.C17.rel_init, by decide +kernel⟩

/-- **Main theorem, whole histories (full strength).**  Along every history (handles obtained
    before use) the real code answers what the explicit-existence namespace answers, and the two
    end in related states. -/
theorem refinement (σ : Nat → Nat) (ops : List Op)
    (hD : histInD σ World.init ops = true) :
    Rel (Catalog.run σ World.init ops).1 (Spec.Catalog.run σ SWorld.init ops).1 ∧
    OutsEquiv (Catalog.run σ World.init ops).2 (Spec.Catalog.run σ SWorld.init ops).2 :=
  Proofs.C17.run_refines σ ops _ _ Proofs.C17.rel_init hD

/-- D contains non-trivial histories: create, insert, index, rename through a second client on
    the same store, reads through the old handles, drop, reuse, listing - and the histories that
    empty a collection which was never explicitly created. -/
example : histInD σ3 World.init wGood = true ∧ histInD σ3 World.init (wVanishDoc ++ wStillThere) = true ∧
    histInD σ3 World.init (wVanishIndex ++ wStillThere) = true := by decide +kernel

/-- every reachable state is well formed (so `WF` below is no restriction on real states) -/
theorem reachable_wf (σ : Nat → Nat) (w : World) (h : Reachable σ w) : WF w :=
  Proofs.C17.reachable_wf σ w h

example : Reachable σ3 (Catalog.run σ3 World.init wGood).1 := ⟨wGood, rfl⟩

/-! ### The seven classes repaired in the library

The witness histories of the known_findings.json entries `vanish_last_doc`, `vanish_last_index`,
`rename_self_droptarget`, `filter_lists_uncreated`, `drop_database_foreign_handle`,
`drop_collection_foreign_handle` and `system_create_existing` (status `fixed`) are inside D (no
exclusion class applies to them), so `refinement` covers them; the answers of the model on them
are spelt out. -/

/-- insert a document, delete it: the collection is still listed, and so is its database (seen
    through the client sharing the store); it shows the `_id_` index and no document -/
theorem repaired_vanish_last_doc :
    histInD σ3 World.init (wVanishDoc ++ wStillThere) = true ∧
    (Catalog.run σ3 World.init (wVanishDoc ++ wStillThere)).2.drop 2 =
      [.ok, .count 1, .names ["a"], .names ["d1"], .indexes [("_id_", idIndex)], .ids []] := by
  decide +kernel

/-- create an index, drop it: the collection is still listed, with the `_id_` index only -/
theorem repaired_vanish_last_index :
    histInD σ3 World.init (wVanishIndex ++ wStillThere) = true ∧
    (Catalog.run σ3 World.init (wVanishIndex ++ wStillThere)).2.drop 2 =
      [.name "x_1", .ok, .names ["a"], .names ["d1"], .indexes [("_id_", idIndex)], .ids []] := by
  decide +kernel

/-- `rename_collection("a", "a", dropTarget=True)` is refused and the document is still there -/
theorem repaired_rename_self_droptarget :
    histInD σ3 World.init wRenameSelf = true ∧
    (Catalog.run σ3 World.init wRenameSelf).2.drop 3 = [.err .opFail, .ids [1]] := by
  decide +kernel

/-- a name that was only read is not listed by a filtered listing; once written it is, and
    after a drop it is not -/
theorem repaired_filter_lists_uncreated :
    histInD σ3 World.init wFilter2 = true ∧
    (Catalog.run σ3 World.init wFilter2).2.drop 3 =
      [.names [], .ok, .names ["a"], .ok, .names []] := by
  decide +kernel

/-- `drop_database(<handle made by client 1>)` through client 0 drops client 0's database of
    that name -/
theorem repaired_drop_database_foreign_handle :
    histInD σ3 World.init (wForeignDb ++ [.coll a1 .find, .listDatabaseNames 0]) = true ∧
    (Catalog.run σ3 World.init (wForeignDb ++ [.coll a1 .find, .listDatabaseNames 0])).2.drop 4 =
      [.ok, .ids [], .names []] := by
  decide +kernel

/-- `d1.drop_collection(<handle of d2.a>)` drops `d1.a` and leaves `d2.a` alone -/
theorem repaired_drop_collection_foreign_handle :
    histInD σ3 World.init (wForeignColl ++ [.coll a2 .find]) = true ∧
    (Catalog.run σ3 World.init (wForeignColl ++ [.coll a2 .find])).2.drop 6 =
      [.ok, .ids [], .ids [2]] := by
  decide +kernel

/-- creating an existing `system.` collection again fails -/
theorem repaired_system_create_existing :
    histInD σ3 World.init wSystem = true ∧
    (Catalog.run σ3 World.init wSystem).2 = [.ok, .ok, .err .collInvalid] := by
  decide +kernel

/-- **reads never create.**  Obtaining handles, `find`, `index_information` and the listings -
    in any number and order, from any well-formed state, in or out of D - change no collection
    and no listing. -/
theorem reads_never_create (σ : Nat → Nat) (w : World) (ops : List Op) (hw : WF w)
    (hr : ops.all isRead = true) :
    (∀ i d n, ((Catalog.run σ w ops).1.store i).coll d n = (w.store i).coll d n) ∧
    (∀ i d, (((Catalog.run σ w ops).1.store i).listColls d).Perm ((w.store i).listColls d)) ∧
    (∀ i, ((Catalog.run σ w ops).1.store i).listDbs.Perm (w.store i).listDbs) :=
  Proofs.C17.reads_never_create σ w ops hw hr

example : ∃ (w : World) (ops : List Op), WF w ∧ ops.all isRead = true ∧ ops.length = 6 :=
  ⟨(Catalog.run σ3 World.init wGood).1,
   [.getDb 1 "d2", .getColl ⟨1, "d2"⟩ "c", .coll ⟨1, "d2", "c"⟩ .find,
    .coll ⟨1, "d2", "c"⟩ .indexInformation, .listCollectionNames ⟨1, "d2"⟩ none,
    .listDatabaseNames 1],
   reachable_wf σ3 _ ⟨wGood, rfl⟩, by decide +kernel, rfl⟩

/-- **first write creates, existence lasts until a drop.**  After an insert or an index creation
    through an obtained handle the collection exists, and along EVERY continuation that contains
    no drop of it, no rename from or onto it and no drop of its database - deletes down to no
    document and index drops down to no index included - it still exists at the end: its
    database is listed, and so is the collection (system collections are never listed). -/
theorem exists_from_first_write_until_drop (σ : Nat → Nat) (w : World) (h : CollH) (o : CollOp)
    (ops : List Op) (hw : WF w) (hob : obtainedColl w h = true)
    (ho : (∃ id, o = .insert id) ∨ (∃ nm info, o = .createIndex nm info))
    (hne : ops.all (fun op => !mayRemove σ (σ h.client) h.db h.coll op) = true) :
    created (Catalog.run σ (Catalog.step σ w (.coll h o)).1 ops).1 (σ h.client) h.db h.coll = true ∧
    h.db ∈ ((Catalog.run σ (Catalog.step σ w (.coll h o)).1 ops).1.store (σ h.client)).listDbs ∧
    (isSystem h.coll = false →
      h.coll ∈ ((Catalog.run σ (Catalog.step σ w (.coll h o)).1 ops).1.store (σ h.client)).listColls h.db) := by
  have hw1 := Proofs.C17.wf_step σ w (.coll h o) hw
  have hc := Proofs.C17.exists_until_drop σ (σ h.client) h.db h.coll ops _ hw1 hne (by
    unfold created
    rw [Proofs.C17.step_coll σ w h o hob, Proofs.C17.store_setStore, if_pos rfl,
      Proofs.C17.coll_setColl, if_pos rfl]
    exact Proofs.C17.collOp_creates (hw.2.2 _ _ _) ho)
  exact ⟨hc, Proofs.C17.created_listed (Proofs.C17.wf_run σ ops _ hw1) _ _ _ hc⟩

/-- a non-trivial inhabitant: insert through client 0, then a continuation by both clients of the
    store that deletes every document (the one inserted through the other client too), creates
    and drops an index, renames elsewhere, reads and lists -/
example : ∃ (w : World) (h : CollH) (ops : List Op), WF w ∧ obtainedColl w h = true ∧
    ops.all (fun op => !mayRemove σ3 (σ3 h.client) h.db h.coll op) = true ∧ ops.length = 9 ∧
    (Catalog.step σ3 (Catalog.run σ3 (Catalog.step σ3 w (.coll h (.insert 1))).1 ops).1
      (.coll h .find)).2 = .ids [] :=
  have e : _ ∧ _ ∧ _ := by decide +kernel
  ⟨(Catalog.run σ3 World.init [.getDb 0 "d1", .getColl d1 "a", .getDb 2 "d1",
      .getColl ⟨2, "d1"⟩ "a", .getColl ⟨2, "d1"⟩ "b"]).1, a1,
   [.coll ⟨2, "d1", "a"⟩ (.insert 2), .coll a1 (.deleteOne 1), .coll a1 (.createIndex none xIdx),
    .coll ⟨2, "d1", "b"⟩ (.insert 5), .renameCollection ⟨2, "d1"⟩ "b" "c" true,
    .coll ⟨2, "d1", "a"⟩ .deleteAll, .coll a1 .dropIndexes,
    .coll a1 .find, .listCollectionNames d1 none],
   reachable_wf σ3 _ ⟨_, rfl⟩, e.1, e.2.1, rfl, e.2.2⟩

/-- the same from an explicit `create_collection` of a name that does not exist (system
    collections included): it succeeds, and the collection exists until dropped -/
theorem exists_from_create_collection_until_drop (σ : Nat → Nat) (w : World) (h : DbH)
    (n : String) (ops : List Op) (hw : WF w) (hob : obtainedDb w h = true)
    (hv : validName n = true) (hnew : created w (σ h.client) h.db n = false)
    (hne : ops.all (fun op => !mayRemove σ (σ h.client) h.db n op) = true) :
    (Catalog.step σ w (.createCollection h n)).2 = .ok ∧
    created (Catalog.run σ (Catalog.step σ w (.createCollection h n)).1 ops).1 (σ h.client) h.db n
      = true := by
  have hc := Proofs.C17.create_new_succeeds σ w h n hw hob hv hnew
  exact ⟨hc.1, Proofs.C17.exists_until_drop σ (σ h.client) h.db n ops _
    (Proofs.C17.wf_step σ w _ hw) hne hc.2⟩

example : ∃ (w : World) (ops : List Op), WF w ∧ obtainedDb w d1 = true ∧
    created w (σ3 0) "d1" "a" = false ∧
    ops.all (fun op => !mayRemove σ3 (σ3 0) "d1" "a" op) = true ∧ ops.length = 3 :=
  have e : _ ∧ _ ∧ _ := by decide +kernel
  ⟨(Catalog.run σ3 World.init [.getDb 0 "d1"]).1,
   [.coll a1 (.insert 1), .coll a1 .deleteAll, .listDatabaseNames 0],
   reachable_wf σ3 _ ⟨_, rfl⟩, e.1, e.2.1, e.2.2, rfl⟩

/-- **Only a drop ends the existence of a collection.**  Whatever the step - any operation through any client, in
    or out of the scope of the model - if a collection existed before it and does not exist
    after it, the step was a drop of that collection, a rename from or onto its name, or a drop
    of its database, on that store.  (The witnesses of the known_findings.json entries
    `vanish_last_doc` / `vanish_last_index` are steps that contradicted this before the repair.) -/
theorem existence_ends_only_by_removal (σ : Nat → Nat) (w : World) (op : Op) (i : Nat)
    (d n : String) (hw : WF w) (hex : created w i d n = true)
    (hgone : created (Catalog.step σ w op).1 i d n = false) : mayRemove σ i d n op = true :=
  Decidable.byContradiction fun hm => Bool.false_ne_true (hgone.symm.trans
    (Proofs.C17.exists_persists_step σ w op i d n hw (Bool.eq_false_iff.mpr hm) hex))

/-- non-vacuity: a reachable state with an existing collection that a drop through the sharing
    client removes -/
example : WF (Catalog.run σ3 World.init (wGood.take 10)).1 ∧
    created (Catalog.run σ3 World.init (wGood.take 10)).1 0 "d1" "b" = true ∧
    created (Catalog.step σ3 (Catalog.run σ3 World.init (wGood.take 10)).1
      (.coll ⟨2, "d1", "b"⟩ .drop)).1 0 "d1" "b" = false :=
  ⟨reachable_wf σ3 _ ⟨_, rfl⟩, by decide +kernel⟩

/-- **an emptied collection still exists.**  An existing collection - however it came to exist -
    from which every document is deleted and every index dropped is still there: it finds
    nothing, `index_information()` shows exactly `_id_`, and it and its database are still
    listed. -/
theorem emptied_collection_still_exists (σ : Nat → Nat) (w : World) (h : CollH) (hw : WF w)
    (hob : obtainedColl w h = true) (hex : created w (σ h.client) h.db h.coll = true) :
    let w' := (Catalog.run σ w [.coll h .deleteAll, .coll h .dropIndexes]).1
    created w' (σ h.client) h.db h.coll = true ∧
    (Catalog.step σ w' (.coll h .find)).2 = .ids [] ∧
    (Catalog.step σ w' (.coll h .indexInformation)).2 = .indexes [("_id_", idIndex)] ∧
    h.db ∈ (w'.store (σ h.client)).listDbs ∧
    (isSystem h.coll = false → h.coll ∈ (w'.store (σ h.client)).listColls h.db) := by
  intro w'
  have hob1 := (Proofs.C17.step_frame σ w (.coll h .deleteAll)).obtainedColl hob
  have hob' : obtainedColl w' h = true := Proofs.C17.obtainedColl_run σ _ h w hob
  -- the two operations leave the flag, which is set, and nothing else
  have hc : (w'.store (σ h.client)).coll h.db h.coll = ⟨[], [], true⟩ := by
    show ((Catalog.step σ (Catalog.step σ w (.coll h .deleteAll)).1 (.coll h .dropIndexes)).1.store
      (σ h.client)).coll h.db h.coll = _
    rw [Proofs.C17.step_coll σ _ h .dropIndexes hob1, Proofs.C17.step_coll σ w h .deleteAll hob,
      Proofs.C17.store_setStore, if_pos rfl, Proofs.C17.coll_setColl, if_pos rfl,
      Proofs.C17.store_setStore, if_pos rfl, Proofs.C17.coll_setColl, if_pos rfl]
    exact congrArg (Coll.mk [] []) ((Proofs.C17.created_eq_flag hw _ _ _).symm.trans hex)
  have hcr : created w' (σ h.client) h.db h.coll = true := by unfold created; rw [hc]; rfl
  refine ⟨hcr, ?_, ?_, Proofs.C17.created_listed (Proofs.C17.wf_run σ _ w hw) _ _ _ hcr⟩
  · rw [Proofs.C17.step_coll σ w' h .find hob', hc]; rfl
  · rw [Proofs.C17.step_coll σ w' h .indexInformation hob', hc]; rfl

/-- a collection with two documents and an index that exists only through its first insert,
    emptied through the other client of the store -/
example : WF (Catalog.run σ3 World.init ((wGood.take 10).take 2 ++
      [.coll a1 (.insert 1), .coll a1 (.insert 2), .coll a1 (.createIndex none xIdx),
       .getDb 2 "d1", .getColl ⟨2, "d1"⟩ "a"])).1 ∧
    obtainedColl (Catalog.run σ3 World.init ((wGood.take 10).take 2 ++
      [.coll a1 (.insert 1), .coll a1 (.insert 2), .coll a1 (.createIndex none xIdx),
       .getDb 2 "d1", .getColl ⟨2, "d1"⟩ "a"])).1 ⟨2, "d1", "a"⟩ = true ∧
    created (Catalog.run σ3 World.init ((wGood.take 10).take 2 ++
      [.coll a1 (.insert 1), .coll a1 (.insert 2), .coll a1 (.createIndex none xIdx),
       .getDb 2 "d1", .getColl ⟨2, "d1"⟩ "a"])).1 (σ3 2) "d1" "a" = true :=
  ⟨reachable_wf σ3 _ ⟨_, rfl⟩, by decide +kernel⟩

/-- **existence is recorded, not derived**: in every reachable state a collection exists iff
    its store carries the created flag - set by the first insert, by an index creation and by
    `create_collection`, reset by nothing but a drop (a rename moves the store, flag included). -/
theorem existence_is_recorded (σ : Nat → Nat) (w : World) (hr : Reachable σ w) (i : Nat)
    (d n : String) : created w i d n = ((w.store i).coll d n).forceCreated :=
  Proofs.C17.created_eq_flag (Proofs.C17.reachable_wf σ w hr) i d n

example : Reachable σ3 (Catalog.run σ3 World.init (wVanishDoc ++ wStillThere)).1 ∧
    created (Catalog.run σ3 World.init (wVanishDoc ++ wStillThere)).1 0 "d1" "a" = true :=
  ⟨⟨_, rfl⟩, by decide +kernel⟩

/-- **create_collection on an existing name fails** with CollectionInvalid and changes nothing -
    whether the existing collection is listed or is a (hidden) system collection -/
theorem create_existing_fails (σ : Nat → Nat) (w : World) (h : DbH) (n : String)
    (hob : obtainedDb w h = true) (hv : validName n = true)
    (hex : created w (σ h.client) h.db n = true) :
    Catalog.step σ w (.createCollection h n) = (w, .err .collInvalid) :=
  Proofs.C17.create_existing_fails σ w h n hob hv hex

example : obtainedDb (Catalog.run σ3 World.init wGood).1 ⟨2, "d1"⟩ = true ∧ validName "b" = true ∧
    created (Catalog.run σ3 World.init wGood).1 (σ3 2) "d1" "b" = true := by decide +kernel

/-- an existing system collection, which no listing shows -/
example : obtainedDb (Catalog.run σ3 World.init (wSystem.take 2)).1 d1 = true ∧
    validName "system.js" = true ∧
    created (Catalog.run σ3 World.init (wSystem.take 2)).1 (σ3 0) "d1" "system.js" = true ∧
    "system.js" ∉ ((Catalog.run σ3 World.init (wSystem.take 2)).1.store (σ3 0)).listColls "d1" := by
  decide +kernel

/-- **rename moves documents and indexes**: onto a different valid name that does not exist (or
    with `dropTarget`), the call succeeds, the new name holds exactly what the old one held, the
    old name is empty again, no other namespace and no other server changes. -/
theorem rename_moves_docs_and_indexes (σ : Nat → Nat) (w : World) (h : DbH) (n n' : String)
    (dt : Bool) (hob : obtainedDb w h = true) (hv : validName n' = true) (hne : n ≠ n')
    (hsrc : created w (σ h.client) h.db n = true)
    (ht : created w (σ h.client) h.db n' = false ∨ dt = true) :
    (Catalog.step σ w (.renameCollection h n n' dt)).2 = .ok ∧
    ((Catalog.step σ w (.renameCollection h n n' dt)).1.store (σ h.client)).coll h.db n'
      = (w.store (σ h.client)).coll h.db n ∧
    ((Catalog.step σ w (.renameCollection h n n' dt)).1.store (σ h.client)).coll h.db n
      = Coll.empty ∧
    (∀ d' m, ¬ (d' = h.db ∧ (m = n ∨ m = n')) →
      ((Catalog.step σ w (.renameCollection h n n' dt)).1.store (σ h.client)).coll d' m
        = (w.store (σ h.client)).coll d' m) ∧
    (∀ j, j ≠ σ h.client → (Catalog.step σ w (.renameCollection h n n' dt)).1.store j = w.store j) := by
  rw [Proofs.C17.step_rename σ w h n n' dt hob]
  obtain ⟨_, ho, hc⟩ := Proofs.C17.renameStep_spec (w.store (σ h.client)) h.db n n' dt
  have ok : Proofs.C17.renameOk n n' ((w.store (σ h.client)).coll h.db n).isCreated
      ((w.store (σ h.client)).coll h.db n').isCreated dt = true := by
    unfold created at hsrc ht
    rcases ht with ht | ht <;> simp [Proofs.C17.renameOk, hv, hne, hsrc, ht]
  rw [ok] at ho hc
  rw [Proofs.C17.store_setStore, if_pos rfl]
  exact ⟨ho, (hc _ _).trans (Proofs.C17.moved_new _ _ _ _),
    (hc _ _).trans (Proofs.C17.moved_old _ _ fun e => hne (Prod.mk.inj e).2),
    fun d' m hm => (hc d' m).trans (Proofs.C17.moved_of_ne _ _ _
      (fun e => hm ⟨(Prod.mk.inj e).1, Or.inl (Prod.mk.inj e).2⟩)
      (fun e => hm ⟨(Prod.mk.inj e).1, Or.inr (Prod.mk.inj e).2⟩)),
    fun j hj => if_neg hj⟩

example : obtainedDb (Catalog.run σ3 World.init wGood).1 d1 = true ∧ validName "c" = true ∧
    created (Catalog.run σ3 World.init wGood).1 (σ3 0) "d1" "b" = true ∧
    created (Catalog.run σ3 World.init wGood).1 (σ3 0) "d1" "c" = false := by decide +kernel

/-- `Collection.rename` is `Database.rename_collection` on the handle's own name -/
theorem coll_rename_is_rename_collection (σ : Nat → Nat) (w : World) (h : CollH) (n' : String)
    (dt : Bool) (hob : obtainedColl w h = true) :
    Catalog.step σ w (.collRename h n' dt) = Catalog.step σ w (.renameCollection h.dbh h.coll n' dt) :=
  Proofs.C17.coll_rename_eq σ w h n' dt hob

/-- **rename errors**: an invalid new name (InvalidName), the collection's own name (with or
    without `dropTarget`), an absent source, or an existing target without `dropTarget`
    (OperationFailure) - and then no lookup changes anywhere: in particular renaming a
    collection onto itself never loses its documents and indexes. -/
theorem rename_errors (σ : Nat → Nat) (w : World) (h : DbH) (n n' : String) (dt : Bool)
    (hob : obtainedDb w h = true)
    (hcase : validName n' = false ∨ n = n' ∨ created w (σ h.client) h.db n = false ∨
      (created w (σ h.client) h.db n' = true ∧ dt = false)) :
    (∃ e, (Catalog.step σ w (.renameCollection h n n' dt)).2 = .err e ∧
      (e = .invalidName ↔ validName n' = false)) ∧
    ∀ j d' m, ((Catalog.step σ w (.renameCollection h n n' dt)).1.store j).coll d' m
      = (w.store j).coll d' m := by
  rw [Proofs.C17.step_rename σ w h n n' dt hob]
  obtain ⟨_, ho, hc⟩ := Proofs.C17.renameStep_spec (w.store (σ h.client)) h.db n n' dt
  have ok : Proofs.C17.renameOk n n' ((w.store (σ h.client)).coll h.db n).isCreated
      ((w.store (σ h.client)).coll h.db n').isCreated dt = false := by
    unfold created at hcase
    rcases hcase with hc | hc | hc | ⟨hc, hdt⟩ <;> simp [Proofs.C17.renameOk, *]
  rw [ok] at ho hc
  refine ⟨?_, fun j d' m => ?_⟩
  · cases hv : validName n' <;> rw [hv] at ho <;> exact ⟨_, ho, by simp⟩
  · rw [Proofs.C17.store_setStore]
    by_cases e : j = σ h.client
    · rw [if_pos e, e]; exact hc d' m
    · rw [if_neg e]

example : validName "a..b" = false ∧
    created (Catalog.run σ3 World.init wGood).1 (σ3 0) "d1" "zz" = false ∧
    created (Catalog.run σ3 World.init wGood).1 (σ3 0) "d1" "b" = true := by decide +kernel

/-- **drop, then the handles stay usable and start from empty**: after `drop_collection(name)`,
    `drop_collection(<any Collection handle of that name>)`, `coll.drop()`, `drop_database(name)`
    or `drop_database(<any Database handle of that name>)` (issued through any client of the
    same store; `Drops`), every handle onto the dropped name obtained before still works: it
    finds nothing, has no index, and an insert through it succeeds and is the only document. -/
theorem drop_then_empty_handles_usable (σ : Nat → Nat) (w : World) (op : Op) (h : CollH)
    (hob : obtainedColl w h = true) (hdrop : Drops σ w op h) :
    (Catalog.step σ w op).2 = .ok ∧
    (Catalog.step σ (Catalog.step σ w op).1 (.coll h .find)).2 = .ids [] ∧
    (Catalog.step σ (Catalog.step σ w op).1 (.coll h .indexInformation)).2 = .indexes [] ∧
    ∀ id, (Catalog.step σ (Catalog.step σ w op).1 (.coll h (.insert id))).2 = .ok ∧
      (Catalog.step σ (Catalog.step σ (Catalog.step σ w op).1 (.coll h (.insert id))).1
        (.coll h .find)).2 = .ids [id] :=
  have key := Proofs.C17.drop_empties σ w op h hdrop
  ⟨key.1, Proofs.C17.empty_handle_usable σ _ h ((Proofs.C17.step_frame σ w op).obtainedColl hob) key.2⟩

/-- an existing collection with a document and an index, dropped by name through client 0 and
    then used through the handle client 2 obtained before -/
example : ∃ (w : World) (op : Op) (h : CollH), obtainedColl w h = true ∧
    Drops σ3 w op h ∧ created w (σ3 h.client) h.db h.coll = true :=
  have e : _ ∧ _ ∧ _ ∧ _ := by decide +kernel
  ⟨(Catalog.run σ3 World.init (wGood.take 10)).1, .dropCollection d1 (.byName "b"), ⟨2, "d1", "b"⟩,
   e.1, Or.inl ⟨d1, rfl, e.2.1, e.2.2.1, rfl⟩, e.2.2.2⟩

/-- the same collection dropped by handing `d1.drop_collection` a Collection handle of *another
    client's other database* that merely has the same name, and by handing `drop_database` of
    client 2 the Database handle client 1 made -/
example : ∃ (w : World) (h : CollH), obtainedColl w h = true ∧
    created w (σ3 h.client) h.db h.coll = true ∧
    Drops σ3 w (.dropCollection d1 (.byHandle ⟨1, "d2", "b"⟩)) h ∧
    Drops σ3 w (.dropDatabase 2 (.byHandle ⟨1, "d1"⟩)) h :=
  have e : _ ∧ _ ∧ _ ∧ _ ∧ _ ∧ _ ∧ _ := by decide +kernel
  ⟨(Catalog.run σ3 World.init (wGood.take 10 ++
      [.getDb 1 "d2", .getColl ⟨1, "d2"⟩ "b", .getDb 1 "d1"])).1, ⟨2, "d1", "b"⟩,
   e.1, e.2.1,
   Or.inr (Or.inr (Or.inr (Or.inl ⟨d1, ⟨1, "d2", "b"⟩, rfl, e.2.2.1, e.2.2.2.1, e.2.2.2.2.1, rfl,
     rfl⟩))),
   Or.inr (Or.inr (Or.inr (Or.inr ⟨2, ⟨1, "d1"⟩, rfl, e.2.2.2.2.2.1, e.2.2.2.2.2.2, rfl⟩)))⟩

/-- **a dropped collection does not exist**: after any of the drops of `Drops` (those of
    `drop_then_empty_handles_usable`) the name does not exist and is not listed. -/
theorem dropped_not_listed (σ : Nat → Nat) (w : World) (op : Op) (h : CollH) (hw : WF w)
    (hdrop : Drops σ w op h) :
    created (Catalog.step σ w op).1 (σ h.client) h.db h.coll = false ∧
    h.coll ∉ ((Catalog.step σ w op).1.store (σ h.client)).listColls h.db :=
  Proofs.C17.dropped_not_listed σ w op h hw hdrop

/-- once obtained, a handle stays obtained (the caches only grow) -/
theorem handles_stay_obtained (σ : Nat → Nat) (w : World) (ops : List Op) (h : CollH)
    (hob : obtainedColl w h = true) : obtainedColl (Catalog.run σ w ops).1 h = true :=
  Proofs.C17.obtainedColl_run σ ops h w hob

/-- **handles for the same name and clients sharing a store agree**: the same operation through
    two clients built on one store gives the same result and the same stores; so do listings.
    (Two handle objects of one client for one name are one value of the model, by
    `Collection._store` being resolved by name at every use; the correspondence run checks old
    against fresh objects on the real code.) -/
theorem handles_and_shared_clients_agree (σ : Nat → Nat) (w : World) (c c' : Nat) (d n : String)
    (o : CollOp) (f : Option NameFilter) (hσ : σ c = σ c')
    (hob : obtainedColl w ⟨c, d, n⟩ = true) (hob' : obtainedColl w ⟨c', d, n⟩ = true) :
    (Catalog.step σ w (.coll ⟨c, d, n⟩ o)).2 = (Catalog.step σ w (.coll ⟨c', d, n⟩ o)).2 ∧
    (Catalog.step σ w (.coll ⟨c, d, n⟩ o)).1.store = (Catalog.step σ w (.coll ⟨c', d, n⟩ o)).1.store ∧
    (Catalog.step σ w (.listCollectionNames ⟨c, d⟩ f)).2 =
      (Catalog.step σ w (.listCollectionNames ⟨c', d⟩ f)).2 ∧
    (Catalog.step σ w (.listDatabaseNames c)).2 = (Catalog.step σ w (.listDatabaseNames c')).2 := by
  rw [Proofs.C17.step_coll σ w _ o hob, Proofs.C17.step_coll σ w _ o hob',
    Proofs.C17.step_listColls σ w ⟨c, d⟩ f (Bool.and_eq_true_iff.mp hob).1,
    Proofs.C17.step_listColls σ w ⟨c', d⟩ f (Bool.and_eq_true_iff.mp hob').1, hσ]
  exact ⟨rfl, rfl, rfl, congrArg (fun i => Out.names (w.store i).listDbs) hσ⟩

example : σ3 0 = σ3 2 ∧ (0 : Nat) ≠ 2 ∧
    obtainedColl (Catalog.run σ3 World.init (wGood ++ [.getColl d1 "b"])).1 ⟨0, "d1", "b"⟩ = true ∧
    obtainedColl (Catalog.run σ3 World.init (wGood ++ [.getColl d1 "b"])).1 ⟨2, "d1", "b"⟩ = true := by
  decide +kernel

/-- **independently created clients are isolated**: whatever clients on other stores do -
    handing handles made by this store's clients to their `drop_collection` / `drop_database`
    included - this store does not change, so no listing, no document and no index seen through
    its clients changes. -/
theorem independent_clients_isolated (σ : Nat → Nat) (j : Nat) (w : World) (ops : List Op)
    (h : ops.all (fun op => σ (opClient op) != j) = true) :
    (Catalog.run σ w ops).1.store j = w.store j :=
  Proofs.C17.other_stores_untouched_run σ j ops w h

example : ((wGood ++ [Op.dropCollection d1 (.byHandle ⟨1, "d1", "b"⟩),
    Op.dropDatabase 2 (.byHandle ⟨1, "d1"⟩)]).all (fun op => σ3 (opClient op) != 1)) = true := by
  decide +kernel

/-- **a filtered listing is the listing, filtered**: `list_collection_names(filter=f)` returns
    exactly the names `list_collection_names()` returns to which `f` applies - so never a name
    that was only read, or was dropped -/
theorem filtered_listing_is_filter_of_listing (σ : Nat → Nat) (w : World) (h : DbH)
    (f : NameFilter) (hob : obtainedDb w h = true) (hf : f.falsy = false) :
    Catalog.step σ w (.listCollectionNames h (some f)) =
      (w, .names (((w.store (σ h.client)).listColls h.db).filter f.applies)) := by
  rw [Proofs.C17.step_listColls σ w h _ hob]
  show (if f.falsy then _ else _ : World × Out) = _
  rw [hf, Proofs.C17.listCollsFiltered_eq]; rfl

example : obtainedDb (Catalog.run σ3 World.init wGood).1 d1 = true ∧
    (NameFilter.opNe "a").falsy = false := by decide +kernel

/-- **index_information is exact**: after every history (in the scope of the model) it lists `_id_` followed by exactly
    the indexes the explicit-existence namespace holds for that collection - those created (by
    anyone, under this or, through renames, another name) and not dropped since - and nothing
    when the collection does not exist. -/
theorem index_information_exact (σ : Nat → Nat) (ops : List Op) (h : CollH)
    (hD : histInD σ World.init ops = true)
    (hob : obtainedColl (Catalog.run σ World.init ops).1 h = true) :
    (Catalog.step σ (Catalog.run σ World.init ops).1 (.coll h .indexInformation)).2 =
      .indexes (match alGet? (h.db, h.coll) ((Spec.Catalog.run σ SWorld.init ops).1 (σ h.client)) with
        | some c => ("_id_", idIndex) :: c.indexes
        | none => []) :=
  Proofs.C17.index_information_of_rel σ (Proofs.C17.run_refines σ ops _ _ Proofs.C17.rel_init hD).1 h hob

example : histInD σ3 World.init wGood = true ∧
    obtainedColl (Catalog.run σ3 World.init wGood).1 ⟨2, "d1", "b"⟩ = true := by decide +kernel

/-- the index ledger of one collection: a successful `create_index` registers exactly that index
    under its name and touches no other; a successful `drop_index` removes exactly that name -/
theorem index_ledger (c : Coll) :
    (∀ nm info name, (collOp (.createIndex nm info) c).2 = .name name →
      alGet? name (collOp (.createIndex nm info) c).1.indexes = some info ∧
      ∀ k, k ≠ name → alGet? k (collOp (.createIndex nm info) c).1.indexes = alGet? k c.indexes) ∧
    (∀ r, (collOp (.dropIndex r) c).2 = .ok →
      alGet? r.name (collOp (.dropIndex r) c).1.indexes = none ∧
      ∀ k, k ≠ r.name → alGet? k (collOp (.dropIndex r) c).1.indexes = alGet? k c.indexes) :=
  by
  refine ⟨fun nm info name hok => ?_, fun r hok => ?_⟩
  · -- both successful branches upsert under the returned name
    have : (collOp (.createIndex nm info) c).1.indexes = alUpsert name info c.indexes := by
      simp only [collOp] at hok ⊢
      generalize nm.getD (genIndexName info.key) = nme at hok ⊢
      revert hok
      cases alGet? nme c.indexes with
      | none => intro hok; cases hok; rfl
      | some ex =>
        by_cases he : ex = info
        · simp only [if_pos he]; intro hok; cases hok; rfl
        · simp only [if_neg he]; intro hok; cases hok
    rw [this]
    exact ⟨by rw [Proofs.C17.alGet?_upsert, if_pos rfl], fun k hk => by
      rw [Proofs.C17.alGet?_upsert, if_neg hk]⟩
  · have : (collOp (.dropIndex r) c).1.indexes = alErase r.name c.indexes := by
      simp only [collOp] at hok ⊢
      revert hok
      cases alHas r.name c.indexes
      · intro hok; cases hok
      · intro; rfl
    rw [this]
    exact ⟨by rw [Proofs.C17.alGet?_erase, if_pos rfl], fun k hk => by
      rw [Proofs.C17.alGet?_erase, if_neg hk]⟩

end MongoModel.Props.C17
