/-
  Props.C08 — a failed write leaves no trace; batches stop or continue exactly as documented.
  Statements; the longer proofs are in Proofs/C08*.lean.  Model: `MongoModel.step` / `stepColl`
  for the single writes and insert_many; `stepX` / `stepXS` (with `findAndModify`, `updateLoop`,
  `bulkOne`, `bulkWrite`) for find_one_and_*, update_many and bulk_write.
  "No trace" is stated on what a client can observe at the same clock (`Spec.visible`: the
  documents after the lazy TTL pass, and the index names) and on the index tables themselves.
-/
import Proofs.C08
import Proofs.C08Ext

namespace MongoModel.Props.C08
open MongoModel MongoModel.Spec

/-- **A single-document write that raises changes nothing observable** — whatever the kind of
    failure (malformed or type-incompatible operator anywhere in the update specification,
    attempted `_id` change, duplicate key, invalid document) and whatever the prior state. -/
theorem failed_single_write_noop (cfg : Cfg) (s : St) (op : Val) (hs : singleWrite op = true)
    (he : (step cfg s op).2.isErr = true) :
    visible (step cfg s op).1 = visible s :=
  Proofs.C08.failed_single_write_noop cfg s op hs he

/-- A single-document write that raises leaves the index tables untouched. -/
theorem failed_single_write_indexes (cfg : Cfg) (s : St) (op : Val) (hs : singleWrite op = true)
    (he : (step cfg s op).2.isErr = true) :
    (step cfg s op).1.c.indexes.map (·.name) = s.c.indexes.map (·.name) ∧
    (step cfg s op).1.c.ttlIndexes.map (·.name) = s.c.ttlIndexes.map (·.name) :=
  Proofs.C08.failed_single_write_indexes cfg s op hs he

/-- non-vacuity: a multi-operator update whose LAST operator fails, after a valid `$set`, on a
    collection with two documents and a unique index -/
example : (step {} (run {} [
      .arr [.str "insert_one", .doc [("_id", .int 1), ("a", .int 1), ("l", .arr [.int 1])]],
      .arr [.str "insert_one", .doc [("_id", .int 2), ("a", .int 2)]],
      .arr [.str "create_index", .arr [.arr [.str "a", .int 1]], .doc [("unique", .bool true)]]]).2
    (.arr [.str "update_one", .doc [("_id", .int 1)],
           .doc [("$set", .doc [("a", .int 5)]), ("$pop", .doc [("l", .int 7)])], .bool false])).2.isErr
    = true := by decide +kernel

theorem validation_before_mutation (cfg : Cfg) (now : Int) (c : Coll) (f u up : Val) (e : Err)
    (h : validateUpdate u = .error e) :
    stepColl cfg now c (.arr [.str "update_one", f, u, up]) = (c, .err e) ∧
    stepColl cfg now c (.arr [.str "update_many", f, u, up]) = (c, .err e) :=
  Proofs.C08.validation_before_mutation cfg now c f u up e h

/-- **An update with an unknown `$operator` is refused before any document is looked for**
    (library commit 1244abc): when the operator names of the update document are refused
    (`validateUpdateOperators`: an unknown key after the first, or an unknown first key next to a
    `$`-key) — or, on a server before 5.0, an operator is empty — `update_one`, `update_many`,
    `replace_one` and every bulk request that goes through `_apply_update` raise that error and
    the collection is THE SAME: not even the expiry pass has run, the filter was not evaluated
    (a filter that would raise does not get to), no document was matched — also when none would
    match. -/
theorem unknown_operator_refused_before_lookup (cfg : Cfg) (now : Int) (c : Coll) (fs dfs : Fields)
    (f u : Val) (upsert multi : Bool) (e : Err) (hf : patchDT f = .doc fs)
    (hu : patchDT u = .doc dfs) (h : updatePrecheck cfg dfs = .error e) :
    applyUpdateColl cfg now c f u upsert multi = (c, .error e) := by
  unfold applyUpdateColl
  simp only [hf, hu, h]

/-- `find_one_and_update` / `find_one_and_replace` check the operator names of the update before
    the target is looked for: with no match, no upsert and whatever projection, the call raises
    instead of returning None. -/
theorem fam_unknown_operator_refused_before_lookup (cfg : Cfg) (now : Int) (c : Coll)
    (query proj : Val) (ufs : Fields) (upsert : Bool) (sort : Option SortSpec) (after : Bool)
    (e : Err) (hne : ufs ≠ []) (h : validateUpdateOperators ufs = .error e) :
    findAndModify cfg now c query proj (some (.doc ufs)) upsert sort after = (c, .error e) := by
  unfold findAndModify
  have ht : (Val.doc ufs).truthy = true := by
    cases ufs with
    | nil => exact absurd rfl hne
    | cons x xs => rfl
  simp only [ht, Bool.not_true, Bool.false_eq_true, if_false, h]

/-- non-vacuity: `{$set: {a: 1}, $typo: 1}` is refused; on a collection whose only document the
    filter would raise on (`{a: {$in: 3}}` on `a: 1`) — and on the empty one — `update_one` raises
    the ValueError of the operator check, the collection untouched; `find_one_and_update` with
    a filter matching nothing likewise -/
example :
    let u : Val := .doc [("$set", .doc [("a", .int 1)]), ("$typo", .int 1)]
    let c : Coll := { docs := [(.int 1, .doc [("_id", .int 1), ("a", .int 1)])], forceCreated := true }
    (match validateUpdateOperators [("$set", .doc [("a", .int 1)]), ("$typo", .int 1)] with
     | .error .valueErr => true | _ => false) = true ∧
    (match (findColl 0 c (.doc [("a", .doc [("$in", .int 3)])])).2 with
     | .error _ => true | _ => false) = true ∧
    (match stepColl {} 0 c (.arr [.str "update_one", .doc [("a", .doc [("$in", .int 3)])], u, .bool false]) with
     | (c', .err .valueErr) => c'.docs == c.docs | _ => false) = true ∧
    (match stepColl {} 0 {} (.arr [.str "update_many", .doc [], u, .bool true]) with
     | (c', .err .valueErr) => c'.docs.isEmpty | _ => false) = true ∧
    (match stepX {} 0 c (.arr [.str "find_one_and_update", .doc [("_id", .int 9)], u, .null, .null,
        .bool false, .bool false]) with
     | (c', .err .valueErr) => c'.docs == c.docs | _ => false) = true := by
  decide +kernel

/-- **Unordered insert_many applies every insert that succeeds on its own**: its final state is
    the state after issuing all inserts one at a time (a failed one changing nothing), provided
    every failure is a write error (anything else aborts the batch). -/
theorem unordered_all_successes (cfg : Cfg) (now : Int) (c : Coll) (ds : List Val)
    (hne : ds ≠ []) (hd : ds.all Val.isDoc = true)
    (hw : ∀ e, (stepColl cfg now c (.arr [.str "insert_many", .arr ds, .bool false])).2 ≠ .err e) :
    (stepColl cfg now c (.arr [.str "insert_many", .arr ds, .bool false])).1
      = seqInsert cfg now ds c :=
  Proofs.C08.unordered_all_successes cfg now c ds hne hd hw

/-- **Ordered insert_many applies exactly the operations before the first failure** (plus the
    traceless failed one): its final state is the one-at-a-time state of a prefix `ds.take k`, all
    inserts before position `k - 1` succeeded, and when `k ≤ ds.length` is not the whole list the
    insert at position `k - 1` failed. -/
theorem ordered_prefix (cfg : Cfg) (now : Int) (c : Coll) (ds : List Val)
    (hne : ds ≠ []) (hd : ds.all Val.isDoc = true) :
    ∃ k, k ≤ ds.length ∧
      (stepColl cfg now c (.arr [.str "insert_many", .arr ds, .bool true])).1
        = seqInsert cfg now (ds.take k) c ∧
      ((stepColl cfg now c (.arr [.str "insert_many", .arr ds, .bool true])).2.isErr = false →
        k = ds.length) :=
  Proofs.C08.ordered_prefix cfg now c ds hne hd

/-- The error of an ordered insert_many reports the failing position and the number of inserts
    that succeeded, which are the same number. -/
theorem ordered_error_details (cfg : Cfg) (now : Int) (c : Coll) (ds : List Val) (details : Val)
    (h : (stepColl cfg now c (.arr [.str "insert_many", .arr ds, .bool true])).2 = .bulkErr details) :
    ∃ k code, details = .doc [("writeErrors", .arr [.doc [("index", .int k), ("code", code)]]),
                              ("nInserted", .int k)] :=
  Proofs.C08.ordered_error_details cfg now c ds details h

/-! "As it was" is `Spec.Untouched now c c'`: `c'` is `c` itself or `c` after the lazy expiry pass
at the same clock, up to the counter of generated ObjectIds.

The exact-state theorems below are stated for collections in which existence is recorded
(`Coll.Recorded`: one that holds a document or an index has its created flag set) - every
collection a history reaches (`reachable_recorded`).  The reason: an insert that the uniqueness
check rejects has already gone through `self._store[object_id] = data`, which sets
`_is_force_created`, and the rollback discards the document but leaves the flag; a unique index is
needed for that, so on a recorded collection the flag was set already and nothing at all changes.
On a hand-made state with an index but no flag the write does leave that trace
(`failed_write_sets_flag_on_unrecorded`).  What a client can observe at that clock, and the index
tables, are unchanged whatever the state (`failed_single_write_noop`, `fam_failed_history_noop`). -/

/-- **Existence is recorded in every reachable state**: after every history of `runX` (all modelled
    operations, from the empty collection) a collection that holds a document or an index has its
    created flag set. -/
theorem reachable_recorded (cfg : Cfg) (ops : List Val) : (runX cfg ops).2.c.Recorded := by
  rw [Proofs.ExtGen.runX_snd]
  exact Proofs.ExtGen.history_pres Proofs.Recorded.carried (fun _ => True) (fun _ h _ => h) ops {}
    (fun h => by rcases h with h | h <;> exact absurd rfl h) (fun _ _ => trivial)

theorem recorded_preserved (cfg : Cfg) (now : Int) (c : Coll) (op : Val) (hr : c.Recorded) :
    (stepX cfg now c op).1.Recorded :=
  Proofs.Recorded.recorded_stepX cfg now c op hr

example : (runX {} [.arr [.str "insert_one", .doc [("_id", .int 1)]],
    .arr [.str "delete_many", .doc []]]).2.c.forceCreated = true := by decide +kernel

/-- a hand-made collection with a unique index and a document but no created flag (no history
    reaches it) -/
def unrecordedColl : Coll :=
  { docs := [(.int 1, .doc [("_id", .int 1), ("a", .int 1)])],
    indexes := [{ name := "a_1", keys := [("a", .int 1)], unique := true }] }

/-- on `unrecordedColl`, an insert rejected by the unique index leaves a trace: the created flag
    is set -/
theorem failed_write_sets_flag_on_unrecorded :
    ¬ unrecordedColl.Recorded ∧
    (stepColl {} 0 unrecordedColl
      (.arr [.str "insert_one", .doc [("_id", .int 2), ("a", .int 1)]])).2.isErr = true ∧
    (stepColl {} 0 unrecordedColl
      (.arr [.str "insert_one", .doc [("_id", .int 2), ("a", .int 1)]])).1.forceCreated = true ∧
    unrecordedColl.forceCreated = false := by
  -- both facts from one evaluation of the step
  have k : ((stepColl {} 0 unrecordedColl
        (.arr [.str "insert_one", .doc [("_id", .int 2), ("a", .int 1)]])).2.isErr &&
      (stepColl {} 0 unrecordedColl
        (.arr [.str "insert_one", .doc [("_id", .int 2), ("a", .int 1)]])).1.forceCreated) = true := by
    decide +kernel
  obtain ⟨k1, k2⟩ := Bool.and_eq_true_iff.1 k
  refine ⟨fun h => ?_, k1, k2, rfl⟩
  cases h (Or.inl (by decide))

/-- What `Untouched` guarantees: nothing a client can observe at that clock has changed, the index
    tables are the same, and the stored documents are those of `c` or of `c` after the expiry
    pass, in the same order. -/
theorem untouched_observable (now : Int) (c c' : Coll) (h : Untouched now c c') :
    visible ⟨now, c'⟩ = visible ⟨now, c⟩ ∧ c'.indexes = c.indexes ∧
    c'.ttlIndexes = c.ttlIndexes ∧ c'.forceCreated = c.forceCreated ∧
    (c'.docs = c.docs ∨ ∃ c1, expire now c = .ok c1 ∧ c'.docs = c1.docs) :=
  Proofs.C08Ext.untouched_observable now c c' h

/-- **Every all-or-nothing write that raises leaves the collection exactly as it was**
    (insert_one, update_one, replace_one, delete_one, delete_many): the exact-state form of
    `failed_single_write_noop`, `delete_many` included. -/
theorem failed_atomic_write_untouched (cfg : Cfg) (now : Int) (c : Coll) (op : Val)
    (hr : c.Recorded) (ha : atomicWrite op = true)
    (he : (stepColl cfg now c op).2.isErr = true) :
    Untouched now c (stepColl cfg now c op).1 :=
  Proofs.C08Ext.failed_atomic_write_untouched cfg now c op hr ha he

/-- non-vacuity: a `delete_many` whose filter raises on a collection of two documents -/
example : Proofs.C08Ext.manyWitnessColl.Recorded ∧
    atomicWrite (.arr [.str "delete_many", .doc [("a", .doc [("$in", .int 1)])]]) = true ∧
    (stepColl {} 0 Proofs.C08Ext.manyWitnessColl
      (.arr [.str "delete_many", .doc [("a", .doc [("$in", .int 1)])]])).2.isErr = true :=
  ⟨Proofs.C08Ext.witness_colls_recorded.2.1, by decide +kernel, by decide +kernel⟩

/-- non-vacuity with the created flag at stake: in a reachable state (a document, then a unique
    index) an insert that the unique index rejects - after it was stored - raises -/
example : (runX {} [.arr [.str "insert_one", .doc [("_id", .int 1), ("a", .int 1)]],
      .arr [.str "create_index", .arr [.arr [.str "a", .int 1]], .doc [("unique", .bool true)]]]).2.c.Recorded ∧
    (match (runX {} [.arr [.str "insert_one", .doc [("_id", .int 1), ("a", .int 1)]],
      .arr [.str "create_index", .arr [.arr [.str "a", .int 1]], .doc [("unique", .bool true)]]]).2 with
     | s => insertStored s.now s.c (.doc [("_id", .int 2), ("a", .int 1)]) &&
         (stepColl {} s.now s.c (.arr [.str "insert_one", .doc [("_id", .int 2), ("a", .int 1)]])).2.isErr)
      = true :=
  ⟨reachable_recorded {} _, by decide +kernel⟩

/-- A find_one_and_* that raises leaves the collection exactly as it was.  Full statement (for
    every such call, on every recorded collection): FALSE of the model and of the code — with
    `return_document=AFTER` the final read-back `find_one(query, projection)` runs after the
    write, so a projection whose refusal DEPENDS ON THE DOCUMENT raises there with the update or
    the upsert done (known finding `fam-after-projection-on-result`). -/
def fam_failed_noop_full : Prop :=
  ∀ (cfg : Cfg) (now : Int) (c : Coll) (op : Val), c.Recorded → famOp op = true →
    (stepX cfg now c op).2.isErr = true → Untouched now c (stepX cfg now c op).1

theorem fam_failed_noop_full_fails : ¬ fam_failed_noop_full :=
  Proofs.C08Ext.fam_failed_noop_full_fails

/-- the witness: on `{_id: 1, a: [1, 2]}`, `find_one_and_update({_id: 1}, {$set: {a: 5}},
    projection={a: {$slice: 1}}, return_document=AFTER)` — the projection is acceptable in itself
    and on the document as it was; the update turns `a` into a number and the read-back raises
    OperationFailure (`$slice` of a non-array), leaving `a: 5` -/
example : Proofs.C08Ext.famWitnessColl.Recorded ∧ famOp Proofs.C08Ext.famWitnessOp = true ∧
    (stepX {} 0 Proofs.C08Ext.famWitnessColl Proofs.C08Ext.famWitnessOp).2.isErr = true ∧
    Proofs.C08Ext.firstAIs (stepX {} 0 Proofs.C08Ext.famWitnessColl Proofs.C08Ext.famWitnessOp).1.docs 5
      = true ∧
    Proofs.C08Ext.firstAIs Proofs.C08Ext.famWitnessColl.docs 5 = false ∧
    projAcceptable (famProj Proofs.C08Ext.famWitnessOp) = true :=
  ⟨Proofs.C08Ext.witness_colls_recorded.1, Proofs.C08Ext.fam_witness⟩

/-- **What holds for every find_one_and_* that raises**: the collection is exactly as it was —
    unless `return_document=AFTER` was requested, the projection is acceptable in itself
    (`Spec.projAcceptable`: applied to the empty document it does not raise), the same call with
    BEFORE succeeds, and the collection is exactly as that successful call leaves it (the write
    was done in full; only the read-back raised, on the document the write produced).  Never a
    partial write.
    (Until library commit 7781c66 the middle clause was missing: ANY refused projection could
    be met after the write, on the upsert path — the repaired finding
    `fam-after-projection-error`.) -/
theorem fam_failed_partial (cfg : Cfg) (now : Int) (c : Coll) (op : Val) (hr : c.Recorded)
    (hop : famOp op = true) (he : (stepX cfg now c op).2.isErr = true) :
    Untouched now c (stepX cfg now c op).1 ∨
    (famAfter op = true ∧ projAcceptable (famProj op) = true ∧
      (stepX cfg now c (famBefore op)).2.isErr = false ∧
      Untouched now (stepX cfg now c (famBefore op)).1 (stepX cfg now c op).1) :=
  Proofs.C08Ext.fam_failed_partial cfg now c op hr hop he

/-- **A projection that is refused whatever the document is refused before the write**: a
    find_one_and_update / _replace / _delete whose projection is not acceptable in itself (a bad
    field list, an unsupported projection operator, inclusion mixed with exclusion, colliding
    paths) and which raises — for that or any other reason — leaves the collection exactly as it
    was, with `return_document=AFTER` and on the upsert path as well. -/
theorem fam_refused_projection_noop (cfg : Cfg) (now : Int) (c : Coll) (op : Val) (hr : c.Recorded)
    (hop : famOp op = true) (hp : projAcceptable (famProj op) = false)
    (he : (stepX cfg now c op).2.isErr = true) :
    Untouched now c (stepX cfg now c op).1 := by
  rcases Proofs.C08Ext.fam_failed_partial cfg now c op hr hop he with h | ⟨_, h, _⟩
  · exact h
  · rw [hp] at h; cases h

/-- non-vacuity, and the regression example of the repaired finding `fam-after-projection-error`
    (its former witness): `find_one_and_update({_id: 7}, {$set: {a: 5}}, projection={a: 1, b: 0},
    upsert=True, return_document=AFTER)` raises and nothing is upserted -/
example : Proofs.C08Ext.famRepairedColl.Recorded ∧ famOp Proofs.C08Ext.famRepairedOp = true ∧
    projAcceptable (famProj Proofs.C08Ext.famRepairedOp) = false ∧
    (stepX {} 0 Proofs.C08Ext.famRepairedColl Proofs.C08Ext.famRepairedOp).2.isErr = true ∧
    (stepX {} 0 Proofs.C08Ext.famRepairedColl Proofs.C08Ext.famRepairedOp).1.docs ==
      Proofs.C08Ext.famRepairedColl.docs :=
  ⟨Proofs.C08Ext.famRepairedColl_recorded, Proofs.C08Ext.fam_repaired⟩

/-- **find_one_and_delete, and find_one_and_update / _replace with return_document=BEFORE, that
    raise leave the collection exactly as it was** — whatever raised: the filter, the sort, the
    projection, the update operators, an `_id` change, a duplicate key, an upsert that fails. -/
theorem fam_failed_noop (cfg : Cfg) (now : Int) (c : Coll) (op : Val) (hr : c.Recorded)
    (hop : famOp op = true) (ha : famAfter op = false)
    (he : (stepX cfg now c op).2.isErr = true) :
    Untouched now c (stepX cfg now c op).1 :=
  Proofs.C08Ext.fam_failed_noop cfg now c op hr hop ha he

/-- A find_one_and_delete, or a find_one_and_update / _replace with return_document=BEFORE, that
    raises in a history (`stepXS`, the form of `failed_single_write_noop`): nothing observable
    changes and the index tables are untouched - whatever the state. -/
theorem fam_failed_history_noop (cfg : Cfg) (s : St) (op : Val) (hop : famOp op = true)
    (ha : famAfter op = false) (he : (stepXS cfg s op).2.isErr = true) :
    visible (stepXS cfg s op).1 = visible s ∧
    (stepXS cfg s op).1.c.indexes = s.c.indexes ∧
    (stepXS cfg s op).1.c.ttlIndexes = s.c.ttlIndexes :=
  Proofs.C08Ext.fam_failed_history_noop cfg s op hop ha he

/-- two documents and a unique index: a reachable, hence recorded, state -/
example : (runX {} [
      .arr [.str "insert_one", .doc [("_id", .int 1), ("a", .int 1)]],
      .arr [.str "insert_one", .doc [("_id", .int 2), ("a", .int 2)]],
      .arr [.str "create_index", .arr [.arr [.str "a", .int 1]], .doc [("unique", .bool true)]]]).2.c.Recorded :=
  reachable_recorded {} _

/-- non-vacuity: on two documents and a unique index, a sorted find_one_and_update whose `$set`
    collides with the other document (DuplicateKeyError after the target was rewritten in place)
    raises, as a collection step and in the history -/
example : (match (run {} [
      .arr [.str "insert_one", .doc [("_id", .int 1), ("a", .int 1)]],
      .arr [.str "insert_one", .doc [("_id", .int 2), ("a", .int 2)]],
      .arr [.str "create_index", .arr [.arr [.str "a", .int 1]], .doc [("unique", .bool true)]]]).2 with
    | s =>
      let op : Val := .arr [.str "find_one_and_update", .doc [], .doc [("$set", .doc [("a", .int 1)])],
                            .null, .arr [.arr [.str "a", .int (-1)]], .bool false, .bool false]
      famOp op && !famAfter op && (stepX {} s.now s.c op).2.isErr &&
        (stepXS {} s op).2.isErr) = true := by decide +kernel

/-- **update_many is the single-document update iterated over the snapshot, stopped by the first
    document whose update raises — and that failing update changes nothing.**  No hypothesis. -/
theorem update_many_iterates_single (now : Int) (spec document nowV : Val) (c : Coll) (m u : Nat) :
    updateLoop now spec document nowV true [] c m u = (c, .ok (m, u)) ∧
    ∀ (p : Val × Val) (rest : List (Val × Val)),
      updateLoop now spec document nowV true (p :: rest) c m u =
        match updateLoop now spec document nowV false [p] c m u with
        | (_, .error e) => (c, .error e)
        | (c1, .ok (m1, u1)) => updateLoop now spec document nowV true rest c1 m1 u1 :=
  Proofs.C08Ext.update_many_iterates_single now spec document nowV c m u

/-- **When the loop of update_many raises**, the collection is: the documents before the failing
    one, each carrying the update if the filter selects it (`Spec.Updated`), then the failing
    document and all later ones exactly as they were; the failing document is the one whose
    single-document update raises that error.  (No TTL index: an updated document cannot expire
    in the middle of the loop; store keys as in C05/C10/C14.) -/
theorem update_many_stops_at_failing_document (now : Int) (spec document nowV : Val) (c c' : Coll)
    (m u : Nat) (e : Err) (hn : c.ttlIndexes = []) (hk : KeysDistinct c) (hg : GoodKeys c)
    (h : updateLoop now spec document nowV true c.docs c m u = (c', .error e)) :
    ∃ pre pre' q post, c.docs = pre ++ q :: post ∧ c'.docs = pre' ++ q :: post ∧
      List.Forall₂ (Updated spec document nowV) pre pre' ∧
      (∀ m2 u2, updateLoop now spec document nowV false [q] c' m2 u2 = (c', .error e)) ∧
      c'.indexes = c.indexes ∧ c'.ttlIndexes = c.ttlIndexes :=
  Proofs.C08Ext.update_many_stops_at_failing_document now spec document nowV c c' m u e hn hk hg h

/-- When the loop of update_many does not raise, every document carries the update if the filter
    selects it (same hypotheses as `update_many_stops_at_failing_document`). -/
theorem update_many_updates_all_selected (now : Int) (spec document nowV : Val) (c c' : Coll)
    (m u m' u' : Nat) (hn : c.ttlIndexes = []) (hk : KeysDistinct c) (hg : GoodKeys c)
    (h : updateLoop now spec document nowV true c.docs c m u = (c', .ok (m', u'))) :
    List.Forall₂ (Updated spec document nowV) c.docs c'.docs :=
  Proofs.C08Ext.update_many_updates_all_selected now spec document nowV c c' m u m' u' hn hk hg h

/-- **An `update_many` that raises keeps the documents it had already updated and nothing else
    changes**: a prefix of the collection carries the update, the rest (the failing document
    first) is exactly as before, the index tables are untouched — whatever raised (validation,
    the filter, an operator on one document, an `_id` change, a duplicate key, the upsert). -/
theorem update_many_document_granularity (cfg : Cfg) (now : Int) (c : Coll) (f u up : Val)
    (hn : c.ttlIndexes = []) (hk : KeysDistinct c) (hg : GoodKeys c)
    (he : (stepColl cfg now c (.arr [.str "update_many", f, u, up])).2.isErr = true) :
    ∃ pre pre' post, c.docs = pre ++ post ∧
      (stepColl cfg now c (.arr [.str "update_many", f, u, up])).1.docs = pre' ++ post ∧
      List.Forall₂ (Updated (patchDT f) (patchDT u) (patchDT (.date now none))) pre pre' ∧
      (stepColl cfg now c (.arr [.str "update_many", f, u, up])).1.indexes = c.indexes ∧
      (stepColl cfg now c (.arr [.str "update_many", f, u, up])).1.ttlIndexes = c.ttlIndexes :=
  Proofs.C08Ext.update_many_document_granularity cfg now c f u up hn hk hg he

/-- the hypotheses of `update_many_document_granularity` hold on `granColl`
    (`a = 1, 2, "x", 4`) -/
example : Proofs.C08Ext.granColl.ttlIndexes = [] ∧ KeysDistinct Proofs.C08Ext.granColl ∧
    GoodKeys Proofs.C08Ext.granColl := Proofs.C08Ext.granColl_hyps

/-- non-vacuity: `{$inc: {a: 1}}` over `granColl` (`a = 1, 2, "x", 4`) raises on the third
    document; the first two are incremented, the last two untouched -/
example : (match stepColl {} 0 Proofs.C08Ext.granColl
      (.arr [.str "update_many", .doc [], .doc [("$inc", .doc [("a", .int 1)])], .bool false]) with
    | (c', .err _) => c'.docs.map (·.2) == [
        .doc [("_id", .int 1), ("a", .int 2)], .doc [("_id", .int 2), ("a", .int 3)],
        .doc [("_id", .int 3), ("a", .str "x")], .doc [("_id", .int 4), ("a", .int 4)]]
    | _ => false) = true := by decide +kernel

theorem stepX_bulk_write (cfg : Cfg) (now : Int) (c : Coll) (reqs : List Val) (ordered : Val) :
    stepX cfg now c (.arr [.str "bulk_write", .arr reqs, ordered]) =
      bulkWrite cfg now c reqs (boolOf ordered) :=
  Proofs.Shape.stepX_bulk_write cfg now c reqs ordered

/-- **A request that fails inside a bulk leaves the collection, at that position, exactly as the
    previous request left it** — for the five all-or-nothing kinds (InsertOne, UpdateOne,
    ReplaceOne, DeleteOne, DeleteMany, and any malformed request), whether the failure is a write
    error the bulk collects or an exception that aborts it. -/
theorem bulk_failed_request_noop (cfg : Cfg) (now : Int) (c c' : Coll) (idx : Nat) (req : Val)
    (o : BulkOut) (hr : c.Recorded) (ha : atomicRequest req = true)
    (h : bulkOne cfg now c idx req = (c', o)) (ho : requestFailed o = true) :
    Untouched now c c' :=
  Proofs.C08Ext.bulk_failed_request_noop cfg now c c' idx req o hr ha h ho

/-- `bulk_failed_request_noop` for every kind of request: FALSE — an `UpdateMany` request fails
    at document granularity, like `update_many`. -/
def bulk_failed_request_noop_full : Prop :=
  ∀ (cfg : Cfg) (now : Int) (c c' : Coll) (idx : Nat) (req : Val) (o : BulkOut),
    c.Recorded → bulkOne cfg now c idx req = (c', o) → requestFailed o = true → Untouched now c c'

theorem bulk_failed_request_noop_full_fails : ¬ bulk_failed_request_noop_full :=
  Proofs.C08Ext.bulk_failed_request_noop_full_fails

/-- A failing `UpdateMany` request keeps the documents it had already updated, and only those
    (same statement as `update_many_document_granularity`). -/
theorem bulk_failed_update_many (cfg : Cfg) (now : Int) (c c' : Coll) (idx : Nat) (f u up : Val)
    (o : BulkOut) (hn : c.ttlIndexes = []) (hk : KeysDistinct c) (hg : GoodKeys c)
    (h : bulkOne cfg now c idx (.arr [.str "UpdateMany", f, u, up]) = (c', o))
    (ho : requestFailed o = true) :
    ∃ pre pre' post, c.docs = pre ++ post ∧ c'.docs = pre' ++ post ∧
      List.Forall₂ (Updated (patchDT f) (patchDT u) (patchDT (.date now none))) pre pre' ∧
      c'.indexes = c.indexes ∧ c'.ttlIndexes = c.ttlIndexes :=
  Proofs.C08Ext.bulk_failed_update_many cfg now c c' idx f u up o hn hk hg h ho

/-- non-vacuity (both theorems and the witness of `_full_fails`): a failing `UpdateMany` that
    has incremented the first document, a failing `InsertOne` -/
example : Proofs.C08Ext.manyWitnessColl.Recorded ∧
    requestFailed (bulkOne {} 0 Proofs.C08Ext.manyWitnessColl 0 Proofs.C08Ext.manyWitnessReq).2
      = true ∧
    atomicRequest (.arr [.str "InsertOne", .doc [("_id", .int 1)]]) = true ∧
    requestFailed (bulkOne {} 0 Proofs.C08Ext.manyWitnessColl 0
      (.arr [.str "InsertOne", .doc [("_id", .int 1)]])).2 = true :=
  ⟨Proofs.C08Ext.witness_colls_recorded.2.1, Proofs.C08Ext.many_witness.1, by decide +kernel,
    by decide +kernel⟩

/-- `seqAllOk` and `seqFailures` agree: all operations succeed one at a time iff none fails. -/
theorem seqAllOk_iff_no_failures (cfg : Cfg) (now : Int) (ops : List Val) (c : Coll) (i : Nat) :
    seqAllOk cfg now ops c = true ↔ seqFailures cfg now ops c i = [] :=
  Proofs.C08Ext.seqAllOk_iff_no_failures cfg now ops c i

/-- **Ordered bulk_write applies exactly the operations before the first failure**: it succeeds
    iff every request succeeds when issued one at a time, and then it is that run; otherwise the
    requests split as `pre ++ r :: post` where all of `pre` succeed one at a time, `r` raises on
    the collection they leave, the final collection is what that failing `r` leaves (exactly the
    collection after `pre` when `r` is all-or-nothing), nothing of `post` is applied, and the
    BulkWriteError reports the single position `pre.length`. -/
theorem bulk_ordered_stops_at_first_failure (cfg : Cfg) (now : Int) (c : Coll) (reqs : List Val)
    (hr : c.Recorded)
    (hp : reqs.all plainRequest = true) (hv : bulkPrecheck reqs = .ok ()) (hne : reqs ≠ []) :
    ((bulkWrite cfg now c reqs true).2.isErr = false →
      seqAllOk cfg now (reqs.map asSingle) c = true ∧
      (bulkWrite cfg now c reqs true).1 = seqOps cfg now (reqs.map asSingle) c) ∧
    ((bulkWrite cfg now c reqs true).2.isErr = true →
      ∃ pre r post, reqs = pre ++ r :: post ∧
        seqAllOk cfg now (pre.map asSingle) c = true ∧
        (stepColl cfg now (seqOps cfg now (pre.map asSingle) c) (asSingle r)).2.isErr = true ∧
        (bulkWrite cfg now c reqs true).1 =
          (stepColl cfg now (seqOps cfg now (pre.map asSingle) c) (asSingle r)).1 ∧
        (atomicRequest r = true →
          Untouched now (seqOps cfg now (pre.map asSingle) c) (bulkWrite cfg now c reqs true).1) ∧
        (∀ details, (bulkWrite cfg now c reqs true).2 = .bulkErr details →
          errorPositions details = [.int pre.length])) :=
  Proofs.C08Ext.bulk_ordered_stops_at_first_failure cfg now c reqs hr hp hv hne

/-- **Unordered bulk_write applies every operation that succeeds on its own** (when no request
    aborts the batch): the final collection is the one-at-a-time run of all the requests, each
    failing all-or-nothing request leaving no trace (`failed_atomic_write_untouched`), the bulk
    succeeds iff all of them do, and the BulkWriteError lists exactly the positions of the
    requests that raise in that run. -/
theorem bulk_unordered_applies_every_success (cfg : Cfg) (now : Int) (c : Coll) (reqs : List Val)
    (hp : reqs.all plainRequest = true) (hv : bulkPrecheck reqs = .ok ()) (hne : reqs ≠ [])
    (hw : ∀ e, (bulkWrite cfg now c reqs false).2 ≠ .err e) :
    (bulkWrite cfg now c reqs false).1 = seqOps cfg now (reqs.map asSingle) c ∧
    ((bulkWrite cfg now c reqs false).2.isErr = false ↔
      seqAllOk cfg now (reqs.map asSingle) c = true) ∧
    (∀ details, (bulkWrite cfg now c reqs false).2 = .bulkErr details →
      errorPositions details =
        (seqFailures cfg now (reqs.map asSingle) c 0).map (fun i : Nat => Val.int i)) :=
  Proofs.C08Ext.bulk_unordered_applies_every_success cfg now c reqs hp hv hne hw

/-- `granColl` meets the hypothesis `hr` of `bulk_ordered_stops_at_first_failure` -/
example : Proofs.C08Ext.granColl.Recorded := Proofs.C08Ext.witness_colls_recorded.2.2

/-- non-vacuity: six requests of five kinds on the four documents of `granColl`; requests 1
    (duplicate `_id`) and 3 (`$set` of `_id`) raise write errors; ordered stops at 1, unordered
    reports `[1, 3]` -/
example :
    let reqs : List Val := [
      .arr [.str "InsertOne", .doc [("_id", .int 9)]],
      .arr [.str "InsertOne", .doc [("_id", .int 1)]],
      .arr [.str "UpdateMany", .doc [("a", .doc [("$gt", .int 1)])], .doc [("$set", .doc [("b", .int 1)])], .bool false],
      .arr [.str "UpdateOne", .doc [("_id", .int 3)], .doc [("$set", .doc [("_id", .int 5)])], .bool false],
      .arr [.str "ReplaceOne", .doc [("_id", .int 4)], .doc [("a", .int 0)], .bool false],
      .arr [.str "DeleteMany", .doc [("a", .int 1)]]]
    (reqs.all plainRequest && (match bulkPrecheck reqs with | .ok _ => true | _ => false) &&
     (match (bulkWrite {} 0 Proofs.C08Ext.granColl reqs true).2 with
      | .bulkErr d => errorPositions d == [.int 1]
      | _ => false) &&
     (match (bulkWrite {} 0 Proofs.C08Ext.granColl reqs false).2 with
      | .bulkErr d => errorPositions d == [.int 1, .int 3]
      | _ => false) &&
     seqFailures {} 0 (reqs.map asSingle) Proofs.C08Ext.granColl 0 == [1, 3]) = true := by
  decide +kernel

end MongoModel.Props.C08
