/-
  Props.C15 — bulk_write is equivalent to issuing its operations one at a time.
  Statements; the longer proofs are in Proofs/C15*.lean.  Model: `MongoModel.bulkWrite`
  (FindModify.lean) against `Spec.seqOps` = the fold of the single-operation step `stepColl`
  (Ops.lean).
-/
import Proofs.C15Loop
import Proofs.C15Once

namespace MongoModel.Props.C15
open MongoModel MongoModel.Spec

/-- A bulk can never be executed empty. -/
theorem never_empty (cfg : Cfg) (now : Int) (c : Coll) (ordered : Bool) :
    bulkWrite cfg now c [] ordered = (c, .err .invalidOp) :=
  Proofs.C15.never_empty cfg now c ordered

/-- **Unordered**: when no request aborts the batch (every failure is a write error), the final
    state is the state after issuing all the requests one at a time (a request that fails
    leaves what the single operation that fails leaves). -/
theorem unordered_eq_seq (cfg : Cfg) (now : Int) (c : Coll) (reqs : List Val)
    (hp : reqs.all plainRequest = true) (hv : bulkPrecheck reqs = .ok ())
    (hne : reqs ≠ [])
    (hw : ∀ e, (bulkWrite cfg now c reqs false).2 ≠ .err e) :
    (bulkWrite cfg now c reqs false).1 = seqOps cfg now (reqs.map asSingle) c :=
  Proofs.C15.unordered_eq_seq cfg now c reqs hp hv hne hw

/-- **Ordered**: the final state is the one-at-a-time state of a prefix of the requests — all
    of them when the bulk succeeds. -/
theorem ordered_eq_seq_prefix (cfg : Cfg) (now : Int) (c : Coll) (reqs : List Val)
    (hp : reqs.all plainRequest = true) (hv : bulkPrecheck reqs = .ok ()) (hne : reqs ≠ []) :
    ∃ k, k ≤ reqs.length ∧
      (bulkWrite cfg now c reqs true).1 = seqOps cfg now ((reqs.take k).map asSingle) c ∧
      ((bulkWrite cfg now c reqs true).2.isErr = false → k = reqs.length) :=
  Proofs.C15.ordered_eq_seq_prefix cfg now c reqs hp hv hne

/-- An ordered bulk that fails reports exactly one write error, at a position of the batch
    (`k < reqs.length`). -/
theorem ordered_error_details (cfg : Cfg) (now : Int) (c : Coll) (reqs : List Val) (details : Val)
    (h : (bulkWrite cfg now c reqs true).2 = .bulkErr details) :
    ∃ k code rest, k < reqs.length ∧
      dget "writeErrors" (match details with | .doc fs => fs | _ => []) =
        some (.arr [.doc [("index", .int k), ("code", code)]]) ∧ details = .doc rest :=
  Proofs.C15.ordered_error_details cfg now c reqs details h

/-- A successful request hands the loop on with its own contribution `f` applied to the running
    totals, and that contribution does not lower the sum of the inserted / matched / removed /
    upserted counters (`nModified` is not covered) and leaves the error list alone. -/
theorem counts_are_sums (cfg : Cfg) (now : Int) (ordered : Bool) (reqs : List Val) (idx : Nat)
    (c : Coll) (t : BulkTotals) (r : Val) (c' : Coll) (f : BulkTotals → BulkTotals)
    (h1 : bulkOne cfg now c idx r = (c', .ok f)) :
    bulkLoop cfg now ordered (r :: reqs) idx c t = bulkLoop cfg now ordered reqs (idx + 1) c' (f t) ∧
    (f t).nInserted + (f t).nMatched + (f t).nRemoved + (f t).nUpserted
      ≥ t.nInserted + t.nMatched + t.nRemoved + t.nUpserted ∧
    (f t).errors = t.errors :=
  Proofs.C15.counts_are_sums cfg now ordered reqs idx c t r c' f h1

/-- Every upserted `_id` is reported under the index of the operation that upserted it. -/
theorem upserted_ids_by_op_index (cfg : Cfg) (now : Int) (c c' : Coll) (idx : Nat) (r : Val)
    (f : BulkTotals → BulkTotals) (t : BulkTotals)
    (h : bulkOne cfg now c idx r = (c', .ok f)) :
    (f t).upserted = t.upserted ∨
    ∃ id, (f t).upserted = t.upserted ++ [.doc [("index", .int idx), ("_id", id)]] :=
  Proofs.C15.upserted_ids_by_op_index cfg now c c' idx r f t h

/-- non-vacuity: an unordered bulk of three kinds of request (two InsertOne, an UpdateOne, a
    DeleteMany) whose second request fails (duplicate `_id`): the bulk raises -/
example : (bulkWrite {} 0 {} [
      .arr [.str "InsertOne", .doc [("_id", .int 1), ("a", .int 1)]],
      .arr [.str "InsertOne", .doc [("_id", .int 1)]],
      .arr [.str "UpdateOne", .doc [("_id", .int 2)], .doc [("$set", .doc [("a", .int 5)])], .bool true],
      .arr [.str "DeleteMany", .doc [("a", .int 1)]]] false).2.isErr = true := by decide +kernel

/-- `bulk_write(requests, ordered)` is "register the requests in a fresh builder and execute it
    once": everything above about `bulkWrite` is about the builders' first `execute`. -/
theorem bulk_write_is_first_execute (cfg : Cfg) (now : Int) (c : Coll) (reqs : List Val)
    (ordered : Bool) (hp : bulkPrecheck reqs = .ok ()) :
    bulkWrite cfg now c reqs ordered =
      (((Builder.mk reqs ordered false).execute cfg now c).1,
       ((Builder.mk reqs ordered false).execute cfg now c).2.2) := by
  unfold bulkWrite Builder.execute
  rw [hp]
  cases reqs <;> rfl

/-- An empty builder is refused and nothing changes. -/
theorem builder_never_empty (cfg : Cfg) (now : Int) (c : Coll) (b : Builder) (h : b.reqs = []) :
    b.execute cfg now c = (c, b, .err .invalidOp) :=
  Proofs.C15Once.execute_empty cfg now c b h

/-- **Executed only once**: whatever the first `execute` did — succeeded, raised BulkWriteError
    half-way, or was aborted by another exception — every later `execute` (at any later time) is
    refused with InvalidOperation and leaves the collection exactly as the first one left it. -/
theorem executed_only_once (cfg : Cfg) (now now' : Int) (c : Coll) (b : Builder) :
    (b.execute cfg now c).2.1.execute cfg now' (b.execute cfg now c).1 =
      ((b.execute cfg now c).1, (b.execute cfg now c).2.1, .err .invalidOp) :=
  Proofs.C15Once.second_execute cfg now now' c b

/-- `n + 1` calls of `execute` in a row: the outcome of the first, then `n` refusals with
    InvalidOperation; the collection is as the first call left it. -/
theorem execute_n_times (cfg : Cfg) (now : Int) (n : Nat) (c : Coll) (b : Builder) :
    executeTimes cfg now (n + 1) c b =
      ((b.execute cfg now c).1,
       (b.execute cfg now c).2.2 :: List.replicate n (.err .invalidOp)) :=
  Proofs.C15Once.executeTimes_spec cfg now n c b

/-- non-vacuity: a builder whose first execute raises BulkWriteError (duplicate _id) is refused
    the second time, and the document inserted by the first run is there exactly once -/
example : (match executeTimes {} 0 2 {} { reqs := [
        .arr [.str "InsertOne", .doc [("_id", .int 1)]],
        .arr [.str "InsertOne", .doc [("_id", .int 1)]]], ordered := true } with
    | (c, [.bulkErr _, .err .invalidOp]) => c.docs.length == 1
    | _ => false) = true := by decide +kernel

end MongoModel.Props.C15
