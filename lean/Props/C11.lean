/-
  Props.C11 — property theorems for C11 (natural order, sort, skip and limit return the right
  documents in the right order).  The lemmas behind the statements are in Proofs/C11*.lean.

  Impl  = MongoModel/Sort.lean   (faithful model of resolve_sort_key / BsonComparable, sorted(),
                                  _get_dataset, Cursor, count_documents, $sort/$skip/$limit, the
                                  insertion-ordered store; tied to /repo by the per-run
                                  correspondence check)
  Spec  = Spec/Order.lean        (the rules of the property text)
  D     = Spec/OrderDomain.lean  (decidable; named exclusion classes)

  Vocabulary of the statements.  From Proofs/C11Sort.lean:
    StrictWeak lt      lt is asymmetric and "not smaller" is transitive (a total preorder)
    Sorted lt l        no later element of l is smaller than an earlier one
    tie lt a b         neither a < b nor b < a
    StableWrt lt ys xs every tie class appears in ys in the same order as in xs
    lexLt lt1 lt2      compare by lt1; on a tie, by lt2
  From MongoModel/Sort.lean:
    isort lt           the model of Python's `sorted`: stable insertion sort
  From Proofs/C11Model.lean:
    dirLt key desc     the oracle's order of two documents under one key: by their smallest
                       reached values (desc = false) or by their largest (desc = true)
    Missing key d      the path `key` reaches nothing in d
    effLim c           the limit the cursor effectively applies: `some 0` after an empty slice,
                       `none` for a limit of None / 0, otherwise `some |limit|`
    Rel c s            cursor c and settings s have the same sort, the same skip, and
                       `effLim c = s.limit`
    setsSkip / setsLimit / setsSort op
                       the call `op` sets that setting (a slice sets skip and limit)
    stagesVerdict      the code's answer for the oracle's verdict: the documents, or
                       OperationFailure
-/
import Proofs.C11Model

namespace MongoModel.Props.C11
open MongoModel MongoModel.Spec.Order MongoModel.Proofs.C11

def d0 : Val := .doc [("_id", .int 0), ("a", .int 1), ("b", .str "x")]
def d1 : Val := .doc [("_id", .int 1), ("a", .dbl 2 1), ("b", .null)]          -- a = 1.0: ties with d0
def d2 : Val := .doc [("_id", .int 2), ("b", .bool true)]                       -- a missing
def d3 : Val := .doc [("_id", .int 3), ("a", .str "s"), ("b", .date 5 none)]
def d4 : Val := .doc [("_id", .int 4), ("a", .null)]                            -- ties with d2
def sample : List Val := [d0, d1, d2, d3, d4]

/-- **Core.** Inside the domain the sort of `_get_dataset` (successive `sorted` calls from the
    last key to the first, `reverse=` for descending keys) does not raise and returns a
    permutation of the selected documents that is sorted w.r.t. the oracle's key-by-key BSON
    order and in which documents that tie on every key keep their natural order. -/
theorem sort_sorted_perm_stable (spec : SortSpec) (docs : List Val)
    (h : specReasons spec docs = []) :
    ∃ out, getDataset (some spec) docs = .ok out ∧ out.Perm docs ∧
      Sorted (docLt spec) out ∧ StableWrt (docLt spec) out docs :=
  ⟨_, getDataset_some spec docs h, isort_perm _ _, isort_sorted (strictWeak_docLt spec) _,
    isort_stable (strictWeak_docLt spec) _⟩

/-- the hypothesis is inhabited: two keys, one descending, mixed types, a tie, missing values -/
example : specReasons [("a", 1), ("b", -1)] sample = [] := by decide +kernel

/-- The order the results are sorted by is a total preorder on *all* documents (no domain
    hypothesis): this is what makes "the sorted sequence" well defined. -/
theorem key_order_total_preorder (spec : SortSpec) : StrictWeak (docLt spec) :=
  strictWeak_docLt spec

/-- **Extended.** Any stable sorted permutation w.r.t. a total preorder is the list the model's
    insertion sort computes — so modelling timsort by insertion sort loses nothing. -/
theorem stable_sort_unique {α : Type} (lt : α → α → Bool) (sw : StrictWeak lt) (xs ys : List α)
    (hp : ys.Perm xs) (hs : Sorted lt ys) (hst : StableWrt lt ys xs) : ys = isort lt xs :=
  Proofs.C11.stable_sort_unique sw xs ys hp hs hst

example : StrictWeak (fun a b : Nat => decide (a / 2 < b / 2)) :=
  ⟨fun a b h => by simp at h ⊢; omega, fun a b c h1 h2 => by simp at h1 h2 ⊢; omega⟩

/-- in particular: whatever sequence satisfies the property's wording for a domain case is the
    sequence the model returns -/
theorem sort_result_unique (spec : SortSpec) (docs ys : List Val)
    (h : specReasons spec docs = []) (hp : ys.Perm docs) (hs : Sorted (docLt spec) ys)
    (hst : StableWrt (docLt spec) ys docs) : getDataset (some spec) docs = .ok ys :=
  (getDataset_some spec docs h).trans
    (congrArg _ (Proofs.C11.stable_sort_unique (strictWeak_docLt spec) docs ys hp hs hst).symm)

/-- **Extended (`multi_key_lex`).** Successive stable sorts from the last key to the first are
    one stable sort by the lexicographic order: compare by the first key, on a tie by the rest. -/
theorem multi_key_lex (kd : String × Int) (rest : SortSpec) (docs : List Val)
    (h : specReasons (kd :: rest) docs = []) :
    getDataset (some (kd :: rest)) docs = .ok (isort (lexLt (docLt1 kd) (docLt rest)) docs) := by
  exact docLt_cons kd rest ▸ getDataset_some _ docs h

/-- the generic fact behind it, for any two total preorders -/
theorem isort_isort_lex {α : Type} (lt1 lt2 : α → α → Bool) (s1 : StrictWeak lt1)
    (s2 : StrictWeak lt2) (xs : List α) :
    isort lt1 (isort lt2 xs) = isort (lexLt lt1 lt2) xs :=
  Proofs.C11.isort_isort_lex s1 s2 xs

/-- **Impl = Spec on D** for every sort argument (`None`, `[]`, a lone `$natural`, key lists);
    D contains array-valued keys and keys reached through arrays of sub-documents. -/
theorem sorted_eq_spec (sort : Option SortSpec) (docs : List Val)
    (h : sortD sort docs = true) : getDataset sort docs = .ok (sortDocs sort docs) := by
  cases sort with
  | none => rfl
  | some spec =>
    simp only [sortD, sortReasons, List.isEmpty_iff] at h
    simp only [getDataset, sortDocs]
    cases hl : loneNatural spec with
    | some dir =>
      rw [loneNatural_some hl]
      simp [sortRounds, bindR, applySortKey]
    | none =>
      rw [hl] at h
      exact getDataset_some spec docs h

example : sortD (some [("a", -1), ("b", 1)]) sample = true := by decide +kernel

/-- what the oracle's sequence *is*, for every key list and all documents (no domain): a
    permutation of the documents, sorted by the key-by-key order, ties in natural order — and by
    `stable_sort_unique` the only such sequence. -/
theorem spec_sorted_perm_stable (spec : SortSpec) (docs : List Val)
    (h : loneNatural spec = none) :
    (sortDocs (some spec) docs).Perm docs ∧ Sorted (docLt spec) (sortDocs (some spec) docs) ∧
      StableWrt (docLt spec) (sortDocs (some spec) docs) docs := by
  simp only [sortDocs, h]
  exact ⟨isort_perm _ _, isort_sorted (strictWeak_docLt spec) _,
    isort_stable (strictWeak_docLt spec) _⟩

example : loneNatural [("a", 1), ("$natural", -1)] = none := by decide
example : sortD (some [("$natural", -1)]) sample = true := by decide +kernel

def wA : Val := .doc [("_id", .int 0), ("a", .arr [.int 1, .int 5])]
def wB : Val := .doc [("_id", .int 1), ("a", .arr [.int 3])]
def wC : Val := .doc [("_id", .int 2), ("a", .arr [])]
def wD : Val := .doc [("_id", .int 3), ("a", .arr [.doc [("x", .int 9)], .doc [("x", .int 0)]])]

def idInt : Val → Int
  | .doc (("_id", .int i) :: _) => i
  | _ => -1

/-- Array-valued keys are inside the domain (formerly the known finding `arraykey`: the code
    sorted by the first element and `{a: [3]}` came before `{a: [1, 5]}` in a descending sort)… -/
example : sortD (some [("a", -1)]) [wA, wB, wC] = true ∧ sortD (some [("a.x", 1)]) [wA, wD] = true :=
  ⟨by decide +kernel, by decide +kernel⟩

/-- …descending by the largest element, ascending by the smallest, an empty array first -/
example : (getDataset (some [("a", -1)]) [wA, wB, wC]).map (List.map idInt) = .ok [0, 1, 2] ∧
    (getDataset (some [("a", 1)]) [wB, wA, wC]).map (List.map idInt) = .ok [2, 0, 1] := by
  decide +kernel

/-- A sort by ordinary keys over in-domain documents never raises.  (Repaired defect `objectid`,
    commit 1dabde7: two ObjectIds had no ordering and the sort raised TypeError.  ObjectIds the
    case supplies are inside the domain and ordered by their value.) -/
theorem sort_never_raises (spec : SortSpec) (docs : List Val) (h : specReasons spec docs = []) :
    ∃ out, getDataset (some spec) docs = .ok out :=
  ⟨_, getDataset_some spec docs h⟩

def oA : Val := .doc [("_id", .int 0), ("a", .oid 1)]
def oB : Val := .doc [("_id", .int 1), ("a", .oid 0)]
def oC : Val := .doc [("_id", .int 2), ("a", .bool false)]
def oD : Val := .doc [("_id", .int 3), ("a", .str "s")]

/-- the former witness is inside the domain… -/
example : specReasons [("a", 1)] [oA, oB, oC, oD] = [] := by decide +kernel

/-- …and sorts by value, ObjectIds between strings and booleans -/
example : (getDataset (some [("a", 1)]) [oA, oB, oC, oD]).map (List.map idInt) = .ok [3, 1, 0, 2] := by
  decide +kernel

/-- **Extended (`desc_reverses_keeps_ties`).** One descending key: the output is the stable sort
    by the reversed order of the documents' largest reached values (`dirLt key true`) — sorted
    descending, and every tie class in natural order, not reversed. -/
theorem desc_reverses_keeps_ties (key : String) (docs : List Val)
    (h : ∀ d ∈ docs, keyReasons key d = []) :
    ∃ out, sortedByKey key true docs = .ok out ∧ out.Perm docs ∧
      Sorted (fun a b => dirLt key true b a) out ∧ StableWrt (dirLt key true) out docs := by
  refine ⟨_, sortedByKey_dir key true docs h, isort_perm _ _,
    isort_sorted (strictWeak_dirLt key true).flip _, ?_⟩
  have := isort_stable (strictWeak_dirLt key true).flip docs
  unfold StableWrt at this ⊢
  rw [tie_flip] at this
  exact this

example : ∀ d ∈ sample, keyReasons "a" d = [] := by decide +kernel

/-- …and one ascending key: the stable sort by the smallest reached values -/
theorem asc_sorts_by_smallest (key : String) (docs : List Val)
    (h : ∀ d ∈ docs, keyReasons key d = []) :
    ∃ out, sortedByKey key false docs = .ok out ∧ out.Perm docs ∧
      Sorted (dirLt key false) out ∧ StableWrt (dirLt key false) out docs :=
  ⟨_, sortedByKey_dir key false docs h, isort_perm _ _, isort_sorted (strictWeak_dirLt key false) _,
    isort_stable (strictWeak_dirLt key false) _⟩

example : ∀ d ∈ [wA, wB, wC, wD], keyReasons "a.x" d = [] ∧ keyReasons "a" wA = [] := by
  decide +kernel

/-- the generic fact: CPython's reverse-sort-reverse is the stable sort by the flipped order -/
theorem reverse_sort_reverse {α : Type} (lt : α → α → Bool) (sw : StrictWeak lt) (xs : List α) :
    (isort lt xs.reverse).reverse = isort (fun a b => lt b a) xs :=
  reverse_isort_reverse sw xs

/-- **Extended (`missing_sorts_as_null`).** A document in which the sort key reaches nothing and
    one in which it is an explicit null get the same key `(1, None)`, in either direction; they
    tie. -/
theorem missing_sorts_as_null (key : String) (rev : Bool) (a b : Val) (ha : Missing key a)
    (hb : candsKey key b = .ok [some .null]) :
    resolveSortKey key rev a = resolveSortKey key rev b ∧
    docKeyLt key rev a b = .ok false ∧ docKeyLt key rev b a = .ok false :=
  have ra := resolveSortKey_missing key rev a ha
  have rb := resolveSortKey_null key rev b hb
  ⟨by rw [ra, rb], by simp only [docKeyLt, ra, rb]; exact ⟨rfl, rfl⟩⟩

example : Missing "a" d2 ∧ candsKey "a" d4 = .ok [some .null] :=
  ⟨Or.inr rfl, rfl⟩

/-- **Extended (`cursor_final_settings`).** For every constructor call and every sequence of
    cursor-method calls and slices, the model's cursor and the oracle's "last value wins"
    settings both reject the sequence or both accept it and describe the same request (`Rel`:
    same sort, same skip, same effective limit — an empty slice is the limit `some 0`). -/
theorem cursor_final_settings (sort : Option SortSpec) (skip limit : Int) (ops : List CurOp) :
    (∃ e, (Cursor.new sort skip limit).run ops = .error e ∧
          (Settings.new sort skip limit).run ops = none) ∨
    (∃ c s, (Cursor.new sort skip limit).run ops = .ok c ∧
            (Settings.new sort skip limit).run ops = some s ∧ Rel c s) :=
  run_rel ops _ _ (rel_new sort skip limit)

/-- …and the result depends only on the last value given to each setting: after `op`, calls
    that do not set the skip (limit, sort) leave it as `op` left it. -/
theorem last_call_wins (c0 c' : Cursor) (ops1 ops2 : List CurOp) (op : CurOp)
    (h : c0.run (ops1 ++ op :: ops2) = .ok c') :
    ∃ c1 c2, c0.run ops1 = .ok c1 ∧ c1.step op = .ok c2 ∧
      ((∀ o ∈ ops2, setsSkip o = false) → c'.skip = c2.skip) ∧
      ((∀ o ∈ ops2, setsLimit o = false) → effLim c' = effLim c2) ∧
      ((∀ o ∈ ops2, setsSort o = false) → c'.sort = c2.sort) :=
  Proofs.C11.last_call_wins c0 c' ops1 ops2 op h

example : (Cursor.new none 0 0).run ([.limit 3, .slice (some 1) none] ++ .skip 2 ::
    [.sortKey "a" none, .limit (-4), .clone]) = .ok ⟨some [("a", 1)], 2, some (-4), false⟩ := by
  decide +kernel

/-- **Core (`slice_spec`).** However skip and limit were set — `find` arguments, `.skip()`,
    `.limit()` with a negative or zero argument, slices (empty ones included), `clone` — if the
    request ends with a non-negative skip, the cursor returns exactly
    `(sorted.drop skip).take limit` of the oracle's sorted sequence. -/
theorem slice_spec (sort : Option SortSpec) (skip limit : Int) (ops : List CurOp)
    (c : Cursor) (docs : List Val) (hc : (Cursor.new sort skip limit).run ops = .ok c) :
    ∃ s, (Settings.new sort skip limit).run ops = some s ∧
      (0 ≤ s.skip → sortD s.sort docs = true →
        c.results docs = .ok (window s.skip.toNat s.limit (sortDocs s.sort docs))) := by
  rcases run_rel ops _ _ (rel_new sort skip limit) with ⟨e, h1, _⟩ | ⟨c', s, h1, h2, h3⟩
  · rw [h1] at hc; cases hc
  · rw [h1] at hc
    cases hc
    refine ⟨s, h2, fun hs hd => ?_⟩
    have hsort : c.sort = s.sort := h3.1
    simp only [Cursor.results, hsort, sorted_eq_spec s.sort docs hd]
    rw [window_eq_spec c s _ h3 hs]

/-- the hypotheses are inhabited by a request set in several ways at once -/
example : ∃ s, (Settings.new (some [("a", 1)]) 7 0).run
      [.limit (-2), .slice (some 1) (some 4), .clone, .sortList [("b", -1), ("a", 1)]] = some s ∧
    0 ≤ s.skip ∧ sortD s.sort sample = true :=
  ⟨⟨some [("b", -1), ("a", 1)], 1, some 3⟩, by decide +kernel, by decide, by decide +kernel⟩

/-- …and by an empty slice, kept by `clone` and by a later `skip` -/
example : ∃ s, (Settings.new none 0 5).run [.slice (some 2) (some 2), .clone, .skip 1] = some s ∧
    0 ≤ s.skip ∧ s.limit = some 0 ∧ sortD s.sort sample = true :=
  ⟨⟨none, 1, some 0⟩, by decide +kernel, by decide, rfl, by decide +kernel⟩

/-- The slicing alone, on any list (formerly refuted by `cursor[2:2]`, which returned the tail):
    whatever the calls, the window the cursor cuts is the oracle's window. -/
theorem slice_window_spec {α : Type} (ops : List CurOp) (c : Cursor) (s : Settings)
    (xs : List α) (hc : (Cursor.new none 0 0).run ops = .ok c)
    (hs : (Settings.new none 0 0).run ops = some s) (h0 : 0 ≤ s.skip) :
    c.window xs = window s.skip.toNat s.limit xs := by
  rcases run_rel ops _ _ (rel_new none 0 0) with ⟨e, h1, _⟩ | ⟨c', s', h1, h2, h3⟩
  · rw [h1] at hc; cases hc
  · rw [h1] at hc; rw [h2] at hs
    cases hc; cases hs
    exact window_eq_spec c s xs h3 h0

/-- the former counterexample: `cursor[2:2]` selects nothing -/
example : ∃ c, (Cursor.new none 0 0).run [.slice (some 2) (some 2)] = .ok c ∧
    c.window [10, 11, 12, 13] = [] :=
  ⟨⟨none, 2, some 0, true⟩, by decide +kernel, by decide +kernel⟩

/-- the slicing of `_compute_results` alone: for a non-negative skip it is `drop` then
    `take |l|` (a limit of `None`/0 takes everything, an empty slice nothing) -/
theorem window_is_drop_take {α : Type} (c : Cursor) (xs : List α) (h : 0 ≤ c.skip) :
    c.window xs = window c.skip.toNat (effLim c) xs :=
  window_eq_effLim c xs h

/-- **Core (`count_eq_slice_length`).** `count_documents(filter, skip=s, limit=l)` is the length
    of the slice that `find(filter).skip(s).limit(l)` returns — and of the oracle's window. -/
theorem count_eq_slice_length (docs : List Val) (sort : Option SortSpec) (skip l : Int)
    (hs : 0 ≤ skip) (hl : 0 < l) :
    countDocuments docs.length skip (.num l)
      = .ok (((Cursor.new sort skip l).window docs).length : Nat) ∧
    countDocuments docs.length skip (.num l)
      = .ok ((window skip.toNat (some l.toNat) docs).length : Nat) := by
  have h2 := countDocuments_num docs skip l hs hl
  refine ⟨?_, h2⟩
  rw [h2, window_eq_effLim _ _ (show 0 ≤ (Cursor.new sort skip l).skip from hs)]
  have e : effLim (Cursor.new sort skip l) = some l.toNat := by
    obtain ⟨k, rfl⟩ := Int.eq_ofNat_of_zero_le (Int.le_of_lt hl)
    exact (implLim_norm _).trans (if_neg (Int.ne_of_gt hl))
  rw [e]; rfl

theorem count_eq_slice_length_nolimit (docs : List Val) (sort : Option SortSpec) (skip : Int)
    (hs : 0 ≤ skip) :
    countDocuments docs.length skip .absent
      = .ok (((Cursor.new sort skip 0).window docs).length : Nat) := by
  rw [countDocuments_absent docs skip hs,
    window_eq_effLim _ _ (show 0 ≤ (Cursor.new sort skip 0).skip from hs)]
  rfl

example : (0 : Int) ≤ 2 ∧ (0 : Int) < 7 := by decide

/-- **Core (`update_keeps_position`).** Rewriting a stored document (what `update_*`,
    `replace_one`, `find_one_and_*` do) changes neither the sequence of `_id`s nor its length:
    the document stays where it is.  No hypothesis. -/
theorem update_keeps_position (k d : Val) (s : Store) :
    (s.step (.rewrite k d)).1.ids = s.ids ∧ (s.step (.rewrite k d)).1.length = s.length :=
  ⟨rewrite_ids k d s, rewrite_length k d s⟩

/-- Over every history of writes, natural order is the insertion order of the surviving `_id`s:
    an insert of a new `_id` appends, a delete removes, rewrites do nothing. -/
theorem natural_order_history (s : Store) (ops : List StoreOp) :
    (s.runOps ops).ids = naturalIds s.ids ops :=
  runOps_ids ops s

/-- without a sort (`None` or `[]`) the cursor returns the selected documents in natural order -/
theorem no_sort_is_natural (docs : List Val) :
    getDataset none docs = .ok docs ∧ getDataset (some []) docs = .ok docs :=
  ⟨rfl, rfl⟩

/-- A pipeline of `$sort`, `$skip`, `$limit` stages with in-domain keys computes the same stable
    sorts and contiguous slices — and is rejected (OperationFailure) exactly when the rules reject
    it: a negative `$skip`, a `$limit` that is not positive (`runStages` answers `none`). -/
theorem pipeline_eq_spec (stages : List Stage) (docs : List Val)
    (h : pipelineReasons stages docs = []) :
    runPipeline stages docs = stagesVerdict (runStages stages docs) :=
  runPipeline_eq_spec stages docs docs
    (fun st hst => List.flatMap_eq_nil_iff.mp h st hst) (fun _ hd => hd)

example : pipelineReasons [.sort [("b", -1), ("a", 1)], .skip 1, .limit 3] sample = [] ∧
    (runStages [.sort [("b", -1), ("a", 1)], .skip 1, .limit 3] sample).isSome = true ∧
    pipelineReasons [.sort [("b", -1)], .limit 0] sample = [] ∧
    (runStages [.sort [("b", -1)], .limit 0] sample).isNone = true ∧
    (runStages [.skip (-1)] sample).isNone = true := by
  decide +kernel

/-- … the `$skip` / `$limit` stages by themselves, at full strength (no domain): the slice the
    rules define, or OperationFailure exactly where the rules reject the argument — a negative
    `$skip`, a `$limit` that is zero or negative. -/
theorem skip_limit_stage (docs : List Val) (n : Int) :
    Stage.apply docs (.skip n) = stagesVerdict (stageApply docs (.skip n)) ∧
    Stage.apply docs (.limit n) = stagesVerdict (stageApply docs (.limit n)) ∧
    (n < 0 → Stage.apply docs (.skip n) = .error .opFail) ∧
    (n ≤ 0 → Stage.apply docs (.limit n) = .error .opFail) := by
  refine ⟨?_, ?_, ?_, ?_⟩
  · by_cases h : n < 0 <;> simp [Stage.apply, stageApply, stagesVerdict, h]
  · by_cases h : n ≤ 0 <;> simp [Stage.apply, stageApply, stagesVerdict, h]
  · intro h; simp [Stage.apply, h]
  · intro h; simp [Stage.apply, h]

/-- `$sort` and `find(sort=…)` are the same function of the documents inside the domain -/
theorem agg_sort_eq_find_sort (spec : SortSpec) (docs : List Val)
    (h : specReasons spec docs = []) : aggSort spec docs = getDataset (some spec) docs := by
  rw [aggSort_eq_spec spec docs (specOk_of_reasons _ _ h), getDataset_some spec docs h]

end MongoModel.Props.C11
