/-
  Props.C12 — property theorems for C12 (projection returns exactly the requested part of each
  document, nothing else).  Only statements of the property live here; lemmas are in
  Proofs/C12*.lean.

  Impl  = MongoModel.copyOnlyFields / findProject (faithful model of the find-path projection of
          mongomock/collection.py), MongoModel.aggProject (the `$project` stage of aggregate.py),
          tied to the code by the per-run correspondence check
  Spec  = MongoModel.Spec.Proj.project / slice (the rules of the property text) and the relation
          `sub` (o ⊑ d)
  D     = MongoModel.Spec.Proj.inD (decidable; its negation is the list of named exclusion
          classes of Spec/ProjectDomain.lean — scope limits only: D has no class for the
          findings mixedarray, exclscalar, aggdroparr, slicelimit, sliceskip, slicealone, repaired
          in the library; their inputs are inside D)
-/
import Proofs.C12

namespace MongoModel.Props.C12
open MongoModel MongoModel.Spec.Proj

def isError {α : Type} : R α → Bool
  | .error _ => true
  | .ok _ => false

/-- the answer is the value `v` (decidable form, for the concrete examples) -/
def okIs : R Val → Val → Bool
  | .ok w, v => Val.beq w v
  | .error _, _ => false

def okAre : R (List Val) → List Val → Bool
  | .ok ws, vs => Val.beq (.arr ws) (.arr vs)
  | .error _, _ => false

def errIs {α : Type} : R α → Err → Bool
  | .error e, e' => e == e'
  | .ok _, _ => false

/-- **proj_map.** `list(find(filter, projection))` is `list(find(filter))` — the same documents
    in the same order — with every document replaced by its own projection: the projection has no
    influence on which documents are returned. -/
theorem proj_map (f p : Val) (ds rs : List Val) (h : findProject f p ds = .ok rs) :
    ∃ sel, findProject f .null ds = .ok sel ∧ sel.Sublist ds ∧ rs.length = sel.length ∧
      ∀ (i : Nat) (d : Val), sel[i]? = some d →
        ∃ o, rs[i]? = some o ∧ copyOnlyFields d p = .ok o :=
  Proofs.C12.proj_map f p ds rs h

/-- the hypothesis is satisfiable with a filter that selects two of three documents -/
example : (match findProject (.doc [("a", .doc [("$gt", .int 1)])]) (.doc [("b", .int 1)])
    [.doc [("_id", .int 0), ("a", .int 2), ("b", .int 5)],
     .doc [("_id", .int 1), ("a", .int 1), ("b", .int 6)],
     .doc [("_id", .int 2), ("a", .int 3), ("c", .int 7)]] with
    | .ok rs => rs.length == 2
    | .error _ => false) = true := by decide +kernel

/-- **proj_sub.** Whatever the specification (operators, malformed values, every document), when
    the projection answers, its answer is ⊑ the input: every leaf of the output is a leaf of the
    input at the same path with the same value. -/
theorem proj_sub (p d o : Val) (h : copyOnlyFields d p = .ok o) : sub o d = true :=
  Proofs.C12.proj_sub p d o h

example : isError (copyOnlyFields
    (.doc [("_id", .int 1), ("m", .arr [.doc [("x", .int 1)], .doc [("x", .int 2), ("y", .int 3)]]),
           ("s", .int 3)])
    (.doc [("m.x", .int 1), ("m", .doc [("$slice", .int (-1))])])) = false := by decide +kernel

/-- **incl_exact.** An inclusion returns `_id` (unless excluded) plus exactly the named paths —
    descending through sub-documents and through each element of arrays (sub-documents are
    projected, nested arrays element by element, scalars have nothing to show) — and nothing
    else.  D holds scope limits only (Spec/ProjectDomain.lean); no condition on the document
    besides its being a dict.  (Before the repairs of `mixedarray` this was false on arrays
    holding a scalar; such arrays are inside D.) -/
theorem incl_exact (p d : Val) (hD : inD p d = true) (hm : modeOf p = some true) :
    ∃ s, project p d = some s ∧ copyOnlyFields d p = .ok (idLast s) := by
  obtain ⟨s, h1, h2⟩ := Proofs.C12.exact_main p d (List.isEmpty_iff.mp hD)
  exact ⟨s, h1, by simpa [hm] using h2⟩

/-- inside D: an array of sub-documents, an array mixing scalars, sub-documents and a nested
    array, a path running into a scalar -/
example : inD
    (.doc [("a.b", .int 1), ("c.d.e", .bool true), ("l.x", .int 1), ("s.q", .int 1), ("_id", .int 0)])
    (.doc [("_id", .int 7), ("a", .arr [.doc [("b", .int 1), ("z", .int 2)], .doc [("z", .int 3)]]),
           ("c", .doc [("d", .arr [.doc [("e", .null), ("f", .int 1)]]), ("g", .int 5)]),
           ("l", .arr [.int 1, .doc [("x", .int 1), ("y", .int 2)],
                       .arr [.doc [("x", .int 3), ("y", .int 4)], .int 7], .null]),
           ("s", .str "x")]) = true
    ∧ modeOf (.doc [("a.b", .int 1), ("c.d.e", .bool true), ("l.x", .int 1), ("s.q", .int 1),
        ("_id", .int 0)]) = some true := by
  decide +kernel

/-- the former witness of `mixedarray`: `{'l.x': 1}` over `l: [1, {x: 1, y: 2}]` -/
example : okIs (copyOnlyFields
    (.doc [("_id", .int 1), ("l", .arr [.int 1, .doc [("x", .int 1), ("y", .int 2)]])])
    (.doc [("l.x", .int 1)])) (.doc [("l", .arr [.doc [("x", .int 1)]]), ("_id", .int 1)]) = true := by
  decide +kernel

/-- **excl_exact.** An exclusion removes exactly the named paths (descending the same way; a
    scalar or null met on the way stays as it is) and keeps everything else, in place; `None` /
    `{}` / `[]` return the document unchanged.  (Before the repairs of `exclscalar` and
    `mixedarray` this was false where a path ran into a scalar; such documents are inside D.) -/
theorem excl_exact (p d : Val) (hD : inD p d = true) (hm : modeOf p ≠ some true) :
    ∃ s, project p d = some s ∧ copyOnlyFields d p = .ok s := by
  obtain ⟨s, h1, h2⟩ := Proofs.C12.exact_main p d (List.isEmpty_iff.mp hD)
  exact ⟨s, h1, by simpa [hm] using h2⟩

example : inD
    (.doc [("a.b", .int 0), ("c.d.e", .bool false), ("l.x", .int 0), ("s.q", .int 0), ("g", .int 0)])
    (.doc [("_id", .int 7), ("a", .arr [.doc [("b", .int 1), ("z", .int 2)], .doc [("z", .int 3)]]),
           ("c", .doc [("d", .arr [.doc [("e", .null), ("f", .int 1)]]), ("g", .int 5)]),
           ("l", .arr [.int 1, .doc [("x", .int 1), ("y", .int 2)],
                       .arr [.doc [("x", .int 3), ("y", .int 4)], .int 7], .null]),
           ("s", .str "x"), ("g", .int 1)]) = true
    ∧ modeOf (.doc [("a.b", .int 0), ("c.d.e", .bool false), ("l.x", .int 0), ("s.q", .int 0),
        ("g", .int 0)]) ≠ some true := by
  decide +kernel

/-- the former witness of `exclscalar`: `{'s.q': 0}` over `s: 3` -/
example : okIs (copyOnlyFields (.doc [("_id", .int 1), ("s", .int 3), ("a", .int 5)])
    (.doc [("s.q", .int 0)])) (.doc [("_id", .int 1), ("s", .int 3), ("a", .int 5)]) = true := by
  decide +kernel

/-- `_id` listed last is only a re-ordering: the output has the same fields as the rule's -/
theorem idLast_perm (fs : Fields) : ∃ gs, idLast (.doc fs) = .doc gs ∧ gs.Perm fs :=
  ⟨_, rfl, Proofs.C12.idLastF_perm fs⟩

/-- **slice_spec.** For every well-shaped operand (an int, or a pair of ints: `sliceReasons`
    knows nothing else) and every array: `$slice: n` keeps the first `n` / last `-n` elements,
    `$slice: [skip, limit]` the `limit` elements after `skip` (counted from the end when
    negative, from the first element when that falls before it), and a `limit ≤ 0` — the one
    operand the rule refuses — is refused with an OperationFailure.  (Before the repairs of
    `slicelimit` and `sliceskip` this held only for `limit > 0` and `skip ≥ -len`.) -/
theorem slice_spec (sv : Val) (xs : List Val) (hD : sliceReasons sv = []) :
    match slice sv xs with
    | some ys => sliceOp sv xs = .ok ys
    | none => sliceOp sv xs = .error .opFail :=
  Proofs.C12.slice_spec sv xs hD

example : sliceReasons (.arr [.int (-7), .int 2]) = [] ∧ sliceReasons (.int (-2)) = [] ∧
    sliceReasons (.arr [.int 0, .int (-1)]) = [] := by decide +kernel

/-- the former witnesses of `sliceskip` and `slicelimit` -/
example : okAre (sliceOp (.arr [.int (-7), .int 2]) [.int 1, .int 2, .int 3, .int 4, .int 5])
      [.int 1, .int 2] = true
    ∧ errIs (sliceOp (.arr [.int 0, .int (-1)]) [.int 1, .int 2, .int 3, .int 4, .int 5])
      .opFail = true := by decide +kernel

/-- **slice through find.** `find(…, {f: {$slice: sv}})` returns the document with `f` holding
    that part and every other field kept as it is, in place (`$slice` on its own is no
    inclusion) …  (Before the repair of `slicealone` the other fields were dropped.) -/
theorem slice_find (fs : Fields) (f : String) (sv : Val) (xs ys : List Val) (hf : f ≠ "_id")
    (hxs : dget f fs = some (.arr xs)) (hD : sliceReasons sv = []) (hs : slice sv xs = some ys) :
    copyOnlyFields (.doc fs) (.doc [(f, .doc [("$slice", sv)])]) =
      .ok (.doc (dset f (.arr ys) fs)) :=
  Proofs.C12.slice_find hf hxs hD hs

/-- the former witness of `slicealone`: `{l: {$slice: 1}}` keeps `s` -/
example : okIs (copyOnlyFields
    (.doc [("_id", .int 1), ("l", .arr [.int 1, .int 2, .int 3]), ("s", .int 3)])
    (.doc [("l", .doc [("$slice", .int 1)])]))
    (.doc [("_id", .int 1), ("l", .arr [.int 1]), ("s", .int 3)]) = true := by decide +kernel

example : (slice (.arr [.int (-7), .int 2]) [.int 1, .int 2, .int 3]).isSome = true := by
  decide +kernel

/-- … and refuses the query when the rule refuses the operand. -/
theorem slice_find_refused (fs : Fields) (f : String) (sv : Val) (xs : List Val) (hf : f ≠ "_id")
    (hxs : dget f fs = some (.arr xs)) (hD : sliceReasons sv = []) (hs : slice sv xs = none) :
    copyOnlyFields (.doc fs) (.doc [(f, .doc [("$slice", sv)])]) = .error .opFail :=
  Proofs.C12.slice_find_refused hf hxs hD hs

example : (slice (.arr [.int 1, .int 0]) [.int 1, .int 2, .int 3]).isNone = true := by
  decide +kernel

/-- **elemMatch_first.** `find(…, {f: {$elemMatch: q}})` returns `f` holding exactly the first
    element of the array that the matcher accepts (all earlier ones being rejected), and no `f`
    at all when every element is rejected. -/
theorem elemMatch_first (fs : Fields) (f : String) (q : Val) (xs : List Val) (r : Val)
    (hf : f ≠ "_id") (hxs : dget f fs = some (.arr xs))
    (h : copyOnlyFields (.doc fs) (.doc [(f, .doc [("$elemMatch", q)])]) = .ok r) :
    ∃ o, r = .doc o ∧
      ((∃ x pre post, xs = pre ++ x :: post ∧ filterApplies q x = .ok true ∧
          (∀ y ∈ pre, filterApplies q y = .ok false) ∧ dget f o = some (.arr [x])) ∨
       ((∀ y ∈ xs, filterApplies q y = .ok false) ∧ dget f o = none)) := by
  rw [Proofs.C12.elemMatch_find q hf hxs] at h
  rcases hm : firstMatch q xs with _ | _ | x <;> rw [hm] at h <;> cases h
  · exact ⟨_, rfl, .inr ⟨Proofs.C12.firstMatch_none hm, Proofs.C12.dget_attachId_ne hf fs⟩⟩
  · obtain ⟨pre, post, e, h1, h2⟩ := Proofs.C12.firstMatch_some hm
    exact ⟨_, rfl, .inl ⟨x, pre, post, e, h1, h2, dget_dset_same _ _ _⟩⟩

example : isError (copyOnlyFields
    (.doc [("_id", .int 1), ("m", .arr [.doc [("x", .int 1)], .doc [("x", .int 2)],
      .doc [("x", .int 2), ("y", .int 1)]])])
    (.doc [("m", .doc [("$elemMatch", .doc [("x", .int 2)])])])) = false := by decide +kernel

/-- **list_form_eq_dict_form.** `[f₁, …, fₙ]` projects like `{f₁: 1, …, fₙ: 1}`. -/
theorem list_form_eq_dict_form (d : Val) (names : List String) (hn : names.Nodup) :
    copyOnlyFields d (.arr (names.map .str)) =
      copyOnlyFields d (.doc (names.map (fun s => (s, .int 1)))) :=
  Proofs.C12.list_form_eq_dict_form d names hn

example : (["a.b", "c", "_id"] : List String).Nodup := by decide

/-- **agg_exact.** The `$project` stage with a plain inclusion / exclusion specification returns
    exactly what the rule says, fields in document order; its domain holds scope limits only.
    (Before the repair of `aggdroparr` an exclusion dropped the scalar elements of a descended
    array; before the repair recorded as C03 `projectidexcl` the stage refused `_id: 1` next to
    excluded fields.  Both kinds of input are inside the domain.) -/
theorem agg_exact (p d : Val) (hD : aggInD p d = true) :
    ∃ s, project p d = some s ∧ aggProject [d] p = .ok [s] :=
  Proofs.C12.agg_exact p d (List.isEmpty_iff.mp hD)

example : aggInD (.doc [("l.x", .int 0), ("s.q", .int 0)])
    (.doc [("_id", .int 1), ("l", .arr [.int 1, .doc [("x", .int 1), ("y", .int 2)],
      .arr [.doc [("x", .int 3)], .int 7]]), ("s", .int 3)]) = true := by decide +kernel

/-- the former witness of `aggdroparr`: `{'l.x': 0}` over `l: [1, {x: 1, y: 2}]` -/
example : okAre (aggProject
    [.doc [("_id", .int 1), ("l", .arr [.int 1, .doc [("x", .int 1), ("y", .int 2)]])]]
    (.doc [("l.x", .int 0)])) [.doc [("_id", .int 1), ("l", .arr [.int 1, .doc [("y", .int 2)]])]]
    = true := by
  decide +kernel

/-- the former witness of `projectidexcl`: `{a: 0, _id: 1}` is inside the domain, and the stage
    keeps `_id` (in whatever position `_id` stands) -/
example : aggInD (.doc [("a", .int 0), ("_id", .int 1)])
      (.doc [("_id", .int 0), ("k", .int 1), ("a", .int 5)]) = true ∧
    aggInD (.doc [("_id", .bool true), ("a", .int 0)])
      (.doc [("_id", .int 0), ("k", .int 1), ("a", .int 5)]) = true ∧
    okAre (aggProject [.doc [("_id", .int 0), ("k", .int 1), ("a", .int 5)]]
      (.doc [("a", .int 0), ("_id", .int 1)])) [.doc [("_id", .int 0), ("k", .int 1)]] = true ∧
    okAre (aggProject [.doc [("_id", .int 0), ("k", .int 1), ("a", .int 5)]]
      (.doc [("_id", .bool true), ("a", .int 0)])) [.doc [("_id", .int 0), ("k", .int 1)]] = true := by
  decide +kernel

/-- **find_eq_agg.** On the common domain the two separately coded projection functions — the
    find path of collection.py and the `$project` stage of aggregate.py — return the same
    document (the find path lists `_id` last in an inclusion, see `idLast_perm`). -/
theorem find_eq_agg (p d : Val) (hD : inD p d = true) (hA : aggInD p d = true) :
    ∃ a, aggProject [d] p = .ok [a] ∧
      copyOnlyFields d p = .ok (if modeOf p = some true then idLast a else a) :=
  Proofs.C12.find_eq_agg p d (List.isEmpty_iff.mp hD) (List.isEmpty_iff.mp hA)

example : inD
    (.doc [("a.b", .int 1), ("c.d.e", .bool true), ("_id", .int 0)])
    (.doc [("_id", .int 7), ("a", .arr [.doc [("b", .int 1), ("z", .int 2)], .int 4, .doc [("z", .int 3)]]),
           ("c", .doc [("d", .arr [.doc [("e", .null), ("f", .int 1)]]), ("g", .int 5)]),
           ("s", .str "x")]) = true
    ∧ aggInD
    (.doc [("a.b", .int 1), ("c.d.e", .bool true), ("_id", .int 0)])
    (.doc [("_id", .int 7), ("a", .arr [.doc [("b", .int 1), ("z", .int 2)], .int 4, .doc [("z", .int 3)]]),
           ("c", .doc [("d", .arr [.doc [("e", .null), ("f", .int 1)]]), ("g", .int 5)]),
           ("s", .str "x")]) = true := by
  decide +kernel

end MongoModel.Props.C12
