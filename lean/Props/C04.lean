/-
  Props.C04 — property theorems for C04 (aggregation expressions evaluate to the value MongoDB
  defines).  The lemmas about the evaluator that these rest on are in Proofs/C04*.lean.

  Impl  = MongoModel.Expr.eval / evalExpr / projectField / addFieldsField / exprFilter
          (faithful model of mongomock/aggregate.py `_Parser` and of the `$expr` branch of the
          matcher, tied to the code by the per-run correspondence check)
  Spec  = MongoModel.Spec.specEval / specFilter / toBool / ord   (the rules of the property text)
  D     = MongoModel.Spec.exprInD    (decidable; its negation is the list of named exclusion
          classes of Spec/ExprDomain.lean)
  `$sum $avg $min $max` as expression operators: Impl = MongoModel.Expr.groupingInExpr, Spec =
          MongoModel.Spec.accS / accBareS / extremumS (last section)

  `none : Option Val` is "missing" (Python KeyError); `Ctx` is a parser instance
  (ignore_missing_keys, document, variable bindings).
-/
import Proofs.C04

namespace MongoModel.Props.C04
open MongoModel MongoModel.Expr MongoModel.Spec

/- equality of values is decidable (`Val.beq`), so that the concrete instances below are checked by
   evaluation -/
attribute [local instance] MongoModel.Proofs.valDecEq

/-! ### `$literal`, truthiness, boolean operators -/

/-- `$literal` returns its argument unevaluated, whatever it looks like. -/
theorem literal_id (c : Ctx) (v : Val) : eval c (.doc [("$literal", v)]) = .ok (some v) :=
  Proofs.C04.literal_id c v

/-- The code's truthiness (`helpers.mongodb_to_bool`, KeyError = false) is the rule's `toBool`. -/
theorem toBool_is_mongodb_to_bool (r : Option Val) : toBoolOpt r = Spec.toBool r :=
  Proofs.C04.toBoolOpt_eq r

/-- `toBool v` is false exactly for `false`, `null` and the zeros. -/
theorem toBool_false_iff (v : Val) :
    Spec.toBool (some v) = false ↔ (v = .bool false ∨ v = .null ∨ v = .int 0 ∨ ∃ e, v = .dbl 0 e) :=
  Proofs.C04.toBool_false_iff v

/-- **bool_ops_spec** — `$not e` (with `e` not written as a list) is the negation of `toBool` of
    the value of `e` (a missing value counts as false); it raises exactly when `e` does. -/
theorem not_spec (c : Ctx) (e : Val) (he : e.isArr = false) :
    eval c (.doc [("$not", e)]) = (eval c e).bind (fun r => .ok (some (.bool (!Spec.toBool r)))) :=
  Proofs.C04.not_spec c e he

example : (Val.str "$a").isArr = false ∧ (Val.doc [("$gt", .arr [.str "$a", .int 1])]).isArr = false :=
  ⟨rfl, rfl⟩

/-- `{$not: [x]}` is `$not` of `x`, whatever `x` is (it used to be the constant false, the array
    `[x]` being returned unevaluated: finding `arrayliteral`, repaired by 9ff1475). -/
theorem not_list_spec (c : Ctx) (x : Val) :
    eval c (.doc [("$not", .arr [x])]) =
      (eval c x).bind (fun r => .ok (some (.bool (!Spec.toBool r)))) :=
  Proofs.C04.not_list_spec c x

/-- `$and` is the conjunction of `toBool` over the operand values (operands that do not raise). -/
theorem and_spec (c : Ctx) (xs : List Val) (rs : List (Option Val))
    (h : xs.map (eval c) = rs.map .ok) :
    eval c (.doc [("$and", .arr xs)]) = .ok (some (.bool (rs.all Spec.toBool))) :=
  Proofs.C04.and_spec c xs rs h

/-- `$or` is the disjunction of `toBool` over the operand values. -/
theorem or_spec (c : Ctx) (xs : List Val) (rs : List (Option Val))
    (h : xs.map (eval c) = rs.map .ok) :
    eval c (.doc [("$or", .arr xs)]) = .ok (some (.bool (rs.any Spec.toBool))) :=
  Proofs.C04.or_spec c xs rs h

/-- the hypotheses are inhabited by operand lists that mix present, null and missing values -/
example : ∃ (c : Ctx) (xs : List Val) (rs : List (Option Val)),
    xs.map (eval c) = rs.map .ok ∧ rs = [some (.int 3), some .null, none] :=
  ⟨Ctx.init true (.doc [("a", .int 3), ("b", .null)]), [.str "$a", .str "$b", .str "$zz"],
   [some (.int 3), some .null, none], by decide +kernel, rfl⟩

/-! ### `$cond`, `$ifNull`, `$switch` -/

/-- **cond_spec** (array form): the condition is evaluated, then exactly one branch. -/
theorem cond_spec (c : Ctx) (a b d : Val) :
    eval c (.doc [("$cond", .arr [a, b, d])]) =
      (eval c a).bind (fun r => if Spec.toBool r then eval c b else eval c d) :=
  Proofs.C04.cond_list c a b d

/-- **cond_spec** (document form with exactly the fields `if`, `then`, `else`, in any order). -/
theorem cond_doc_spec (c : Ctx) (gs : Fields)
    (h : (dhas "if" gs && dhas "then" gs && dhas "else" gs) = true)
    (hx : gs.any (fun kv => !(["if", "then", "else"].contains kv.1)) = false) :
    eval c (.doc [("$cond", .doc gs)]) =
      (evalAt c "if" gs).bind (fun r =>
        if Spec.toBool r then evalAt c "then" gs else evalAt c "else" gs) :=
  Proofs.C04.cond_doc c gs h hx

example : (dhas "if" [("then", Val.int 1), ("if", .str "$a"), ("else", .null)] &&
    dhas "then" [("then", Val.int 1), ("if", .str "$a"), ("else", .null)] &&
    dhas "else" [("then", Val.int 1), ("if", .str "$a"), ("else", .null)]) = true ∧
    [("then", Val.int 1), ("if", .str "$a"), ("else", .null)].any
      (fun kv => !(["if", "then", "else"].contains kv.1)) = false := by decide +kernel

/-- a `$cond` document that lacks one of the three fields is rejected (it used to read as
    "missing": finding `condkeys`, repaired in the library) -/
theorem cond_doc_lacking (c : Ctx) (gs : Fields)
    (h : (dhas "if" gs && dhas "then" gs && dhas "else" gs) = false) :
    eval c (.doc [("$cond", .doc gs)]) = .error .opFail :=
  Proofs.C04.cond_doc_lacking c gs h

/-- `evalAt` is "the sub-expression under that key" (an absent key reads as missing). -/
theorem evalAt_eq (c : Ctx) (key : String) (gs : Fields) :
    evalAt c key gs = (match dget key gs with | some v => eval c v | none => .ok none) :=
  Proofs.C04.evalAt_eq c key gs

/-- **ifNull_spec** — a null or missing first operand is replaced by the second, anything else
    is returned as it is. -/
theorem ifNull_spec (c : Ctx) (x f : Val) (rx : Option Val) (hx : eval c x = .ok rx) :
    eval c (.doc [("$ifNull", .arr [x, f])]) = if nullish rx then eval c f else .ok rx := by
  rw [Proofs.C04.ifNull_list c [x, f] (by simp)]
  cases hn : nullish rx
  · obtain ⟨v, rfl⟩ : ∃ v, rx = some v := by cases rx <;> simp_all [nullish]
    exact Proofs.C04.ifNull_first c x f [] v hx (by rintro rfl; simp [nullish] at hn)
  · rw [Proofs.C04.ifNull_skip c x f [] rx hx hn, Proofs.C04.ifNull_last]; rfl

example : ∃ (c : Ctx) (x : Val) (rx : Option Val), eval c x = .ok rx ∧ nullish rx = true :=
  ⟨Ctx.init true (.doc []), .str "$zz", none, by decide +kernel, rfl⟩

/-- the general form: `$ifNull` over a list of two or more operands is the loop `evalIfNull`,
    which skips null and missing operands … -/
theorem ifNull_list (c : Ctx) (xs : List Val) (hlen : 2 ≤ xs.length) :
    eval c (.doc [("$ifNull", .arr xs)]) = evalIfNull c xs := Proofs.C04.ifNull_list c xs hlen

/-- fewer than two operands are rejected (part of finding `laxargs`, repaired in the library) -/
theorem ifNull_short (c : Ctx) (xs : List Val) (hlen : xs.length < 2) :
    eval c (.doc [("$ifNull", .arr xs)]) = .error .opFail := Proofs.C04.ifNull_short c xs hlen

theorem ifNull_skip (c : Ctx) (x y : Val) (r : List Val) (rx : Option Val)
    (hx : eval c x = .ok rx) (hn : nullish rx = true) :
    evalIfNull c (x :: y :: r) = evalIfNull c (y :: r) := Proofs.C04.ifNull_skip c x y r rx hx hn

/-- … and stops at the first operand that is neither. -/
theorem ifNull_first (c : Ctx) (x y : Val) (r : List Val) (v : Val)
    (hx : eval c x = .ok (some v)) (hv : v ≠ .null) :
    evalIfNull c (x :: y :: r) = .ok (some v) := Proofs.C04.ifNull_first c x y r v hx hv

/-- **switch_first_true** — with falsy `case`s in front, the first truthy `case` selects its
    `then`; later branches are not evaluated. -/
theorem switch_first_true (c : Ctx) (pre : List Fields) (b : Fields) (post : List Val)
    (hpre : ∀ p ∈ pre, ∃ rc, evalAt c "case" p = .ok rc ∧ Spec.toBool rc = false)
    (rc : Option Val) (hc : evalAt c "case" b = .ok rc) (ht : Spec.toBool rc = true) :
    evalBranches c (pre.map .doc ++ .doc b :: post) = (evalAt c "then" b).map some :=
  Proofs.C04.switch_first_true c pre b post hpre rc hc ht

/-- `$switch` runs that loop over its `branches` and falls back to `default`. -/
theorem switch_spec (c : Ctx) (gs : Fields) (bs : List Val)
    (hb : dget "branches" gs = some (.arr bs)) (hne : bs ≠ []) (hok : branchesOk bs = true) :
    eval c (.doc [("$switch", .doc gs)]) =
      (evalBranches c bs).bind (fun r =>
        match r with
        | some v => .ok v
        | none => if dhas "default" gs then evalAt c "default" gs else .error .opFail) := by
  rw [Proofs.C04.switch_eq c gs bs hb hne hok, Proofs.C04.evalBranchesAt_eq c gs bs hb]
  rfl

example : ∃ (gs : Fields) (bs : List Val), dget "branches" gs = some (.arr bs) ∧ bs ≠ [] ∧
    branchesOk bs = true :=
  ⟨[("branches", .arr [.doc [("case", .str "$a"), ("then", .int 1)]]), ("default", .int 0)],
   [.doc [("case", .str "$a"), ("then", .int 1)]], rfl, by simp, by decide +kernel⟩

/-! ### null propagates through arithmetic -/

/-- **null_propagates** (unary `$abs $ceil $exp $floor $ln $log10 $sqrt $trunc`): a null or
    missing operand gives null. -/
theorem null_propagates_unary (c : Ctx) (op : String) (hop : op ∈ unaryArithOps) (e : Val)
    (r : Option Val) (he : eval c e = .ok r) (hn : nullish r = true) :
    eval c (.doc [(op, e)]) = .ok (some .null) := by
  have ha : e.isArr = false := by
    cases e with
    | arr xs =>
      obtain ⟨ys, rfl⟩ := Proofs.C04.eval_arr_ok c xs r he
      simp [nullish] at hn
    | _ => rfl
  rw [Proofs.C04.unary_arith_eval c op hop e ha, he]
  rcases r with _ | v
  · rfl
  · cases v <;> simp [nullish] at hn; rfl

/-- **null_propagates** (binary `$divide $log $mod $pow $subtract`, in the computed-field and
    `$expr` contexts): if either operand is null or missing the result is null. -/
theorem null_propagates_binary (c : Ctx) (hign : c.ign = true) (op : String)
    (hop : op ∈ binaryArithOps) (a b : Val) (ra rb : Option Val)
    (ha : eval c a = .ok ra) (hb : eval c b = .ok rb)
    (hn : (nullish ra || nullish rb) = true) :
    eval c (.doc [(op, .arr [a, b])]) = .ok (some .null) := by
  have nl : ∀ r, nullish r = true → isNull (r.getD .null) = true := by
    intro r h
    rcases r with _ | v
    · rfl
    · cases v <;> first | rfl | cases h
  have : (isNull (ra.getD .null) || isNull (rb.getD .null)) = true := by
    rcases (Bool.or_eq_true _ _).mp hn with h | h <;> simp [nl _ h]
  rw [Proofs.C04.binary_arith_eval c hign op hop a b ra rb ha hb, Proofs.C04.binaryArith_null op this]
  rfl

/-- **null_propagates** (`$add`, `$multiply`, any number of operands): when the first operand
    value that is not a number is null, the result is null … -/
theorem null_propagates_nary (c : Ctx) (op : String) (hop : op = "$add" ∨ op = "$multiply")
    (xs : List Val) (pre post : List Val)
    (hl : evalList c c.ign xs = .ok (some (pre ++ .null :: post)))
    (hpre : ∀ v ∈ pre, (toPyNumNB v).isSome = true) :
    eval c (.doc [(op, .arr xs)]) = .ok (some .null) := by
  rw [Proofs.C04.nary_arith_eval c op hop xs _ hl, Proofs.C04.naryArith_null op hop pre post hpre]
  rfl

/-- … where a missing operand has been read as null by `parse_many`. -/
theorem missing_operand_is_null (c : Ctx) (x : Val) (r : List Val) (vs : List Val)
    (hx : eval c x = .ok none) (hr : evalList c true r = .ok (some vs)) :
    evalList c true (x :: r) = .ok (some (.null :: vs)) := by
  simp [evalList, hx, hr, manyItem, bind, Except.bind, pure, Except.pure]

example : ∃ (c : Ctx) (xs pre post : List Val),
    evalList c c.ign xs = .ok (some (pre ++ .null :: post)) ∧ pre = [.int 2] ∧ post = [.int 1] :=
  ⟨Ctx.init true (.doc [("a", .int 2)]), [.str "$a", .str "$zz", .int 1], [.int 2], [.int 1], by
     decide +kernel, rfl, rfl⟩

/-! ### comparisons follow one total order -/

/-- `$gt $gte $lt $lte` are the four readings of the three-way comparison `bsonCmp`
    (the cross-type BSON order), wherever it does not raise. -/
theorem ordering_ops_spec (a b : Val) (o : Ordering) (h : bsonCmp a b = .ok o) :
    compareOp "$lt" a b = .ok (.bool (o == .lt)) ∧ compareOp "$gt" a b = .ok (.bool (o == .gt)) ∧
    compareOp "$lte" a b = .ok (.bool (o != .gt)) ∧ compareOp "$gte" a b = .ok (.bool (o != .lt)) :=
  Proofs.C04.ordering_ops a b o h

/-- The full-strength statement: `$eq` is the third outcome of that comparison, so that exactly
    one of `$lt`, `$eq`, `$gt` holds. -/
def cmp_ops_total_full : Prop :=
  ∀ a b o, bsonCmp a b = .ok o → compareOp "$eq" a b = .ok (.bool (o == .eq))

/-- It is false of the code as it stands (known finding `boolnum`): `true` is *greater* than `1`
    in the BSON order, yet `{$eq: [true, 1]}` is true because `$eq` is Python `==`. -/
theorem cmp_ops_total_full_fails : ¬ cmp_ops_total_full := by
  intro h
  have := h (.bool true) (.int 1) .gt (by simp [bsonCmp, Val.tc, natCmp]; rfl)
  simp [compareOp, pyEq] at this

/-- **cmp_ops_total** (partial: on flat values — scalars and arrays of scalars — without a
    boolean/number clash): the comparison does not raise and exactly one of `$lt`, `$eq`, `$gt`
    holds; `$ne`, `$lte`, `$gte` are their complements. -/
theorem cmp_ops_total_partial (a b : Val) (ha : cmpFlat a = true) (hb : cmpFlat b = true)
    (hc : boolNumClash a b = false) :
    ∃ o : Ordering,
      compareOp "$lt" a b = .ok (.bool (o == .lt)) ∧
      compareOp "$eq" a b = .ok (.bool (o == .eq)) ∧
      compareOp "$gt" a b = .ok (.bool (o == .gt)) ∧
      compareOp "$ne" a b = .ok (.bool (o != .eq)) ∧
      compareOp "$lte" a b = .ok (.bool (o != .gt)) ∧
      compareOp "$gte" a b = .ok (.bool (o != .lt)) :=
  Proofs.C04.cmp_ops_total a b ha hb hc

example : cmpFlat (.arr [.int 1, .str "a", .null]) = true ∧ cmpFlat (.dbl 3 1) = true ∧
    boolNumClash (.arr [.int 1, .str "a", .null]) (.dbl 3 1) = false := by decide +kernel

/-- a comparison with a missing operand follows the same order: missing is equal to missing only
    and sorts below every value, null included (finding `missingcmp`, repaired in the library:
    such a comparison used to be missing itself). -/
theorem cmp_missing (k : String)
    (hk : k = "$eq" ∨ k = "$ne" ∨ k = "$gt" ∨ k = "$gte" ∨ k = "$lt" ∨ k = "$lte")
    (a b : Option Val) (hm : a = none ∨ b = none) :
    compareOpt k a b = cmpHoldsOrd k (ordOpt a b) :=
  Proofs.C04.compare_missing k (by simpa using hk) a b hm

example : compareOpt "$lt" none (some .null) = .ok (.bool true) ∧
    compareOpt "$eq" none (some .null) = .ok (.bool false) ∧
    compareOpt "$eq" none none = .ok (.bool true) := by
  refine ⟨?_, ?_, ?_⟩ <;> simp [compareOpt]

/-! ### `$expr` in the query matcher -/

/-- **expr_filter_spec** — `find({$expr: e})` selects `d` iff the value of `e` on `d` is truthy
    (`toBool`: everything except false, null, 0), a missing value being false; an error of the
    expression is the error of the filter.  (Full strength: before the repairs 5f9b543 / b30f356 of
    the library this statement was false — findings `exprtruth`, `exprmissing` — and only a partial
    form over values other than `""`, `[]`, `{}` was proved.) -/
theorem expr_filter_spec (e d : Val) : exprFilter e d = (evalExpr d e).map Spec.toBool :=
  Proofs.C04.expr_filter_full e d

/-- the former counterexample: `{$expr: "$s"}` selects `{s: ""}` -/
example : exprFilter (.str "$s") (.doc [("s", .str "")]) = .ok true := by decide +kernel

/-- a value: the verdict is its `toBool` -/
theorem expr_filter_value (e d : Val) (r : Option Val) (h : evalExpr d e = .ok r) :
    exprFilter e d = .ok (Spec.toBool r) := Proofs.C04.expr_filter_value e d r h

/-- a missing value does not match (it used to be a KeyError that left `find`) -/
theorem expr_filter_missing (e d : Val) (h : evalExpr d e = .ok none) :
    exprFilter e d = .ok false := Proofs.C04.expr_filter_missing e d h

theorem expr_filter_error (e d : Val) (err : Err) (h : evalExpr d e = .error err) :
    exprFilter e d = .error err := Proofs.C04.expr_filter_error e d err h

/-- e.g. `{$expr: "$a.b"}` on a document without `a.b` -/
example : ∃ e d, evalExpr d e = .ok none ∧ exprFilter e d = .ok false :=
  ⟨.str "$a.b", .doc [("a", .doc [("c", .int 0)])], by decide +kernel, by decide +kernel⟩

/-! ### a missing field behaves as absent -/

/-- **missing_omitted** — a computed field whose expression is a path that the document does not
    have is omitted by `$project` and by `$addFields` (`none` = the field is not written). -/
theorem missing_omitted (d : Val) (s : String) (cs : List Char) (hs : strKind s = .field cs)
    (h : getDotGen (splitDotsChars cs []) d = .ok none) :
    projectField (.str s) d = .ok none ∧ addFieldsField (.str s) d = .ok none :=
  Proofs.C04.missing_omitted d s cs hs h

/-- e.g. `"$a.b"` on a document whose `a` has no `b` -/
example : strKind "$a.b" = .field ['a', '.', 'b'] ∧
    getDotGen (splitDotsChars ['a', '.', 'b'] []) (.doc [("a", .doc [("c", .int 1)])]) = .ok none := by
  constructor
  · simp [strKind]
  · simp [splitDotsChars, getDotGen, dget]

/-- the common case: a top-level field name (no dot, no `$`) that the document does not have -/
theorem missing_field_omitted (fs : Fields) (cs : List Char) (hdot : '.' ∉ cs)
    (hc : cs.head? ≠ some '$') (hm : dget (String.ofList cs) fs = none) :
    projectField (.str (String.ofList ('$' :: cs))) (.doc fs) = .ok none ∧
    addFieldsField (.str (String.ofList ('$' :: cs))) (.doc fs) = .ok none :=
  Proofs.C04.missing_field_omitted fs cs hdot hc hm

example : '.' ∉ ['z', 'z'] ∧ ['z', 'z'].head? ≠ some '$' ∧
    dget (String.ofList ['z', 'z']) [("a", Val.int 1)] = none := by decide +kernel

/-- inside a computed document a missing field is left out -/
theorem doc_literal_omits (c : Ctx) (hign : c.ign = true) (k : String) (e : Val)
    (hk : classify k = .plain) (he : eval c e = .ok none) :
    eval c (.doc [(k, e)]) = .ok (some (.doc [])) :=
  Proofs.C04.doc_literal_omits c hign k e hk he

/-! ### variable binding: `$let`, `$map`, `$filter` -/

/-- **let_subst** — the names are checked, the variables are evaluated under the outer bindings,
    then `in` under the outer bindings extended by all of them.  A variable whose value is
    missing is bound to "missing" (it used to make the whole `$let` missing: finding
    `letmissing`, repaired by 9957044). -/
theorem let_subst (c : Ctx) (vs : Fields) (body : Val)
    (hn : vs.all (fun kv => validVarName kv.1) = true) :
    eval c (.doc [("$let", .doc [("vars", .doc vs), ("in", body)])]) =
      (evalVars c vs).bind (fun bs => eval (c.bindAll bs) body) :=
  Proofs.C04.let_subst c vs body hn

example : [("v", Val.str "$zz"), ("w2", .int 1)].all (fun kv => validVarName kv.1) = true := by
  decide +kernel

/-- the bindings are exactly the values of the variables, missing ones included -/
theorem let_bindings (c : Ctx) (vs : Fields) (rs : List (Option Val))
    (h : vs.map (fun kv => eval c kv.2) = rs.map .ok) :
    evalVars c vs = .ok ((vs.map (·.1)).zip rs) := by
  induction vs generalizing rs with
  | nil => cases rs <;> simp_all [evalVars]
  | cons kv vs ih =>
    obtain ⟨k, v⟩ := kv
    cases rs with
    | nil => simp at h
    | cons x rs =>
      simp only [List.map_cons, List.cons.injEq] at h
      simp [evalVars, h.1, ih rs h.2, bind, Except.bind, pure, Except.pure]

example : ∃ (c : Ctx) (vs : Fields) (rs : List (Option Val)),
    vs.map (fun kv => eval c kv.2) = rs.map .ok ∧ rs = [none, some (.int 3)] :=
  ⟨Ctx.init true (.doc [("a", .int 3)]), [("v", .str "$zz"), ("w", .str "$a")],
   [none, some (.int 3)], by decide +kernel, rfl⟩

/-- a variable bound to a missing value is missing where it is used, with or without a path -/
theorem missing_var_is_missing (c : Ctx) (name : String) (rest : List String)
    (h : c.miss.contains name = true) : evalVar c (name :: rest) = .ok none := by
  simp only [evalVar, List.headD_cons, h, if_true]

example (c : Ctx) : (c.bindOpt "v" none).miss.contains "v" = true :=
  Proofs.C04.bindOpt_none_miss c "v"

/-- the former counterexample of `letmissing`: the variable is not used, the `$let` has a value -/
example : evalExpr (.doc [("_id", .int 0)])
    (.doc [("$let", .doc [("vars", .doc [("v", .str "$zz")]), ("in", .int 1)])]) =
    .ok (some (.int 1)) := by
  unfold evalExpr
  rw [let_subst _ _ _ (by decide +kernel)]
  decide +kernel

/-- **var_name_rule** — the names `$let`, `$map` and `$filter` accept are those of the rules
    (a lower-case letter, then letters, digits and `_`; characters outside ASCII anywhere), and
    `CURRENT` (finding `laxargs`, repaired by b53c397). -/
theorem var_name_rule (s : String) :
    validVarName s = (decide (s = "CURRENT") || userVarName s) := by
  unfold validVarName userVarName
  cases s.toList with
  | nil => rfl
  | cons ch r =>
    have h1 : isVarStart ch = (isLower ch || nonAscii ch) := by
      simp [isVarStart, isLower, nonAscii]
    have h2 : r.all isVarChar =
        r.all (fun x => isLower x || isUpper x || isDigitC x || x == '_' || nonAscii x) := by
      congr 1
    simp only [h1, h2]

/-- any other name is rejected before anything is evaluated -/
theorem let_bad_name (c : Ctx) (vs : Fields) (body : Val)
    (hn : vs.all (fun kv => validVarName kv.1) = false) :
    eval c (.doc [("$let", .doc [("vars", .doc vs), ("in", body)])]) = .error .opFail :=
  Proofs.C04.let_bad_name c vs body hn

example : [("V", Val.int 1)].all (fun kv => validVarName kv.1) = false ∧
    [("a.b", Val.int 1)].all (fun kv => validVarName kv.1) = false ∧
    [("", Val.int 1)].all (fun kv => validVarName kv.1) = false := by decide +kernel

theorem map_bad_name (c : Ctx) (inp body : Val) (name : String) (hn : validVarName name = false) :
    eval c (.doc [("$map", .doc [("input", inp), ("as", .str name), ("in", body)])]) =
      .error .opFail :=
  Proofs.C04.map_bad_name c inp body name hn

/-- **map_spec** — `in` is evaluated once per item under the binding of the item; an item whose
    value is missing gives a null element. -/
theorem map_spec (c : Ctx) (inp body : Val) (name : String) (hn : validVarName name = true) :
    eval c (.doc [("$map", .doc [("input", inp), ("as", .str name), ("in", body)])]) =
      (eval c inp).bind (fun r =>
        match r with
        | none | some .null => .ok (some .null)
        | some (.arr items) =>
          (mapItems (fun item => eval (c.bind name item) body) items).map (fun ys => some (.arr ys))
        | some _ => .error .opFail) := by
  rw [Proofs.C04.eval_binder c _ (.inr (.inl rfl))]
  simp only [evalOp]
  simp [dhas, dget, evalAt, asName, hn, bind, Except.bind]
  cases eval c inp with
  | error e => rfl
  | ok r =>
    cases r with
    | none => rfl
    | some v => cases v <;> simp [Except.map, pure, Except.pure] <;> (split <;> rfl)

example : validVarName "item_2" = true := by decide +kernel

/-- the default variable is `this` -/
theorem map_spec_this (c : Ctx) (inp body : Val) :
    eval c (.doc [("$map", .doc [("input", inp), ("in", body)])]) =
      (eval c inp).bind (fun r =>
        match r with
        | none | some .null => .ok (some .null)
        | some (.arr items) =>
          (mapItems (fun item => eval (c.bind "this" item) body) items).map (fun ys => some (.arr ys))
        | some _ => .error .opFail) :=
  Proofs.C04.map_spec c inp body

/-- when `in` has the value `g item` (possibly missing) on every item, the result is the mapped
    list, null standing for a missing value -/
theorem map_items (f : Val → R (Option Val)) (g : Val → Option Val) (items : List Val)
    (h : ∀ x ∈ items, f x = .ok (g x)) :
    mapItems f items = .ok (items.map (fun x => (g x).getD .null)) := by
  induction items with
  | nil => simp [mapItems]
  | cons x r ih =>
    simp [mapItems, h x (by simp), ih (fun y hy => h y (by simp [hy])), bind, Except.bind, pure,
      Except.pure]

/-- the result has one element per item -/
theorem map_length (f : Val → R (Option Val)) (items ys : List Val)
    (h : mapItems f items = .ok ys) : ys.length = items.length := by
  induction items generalizing ys with
  | nil => cases h; rfl
  | cons x r ih =>
    simp only [mapItems, bind, Except.bind, pure, Except.pure] at h
    split at h
    · cases h
    · split at h <;> cases h
      simp [ih _ ‹_›]

/-- **filter_spec** — `cond` is evaluated once per item under the binding of the item; an item
    is kept iff the value is true (`toBool`: anything except false, null, 0 and missing); a
    null or missing input gives null. -/
theorem filter_spec (c : Ctx) (inp cond : Val) :
    eval c (.doc [("$filter", .doc [("input", inp), ("cond", cond)])]) =
      (eval c inp).bind (fun r =>
        match r with
        | none | some .null => .ok (some .null)
        | some (.arr items) =>
          (filterItems (fun item => eval (c.bind "this" item) cond) items).map
            (fun ys => some (.arr ys))
        | some v => iterErr v) :=
  Proofs.C04.filter_spec c inp cond

theorem filter_items (f : Val → R (Option Val)) (g : Val → Option Val) (items : List Val)
    (h : ∀ x ∈ items, f x = .ok (g x)) :
    filterItems f items = .ok (items.filter (fun x => Spec.toBool (g x))) := by
  induction items with
  | nil => simp [filterItems]
  | cons x r ih =>
    simp only [filterItems, h x (by simp), ih (fun y hy => h y (by simp [hy])), bind, Except.bind,
      pure, Except.pure, List.filter_cons, Proofs.C04.toBoolOpt_eq]

/-- whatever the condition does, `$filter` returns a sublist of its input (order kept) -/
theorem filter_sublist (f : Val → R (Option Val)) (items ys : List Val)
    (h : filterItems f items = .ok ys) : ys.Sublist items := by
  induction items generalizing ys with
  | nil => cases h; exact .slnil
  | cons x r ih =>
    simp only [filterItems, bind, Except.bind, pure, Except.pure] at h
    split at h
    · cases h
    · split at h <;> cases h
      split
      · exact (ih _ ‹_›).cons_cons _
      · exact (ih _ ‹_›).cons _

/-! ### arrays, sets, strings -/

/-- `$concatArrays` of arrays is their concatenation … -/
theorem concatArrays_append (xss : List (List Val)) :
    concatArraysOp (xss.map .arr) = .ok (.arr xss.flatten) := Proofs.C04.concatArrays_append xss

/-- … and null as soon as one operand is null (the others being arrays or null). -/
theorem concatArrays_null (vals : List Val) (hall : ∀ v ∈ vals, isNull v = true ∨ v.isArr = true)
    (hn : .null ∈ vals) : concatArraysOp vals = .ok .null :=
  Proofs.C04.concatArrays_null vals hall hn

/-- `$size` of an array-valued expression is the length of the array. -/
theorem size_length (c : Ctx) (e : Val) (xs : List Val) (hshape : e.isArr = false)
    (he : eval c e = .ok (some (.arr xs))) :
    eval c (.doc [("$size", e)]) = .ok (some (.int xs.length)) := by
  rw [Proofs.C04.eval_listForm_bare c (by simp [Proofs.C04.listFormKeys]) e hshape, he]
  simp [applyWhole, unaryArithOps, sizeOp, Except.bind, Except.map]

/-- `$in` is Python list membership (`==`: finding `boolnum`). -/
theorem in_spec (x : Val) (xs : List Val) : inOp x (.arr xs) = .ok (.bool (pyIn x xs)) := rfl

/-- `$setUnion`: items already collected stay in front, in order; -/
theorem setUnion_prefix (xs acc : List Val) : ∃ t, unionLoop xs acc = acc ++ t := by
  induction xs generalizing acc with
  | nil => exact ⟨[], by simp [unionLoop]⟩
  | cons v r ih =>
    by_cases h : pyIn v acc = true
    · simpa [unionLoop, h] using ih acc
    · obtain ⟨t, ht⟩ := ih (acc ++ [v])
      exact ⟨v :: t, by simp [unionLoop, h, ht]⟩

/-- every item of the result comes from an operand; -/
theorem setUnion_sound (xs acc : List Val) : ∀ v ∈ unionLoop xs acc, v ∈ acc ∨ v ∈ xs := by
  induction xs generalizing acc with
  | nil => intro v hv; exact Or.inl (by simpa [unionLoop] using hv)
  | cons x r ih =>
    intro v hv
    simp only [unionLoop] at hv
    split at hv <;> rcases ih _ v hv with h' | h' <;> simp_all
    rcases h' with h' | h' <;> simp [h']

/-- every item of an operand is in the result, literally or up to Python `==`; -/
theorem setUnion_complete (xs acc : List Val) :
    ∀ v ∈ xs, v ∈ unionLoop xs acc ∨ pyIn v (unionLoop xs acc) = true := by
  induction xs generalizing acc with
  | nil => nofun
  | cons x r ih =>
    intro v hv
    -- what is in the accumulator, literally or up to `==`, stays in the result
    have mono : ∀ a : List Val, (v ∈ a ∨ pyIn v a = true) →
        (v ∈ unionLoop r a ∨ pyIn v (unionLoop r a) = true) := by
      intro a hw
      obtain ⟨t, ht⟩ := setUnion_prefix r a
      rw [ht]
      rcases hw with hw | hw
      · exact Or.inl (by simp [hw])
      · exact Or.inr (by simp [pyIn] at hw ⊢; exact Or.inl hw)
    simp only [unionLoop]
    rcases List.mem_cons.mp hv with rfl | hr <;> split
    · exact mono acc (Or.inr ‹_›)
    · exact mono _ (Or.inl (by simp))
    · exact ih acc v hr
    · exact ih _ v hr

/-- and an item equal (Python `==`) to a collected one is not added again. -/
theorem setUnion_dedup (x : Val) (r acc : List Val) (h : pyIn x acc = true) :
    unionLoop (x :: r) acc = unionLoop r acc := by simp [unionLoop, h]

/-- `$concat` of strings is their concatenation. -/
theorem concat_strings (ss : List String) :
    concatOp (ss.map .str) = .ok (.str (String.join ss)) := Proofs.C04.concat_strings ss

/-! ### date parts -/

/-- **civil_roundtrip** — the (year, month, day) computed for a day number converts back to that
    day number, for every integer. -/
theorem civil_roundtrip (z : Int) :
    daysFromCivil (civilFromDays z).1 (civilFromDays z).2.1 (civilFromDays z).2.2 = z :=
  Proofs.C04.civil_roundtrip z

/-- every part lies in its range, for every instant -/
theorem datePart_ranges (us : Int) :
    (∃ h, datePart "$hour" us = .ok (.int h) ∧ 0 ≤ h ∧ h ≤ 23) ∧
    (∃ m, datePart "$minute" us = .ok (.int m) ∧ 0 ≤ m ∧ m ≤ 59) ∧
    (∃ s, datePart "$second" us = .ok (.int s) ∧ 0 ≤ s ∧ s ≤ 59) ∧
    (∃ ms, datePart "$millisecond" us = .ok (.int ms) ∧ 0 ≤ ms ∧ ms ≤ 999) ∧
    (∃ w, datePart "$dayOfWeek" us = .ok (.int w) ∧ 1 ≤ w ∧ w ≤ 7) ∧
    (∃ m, datePart "$month" us = .ok (.int m) ∧ 1 ≤ m ∧ m ≤ 12) ∧
    (∃ d, datePart "$dayOfMonth" us = .ok (.int d) ∧ 1 ≤ d ∧ d ≤ 31) :=
  Proofs.C04.datePart_ranges us

/-- the instant is recovered from the day number, the time-of-day parts and the sub-second rest -/
theorem instant_recomposes (us : Int) :
    us = dayOf us * usPerDay + (usOfDay us / 3600000000) * 3600000000 +
      (usOfDay us / 60000000 % 60) * 60000000 + (usOfDay us / 1000000 % 60) * 1000000 +
      usOfDay us % 1000000 := by
  have h1 := Proofs.C04.day_time_recompose us
  have h2 := Proofs.C04.time_parts_recompose us
  omega

/-! ### the evaluator against the rules -/

/-- The full-strength statement: wherever the rules define a value (or "missing"), the
    evaluator computes it. -/
def eval_eq_spec_full : Prop :=
  ∀ e d v, specEval d e = .ok v → evalExpr d e = .ok v

/-- It is false of the code as it stands (known finding `boolnum`, one of the classes listed in
    Spec/ExprDomain.lean): `{$eq: ["$a", 1]}` on `{a: true}` is false by the rules (a boolean is
    not a number) but the code answers true, through Python `==`. -/
theorem eval_eq_spec_full_fails : ¬ eval_eq_spec_full := by
  intro h
  have := h (.doc [("$eq", .arr [.str "$a", .int 1])]) (.doc [("a", .bool true)])
    (some (.bool false)) (by decide +kernel)
  revert this
  decide +kernel

/-- **eval_eq_spec** (partial: on D) — on every (expression, document) pair of the domain the
    evaluator computes exactly the value the rules define (or "missing" when they say so),
    without raising.  D is `exprInD`: no reason of Spec/ExprDomain.lean applies. -/
theorem eval_eq_spec_partial (e d : Val) (h : exprInD e d = true) :
    evalExpr d e = specEval d e :=
  Proofs.C04.eval_eq_spec e d h

/-- D is inhabited by non-trivial pairs: `$let`, `$map`, `$cond`, arithmetic with a null
    operand, comparisons, a nested path, `$ifNull` over a missing field. -/
example : exprInD
    (.doc [("$let", .doc [
      ("vars", .doc [("v", .doc [("$add", .arr [.str "$a", .int 2])])]),
      ("in", .doc [("$cond", .arr [
        .doc [("$gt", .arr [.str "$$v", .str "$d.n"])],
        .doc [("$map", .doc [("input", .str "$l"),
                             ("in", .doc [("$multiply", .arr [.str "$$this", .str "$$v"])])])],
        .doc [("$ifNull", .arr [.str "$zz", .str "none"])]])])])])
    (.doc [("a", .int 1), ("d", .doc [("n", .dbl 5 1)]), ("l", .arr [.int 1, .dbl 3 1, .null])])
    = true := by decide +kernel

/-- **expr_filter_spec** on D: `find({$expr: e})` selects the document iff the value the rules
    define is truthy (`toBool`, missing = false).  The domain is D itself: the matcher adds no
    exclusion class of its own any more. -/
theorem expr_filter_eq_spec_partial (e d : Val) (h : exprInD e d = true) :
    exprFilter e d = specFilter e d := by
  rw [Proofs.C04.expr_filter_full, Proofs.C04.eval_eq_spec e d h]
  rfl

theorem filterReasons_eq (e d : Val) : filterReasons e d = exprReasons e d := rfl

example : exprInD (.doc [("$and", .arr [.str "$a", .doc [("$lt", .arr [.str "$a", .int 3])]])])
    (.doc [("a", .int 2)]) = true := by decide +kernel

/-- the witnesses of the repaired findings `exprtruth` (a value that is `""`) and `exprmissing`
    (a missing value) are inside D -/
example : exprInD (.str "$s") (.doc [("_id", .int 0), ("s", .str "")]) = true ∧
    exprInD (.str "$a") (.doc [("_id", .int 0)]) = true := by decide +kernel

/-! ### operators repaired in the library: now inside D -/

/-- the witnesses of the repaired findings `strcasecmp`, `numtype`, `adddate`, `nullarg`,
    `filtertruth`, `mapmissing`, `missingcmp` are inside D, where `eval_eq_spec_partial` gives them the value of
    the rules -/
example :
    exprInD (.doc [("$strcasecmp", .arr [.str "$s", .str "ab"])])
      (.doc [("_id", .int 0), ("s", .str "AB")]) = true ∧
    exprInD (.doc [("$mod", .arr [.str "$a", .int 2])]) (.doc [("_id", .int 0), ("a", .int 5)]) = true ∧
    exprInD (.doc [("$ceil", .str "$x")]) (.doc [("_id", .int 0), ("x", .dbl 5 1)]) = true ∧
    exprInD (.doc [("$add", .arr [.str "$t", .int 1000])])
      (.doc [("_id", .int 0), ("t", .date 1577836800000000 none)]) = true ∧
    exprInD (.doc [("$year", .str "$t")]) (.doc [("_id", .int 0), ("t", .null)]) = true ∧
    exprInD (.doc [("$arrayElemAt", .arr [.str "$zz", .int 0])]) (.doc [("_id", .int 0)]) = true ∧
    exprInD (.doc [("$filter", .doc [("input", .str "$l"), ("cond", .str "$$this")])])
      (.doc [("_id", .int 0), ("l", .arr [.str "", .str "x", .int 0])]) = true ∧
    exprInD (.doc [("$map", .doc [("input", .str "$l"), ("in", .str "$zz")])])
      (.doc [("_id", .int 0), ("l", .arr [.int 1])]) = true ∧
    exprInD (.doc [("$lt", .arr [.str "$zz", .null])]) (.doc [("_id", .int 0)]) = true := by
  decide +kernel

/-- `$strcasecmp` compares the upper-cased operands: wherever the rule defines the result, the
    operator body computes it (null and missing operands count as `""`) -/
theorem strcasecmp_spec (a b : Option Val) (r : Val) (h : strcasecmpS a b = .ok r) :
    strcasecmpOp (a.getD .null) (b.getD .null) = .ok r := Proofs.C04.strcasecmp_pure a b r h

example : strcasecmpOp (.str "AB") (.str "ab") = .ok (.int 0) := by
  have h1 : asciiUpper "AB" = .ok "AB" := by decide +kernel
  have h2 : asciiUpper "ab" = .ok "AB" := by decide +kernel
  simp [strcasecmpOp, upperArg, pyStr, h1, h2, bind, Except.bind, pure, Except.pure]

/-- `$mod` of two integers is the integer remainder with the sign of the dividend -/
theorem mod_int (a b : Int) (hb : b ≠ 0) :
    binaryArith "$mod" (.int a) (.int b) = .ok (.int (Int.tmod a b)) := by
  have : (b == 0) = false := by simpa using hb
  rw [Proofs.C04.binaryArith_num "$mod" rfl rfl]
  simp [pyMod, this]

/-- `$ceil $floor $trunc` of a double are doubles -/
theorem round_keeps_double (m : Int) (e : Nat) :
    unaryArith "$ceil" (.f m e) = mkF (ceilDy m e) 0 ∧
    unaryArith "$floor" (.f m e) = mkF (floorDy m e) 0 ∧
    unaryArith "$trunc" (.f m e) = mkF (if m ≥ 0 then floorDy m e else ceilDy m e) 0 := by
  refine ⟨?_, ?_, ?_⟩ <;> simp [unaryArith]

/-- `$add` of a date and an integer moves the date by that many milliseconds (the result being a
    date that Python's `datetime` holds: years 1 to 9999) -/
theorem add_date_int (u n : Int) (hlo : dateMinUs ≤ u + n * 1000) (hhi : u + n * 1000 ≤ dateMaxUs) :
    naryArith "$add" [.date u none, .int n] = .ok (.date (u + n * 1000) none) := by
  simp [naryArith, checkAdd, toPyNum, sumNums, PyNum.add, PyNum.check, datePlus, mkDate, hlo, hhi,
    bind, Except.bind, pure, Except.pure]

/-- beyond that range the model has no answer (the code raises OverflowError, the server has a
    date) -/
theorem add_date_int_out_of_range (u n : Int)
    (h : u + n * 1000 < dateMinUs ∨ dateMaxUs < u + n * 1000) :
    naryArith "$add" [.date u none, .int n] = unmodelled := by
  have : (decide (dateMinUs ≤ u + n * 1000) && decide (u + n * 1000 ≤ dateMaxUs)) = false := by
    rcases h with h | h
    · have : ¬ dateMinUs ≤ u + n * 1000 := by omega
      simp [this]
    · have : ¬ u + n * 1000 ≤ dateMaxUs := by omega
      simp [this]
  simp [naryArith, checkAdd, toPyNum, sumNums, PyNum.add, PyNum.check, datePlus, mkDate, this,
    bind, Except.bind, pure, Except.pure]

/-- `$mod` of two integers stays exact beyond 2^53, where a double no longer holds every integer
    (`math.fmod` would answer 0 for the first and 16 for the second) -/
theorem mod_int_beyond_double :
    binaryArith "$mod" (.int 9007199254740993) (.int 2) = .ok (.int 1) ∧
    binaryArith "$mod" (.int 1541815603606036487) (.int 16) = .ok (.int 7) ∧
    binaryArith "$mod" (.int (-9007199254740993)) (.int 2) = .ok (.int (-1)) := by
  refine ⟨?_, ?_, ?_⟩ <;> (rw [mod_int _ _ (by decide)]; rfl)

/-- "the model has no answer" / "the answer is the double m / 2^e", as decidable tests -/
def noAnswer (r : R Val) : Bool := match r with | .error .unmodelled => true | _ => false
def isDouble (r : R Val) (m : Int) (e : Nat) : Bool :=
  match r with | .ok (.dbl m' e') => m' == m && e' == e | _ => false

/-- an int that `float()` would round has no answer next to a float operand: `$add`, `$subtract`,
    `$divide`, `$mod`, `$avg` of 2^53 + 1 (or 2^54 + 2) and a double are outside the model … -/
theorem rounded_int_with_double_unmodelled :
    noAnswer (naryArith "$add" [.int 9007199254740993, .dbl (-3) 0]) = true ∧
    noAnswer (binaryArith "$subtract" (.int 9007199254740993) (.dbl 3 0)) = true ∧
    noAnswer (binaryArith "$divide" (.int 18014398509481986) (.dbl 3 0)) = true ∧
    noAnswer (binaryArith "$mod" (.int 9007199254740993) (.dbl 2 0)) = true ∧
    noAnswer (groupingInExpr "$avg" [.int 6004799503160662, .int 6004799503160662,
      .int 6004799503160662]) = true := by
  decide +kernel

/-- … while ints that are doubles (2^53, 2^60) mix with doubles as before, and two ints are
    divided exactly -/
theorem exact_int_with_double :
    isDouble (naryArith "$add" [.int 9007199254740992, .dbl (-3) 0]) 9007199254740989 0 = true ∧
    isDouble (binaryArith "$mod" (.int 1152921504606846976) (.dbl 3 0)) 1 0 = true ∧
    isDouble (binaryArith "$divide" (.int 18014398509481986) (.int 3)) 6004799503160662 0 = true := by
  decide +kernel

/-- `{$mod: ["$a", 2]}` on a stored 2^53 + 1 is inside D (so `eval_eq_spec_partial` gives it the
    exact remainder of the rules); `{$add: ["$a", -3.0]}` on it is not -/
example :
    exprInD (.doc [("$mod", .arr [.str "$a", .int 2])])
      (.doc [("_id", .int 0), ("a", .int 9007199254740993)]) = true ∧
    exprInD (.doc [("$add", .arr [.str "$a", .dbl (-3) 0])])
      (.doc [("_id", .int 0), ("a", .int 9007199254740993)]) = false := by
  decide +kernel

/-- two dates are rejected -/
theorem add_two_dates (u u' : Int) (r : List Val) :
    naryArith "$add" (.date u none :: .date u' none :: r) = .error .opFail := by
  simp [naryArith, checkAdd, bind, Except.bind]

/-- `$concat` rejects an operand that is neither a string nor null -/
theorem concat_rejects (vals : List Val) (v : Val) (hv : v ∈ vals) (h1 : isNull v = false)
    (h2 : isStr v = false) : concatOp vals = .error .opFail := by
  have : vals.any (fun v => !isNull v && !isStr v) = true :=
    List.any_eq_true.mpr ⟨v, hv, by simp [h1, h2]⟩
  simp [concatOp, this]

/-! ### `$sum $avg $min $max` as expression operators

    Repaired in the library by 94aa9ad (`$min` / `$max` order values of several types by the BSON
    order instead of raising TypeError) and 2f66991 (`$sum` / `$avg` ignore booleans like every
    other value that is not a number); findings `minmaxtypes`, `sumbool` (now `fixed`).  The
    operators are inside the fragment of `eval_eq_spec_partial`; the statements below say what
    they compute.  `groupingInExpr` is `_GROUPING_OPERATOR_MAP[op]` of the code as an expression
    operator (`groupingList`, with no answer for an `$avg` whose integer sum `float()` would
    round: the rule has none there either, `pyTrueDiv`), `accS` the rule. -/

/-- **sum_avg_spec** (full strength: every list of values, no hypothesis) — `$sum` is the sum of
    the numbers among the values and `$avg` their mean; what is not a number is ignored. -/
theorem sum_avg_spec (k : String) (hk : k = "$sum" ∨ k = "$avg") (xs : List Val) :
    groupingInExpr k xs = accS k (xs.map some) := by
  have := Proofs.C04.sumavg_eq k hk (xs.map some)
  rwa [Proofs.C04.nulled_some] at this

/-- a value that is not a number — null, missing, a boolean, a string, a date, an array, a
    document — changes neither `$sum` nor `$avg` -/
theorem sum_avg_ignore (k : String) (hk : k = "$sum" ∨ k = "$avg") (v : Option Val)
    (vs : List (Option Val)) (h : v.bind number = none) : accS k (v :: vs) = accS k vs := by
  rcases hk with rfl | rfl <;> simp [accS, numbersOf, h]

/-- in particular a boolean (it used to count as 0 / 1: finding `sumbool`), null and missing -/
example : (some (Val.bool true)).bind number = none ∧ (some Val.null).bind number = none ∧
    (none : Option Val).bind number = none ∧ (some (Val.arr [.int 1])).bind number = none := by
  simp [number]

/-- `$sum` of integers is their sum, an integer -/
theorem sum_of_ints (is : List Int) :
    accS "$sum" (is.map (fun i => some (Val.int i))) = .ok (.int (is.foldl (· + ·) 0)) := by
  simp [accS, Proofs.C04.numbersOf_ints, Proofs.C04.sumAll_ints, PyNum.toVal, bind, Except.bind]

/-- no number among the values: `$sum` is 0 and `$avg` is null -/
theorem sum_avg_of_no_number (vs : List (Option Val)) (h : numbersOf vs = []) :
    accS "$sum" vs = .ok (.int 0) ∧ accS "$avg" vs = .ok .null := by
  constructor <;> simp [accS, h, sumAll, PyNum.toVal, bind, Except.bind]

example : numbersOf [some (.bool true), none, some .null, some (.str "1")] = [] := by
  simp [numbersOf, number]

/-- the former counterexample of `sumbool`: `{$sum: [1, true]}` is 1 -/
example : groupingInExpr "$sum" [.int 1, .bool true] = .ok (.int 1) := by decide +kernel

/-- The full-strength statement for `$min` / `$max`: on every list of values the code computes the
    first least / greatest, in the BSON order of the rules, of the values that are not null. -/
def minmax_spec_full : Prop :=
  ∀ (k : String), k = "$min" ∨ k = "$max" → ∀ xs : List Val,
    groupingInExpr k xs = accS k (xs.map some)

/-- It is false of the code as it stands (known finding `boolnum`: inside arrays `bson_compare`
    skips the items that are equal by Python `==`, and `1 == True`): the rules put `[1]` below
    `[true]`, the code finds them equal and keeps the first. -/
theorem minmax_spec_full_fails : ¬ minmax_spec_full := by
  intro h
  have := h "$max" (Or.inr rfl) [.arr [.int 1], .arr [.bool true]]
  revert this
  decide +kernel

/-- **minmax_spec** (partial: no reason of the domain applies to a comparison between two of the
    values that are not null, i.e. they are flat — scalars and arrays of scalars — and no array
    among them meets a boolean/number clash): `$min` / `$max` is the first least / greatest of
    the values that are neither null nor missing in the BSON order, null when there is none.
    Values of several types are ordered by type (finding `minmaxtypes`, repaired). -/
theorem minmax_spec_partial (k : String) (hk : k = "$min" ∨ k = "$max") (xs : List Val)
    (h : pairwiseReasons (xs.filter (fun v => !isNull v)) = []) :
    groupingInExpr k xs = accS k (xs.map some) := by
  have := Proofs.C04.minmax_eq k hk (xs.map some) (by rwa [Proofs.C04.presentOf_map_some])
  rwa [Proofs.C04.nulled_some] at this

/-- values of five types, a null among them, and an array -/
example : pairwiseReasons ([Val.int 1, .str "x", .null, .bool true, .date 0 none,
    .arr [.int 2, .str "a"], .dbl 3 1].filter (fun v => !isNull v)) = [] := by decide +kernel

/-- the former counterexample of `minmaxtypes`: `{$max: [1, "x", true]}` is `true` -/
example : groupingInExpr "$max" [.int 1, .str "x", .bool true] = .ok (.bool true) := by
  decide +kernel

/-- nothing but null and missing values: `$min` and `$max` are null -/
theorem minmax_of_nothing (k : String) (hk : k = "$min" ∨ k = "$max") (vs : List (Option Val))
    (h : presentOf vs = []) : accS k vs = .ok .null := by
  rcases hk with rfl | rfl <;> simp [accS, h]

example : presentOf [none, some .null, none] = [] := by decide +kernel

/-- the rules' `$min` / `$max` is one of the values, -/
theorem minmax_is_member (isMax : Bool) (r : List Val) (y : Val) :
    extremumS isMax r y ∈ y :: r := by
  induction r generalizing y with
  | nil => simp [extremumS]
  | cons v r ih =>
    rw [extremumS]
    generalize (if isMax = true then ord y v == .lt else ord v y == .lt) = cnd
    cases cnd
    · have := ih y
      simp only [List.mem_cons] at this ⊢
      exact this.imp_right .inr
    · exact List.mem_cons_of_mem _ (ih v)

/-- **max_is_greatest** — no value is above the `$max` (flat values), -/
theorem max_is_greatest (r : List Val) (y : Val) (h : ∀ v ∈ y :: r, cmpFlat v = true) :
    ∀ v ∈ y :: r, ord v (extremumS true r y) ≠ .gt :=
  Proofs.C04.keepBetter_bound ord (extremumS true) Proofs.C04.flat_swap Proofs.C04.flat_trans
    (minmax_is_member true) (fun _ => rfl) (fun _ _ _ => rfl) r y h

/-- **min_is_least** — no value is below the `$min`, -/
theorem min_is_least (r : List Val) (y : Val) (h : ∀ v ∈ y :: r, cmpFlat v = true) :
    ∀ v ∈ y :: r, ord (extremumS false r y) v ≠ .gt :=
  Proofs.C04.keepBetter_bound (fun a b => ord b a) (extremumS false)
    (fun a b ha hb => Proofs.C04.flat_swap b a hb ha)
    (fun a b c ha hb hc h1 h2 => Proofs.C04.flat_trans c b a hc hb ha h2 h1)
    (minmax_is_member false) (fun _ => rfl) (fun _ _ _ => rfl) r y h

example : ∀ v ∈ [Val.int 1, .str "x", .arr [.bool true, .null], .dbl 3 1], cmpFlat v = true := by
  decide +kernel

/-- and of equal values the first wins: a value is replaced only by a strictly better one. -/
theorem minmax_first_wins (isMax : Bool) (r : List Val) (y : Val)
    (h : ∀ v ∈ r, (if isMax then ord y v else ord v y) ≠ .lt) : extremumS isMax r y = y := by
  induction r with
  | nil => rfl
  | cons w r ih =>
    have hw := h w (by simp)
    have hc : (if isMax = true then ord y w == .lt else ord w y == .lt) = false := by
      cases isMax <;> simpa using hw
    simp only [extremumS, hc, Bool.false_eq_true, if_false]
    exact ih (fun v hv => h v (by simp [hv]))

/-- e.g. `{$max: [1, 1.0]}` is the integer, `{$max: [1.0, 1]}` the double -/
example : extremumS true [.dbl 1 0] (.int 1) = .int 1 ∧ extremumS true [.int 1] (.dbl 1 0) = .dbl 1 0 :=
  ⟨rfl, rfl⟩

/-- **bson_order_total_preorder** — "greatest" and "least" make sense: on flat values the BSON
    order of the rules is oriented (exactly one of `<`, `=`, `>` holds, and swapping the operands
    swaps the outcome) and transitive. -/
theorem bson_order_oriented (a b : Val) (ha : cmpFlat a = true) (hb : cmpFlat b = true) :
    ord b a = (ord a b).swap := Proofs.C04.flat_swap a b ha hb

theorem bson_order_transitive (a b c : Val) (ha : cmpFlat a = true) (hb : cmpFlat b = true)
    (hc : cmpFlat c = true) (h1 : ord a b ≠ .gt) (h2 : ord b c ≠ .gt) : ord a c ≠ .gt :=
  Proofs.C04.flat_trans a b c ha hb hc h1 h2

example : cmpFlat (.arr [.int 1, .str "a"]) = true ∧ cmpFlat (.dbl 1 1) = true ∧
    cmpFlat (.bool false) = true ∧ ord (.dbl 1 1) (.arr [.int 1, .str "a"]) ≠ .gt ∧
    ord (.arr [.int 1, .str "a"]) (.bool false) ≠ .gt := by decide +kernel

/-- **acc_list_spec** — `{$op: [e₁, …, eₙ]}` for `$sum $avg $min $max` in the computed-field and
    `$expr` contexts: every operand is evaluated, then the operator ranges over the values — a
    missing operand (`none`) is skipped like a null one, an operand whose value is an array is one
    value (it is not a number; it is compared as an array). -/
theorem acc_list_spec (c : Ctx) (hign : c.ign = true) (k : String)
    (hk : k = "$sum" ∨ k = "$avg" ∨ k = "$min" ∨ k = "$max")
    (xs : List Val) (vs : List (Option Val)) (h1 : xs.map (eval c) = vs.map .ok)
    (hr : strictReasons k vs = []) :
    eval c (.doc [(k, .arr xs)]) = (accS k vs).map some :=
  Proofs.C04.acc_list_eval c hign k hk xs vs h1 hr

/-- operands of three types, one of them missing -/
example : ∃ (c : Ctx) (xs : List Val) (vs : List (Option Val)), c.ign = true ∧
    xs.map (eval c) = vs.map .ok ∧ strictReasons "$max" vs = [] ∧
    vs = [some (.int 3), none, some (.str "x"), some (.bool false)] :=
  ⟨Ctx.init true (.doc [("a", .int 3), ("s", .str "x"), ("f", .bool false)]),
   [.str "$a", .str "$zz", .str "$s", .str "$f"],
   [some (.int 3), none, some (.str "x"), some (.bool false)], rfl, by decide +kernel,
   by decide +kernel, rfl⟩

/-- **acc_missing_operand_spec** (full strength) — one operand that is not written as a list and
    whose value is missing leaves nothing to range over: `$sum` is 0, `$avg $min $max` are null
    (the expression used to be missing itself: finding `accbaremissing`, repaired by 50b60be). -/
theorem acc_missing_operand_spec (c : Ctx) (k : String)
    (hk : k = "$sum" ∨ k = "$avg" ∨ k = "$min" ∨ k = "$max") (v : Val) (hv : v.isArr = false)
    (h1 : eval c v = .ok none) :
    eval c (.doc [(k, v)]) = (accBareS k none).map some :=
  Proofs.C04.acc_bare_missing c k hk v hv h1

/-- the former counterexample: `{$sum: "$zz"}` is 0, `{$max: "$zz"}` is null -/
example : evalExpr (.doc []) (.doc [("$sum", .str "$zz")]) = .ok (some (.int 0)) ∧
    evalExpr (.doc []) (.doc [("$max", .str "$zz")]) = .ok (some .null) := by
  have h1 : eval (Ctx.init true (.doc [])) (.str "$zz") = .ok none := by decide +kernel
  constructor
  · unfold evalExpr
    rw [acc_missing_operand_spec _ "$sum" (Or.inl rfl) _ rfl h1]; rfl
  · unfold evalExpr
    rw [acc_missing_operand_spec _ "$max" (Or.inr (Or.inr (Or.inr rfl))) _ rfl h1]; rfl

/-- **acc_path_spec** (partial: the value of the operand is an array to whose elements no reason
    applies — for `$sum` / `$avg` there is none, `acc_path_sum_avg_spec` below; for `$min` / `$max`
    the classes that remain are those of `minmax_spec_full_fails`). -/
theorem acc_path_spec_partial (c : Ctx) (hign : c.ign = true) (k : String)
    (hk : k = "$sum" ∨ k = "$avg" ∨ k = "$min" ∨ k = "$max") (v : Val) (hv : v.isArr = false)
    (ys : List Val) (h1 : eval c v = .ok (some (.arr ys)))
    (hr : strictReasons k (ys.map some) = []) :
    eval c (.doc [(k, v)]) = (accBareS k (some (.arr ys))).map some :=
  Proofs.C04.acc_bare_eval c hign k hk v hv ys h1 hr

example : ∃ (c : Ctx) (s : String) (ys : List Val), c.ign = true ∧
    eval c (.str s) = .ok (some (.arr ys)) ∧ strictReasons "$min" (ys.map some) = [] ∧
    ys = [.int 3, .null, .str "a", .bool true] :=
  ⟨Ctx.init true (.doc [("l", .arr [.int 3, .null, .str "a", .bool true])]), "$l",
   [.int 3, .null, .str "a", .bool true], rfl, by decide +kernel, by decide +kernel, rfl⟩

/-- **acc_single_value_spec** — an operand whose value is present and not an array is the one
    value the operator ranges over: `{$sum: "$a"}` is `a` for a number and 0 otherwise,
    `{$max: "$a"}` is `a` (it used to be iterated over — a TypeError for numbers, the characters of
    a string: part of finding `scalararg`, repaired by e7bd52b).  No hypothesis on the value. -/
theorem acc_single_value_spec (c : Ctx) (k : String)
    (hk : k = "$sum" ∨ k = "$avg" ∨ k = "$min" ∨ k = "$max") (v : Val) (hv : v.isArr = false)
    (x : Val) (hx : x.isArr = false) (h1 : eval c v = .ok (some x)) :
    eval c (.doc [(k, v)]) = (accBareS k (some x)).map some := by
  rw [Proofs.C04.acc_bare_eval_val c k hk v hv x hx h1]
  cases x <;> simp [Val.isArr] at hx <;> rfl

example : ∃ (c : Ctx) (v x : Val), v.isArr = false ∧ x.isArr = false ∧ eval c v = .ok (some x) ∧
    x = .str "ab" :=
  ⟨Ctx.init true (.doc [("s", .str "ab")]), .str "$s", .str "ab", rfl, rfl, by decide +kernel, rfl⟩

/-- the witnesses of the repaired findings `minmaxtypes` and `sumbool` are inside D, where
    `eval_eq_spec_partial` gives them the value of the rules; so are the two forms over operands
    of several types -/
example :
    exprInD (.doc [("$max", .arr [.str "$a", .str "x"])]) (.doc [("_id", .int 0), ("a", .int 1)]) = true ∧
    exprInD (.doc [("$sum", .arr [.str "$a", .str "$f"])])
      (.doc [("_id", .int 0), ("a", .int 1), ("f", .bool true)]) = true ∧
    exprInD (.doc [("$min", .str "$x")])
      (.doc [("_id", .int 0), ("x", .arr [.int 1, .str "x", .bool true, .null, .arr [.int 3]])]) = true ∧
    exprInD (.doc [("$avg", .arr [.str "$a", .str "$zz", .null, .str "$f", .dbl 5 1])])
      (.doc [("_id", .int 0), ("a", .int 1), ("f", .bool true)]) = true := by
  decide +kernel

/-- **acc_path_sum_avg_spec** (full strength) — `{$sum: e}` / `{$avg: e}` with `e` not written
    as a list, whatever the value of `e` is: an array is ranged over, any other value is the one
    value, a missing one leaves nothing. -/
theorem acc_path_sum_avg_spec (c : Ctx) (hign : c.ign = true) (k : String)
    (hk : k = "$sum" ∨ k = "$avg") (v : Val) (hv : v.isArr = false) (a : Option Val)
    (h1 : eval c v = .ok a) :
    eval c (.doc [(k, v)]) = (accBareS k a).map some := by
  have hk' : k = "$sum" ∨ k = "$avg" ∨ k = "$min" ∨ k = "$max" := by
    rcases hk with h | h
    · exact Or.inl h
    · exact Or.inr (Or.inl h)
  cases a with
  | none => exact acc_missing_operand_spec c k hk' v hv h1
  | some x =>
    cases hx : x.isArr with
    | false => exact acc_single_value_spec c k hk' v hv x hx h1
    | true =>
      obtain ⟨ys, rfl⟩ : ∃ ys, x = .arr ys := by
        cases x <;> simp [Val.isArr] at hx; exact ⟨_, rfl⟩
      exact acc_path_spec_partial c hign k hk' v hv ys h1 (by
        rcases hk with rfl | rfl <;> simp [strictReasons, arithOps])

/-! ### the second batch of repairs of the evaluator

    fce7e55 (an array in expression position evaluates its items), 9ff1475 (an operator that
    takes one argument accepts a one-item argument list), f32e005 (a variadic operator takes a
    bare operand as a one-item list), e7bd52b (`acc_single_value_spec` above), 10aa9e1 (booleans
    are rejected in arithmetic and as indexes), 9957044 / b53c397 (`let_subst`,
    `var_name_rule` above), f19df5e (a field path through an array).  Findings `arrayliteral`,
    `boolarith`, `letmissing`, `laxargs` are `fixed`; of `scalararg` and `arraypath` a part
    remains. -/

/-- **array_literal_spec** (full strength) — an array in expression position evaluates each of
    its items; an item whose value is missing gives a null item (it used to be returned as it
    was written: finding `arrayliteral`). -/
theorem array_literal_spec (c : Ctx) (xs : List Val) (vs : List (Option Val))
    (h : xs.map (eval c) = vs.map .ok) :
    eval c (.arr xs) = .ok (some (.arr (vs.map (·.getD .null)))) := by
  rw [Proofs.C04.eval_arr, Proofs.C04.evalItems_ok c xs vs h]; rfl

example : ∃ (c : Ctx) (xs : List Val) (vs : List (Option Val)),
    xs.map (eval c) = vs.map .ok ∧ vs = [some (.int 3), none, some (.arr [.int 3])] :=
  ⟨Ctx.init true (.doc [("a", .int 3)]), [.str "$a", .str "$zz", .arr [.str "$a"]],
   [some (.int 3), none, some (.arr [.int 3])], by decide +kernel, rfl⟩

/-- an item that raises makes the array raise -/
theorem array_literal_error (c : Ctx) (pre post : List Val) (x : Val) (vs : List (Option Val))
    (e : Err) (h : pre.map (eval c) = vs.map .ok) (hx : eval c x = .error e) :
    eval c (.arr (pre ++ x :: post)) = .error e :=
  Proofs.C04.array_literal_error c pre post x vs e h hx

/-- **unary_list_spec** — `{$op: [x]}` is `{$op: x}` for every operator that takes exactly one
    argument (`$abs … $trunc`, the date parts, `$not $toLower $toUpper $toString $isArray
    $isNumber $arrayToObject $objectToArray …`) and every `x` not itself written as a list, -/
theorem unary_list_spec (c : Ctx) (k : String) (hk : unaryListOps.contains k = true) (x : Val)
    (hx : x.isArr = false) :
    eval c (.doc [(k, .arr [x])]) = eval c (.doc [(k, x)]) := by
  obtain ⟨h1, h2, h3, hv⟩ := Proofs.C04.unaryListOps_known k hk
  rw [Proofs.C04.eval_op_unary_list c k x h1 h2 h3 hk,
    Proofs.C04.eval_op_plain c k x h1 h2 h3 (by rw [hx, Bool.and_false]) (by rw [hv]; rfl)]

example : unaryListOps.contains "$year" = true ∧ unaryListOps.contains "$toUpper" = true := by
  simp [unaryListOps, unaryArithOps, datePartOps]

/-- and any other number of items is rejected. -/
theorem unary_list_arity (c : Ctx) (k : String) (hk : unaryListOps.contains k = true)
    (xs : List Val) (hlen : xs.length ≠ 1) :
    eval c (.doc [(k, .arr xs)]) = .error .opFail := by
  obtain ⟨h1, h2, h3, _⟩ := Proofs.C04.unaryListOps_known k hk
  exact Proofs.C04.eval_op_unary_arity c k xs h1 h2 h3 hk hlen

/-- **bare_operand_spec** — `$add $multiply $concat $and $or $setUnion` take one operand that is
    not written as a list as a one-item argument list (it used to be an AssertionError /
    TypeError: finding `scalararg`). -/
theorem bare_operand_spec (c : Ctx) (k : String) (hk : variadicOps.contains k = true) (v : Val)
    (hv : v.isArr = false) :
    eval c (.doc [(k, v)]) = eval c (.doc [(k, .arr [v])]) :=
  Proofs.C04.bare_eq_list c k hk v hv

/-- the former counterexample of `scalararg`: `{$add: "$a"}` on `{a: 1}` is 1 -/
example : evalExpr (.doc [("a", .int 1)]) (.doc [("$add", .str "$a")]) = .ok (some (.int 1)) := by
  decide +kernel

/-- **bool_not_a_number** — a boolean operand is rejected by the arithmetic operators and as an
    index of `$arrayElemAt` (it used to count as 0 / 1: finding `boolarith`, repaired by 10aa9e1);
    a null operand that is looked at first still gives null. -/
theorem bool_not_a_number (k : String) (b : Bool) :
    unaryArithOpt k (some (.bool b)) = .error .opFail ∧
    (∀ y, isNull y = false → binaryArith k (.bool b) y = .error .opFail) ∧
    (∀ x, isNull x = false → binaryArith k x (.bool b) = .error .opFail) ∧
    (∀ a, isNull a = false → arrayElemAtOp a (.bool b) = .error .opFail) :=
  have h0 : isNull (Val.bool b) = false := rfl
  ⟨rfl, fun y hy => Proofs.C04.binaryArith_bool k (by rw [h0, hy]; rfl) rfl,
   fun x hx => Proofs.C04.binaryArith_bool k (by rw [h0, hx]; rfl) (by rw [Bool.or_comm]; rfl),
   fun a ha => by simp [arrayElemAtOp, h0, ha, isBoolV]⟩

/-- `$add` / `$multiply`: the operands are looked at from the left; a boolean after numbers is
    rejected (a null met first gives null: `null_propagates_nary`) -/
theorem nary_bool_rejected (op : String) (hop : op = "$add" ∨ op = "$multiply")
    (pre post : List Val) (b : Bool) (hpre : ∀ v ∈ pre, (toPyNumNB v).isSome = true) :
    naryArith op (pre ++ .bool b :: post) = .error .opFail := by
  have hne : (pre ++ Val.bool b :: post).isEmpty = false := by cases pre <;> rfl
  rcases hop with rfl | rfl <;>
    simp [naryArith, hne, Proofs.C04.checkNums_stops pre (.bool b :: post) hpre (.inr ⟨_, rfl⟩),
      Proofs.C04.checkAdd_stops pre (.bool b :: post) none hpre (.inr ⟨_, rfl⟩), checkNums,
      checkAdd, bind, Except.bind]

example : ∀ v ∈ [Val.int 1, .dbl 3 1], (toPyNumNB v).isSome = true := by decide +kernel

/-- The full-strength statement for field paths: wherever the rules' path lookup has an answer,
    `get_value_by_dot` computes it. -/
def field_path_spec_full : Prop :=
  ∀ (ps : List String) (v : Val) (r : Option Val), Spec.path ps v = .ok r → getDotGen ps v = .ok r

/-- It is false of the code as it stands (known finding `arraypath`, the half that remains): a
    numeric component that meets an array indexes it — `$l.0` on `{l: [7]}` is 7 — where the rules
    look for a field `0` in the documents of the array and find `[]`. -/
theorem field_path_spec_full_fails : ¬ field_path_spec_full := by
  intro h
  have := h ["l", "0"] (.doc [("l", .arr [.int 7])]) (some (.arr [])) rfl
  rw [show getDotGen ["l", "0"] (.doc [("l", .arr [.int 7])]) = .ok (some (.int 7)) from rfl] at this
  simp at this

/-- **field_path_spec** (partial: no numeric component meets an array) — a path descends through
    sub-documents; through an array it gives the values that the documents of the array have at
    the rest of the path, the others being left out (it used to be missing unless every element
    had the field: the repaired half of `arraypath`, f19df5e). -/
theorem field_path_spec_partial (ps : List String) (v : Val) (h : pathIndexesArray ps v = false)
    (r : Option Val) (hs : Spec.path ps v = .ok r) : getDotGen ps v = .ok r :=
  Proofs.C04.getDotGen_of_path ps v h r hs

/-- the former witness: `$q.n` on `{q: [{n: 1}, {p: 2}]}` is `[1]` -/
example : pathIndexesArray ["q", "n"]
      (.doc [("q", .arr [.doc [("n", .int 1)], .doc [("p", .int 2)]])]) = false ∧
    Spec.path ["q", "n"] (.doc [("q", .arr [.doc [("n", .int 1)], .doc [("p", .int 2)]])]) =
      .ok (some (.arr [.int 1])) := ⟨by decide +kernel, rfl⟩

/-- the witnesses of the repaired findings `arrayliteral`, `scalararg` (the repaired part),
    `boolarith` (the rules reject it, so does the code), `letmissing`, `arraypath` (the repaired
    half) and the bare accumulator operand are inside D, where `eval_eq_spec_partial` gives them
    the value of the rules -/
example :
    exprInD (.doc [("$not", .arr [.str "$a"])]) (.doc [("_id", .int 0), ("a", .int 0)]) = true ∧
    exprInD (.doc [("$add", .str "$a")]) (.doc [("_id", .int 0), ("a", .int 1)]) = true ∧
    exprInD (.doc [("$let", .doc [("vars", .doc [("v", .str "$zz")]), ("in", .int 1)])])
      (.doc [("_id", .int 0)]) = true ∧
    exprInD (.str "$q.n")
      (.doc [("_id", .int 0), ("q", .arr [.doc [("n", .int 1)], .doc [("p", .int 2)]])]) = true ∧
    exprInD (.doc [("$max", .str "$a")]) (.doc [("_id", .int 0), ("a", .int 5)]) = true ∧
    exprInD (.doc [("$concatArrays", .arr [.arr [.str "$a", .str "$zz"], .str "$l"])])
      (.doc [("_id", .int 0), ("a", .int 1), ("l", .arr [.int 2])]) = true ∧
    exprInD (.doc [("$and", .str "$a")]) (.doc [("_id", .int 0), ("a", .int 1)]) = true := by
  decide +kernel

/-- and the rules reject a boolean in arithmetic: `{$add: ["$f", 1]}` on `{f: true}` is outside D
    only because there is no value to compare (`specraises`) -/
example : exprReasons (.doc [("$add", .arr [.str "$f", .int 1])])
    (.doc [("_id", .int 0), ("f", .bool true)]) = ["specraises"] := by decide +kernel

/-! ### the third batch of repairs of the evaluator

    d10f41c (an operator of a fixed arity rejects any other number of arguments before evaluating
    them), 50b60be (`acc_missing_operand_spec` above), b727c9f (`$toString` of a datetime).  What
    remains of finding `scalararg` is `$strcasecmp` given a bare operand. -/

/-- **arity_list_spec** (full strength) — comparisons, `$subtract $divide $mod $pow $log`, `$in`,
    `$split`, `$arrayElemAt` take exactly two arguments, `$cond` three, `$ifNull` and `$setEquals`
    at least two: a list of another length is an OperationFailure, and none of its items is
    evaluated (whatever they are, the answer is the same). -/
theorem arity_list_spec (c : Ctx) (k : String) (hk : arityOps.contains k = true) (xs : List Val)
    (h : arityErr k xs.length = some .opFail) :
    eval c (.doc [(k, .arr xs)]) = .error .opFail := by
  rw [Proofs.C04.eval_arityOp c k hk]
  simp [evalOp, h]

example : arityOps.contains "$eq" = true ∧ arityErr "$eq" [Val.doc [("$divide", .arr [.int 1, .int 0])]].length = some .opFail ∧
    arityErr "$cond" 2 = some .opFail ∧ arityErr "$ifNull" 1 = some .opFail ∧
    arityErr "$setEquals" 0 = some .opFail ∧ arityErr "$cmp" 3 = some .opFail := by decide +kernel

/-- **arity_bare_spec** (full strength) — a bare operand counts as one argument: rejected, whatever
    it is (`{$eq: "$a"}` used to compare the characters `$` and `a`: finding `scalararg`); the
    `{if, then, else}` document of `$cond` is the one exception. -/
theorem arity_bare_spec (c : Ctx) (k : String) (hk : arityOps.contains k = true) (v : Val)
    (hv : v.isArr = false) (hc : k = "$cond" → v.isDoc = false) :
    eval c (.doc [(k, v)]) = .error .opFail := by
  have : ∀ x ∈ ["$let", "$map", "$filter", "$switch"], arityOps.contains x = false := by
    decide +kernel
  rw [Proofs.C04.eval_arityOp c k hk, Proofs.C04.evalOp_bare c k v hv, argShapeErr, if_pos hk]
  intro hd hm
  simp only [List.mem_cons, List.not_mem_nil, or_false] at hm
  rcases hm with rfl | rfl | rfl | rfl | rfl
  all_goals first | exact absurd hd (by simpa using hc rfl) | exact absurd hk (by rw [this _ (by simp)]; nofun)

example : arityOps.contains "$ifNull" = true ∧ (Val.str "$a").isArr = false := by decide +kernel

/-- the rules reject it too: by the rules an operator of two arguments given another number of
    them has no value -/
theorem arity_rules_reject (root : Val) (env : Env) (k : String)
    (hk : Proofs.C04.binaryRuleOps.contains k = true) (xs : List Val) (hlen : xs.length ≠ 2)
    (r : Option Val) : sOperator root env [(k, .arr xs)] ≠ .ok r := by
  have : ∀ k ∈ Proofs.C04.binaryRuleOps, strictOps.contains k = true ∧ k ≠ "$literal" := by
    decide +kernel
  obtain ⟨hst, hlit⟩ := this k (by simpa using hk)
  simp only [sOperator, hlit, if_false, hst, if_true, bind, Except.bind]
  cases hs : sList root env xs with
  | error e => simp
  | ok vs =>
    have := Proofs.C04.sList_length root env xs vs hs
    simp [Proofs.C04.applyStrict_two k hk vs (by omega)]

/-- `$toString` of a (naive, UTC) datetime is `YYYY-MM-DDTHH:MM:SS.mmmZ`, always with three
    fraction digits (a whole minute used to lose its seconds: repaired by b727c9f) -/
theorem toString_date_spec (u : Int) :
    toStringOp (.date u none) = .ok (.str (isoZ u)) ∧ toStringS (some (.date u none)) = .ok (.str (isoZ u)) :=
  ⟨rfl, rfl⟩

example : isoZ 1577836800000000 = "2020-01-01T00:00:00.000Z" := by decide +kernel

/-- the witnesses of the repaired finding `accbaremissing` and of `$toString` of a date are
    inside D; `{$eq: "$a"}` is outside only because the rules reject it -/
example :
    exprInD (.doc [("$sum", .str "$zz")]) (.doc [("_id", .int 0)]) = true ∧
    exprInD (.doc [("$toString", .str "$t")])
      (.doc [("_id", .int 0), ("t", .date 1577836800000000 none)]) = true ∧
    exprReasons (.doc [("$eq", .str "$a")]) (.doc [("_id", .int 0), ("a", .int 1)]) = ["specraises"] := by
  decide +kernel

/-! ### `$dateFromParts`, `$dateFromString` -/

/-- **civil_of_days** — the other direction of `civil_roundtrip`: the day number of a valid
    calendar date (month 1 … 12, day 1 … the days of that month, any year) gives that date back. -/
theorem civil_of_days (y m d : Int) (hm1 : 1 ≤ m) (hm2 : m ≤ 12) (hd1 : 1 ≤ d)
    (hd2 : d ≤ daysInMonth y m) :
    civilFromDays (daysFromCivil y m d) = (y, m, d) :=
  Proofs.C04.civil_of_days y m d hm1 hm2 hd1 hd2

example : civilFromDays (daysFromCivil 2020 2 29) = (2020, 2, 29) ∧ (29 : Int) ≤ daysInMonth 2020 2 := by
  decide +kernel

open _root_.MongoModel.Proofs.C04 (partsDoc partsArgs PartsInRange partsUs)

/-- **dateFromParts_parts_roundtrip** — for parts that are all inside their calendar ranges
    (year 1 … 9999, month 1 … 12, day 1 … the days of that month, hour 0 … 23, minute and second
    0 … 59, millisecond 0 … 999) `$dateFromParts` answers a date, and `$year $month $dayOfMonth
    $hour $minute $second $millisecond` of that date are the parts. -/
theorem dateFromParts_parts_roundtrip (y mo d h mi s ms : Int) (hr : PartsInRange y mo d h mi s)
    (ms0 : 0 ≤ ms) (ms1 : ms ≤ 999) :
    ∃ u, dateOp "$dateFromParts" (partsDoc y mo d h mi s ms) = .ok (.date u none) ∧
      dateOp "$year" (.date u none) = .ok (.int y) ∧
      dateOp "$month" (.date u none) = .ok (.int mo) ∧
      dateOp "$dayOfMonth" (.date u none) = .ok (.int d) ∧
      dateOp "$hour" (.date u none) = .ok (.int h) ∧
      dateOp "$minute" (.date u none) = .ok (.int mi) ∧
      dateOp "$second" (.date u none) = .ok (.int s) ∧
      dateOp "$millisecond" (.date u none) = .ok (.int ms) := by
  refine ⟨partsUs y mo d h mi s ms, ?_, ?_⟩
  · rw [Proofs.C04.dateOp_fromParts, Proofs.C04.dateFromPartsOp_inrange y mo d h mi s ms hr,
      Proofs.C04.mkDate_inrange y mo d h mi s ms hr ms0 ms1]
  · rw [Proofs.C04.dateOp_part "$year" (by simp [datePartOps]), Proofs.C04.dateOp_part "$month" (by simp [datePartOps]),
      Proofs.C04.dateOp_part "$dayOfMonth" (by simp [datePartOps]), Proofs.C04.dateOp_part "$hour" (by simp [datePartOps]),
      Proofs.C04.dateOp_part "$minute" (by simp [datePartOps]), Proofs.C04.dateOp_part "$second" (by simp [datePartOps]),
      Proofs.C04.dateOp_part "$millisecond" (by simp [datePartOps])]
    exact Proofs.C04.parts_of_partsUs y mo d h mi s ms hr ms0 ms1

example : PartsInRange 2020 2 29 13 14 15 := by decide +kernel

/-- the same through the evaluator, on one expression: the month of a date built from parts -/
example :
    evalExpr (.doc [("_id", .int 0)])
      (.doc [("$month", .doc [("$dateFromParts", .doc [("year", .int 2020), ("month", .int 2),
        ("day", .int 29), ("hour", .int 13), ("millisecond", .int 123)])])]) = .ok (some (.int 2)) := by
  decide +kernel

/-- **dateFromParts_eq_spec_partial** — on integer parts that are all inside their calendar
    ranges (the milliseconds may be any integer) the model of the code and the rule agree: both
    answer the instant of those parts, or have no answer when the milliseconds carry it out of
    the years 1 … 9999. -/
theorem dateFromParts_eq_spec_partial (y mo d h mi s ms : Int) (hr : PartsInRange y mo d h mi s) :
    dateOp "$dateFromParts" (partsDoc y mo d h mi s ms) = dateFromPartsS (partsArgs y mo d h mi s ms) := by
  rw [Proofs.C04.dateOp_fromParts]
  have hd31 := Proofs.C04.daysInMonth_le y mo
  obtain ⟨y0, y1, m0, m1, d0, d1, h0, h1, i0, i1, s0, s1⟩ := id hr
  rw [Proofs.C04.dateFromPartsOp_inrange y mo d h mi s ms hr,
    Proofs.C04.dateFromPartsS_ints y mo d h mi s ms y0 y1
      (by simp [smallPart]; omega),
    Proofs.C04.carryUs_inrange y mo d h mi s ms m0 m1]

example : PartsInRange 9999 12 31 23 59 59 ∧
    dateOp "$dateFromParts" (partsDoc 9999 12 31 23 59 59 999) = .ok (.date 253402300799999000 none) ∧
    dateOp "$dateFromParts" (partsDoc 9999 12 31 23 59 59 1000) = unmodelled ∧
    dateFromPartsS (partsArgs 9999 12 31 23 59 59 1000) = unmodelled := by
  decide +kernel

/-- outside the calendar ranges they differ (classes partscarry, partszero): month 14 is a
    ValueError in the code and February of the next year by the rule; day 0 is the 1st in the
    code and the last day of the month before by the rule -/
theorem dateFromParts_eq_spec_full_fails :
    dateOp "$dateFromParts" (partsDoc 2020 14 1 0 0 0 0) = .error .valueErr ∧
    dateFromPartsS (partsArgs 2020 14 1 0 0 0 0) = .ok (.date 1612137600000000 none) ∧
    dateOp "$dateFromParts" (partsDoc 2020 3 0 0 0 0 0) = .ok (.date 1583020800000000 none) ∧
    dateFromPartsS (partsArgs 2020 3 0 0 0 0 0) = .ok (.date 1582934400000000 none) := by
  decide +kernel

/-- **dateFromParts_millisecond_carry** — the milliseconds are not range-checked: any integer is
    added to the instant of the other parts, by the code (a `timedelta`) as by the rule; so 1000
    more milliseconds are one more second. -/
theorem dateFromParts_millisecond_carry (y mo d h mi s ms : Int) (hr : PartsInRange y mo d h mi s) :
    dateOp "$dateFromParts" (partsDoc y mo d h mi s ms) = mkDate (partsUs y mo d h mi s 0 + ms * 1000) ∧
    dateFromPartsS (partsArgs y mo d h mi s ms) = mkDate (partsUs y mo d h mi s 0 + ms * 1000) ∧
    (s + 1 ≤ 59 → dateOp "$dateFromParts" (partsDoc y mo d h mi s (ms + 1000)) =
      dateOp "$dateFromParts" (partsDoc y mo d h mi (s + 1) ms)) := by
  have e := dateFromParts_eq_spec_partial y mo d h mi s ms hr
  have v : dateOp "$dateFromParts" (partsDoc y mo d h mi s ms) =
      mkDate (partsUs y mo d h mi s 0 + ms * 1000) := by
    rw [Proofs.C04.dateOp_fromParts, Proofs.C04.dateFromPartsOp_inrange y mo d h mi s ms hr]
    simp only [partsUs, Int.zero_mul, Int.add_zero]
  refine ⟨v, e ▸ v, fun hs => ?_⟩
  have hr' : PartsInRange y mo d h mi (s + 1) := by
    obtain ⟨y0, y1, m0, m1, d0, d1, h0, h1, i0, i1, s0, s1⟩ := id hr
    exact ⟨y0, y1, m0, m1, d0, d1, h0, h1, i0, i1, by omega, hs⟩
  rw [Proofs.C04.dateOp_fromParts, Proofs.C04.dateOp_fromParts,
    Proofs.C04.dateFromPartsOp_inrange y mo d h mi s (ms + 1000) hr,
    Proofs.C04.dateFromPartsOp_inrange y mo d h mi (s + 1) ms hr']
  congr 1; simp only [partsUs]; omega

example :
    PartsInRange 2017 1 1 0 0 0 ∧
    dateOp "$dateFromParts" (partsDoc 2017 1 1 0 0 0 (-1)) = .ok (.date 1483228799999000 none) ∧
    dateFromPartsS (partsArgs 2017 1 1 0 0 0 (-1)) = .ok (.date 1483228799999000 none) := by
  decide +kernel

/-- `$dateFromString` is refused (NotImplementedError) once its argument is parsed; `$dateFromParts`
    refuses the ISO-week parts and `timezone`, after requiring exactly one of `year` /
    `isoWeekYear`; a null part is the class partsnull -/
theorem dateFromString_refused (v : Val) : dateOp "$dateFromString" v = .error .notImpl := by
  simp [dateOp, datePartOps]

example :
    dateOp "$dateFromParts" (.doc [("isoWeekYear", .int 2020)]) = .error .notImpl ∧
    dateOp "$dateFromParts" (.doc [("year", .int 2020), ("timezone", .str "UTC")]) = .error .notImpl ∧
    dateOp "$dateFromParts" (.doc [("month", .int 2)]) = .error .opFail ∧
    dateOp "$dateFromParts" (.doc [("year", .int 2020), ("isoWeekYear", .int 2020)]) = .error .opFail ∧
    dateOp "$dateFromParts" (.int 5) = .error .opFail ∧
    dateOp "$dateFromParts" (.doc [("year", .null)]) = .error .typeErr ∧
    dateOp "$dateFromParts" (.doc [("year", .int 2020), ("month", .null)]) =
      .ok (.date 1577836800000000 none) ∧
    dateFromPartsS [("year", some (.int 2020)), ("month", some .null)] = .ok .null ∧
    exprReasons (.doc [("$dateFromParts", .doc [("year", .int 2020), ("month", .str "$a")])])
      (.doc [("_id", .int 0), ("a", .null)]) = ["unproved:$dateFromParts", "partsnull"] := by
  decide +kernel

end MongoModel.Props.C04
