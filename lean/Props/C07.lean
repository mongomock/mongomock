/-
  Props.C07 — property theorems for C07 (the database stores values, not references: no
  aliasing in, out, or inside).  The inductions behind the theorems are in
  Proofs/C07*.lean.

  Impl  = MongoModel.Heap: values with object identity, the copy primitives, the table
          `disciplineFor tz` (which primitives the code applies at which value-carrying position,
          for a client that reads naive datetimes — `copyDiscipline` — and for a `tz_aware` one,
          which rebuilds everything it reads once more; tied to /repo by the sharing-graph
          correspondence of harness/props/c07.py), and `step` (what a call does to the world —
          the store, what the caller holds, what the caller's cursors keep: their cached results
          and their copies of the query — given a table).
  Spec  = the invariant `Sep` itself (the property is a law about the implementation): no object
          twice in the store, nothing stored is held by the caller, nothing a cursor has cached is
          held by the caller or stored.
  D     = every well-formed step (`Step.wellFormed`: a step names final positions of the table and
          takes each value from where its position says — no condition on what is copied, none
          on which position is used where).  EVERY final position carries a deep copy
          (`final_positions_copy`), which makes the law unconditional: the theorems are stated
          for ALL operations and both kinds of client, cursor re-reads (rewind, indexing,
          re-iteration, clone, `cursor.distinct`) and the query a cursor keeps included.  The
          positions where the code does not copy (`aliasing_positions`) are three inner
          positions that a later position rebuilds.
-/
import Proofs.C07

namespace MongoModel.Props.C07
open MongoModel MongoModel.Heap

/-- `rebuild` / `copyField` / `deepcopy` allocate only identities at or above the counter `n` they
    are given, each once, and return a value equal to their input when identities are forgotten. -/
theorem fresh_disjoint (p : Prim) (hp : p.deep = true) (v : HVal) (n : Nat) :
    n ≤ (p.run v n).2 ∧ (∀ a, a ∈ (p.run v n).1.ids → n ≤ a ∧ a < (p.run v n).2) ∧
    (p.run v n).1.ids.Nodup ∧ (p.run v n).1.erase = v.erase :=
  Proofs.C07.fresh_disjoint p hp v n

example : Prim.deep .rebuild = true ∧ Prim.deep .copyField = true ∧ Prim.deep .deepcopy = true := by
  decide

/-- the same for every chain of primitives that has a deep one in it (`[shallow, copyField]` of
    `distinct`, `[deepcopy, deepcopy]` of a `$set` list, …) -/
theorem fresh_chain (c : List Prim) (hc : chainDeep c = true) (v : HVal) (n : Nat) :
    n ≤ (runChain c v n).2 ∧ (∀ a, a ∈ (runChain c v n).1.ids → n ≤ a ∧ a < (runChain c v n).2) ∧
    (runChain c v n).1.ids.Nodup ∧ (runChain c v n).1.erase = v.erase :=
  Proofs.C07.fresh_chain c hc v n

example : chainDeep (copyDiscipline.disc .distinctVal) = true := by decide

/-- a world with two stored documents (one with an embedded-document `_id`), an update
    document the caller holds: `{'$set': {'s': {'p': [ … ]}}}`, and a cursor that has cached one
    document (an earlier state of the second one) -/
def sampleWorld : World :=
  { store := [.node 0 true [("_id", .node 1 true [("k", .atom (.int 1))]),
                            ("a", .node 2 false [("", .node 3 true [("x", .atom (.int 1))])])],
              .node 4 true [("_id", .atom (.int 2)), ("a", .node 5 false [])]],
    held := [.node 6 true [("$set", .node 7 true [("s", .node 8 true [("p", .node 9 false [])])])]],
    cache := [.node 10 true [("_id", .atom (.int 2)), ("a", .node 11 false [("", .node 12 true [])])]],
    next := 13 }

/-- `update_many({}, {'$set': {'s': {...}}})`: the update document is patched once, and each of
    the two stored documents receives its own deep copy of the operand -/
def sampleUpdateMany : Step :=
  .write [(.updTemp, 0, [])]
    [(0, ⟨[], false, [], [("s", .piece .setValDoc (.temp 0 [0, 0]))]⟩),
     (1, ⟨[], false, [], [("s", .piece .setValDoc (.temp 0 [0, 0]))]⟩)]
    [] []

/-- Separation is preserved, under ANY table, by every step in which every value that enters or
    leaves the store or a cursor's cache is deep-copied on the way or is a scalar (`Step.safe`),
    arguments being objects of the caller. -/
theorem step_sep_of_safe (T : Table) (w : World) (s : Step) (hsep : Sep w) (hb : Bounded w)
    (hs : s.safe T w = true) : Sep (step T w s) ∧ Bounded (step T w s) :=
  (Proofs.C07.invC_iff _).mpr
    (Proofs.C07.step_inv T w s ((Proofs.C07.invC_iff w).mp ⟨hsep, hb⟩) hs)

example : Sep sampleWorld ∧ Bounded sampleWorld ∧
    sampleUpdateMany.safe copyDiscipline sampleWorld = true := by decide +kernel

/-- **Separation is preserved by EVERY step of the code's table**: whatever well-formed step
    (any positions of any operation, any values — embedded-document `_id`s, projected arrays of
    sub-documents, a cursor computing its results, a cursor handing them out again, …) runs in a
    separated world, the world stays separated. -/
theorem step_sep (tz : Bool) (w : World) (s : Step) (hsep : Sep w) (hb : Bounded w)
    (hw : s.wellFormed = true) (hc : s.callerOwns w = true) :
    Sep (step (disciplineFor tz) w s) ∧ Bounded (step (disciplineFor tz) w s) :=
  step_sep_of_safe (disciplineFor tz) w s hsep hb (Proofs.C07.wellFormed_safe tz w s hw hc)

/-- `find({}, {'a': {'$slice': 1}})` on a document whose `_id` is an embedded document: the
    projection re-attaches `_id` and takes the array out of the stored document; the cursor keeps
    the projected document (it becomes entry 1 of the cache of `sampleWorld`) -/
def sampleProjectedFill : Step :=
  .fill [.node true [("_id", .piece .projId (.store 0 [0])),
                     ("a", .node false [("", .piece .projOpStored (.store 0 [1, 0]))])]]

/-- `next(cursor)`, and `cursor.rewind(); next(cursor)` / `cursor[0]`: the document the cursor
    of `sampleWorld` has cached is handed out -/
def sampleHandOut : Step := .read [.piece .cursorOut (.cache 0 [])]

/-- the same projected read when projections did not copy (`uncopiedProjectionTable` below): the
    stored objects themselves go to the caller -/
def sampleProjectedRead : Step :=
  .read [.node true [("_id", .piece .projId (.store 0 [0])),
                     ("a", .node false [("", .piece .projOpStored (.store 0 [1, 0]))])]]

example : Sep sampleWorld ∧ Bounded sampleWorld ∧ sampleProjectedFill.wellFormed = true ∧
    sampleProjectedFill.callerOwns sampleWorld = true ∧ sampleHandOut.wellFormed = true ∧
    sampleProjectedRead.wellFormed = true ∧ sampleUpdateMany.wellFormed = true := by decide +kernel

/-- **`step_sep` for every operation whose discipline row uses a copying primitive at every
    position** (any table): a step that stays within the final positions of such an operation
    preserves separation. -/
theorem op_step_sep (T : Table) (op : Op) (hop : op.copying T = true) (w : World) (s : Step)
    (hsep : Sep w) (hb : Bounded w) (hw : s.within (op.rows.filter Pos.final) = true)
    (hc : s.callerOwns w = true) : Sep (step T w s) ∧ Bounded (step T w s) :=
  step_sep_of_safe T w s hsep hb
    (Proofs.C07.within_safe T _ (Proofs.C07.copying_rows T op hop) w s hw hc)

example : Op.updateMany.copying copyDiscipline = true ∧ Sep sampleWorld ∧ Bounded sampleWorld ∧
    sampleUpdateMany.within (Op.updateMany.rows.filter Pos.final) = true ∧
    sampleUpdateMany.callerOwns sampleWorld = true := by decide +kernel

/-- Under the real table EVERY operation — the cursor hand-outs `next` / `cursor[i]` /
    `cursor.distinct` included — copies at every final position, whatever its flow (caller →
    caller and cache → caller positions too). -/
theorem copying_ops (tz : Bool) : Op.all.filter (Op.copying (disciplineFor tz)) = Op.all := by
  cases tz <;> decide +kernel

/-- The positions where the code does not copy: three inner positions (the document handed to
    `_insert`, the seed and `_id` of an upsert — all rebuilt by `_insert` before they are stored).
    The positions of the findings `agg-literal-alias` (caller → caller) and `cursor-cache-alias`
    (cache → caller) and the projection a cursor keeps (argument → cache) are not among them: /repo
    copies pipeline constants and cached cursor results on the way out, the projection on the way
    in.
    The same for a `tz_aware` client. -/
theorem aliasing_positions (tz : Bool) :
    (disciplineFor tz).aliasing = [.insertArg, .upsertSeed, .upsertId] := by
  cases tz <;> decide +kernel

/-- none of them is a final position: whatever lands in the store, in a cursor's cache or with the
    caller has been deep-copied on the way -/
theorem final_positions_copy (tz : Bool) :
    (∀ p, p ∈ (disciplineFor tz).aliasing → p.final = false) ∧
    (∀ p, p.final = true → chainDeep ((disciplineFor tz).disc p) = true) := by
  constructor
  · rw [aliasing_positions]; decide
  · intro p; cases tz <;> cases p <;> first | exact fun _ => rfl | exact fun h => nomatch h

/-- a history: insert two documents (the second call writes `_id` into the caller's dict), an
    `update_many` carrying a container, a single-document `$push` into that container, a read
    without projection, and the caller scribbling on the list (identity 1) inside the first
    document it passed to insert -/
def sampleHistory : List Step :=
  [ .pass [.node 0 true [("_id", .atom (.int 1)), ("a", .node 1 false [])]],
    .write [] [] [(.piece .insertArg (.held 0 []), .insertDoc)] [],
    .pass [.node 4 true [("a", .node 5 false [])]],
    .calleeWrite 4 [] [("_id", .oid 0)],
    .write [] [] [(.piece .insertArg (.held 1 []), .insertDoc)] [],
    .pass [.node 9 true [("$set", .node 10 true [("s", .node 11 true [("p", .node 12 false [])])])]],
    .write [(.updTemp, 2, [])]
      [(0, ⟨[], false, [], [("s", .piece .setValDoc (.temp 0 [0, 0]))]⟩),
       (1, ⟨[], false, [], [("s", .piece .setValDoc (.temp 0 [0, 0]))]⟩)] [] [],
    .pass [.node 30 true [("$push", .node 31 true [("s.p", .node 32 true [("x", .atom (.int 1))])])]],
    .write [(.updTemp, 3, [])]
      [(0, ⟨[2, 0], false, [], [("", .piece .pushVal (.temp 0 [0, 0]))]⟩)] [] [],
    .fill [.piece .findDoc (.store 0 []), .piece .findDoc (.store 1 [])],
    .read [.piece .cursorOut (.cache 0 []), .piece .cursorOut (.cache 1 [])],
    .scribble 1 [] [("", .str "scribbled")] ]

/-- the caller keeps the cursor of that read: it edits the first document it got, rewinds and
    reads again, indexes the cursor, asks it for the distinct values of `s`, and an update runs in
    between -/
def sampleCursorHistory : List Step :=
  sampleHistory ++
  [ .scribble 48 [] [("marker", .null)],
    .read [.piece .cursorOut (.cache 0 []), .piece .cursorOut (.cache 1 [])],
    .write [(.updTemp, 3, [])]
      [(1, ⟨[2, 0], false, [], [("", .piece .pushVal (.temp 0 [0, 0]))]⟩)] [] [],
    .read [.piece .cursorOut (.cache 1 [])],
    .read [.piece .distinctVal (.cache 0 [2]), .piece .distinctVal (.cache 1 [2])] ]

/-- **Every world reachable through the API is separated** (induction over histories): any
    history of well-formed steps, of any operations, under the code's table. -/
theorem reachable_sep (tz : Bool) (steps : List Step) (h : wfRun (disciplineFor tz) World.empty steps = true) :
    Sep (run (disciplineFor tz) World.empty steps) ∧ Bounded (run (disciplineFor tz) World.empty steps) :=
  (Proofs.C07.invC_iff _).mpr (Proofs.C07.run_inv (disciplineFor tz) steps _ Proofs.C07.invC_empty
    (Proofs.C07.wfRun_safeRun tz steps _ h))

example : wfRun copyDiscipline World.empty
    (sampleCursorHistory ++ [sampleProjectedFill, .read [.piece .cursorOut (.cache 2 [])]]) = true ∧
    48 ∈ idsL (run copyDiscipline World.empty sampleHistory).held := by
  decide +kernel

/-- the same from any separated world -/
theorem reachable_sep_from (tz : Bool) (w : World) (steps : List Step) (hsep : Sep w) (hb : Bounded w)
    (h : wfRun (disciplineFor tz) w steps = true) :
    Sep (run (disciplineFor tz) w steps) ∧ Bounded (run (disciplineFor tz) w steps) :=
  (Proofs.C07.invC_iff _).mpr
    (Proofs.C07.run_inv (disciplineFor tz) steps w ((Proofs.C07.invC_iff w).mp ⟨hsep, hb⟩)
      (Proofs.C07.wfRun_safeRun tz steps w h))

example : Sep sampleWorld ∧ Bounded sampleWorld ∧
    wfRun copyDiscipline sampleWorld [sampleUpdateMany, sampleProjectedFill, sampleHandOut,
      .read [.piece .cursorOut (.cache 1 [])]] = true := by
  decide +kernel

/-- under any table, for histories of steps that copy (`safeRun`) -/
theorem reachable_sep_of_safe (T : Table) (w : World) (steps : List Step) (hsep : Sep w)
    (hb : Bounded w) (h : safeRun T w steps = true) : Sep (run T w steps) ∧ Bounded (run T w steps) :=
  (Proofs.C07.invC_iff _).mpr
    (Proofs.C07.run_inv T steps w ((Proofs.C07.invC_iff w).mp ⟨hsep, hb⟩) h)

example : Sep sampleWorld ∧ Bounded sampleWorld ∧
    safeRun copyDiscipline sampleWorld [sampleUpdateMany, .fill [.piece .findDoc (.store 1 [])],
      .read [.piece .cursorOut (.cache 1 [])]] = true := by
  decide +kernel

/-- **Mutating anything the caller holds never changes what is stored** — whatever the
    mutation `f` does to the object. -/
theorem mutate_held_noop (w : World) (id : Nat) (f : HVal → HVal) (hsep : Sep w)
    (hid : id ∈ idsL w.held) : (w.mutate id f).store = w.store :=
  Proofs.C07.mutate_held_noop w id f hsep hid

example : Sep sampleWorld ∧ 8 ∈ idsL sampleWorld.held := by decide +kernel

/-- … **nor what a cursor has cached**: whatever the caller does to the documents a cursor gave
    it, the cursor's own copies stay as they were … -/
theorem mutate_held_keeps_cache (w : World) (id : Nat) (f : HVal → HVal) (hsep : Sep w)
    (hid : id ∈ idsL w.held) : (w.mutate id f).cache = w.cache :=
  Proofs.C07.mutate_held_keeps_cache w id f hsep hid

/-- … so that **reading the cursor again** (`rewind()` and iterate, `cursor[i]`) **gives the value
    it gave the first time**, whatever happened to the objects handed out before: the result is the
    cached value, identities forgotten. -/
theorem reread_unaffected (tz : Bool) (w : World) (id : Nat) (f : HVal → HVal) (hsep : Sep w)
    (hid : id ∈ idsL w.held) (i : Nat) (p : List Nat) :
    ∃ r, (step (disciplineFor tz) (w.mutate id f) (.read [.piece .cursorOut (.cache i p)])).held
        = (w.mutate id f).held ++ [r] ∧ r.erase = (getAt w.cache i p).erase :=
  Proofs.C07.reread_unaffected tz w id f hsep hid i p

example : Sep (step copyDiscipline sampleWorld sampleHandOut) ∧
    13 ∈ idsL (step copyDiscipline sampleWorld sampleHandOut).held := by decide +kernel

/-- Together, over histories: **in every world reachable through the API, nothing the caller does
    to an object it holds — an argument it passed, a result it was given, by `find`, by a cursor
    read once or again, by `distinct`, by `aggregate` — changes what is stored or what a cursor
    will hand out next.** -/
theorem reachable_caller_cannot_reach (tz : Bool) (steps : List Step)
    (h : wfRun (disciplineFor tz) World.empty steps = true) (id : Nat) (f : HVal → HVal)
    (hid : id ∈ idsL (run (disciplineFor tz) World.empty steps).held) :
    ((run (disciplineFor tz) World.empty steps).mutate id f).store
      = (run (disciplineFor tz) World.empty steps).store ∧
    ((run (disciplineFor tz) World.empty steps).mutate id f).cache
      = (run (disciplineFor tz) World.empty steps).cache :=
  ⟨mutate_held_noop _ id f (reachable_sep tz steps h).1 hid,
   mutate_held_keeps_cache _ id f (reachable_sep tz steps h).1 hid⟩

example : wfRun copyDiscipline World.empty sampleCursorHistory = true ∧
    48 ∈ idsL (run copyDiscipline World.empty sampleCursorHistory).held ∧
    (run copyDiscipline World.empty sampleCursorHistory).cache.length = 2 := by decide +kernel

/-- **An in-place edit of a stored document** (an update through the API) **shows neither in what
    the caller holds nor in what a cursor has cached**. -/
theorem mutate_stored_keeps_rest (w : World) (id : Nat) (f : HVal → HVal) (hsep : Sep w)
    (hid : id ∈ idsL w.store) :
    (w.mutate id f).held = w.held ∧ (w.mutate id f).cache = w.cache :=
  Proofs.C07.mutate_stored_keeps_rest w id f hsep hid

example : Sep sampleWorld ∧ 3 ∈ idsL sampleWorld.store := by decide +kernel

/-- **Every result is the caller's own**: the objects a read hands out (query results, what a
    cursor gives again, aggregation output with the constants of its pipeline, distinct values)
    are new — none of them is an object that existed before the call, none occurs twice.
    (The model sends every travelling value through its own copy.  A pipeline that puts ONE value
    of a document at two places of a result — `$addFields: {q: '$b', r: '$b'}` — returns that
    object twice inside the one result; how a stage assembles a document is not modelled here,
    the positions `aggDoc` / `aggAddFields` / `aggUnwind` stand for whole output documents.) -/
theorem results_fresh (tz : Bool) (w : World) (results : List Tpl)
    (hw : (Step.read results).wellFormed = true) :
    ∃ new, (step (disciplineFor tz) w (.read results)).held = w.held ++ new ∧ (idsL new).Nodup ∧
      ∀ a, a ∈ idsL new → w.next ≤ a ∧ a < (step (disciplineFor tz) w (.read results)).next :=
  Proofs.C07.read_fresh tz w results hw

example : (Step.read [.piece .cursorOut (.cache 0 []), .piece .cursorOut (.cache 0 []),
    .piece .aggLiteral (.held 0 [0]), .piece .distinctVal (.cache 0 [1])]).wellFormed = true := by
  decide +kernel

/-- … hence editing one of them changes nothing else: not the store, not a cursor's cache, not
    any object the caller held before the call (another result of an earlier read of the same
    cursor, the pipeline whose constant appears in it, …). -/
theorem result_private (tz : Bool) (w : World) (hb : Bounded w) (results : List Tpl)
    (hw : (Step.read results).wellFormed = true) (id : Nat) (f : HVal → HVal)
    (hid : id ∈ idsL ((step (disciplineFor tz) w (.read results)).held.drop w.held.length)) :
    ((step (disciplineFor tz) w (.read results)).mutate id f).store = w.store ∧
    ((step (disciplineFor tz) w (.read results)).mutate id f).cache = w.cache ∧
    ((step (disciplineFor tz) w (.read results)).mutate id f).held.take w.held.length = w.held :=
  Proofs.C07.result_private tz w hb results hw id f hid

example : Bounded sampleWorld ∧ sampleHandOut.wellFormed = true ∧
    14 ∈ idsL ((step copyDiscipline sampleWorld sampleHandOut).held.drop sampleWorld.held.length) := by
  decide +kernel

/-- **An in-place edit of one stored document never shows in another**: the object edited lies
    in document `i`, every other stored document stays as it is. -/
theorem mutate_one_doc_only (w : World) (id : Nat) (f : HVal → HVal) (hsep : Sep w)
    (i : Nat) (d : HVal) (hd : w.store[i]? = some d) (hid : id ∈ d.ids) :
    ∀ j, j ≠ i → (w.mutate id f).store[j]? = w.store[j]? :=
  Proofs.C07.mutate_one_doc_only w id f hsep i d hd hid

example : ∃ d, sampleWorld.store[0]? = some d ∧ 3 ∈ d.ids := ⟨_, rfl, by decide +kernel⟩

/-- Without the per-document copy separation is lost: the table in which a `$set` operand goes
    into every matched document as it is (the behaviour before the fix "values carried by update
    operators are copied for each updated document") puts one object into two documents. -/
def sharedOperandTable : Table where
  disc
    | .setValDoc => []
    | p => copyDiscipline.disc p

theorem per_document_copy_needed :
    ¬ Sep (step sharedOperandTable sampleWorld sampleUpdateMany) ∧
    Sep (step copyDiscipline sampleWorld sampleUpdateMany) := by decide +kernel

/-- Likewise for the way out: the table in which a projection re-attaches the stored `_id` as it
    is and takes a `$slice`d field out of the stored document (the behaviour before the fix
    5ac4c3c) hands stored objects to the caller — and the caller editing what `find_one` returned
    then edits the stored document. -/
def uncopiedProjectionTable : Table where
  disc
    | .projId => [.noCopy]
    | .projOpStored => [.noCopy]
    | p => copyDiscipline.disc p

theorem projection_copy_needed :
    ¬ Sep (step uncopiedProjectionTable sampleWorld sampleProjectedRead) ∧
    ((step uncopiedProjectionTable sampleWorld sampleProjectedRead).mutate 1
        (scribbleFn [] [("marker", .null)])).store
      ≠ (step uncopiedProjectionTable sampleWorld sampleProjectedRead).store ∧
    Sep (step copyDiscipline sampleWorld sampleProjectedRead) ∧
    ((step copyDiscipline sampleWorld sampleProjectedRead).mutate 14
        (scribbleFn [] [("marker", .null)])).store
      = (step copyDiscipline sampleWorld sampleProjectedRead).store := by
  refine ⟨by decide +kernel, Proofs.C07.ne_of_sizes (by decide +kernel), by decide +kernel, ?_⟩
  exact mutate_held_noop _ 14 _ (by decide +kernel) (by decide +kernel)

/-- And for what a cursor keeps: the table in which a cursor hands out its cached documents
    themselves (the behaviour before the fix "a cursor hands out a copy of its cached result each
    time", b973460; the finding `cursor-cache-alias`) puts the cursor's objects into
    the caller's hands — the caller editing what `next(cursor)` returned edits the cache, and
    `cursor.rewind()` / `cursor[0]` then show the edit.  With the code's table the caller gets
    objects of its own and the cache stays as it was. -/
def uncopiedCursorTable : Table where
  disc
    | .cursorOut => [.noCopy]
    | p => copyDiscipline.disc p

theorem cursor_copy_needed :
    ¬ Sep (step uncopiedCursorTable sampleWorld sampleHandOut) ∧
    ((step uncopiedCursorTable sampleWorld sampleHandOut).mutate 11
        (scribbleFn [] [("", .str "changed by the caller")])).cache
      ≠ (step uncopiedCursorTable sampleWorld sampleHandOut).cache ∧
    Sep (step copyDiscipline sampleWorld sampleHandOut) ∧
    ((step copyDiscipline sampleWorld sampleHandOut).mutate 14
        (scribbleFn [] [("", .str "changed by the caller")])).cache
      = (step copyDiscipline sampleWorld sampleHandOut).cache := by
  refine ⟨by decide +kernel, Proofs.C07.ne_of_sizes (by decide +kernel), by decide +kernel, ?_⟩
  exact mutate_held_keeps_cache _ 14 _ (by decide +kernel) (by decide +kernel)

/-- And for the query a cursor keeps: `find({}, {'a': {'$slice': 1}})` — the caller passes the
    projection, the cursor keeps a deep copy of it (`Cursor._projection`). -/
def sampleFind : List Step :=
  [ .pass [.node 20 true [("a", .node 21 true [("$slice", .atom (.int 1))])]],
    .fill [.piece .cursorProj (.held 1 [])] ]

/-- The table in which the cursor keeps the caller's projection object itself (the behaviour
    before the fix "a cursor copies the projection it is given", b829c96) puts an object of the
    caller into the cursor: the caller editing its dictionary after `find` returned edits what
    the cursor will read when it computes its results (first iteration, `clone()`, `sort()`).
    With the code's table the cursor's copy stays as it was. -/
def keptProjectionTable : Table where
  disc
    | .cursorProj => [.noCopy]
    | p => copyDiscipline.disc p

theorem query_copy_needed :
    ¬ Sep (run keptProjectionTable sampleWorld sampleFind) ∧
    ((run keptProjectionTable sampleWorld sampleFind).mutate 21
        (scribbleFn [] [("$elemMatch", .null)])).cache
      ≠ (run keptProjectionTable sampleWorld sampleFind).cache ∧
    Sep (run copyDiscipline sampleWorld sampleFind) ∧
    ((run copyDiscipline sampleWorld sampleFind).mutate 21
        (scribbleFn [] [("$elemMatch", .null)])).cache
      = (run copyDiscipline sampleWorld sampleFind).cache := by
  refine ⟨by decide +kernel, Proofs.C07.ne_of_sizes (by decide +kernel), by decide +kernel, ?_⟩
  exact mutate_held_keeps_cache _ 21 _ (by decide +kernel) (by decide +kernel)

example : wfRun copyDiscipline sampleWorld
    (sampleFind ++ [.fill [.piece .cloneProj (.cache 1 []), .piece .cursorSpec (.held 1 [])]]) = true := by
  decide +kernel

/-- Likewise for the sort list: `find({}, sort=[('a', 1)])` — the cursor keeps a deep copy of the
    list (`Cursor._sort`; the pairs are immutable, the list is the object that can be edited). -/
def sampleFindSorted : List Step :=
  [ .pass [.node 20 false [("", .atom (.str "a, 1"))]],
    .fill [.piece .cursorSort (.held 1 [])] ]

/-- The table in which the cursor keeps the caller's sort list itself (the behaviour before the
    fix "a cursor copies the sort it is given", 0c1b9e0; `cursor-sort-by-reference`): the caller
    editing its list after `find` returned edits the order the cursor will give. -/
def keptSortTable : Table where
  disc
    | .cursorSort => [.noCopy]
    | p => copyDiscipline.disc p

theorem sort_copy_needed :
    ¬ Sep (run keptSortTable sampleWorld sampleFindSorted) ∧
    ((run keptSortTable sampleWorld sampleFindSorted).mutate 20
        (scribbleFn [] [("", .str "b, -1")])).cache
      ≠ (run keptSortTable sampleWorld sampleFindSorted).cache ∧
    Sep (run copyDiscipline sampleWorld sampleFindSorted) ∧
    ((run copyDiscipline sampleWorld sampleFindSorted).mutate 20
        (scribbleFn [] [("", .str "b, -1")])).cache
      = (run copyDiscipline sampleWorld sampleFindSorted).cache := by
  refine ⟨by decide +kernel, Proofs.C07.ne_of_sizes (by decide +kernel), by decide +kernel, ?_⟩
  exact mutate_held_keeps_cache _ 20 _ (by decide +kernel) (by decide +kernel)

example : wfRun copyDiscipline sampleWorld
    (sampleFindSorted ++ [.fill [.piece .cloneSort (.cache 1 [])]]) = true := by decide +kernel

/-- **Calls do not modify their arguments**: writes, reads and the making of a cursor (which keeps
    copies of the filter, the sort list and the projection it is given) leave every object the caller holds
    exactly as it was (passing further arguments only adds to what is held). -/
theorem args_unchanged (T : Table) (w : World) (s : Step)
    (hs : match s with | .calleeWrite .. => False | .scribble .. => False | _ => True) :
    ∀ (i : Nat) (v : HVal), w.held[i]? = some v → (step T w s).held[i]? = some v := by
  intro i v hv
  cases s with
  | calleeWrite | scribble => exact hs.elim
  | pass | read => exact (List.getElem?_append_left (List.getElem?_eq_some_iff.mp hv).1).trans hv
  | write | fill => exact hv

example : (match sampleUpdateMany with | .calleeWrite .. => False | .scribble .. => False | _ => True) :=
  trivial

example : (match Step.fill [.piece .cursorSpec (.held 0 []), .piece .cursorProj (.held 0 [0]),
      .piece .cursorSort (.held 0 [0, 0])] with
    | .calleeWrite .. => False | .scribble .. => False | _ => True) := trivial

/-- The one kind of step by which a call edits an argument touches only the objects that contain
    the edited container. -/
theorem callee_write_only (T : Table) (w : World) (id : Nat) (keep : List (Option String))
    (add : List (String × Val)) :
    ∀ (i : Nat) (v : HVal), w.held[i]? = some v → id ∉ v.ids →
      (step T w (.calleeWrite id keep add)).held[i]? = some v := by
  intro i v hv hid
  simp only [step, World.mutate]
  rw [Proofs.C07.mutateL_get, hv]
  exact congrArg some ((Proofs.C07.mutate_absent id _).1 v
    (Nat.eq_zero_of_not_pos (mt (Proofs.C07.mem_ids_iff id v).mpr hid)))

example : ∃ v, sampleWorld.held[0]? = some v ∧ 3 ∉ v.ids := ⟨_, rfl, by decide +kernel⟩

/-- The table `argEffect` (what each operation does to each of its arguments) read off: its only
    entries other than `untouched` are the document of `insert_one` / `insert_many` (the documented
    `_id` write).  That the steps of an operation follow the table is not part of the statement. -/
theorem arg_effects (op : Op) (role : ArgRole) :
    argEffect op role = .untouched ∨
    ((op = .insertOne ∨ op = .insertMany) ∧ role = .document ∧ argEffect op role = .addsId) := by
  unfold argEffect
  split
  · exact .inr ⟨.inl rfl, rfl, rfl⟩
  · exact .inr ⟨.inr rfl, rfl, rfl⟩
  · exact .inl rfl

end MongoModel.Props.C07
