/-
  Props.C05 — `_id` is a primary key: unique, generated when absent, immutable.
  The lemmas are in Proofs/C05*.lean.  The model is `MongoModel.step` (Ops.lean),
  tied to mongomock by the history correspondence of harness/props/c05.py.

  DOMAIN.  The model's value universe `Val` contains association lists with duplicate keys
  (`.doc [("a", 1), ("a", 2)]`), which no Python `dict` can be; on those, Python `==` as modelled
  (`pyEq`) is neither reflexive nor symmetric, and the invariant genuinely fails
  (`step_inv_full_fails`, `reachable_inv_full_fails`, `id_immutable_full_fails`).  The invariant
  theorems are therefore `_partial`: they assume `GoodColl` (Spec/StoreInv.lean) of the states
  involved.  What `GoodColl` asks of a store key is symmetry of `==` against every value
  (`SymmVal`: proved for scalar, empty and single-field embedded `_id`s, `scalar_symm`,
  `symm_doc_empty`, `symm_doc_single`) and reflexivity (proved for scalars, `scalar_refl`);
  of a stored document, that it is dict-shaped.  Multi-field embedded
  `_id`s (`{a: 1, b: 2}`) are NOT covered by these theorems: they are covered by the
  correspondence run and the direct oracle only (named scope limit `embedded-id-multifield`).
-/
import Proofs.C05
import Proofs.C05Cex
import Proofs.C05Ext

namespace MongoModel.Props.C05
open MongoModel MongoModel.Spec

/-- Python `==` as modelled is transitive on the WHOLE value universe, duplicate-key association
    lists included (it is reflexivity and symmetry that fail there). -/
theorem pyEq_trans (a b c : Val) (h1 : pyEq a b = true) (h2 : pyEq b c = true) : pyEq a c = true :=
  Proofs.C05Lemmas.pyEq_trans a b c h1 h2

/-- `==` is symmetric on every scalar `_id` (null, bool, numbers, strings, dates, ObjectIds) —
    against every value of the universe, duplicate-key association lists included. -/
theorem scalar_symm (v : Val) (h : isScalar v = true) : SymmVal v := Proofs.C05.scalar_symm v h

theorem scalar_refl (v : Val) (h : isScalar v = true) : pyEq v v = true := Proofs.C05.scalar_refl v h

theorem symm_doc_empty : SymmVal (.doc []) := Proofs.C05Lemmas.symm_doc_empty

/-- A single-field embedded `_id` `{k: v}` is `SymmVal` when `v` is.  This does NOT extend to two
    fields: `pyEq {a:1, a:1} {a:1, b:2} = true` but `pyEq {a:1, b:2} {a:1, a:1} = false`, because the
    universe contains duplicate-key association lists (no Python dict); hence the scope limit
    `embedded-id-multifield`. -/
theorem symm_doc_single (k : String) (v : Val) (hv : SymmVal v) : SymmVal (.doc [(k, v)]) :=
  Proofs.C05Lemmas.symm_doc_single k v hv

/-- `SymmVal` is closed under `==`: whatever `_id` an update computes from a `SymmVal` one and
    accepts as "unchanged" is `SymmVal` again — the update operators need no hypothesis. -/
theorem symm_closed (a b : Val) (ha : SymmVal a) (h : pyEq a b = true) : SymmVal b :=
  Proofs.C05Lemmas.symm_closed ha h

/-! ### groundwork for the scope limit `embedded-id-multifield`

On hereditarily well-formed values (`wfVal`, Spec/StoreInv.lean: every document at every depth
has pairwise distinct keys — exactly the values Python dicts and lists can be) `==` IS reflexive
and symmetric.  These two lemmas are not used by the theorems above (which would additionally
need `wfVal` to be preserved by every update operator); they are what a later extension of the
domain to multi-field embedded `_id`s needs. -/

/-- `==` is reflexive on well-formed values (duplicate-key association lists excluded). -/
theorem pyEq_refl_wf (v : Val) (h : wfVal v = true) : pyEq v v = true :=
  Proofs.C05Lemmas.pyEq_refl_wf v h

/-- `==` is symmetric between well-formed values (duplicate-key association lists excluded). -/
theorem pyEq_symm_wf (a b : Val) (ha : wfVal a = true) (hb : wfVal b = true) :
    pyEq a b = pyEq b a :=
  Proofs.C05Lemmas.pyEq_symm_wf a b ha hb

/-- `wfVal` accepts a multi-field embedded `_id` and rejects a duplicate-key association list -/
example : wfVal (.doc [("a", .int 1), ("b", .doc [("c", .int 2), ("d", .arr [.doc []])])]) = true ∧
    wfVal (.doc [("a", .int 1), ("b", .doc [("c", .int 2), ("c", .int 3)])]) = false := by
  decide +kernel

theorem init_inv : IdInv ({} : Coll) := Proofs.C05.init_inv

/-- The unrestricted statement: every operation preserves the invariant, whatever the values. -/
def step_inv_full : Prop :=
  ∀ (cfg : Cfg) (s : St) (op : Val), IdInv s.c → IdInv (step cfg s op).1.c

/-- The unrestricted statement is FALSE in the model: the value universe contains association
    lists with duplicate keys (no Python dict can be one), and `insert_one {_id: {a:1, a:2}}`
    stores a document under a key that is not `==` to itself. -/
theorem step_inv_full_fails : ¬ step_inv_full := fun H =>
  Bool.noConfusion (Proofs.C05Cex.keyIsId_chk _ (H {} {} Proofs.C05Cex.opBad init_inv).2 false
    (by rw [Proofs.C05Cex.chk_bad]; exact List.mem_singleton_self _))

/-- Every operation — successful or rejected, of any kind, at any clock — preserves the
    invariant, PROVIDED the entries before and after are well-behaved (`GoodColl`: `==` symmetric
    and reflexive on the store keys, dict-shaped documents).  Excluded: duplicate-key association
    lists as `_id` (not Python values) and multi-field embedded `_id`s, which are covered by the
    correspondence run and the direct oracle only (scope limit `embedded-id-multifield`). -/
theorem step_inv_partial (cfg : Cfg) (s : St) (op : Val) (h : IdInv s.c)
    (hg : GoodColl s.c) (hg' : GoodColl (step cfg s op).1.c) : IdInv (step cfg s op).1.c :=
  Proofs.C05.step_inv_fine cfg s op h (Proofs.C05Lemmas.updOK_of_good hg)
    (fun p hp => (hg' p hp).2.1)

/-- `step_inv_partial` with exactly what is used: `SymmVal` keys and dict-shaped documents
    before the operation, keys `==` to themselves after it.  Same exclusions
    (duplicate-key association lists; scope limit `embedded-id-multifield`). -/
theorem step_inv_fine (cfg : Cfg) (s : St) (op : Val) (h : IdInv s.c)
    (hs : ∀ p ∈ s.c.docs, SymmVal p.1 ∧ ∃ fs, p.2 = .doc fs ∧ (dkeys fs).Nodup)
    (hr : ∀ p ∈ (step cfg s op).1.c.docs, pyEq p.1 p.1 = true) :
    IdInv (step cfg s op).1.c :=
  Proofs.C05.step_inv_fine cfg s op h hs hr

/-- The unrestricted statement: the invariant holds in every reachable state. -/
def reachable_inv_full : Prop := ∀ (cfg : Cfg) (ops : List Val), IdInv (run cfg ops).2.c

/-- The unrestricted statement is FALSE in the model, for the same reason as
    `step_inv_full_fails` (a one-operation history inserting `{_id: {a:1, a:2}}`, a
    duplicate-key association list that no Python dict can be).  Worse histories exist on such
    values: `Proofs.C05Cex.ops3` reaches a state with two documents holding the same `_id`. -/
theorem reachable_inv_full_fails : ¬ reachable_inv_full := fun H =>
  Bool.noConfusion (Proofs.C05Cex.keyIsId_chk _ (H {} [Proofs.C05Cex.opBad]).2 false
    (by rw [Proofs.C05Cex.chk_bad_run]; exact List.mem_singleton_self _))

/-- **In every reachable state** (any history of any length from the empty collection) no two
    store keys are equal and every document sits under its own `_id`, PROVIDED every state along
    the history holds well-behaved entries only (`GoodColl`).  The hypothesis is on the states,
    not the operations, because an upserted document is computed by the update operators.
    Excluded: duplicate-key association lists (not Python values) and multi-field embedded
    `_id`s (correspondence run and direct oracle only; scope limit `embedded-id-multifield`). -/
theorem reachable_inv_partial (cfg : Cfg) (ops : List Val)
    (hg : ∀ n, GoodColl (run cfg (ops.take n)).2.c) : IdInv (run cfg ops).2.c := by
  rw [Proofs.C05Lemmas.run_snd]
  refine (Proofs.C05Lemmas.carriedId.of_runSt GoodColl Proofs.C05Ext.bridge cfg ops {}
    ⟨init_inv, fun p hp => by cases hp⟩ (fun n => ?_)).1
  rw [← Proofs.C05Lemmas.run_snd]; exact hg (n + 1)

/-- For a concrete history the hypothesis of `reachable_inv_partial` can be discharged by
    evaluation: every state along it has scalar store keys and dict-shaped documents (`goodB`;
    this decidable test is narrower than `GoodColl`: it also rejects the empty and single-field
    embedded `_id`s). -/
theorem reachable_inv_check (cfg : Cfg) (ops : List Val)
    (h : (List.range (ops.length + 1)).all
      (fun n => (run cfg (ops.take n)).2.c.docs.all goodB) = true) :
    IdInv (run cfg ops).2.c :=
  Proofs.C05.reachable_inv_check cfg ops h

/-- non-vacuity of `reachable_inv_partial`: inserts (one rejected as a duplicate, `1 == 1.0`; one
    with a generated `_id`), a multi-update, an update that changes the numeric type of an `_id`
    (accepted: `1 == 1.0`), an upsert, a delete -/
example : IdInv (run {} [
    .arr [.str "insert_one", .doc [("_id", .int 1), ("a", .int 1)]],
    .arr [.str "insert_one", .doc [("_id", .dbl 1 0)]],
    .arr [.str "insert_one", .doc [("a", .int 2)]],
    .arr [.str "insert_one", .doc [("_id", .str "k"), ("a", .int 2)]],
    .arr [.str "update_many", .doc [("a", .int 2)], .doc [("$set", .doc [("b", .int 7)])], .bool false],
    .arr [.str "update_one", .doc [("_id", .int 1)], .doc [("$set", .doc [("_id", .dbl 1 0)])], .bool false],
    .arr [.str "update_one", .doc [("_id", .int 5)], .doc [("$set", .doc [("b", .int 1)])], .bool true],
    .arr [.str "delete_one", .doc [("_id", .str "k")]]]).2.c :=
  reachable_inv_check _ _ (by decide +kernel)

/-- Hence no two stored documents have equal `_id`s (for keys on which `==` is symmetric). -/
theorem ids_distinct (c : Coll) (h : IdInv c) (hs : ∀ p ∈ c.docs, SymmVal p.1) :
    c.docs.Pairwise (fun a b => ∀ ia ib, idOf a.2 = some ia → idOf b.2 = some ib →
      pyEq ia ib = false) :=
  Proofs.C05.ids_distinct c h hs

/-- non-vacuity: a reachable state with three documents, one of them with an embedded `_id`,
    after a rejected duplicate insert -/
example : ((run {} [
    .arr [.str "insert_one", .doc [("_id", .int 1), ("a", .int 1)]],
    .arr [.str "insert_one", .doc [("_id", .doc [("k", .int 1)])]],
    .arr [.str "insert_one", .doc [("_id", .dbl 1 0)]],
    .arr [.str "insert_one", .doc [("a", .int 2)]]]).2.c.docs.length) = 3 := by decide +kernel

/-- An insert whose `_id` is already a key is rejected with DuplicateKeyError and the collection
    is exactly what the expiry pass alone leaves. -/
theorem dup_rejected (cfg : Cfg) (now : Int) (c c1 : Coll) (fs : Fields) (id : Val)
    (hid : dget "_id" (patchFields fs) = some id) (hk : storeKey id = .ok id)
    (he : expire now c = .ok c1) (hd : c1.hasKey id = true) :
    stepColl cfg now c (.arr [.str "insert_one", .doc fs]) = (c1, .err .dupKey) :=
  Proofs.C05.dup_rejected cfg now c c1 fs id hid hk he hd

/-- A successful insert (no TTL index: expiry is C09's business) appends the document under an
    `_id` that was not a key before; a missing `_id` is the generated one. -/
theorem insert_fresh (now : Int) (c c' : Coll) (d id : Val) (hn : c.ttlIndexes = [])
    (h : insertDoc now c d = .ok (c', id)) :
    c.hasKey id = false ∧ c'.docs = c.docs ++ [(id, patchDT
      (match d with
       | .doc fs => .doc (if dhas "_id" fs then fs else dset "_id" id fs)
       | v => v))] :=
  Proofs.C05.insert_fresh now c c' d id hn h

/-- The unrestricted statement: after any update every document is an old one under the same
    key with an `==` `_id`, or the upserted one — for ANY collection and values. -/
def id_immutable_full : Prop :=
  ∀ (cfg : Cfg) (now : Int) (c c' : Coll) (f u : Val) (upsert multi : Bool) (r : R UpdateResult),
    applyUpdateColl cfg now c f u upsert multi = (c', r) →
    ∀ p' ∈ c'.docs,
      (∃ p ∈ c.docs, p.1 = p'.1 ∧ pyEqOpt (idOf p.2) (idOf p'.2) = true) ∨
      (∃ res id, r = .ok res ∧ res.upserted = some id ∧ p'.1 = id)

/-- The unrestricted statement is FALSE in the model: an untouched document whose `_id` is the
    duplicate-key association list `{a:1, a:2}` (no Python dict can be one) has an `_id` that is
    not `==` to itself. -/
theorem id_immutable_full_fails : ¬ id_immutable_full := by
  intro H
  have hb := Proofs.C05Cex.immChk_bad
  generalize hx : applyUpdateColl {} 0 Proofs.C05Cex.cBad (.doc [("zz", .int 1)])
    (.doc [("$set", .doc [("x", .int 1)])]) false false = x at hb
  obtain ⟨c', r⟩ := x
  have ht : Proofs.C05Cex.immChk Proofs.C05Cex.cBad (c', r) = true := by
    simp only [Proofs.C05Cex.immChk, List.all_eq_true, Bool.or_eq_true, List.any_eq_true]
    intro p' hp'
    rcases H {} 0 _ c' _ _ false false r hx p' hp' with ⟨p, hp, _, h2⟩ | ⟨res, id, h1, h2, _⟩
    · exact Or.inl ⟨p, hp, h2⟩
    · right; subst h1; simp [h2]
  rw [ht] at hb; cases hb

/-- **`_id` is immutable**: after any update / replacement / upsert (successful or rejected),
    every document of the collection is either a document that was there before, under the same
    key and with an equal `_id`, or the one document the upsert inserted — PROVIDED the
    collection satisfies the invariant, its store keys are `SymmVal` and its documents are
    dict-shaped.  Excluded: duplicate-key association lists (not Python values) and multi-field
    embedded `_id`s (correspondence run and direct oracle only; scope limit
    `embedded-id-multifield`). -/
theorem id_immutable_partial (cfg : Cfg) (now : Int) (c c' : Coll) (f u : Val) (upsert multi : Bool)
    (r : R UpdateResult) (h : applyUpdateColl cfg now c f u upsert multi = (c', r))
    (hi : IdInv c)
    (hs : ∀ p ∈ c.docs, SymmVal p.1 ∧ ∃ fs, p.2 = .doc fs ∧ (dkeys fs).Nodup) :
    ∀ p' ∈ c'.docs,
      (∃ p ∈ c.docs, p.1 = p'.1 ∧ pyEqOpt (idOf p.2) (idOf p'.2) = true) ∨
      (∃ res id, r = .ok res ∧ res.upserted = some id ∧ p'.1 = id) := by
  obtain ⟨c3, ⟨_, h1⟩, h3⟩ := (Proofs.C05Lemmas.carried c).applyUpdateColl_ok
    (Proofs.C05Lemmas.entU_init hi hs) h
  intro p' hp'
  rcases h3 with hl | ⟨c4, built, id, hl, hins, res, hres, hup⟩
  · exact .inl (h1 p' (hl.1.subset hp')).2.2.2
  · -- the upsert: what is left of the loop's collection, and the inserted document
    obtain ⟨c1, d, hl1, hf, _, hu⟩ := Proofs.C05Lemmas.insertDoc_ok hins
    have hm := (Proofs.C05Lemmas.loss_ensure hu).1.subset hp'
    rw [Proofs.C05Lemmas.storeDoc_fresh _ _ _ hf] at hm
    rcases List.mem_append.1 hm with hm | hm
    · exact .inl (h1 p' (hl.1.subset (hl1.1.subset hm))).2.2.2
    · cases List.mem_singleton.1 hm; exact .inr ⟨res, id, hres, hup, rfl⟩

/-! ### the invariant over ALL modelled operations (extended step)

`stepX` / `stepXS` (MongoModel/FindModify.lean) add `find_one`, `find_one_and_update / _replace /
_delete`, `bulk_write` and the bulk builder to the operations of `stepColl`; `runX`
(Spec/HistoryExt.lean) is `run` over `stepXS`.  The theorems below lift `step_inv_partial` /
`reachable_inv_partial` to them.  A bulk executes its
requests one after the other: `GoodColl` is asked of the collections BETWEEN the requests as well
(`midColls`: what the bulk made of the first `n` requests leaves, for every `n`), for the reason
it is asked of the states along a history.  The find-and-modify family needs nothing more than a
basic operation does. -/

/-- The unrestricted statement for the extended step. -/
def stepX_inv_full : Prop :=
  ∀ (cfg : Cfg) (now : Int) (c : Coll) (op : Val), IdInv c → IdInv (stepX cfg now c op).1

/-- It is FALSE in the model, for the reason `step_inv_full` is: `bulk_write([InsertOne({_id:
    {a:1, a:2}})])` stores a document under a duplicate-key association list (no Python dict),
    which is not `==` to itself. -/
theorem stepX_inv_full_fails : ¬ stepX_inv_full := fun H =>
  Bool.noConfusion (Proofs.C05Cex.keyIsId_chk _ (H {} 0 {} Proofs.C05Ext.bulkBad init_inv).2 false
    (by rw [Proofs.C05Ext.chk_bulkBad]; exact List.mem_singleton_self _))

/-- **Every modelled operation** — the basic ones, `find_one`, `find_one_and_update / _replace /
    _delete` (with or without upsert, sort, projection, `after`), `bulk_write` (ordered or not,
    with failing requests, aborted or not) and a bulk builder executed any number of times —
    preserves the invariant, PROVIDED the entries before, after and — for a bulk — between the
    requests (`midColls`; empty for every other operation, `midColls_not_bulk`) are well-behaved
    (`GoodColl`).  Same exclusions as `step_inv_partial`: duplicate-key association lists as
    `_id` (not Python values), multi-field embedded `_id`s (scope limit
    `embedded-id-multifield`). -/
theorem stepX_inv_partial (cfg : Cfg) (now : Int) (c : Coll) (op : Val) (h : IdInv c)
    (hg : GoodColl c) (hm : ∀ m ∈ midColls cfg now c op, GoodColl m)
    (hg' : GoodColl (stepX cfg now c op).1) : IdInv (stepX cfg now c op).1 :=
  (Proofs.C05Ext.bridge _ (Proofs.C05Ext.stepX_winv cfg now c op h hg hm) hg').1

/-- … on states with a clock (`stepXS`: `clock` moves the time, every other operation is
    `stepX` at the current time). -/
theorem stepXS_inv_partial (cfg : Cfg) (s : St) (op : Val) (h : IdInv s.c) (hg : GoodColl s.c)
    (hm : ∀ m ∈ midColls cfg s.now s.c op, GoodColl m) (hg' : GoodColl (stepXS cfg s op).1.c) :
    IdInv (stepXS cfg s op).1.c :=
  (Proofs.C05Ext.bridge _ (Proofs.ExtGen.stepXS_pres Proofs.C05Lemmas.carriedId GoodColl
    Proofs.C05Ext.bridge s op ⟨h, Proofs.C05Lemmas.updOK_of_good hg⟩ hm) hg').1

/-- `midColls` is empty unless the operation is a bulk: for `find_one`, the find-and-modify
    family and the basic operations `stepX_inv_partial` has the hypotheses of `step_inv_partial`. -/
theorem midColls_not_bulk (cfg : Cfg) (now : Int) (c : Coll) (op : Val) (h : bulkReqs op = none) :
    midColls cfg now c op = [] := by
  unfold midColls; rw [h]

/-- For a concrete collection and operation the hypotheses of `stepX_inv_partial` can be
    discharged by evaluation (`idInvB` decides `IdInv`; `goodCollB`: scalar store keys and
    dict-shaped documents, narrower than `GoodColl`). -/
theorem stepX_inv_check (cfg : Cfg) (now : Int) (c : Coll) (op : Val)
    (h : (Proofs.C05Ext.idInvB c && Proofs.C05Ext.goodCollB c &&
      (midColls cfg now c op).all Proofs.C05Ext.goodCollB &&
      Proofs.C05Ext.goodCollB (stepX cfg now c op).1) = true) : IdInv (stepX cfg now c op).1 :=
  Proofs.C05Ext.stepX_inv_check cfg now c op h

/-- three documents (one key a double, one a string) -/
def demoCollX : Coll :=
  { docs := [(.int 1, .doc [("_id", .int 1), ("a", .int 1)]),
             (.dbl 5 1, .doc [("_id", .dbl 5 1), ("a", .int 2)]),
             (.str "k", .doc [("_id", .str "k"), ("a", .int 2)])] }

/-- an unordered bulk mixing all kinds: an insert, a rejected one (`1.0 == 1`), a multi-update, an
    update of an `_id` to an `==` value, a rejected change of `_id`, an upserting replacement, a
    delete -/
def demoBulk : Val :=
  .arr [.str "bulk_write", .arr [
    .arr [.str "InsertOne", .doc [("_id", .int 2)]],
    .arr [.str "InsertOne", .doc [("_id", .dbl 1 0)]],
    .arr [.str "UpdateMany", .doc [("a", .int 2)], .doc [("$set", .doc [("z", .int 0)])], .bool false],
    .arr [.str "UpdateOne", .doc [("_id", .int 1)], .doc [("$set", .doc [("_id", .dbl 1 0)])], .bool false],
    .arr [.str "UpdateOne", .doc [("_id", .str "k")], .doc [("$set", .doc [("_id", .int 3)])], .bool false],
    .arr [.str "ReplaceOne", .doc [("_id", .int 9)], .doc [("q", .int 1)], .bool true],
    .arr [.str "DeleteMany", .doc [("z", .int 0), ("_id", .str "k")]]], .bool false]

/-- `demoBulk` on `demoCollX`: the hypotheses of `stepX_inv_check`, and what the bulk did -/
private theorem demoBulk_facts :
    (Proofs.C05Ext.idInvB demoCollX && Proofs.C05Ext.goodCollB demoCollX &&
      (midColls {} 0 demoCollX demoBulk).all Proofs.C05Ext.goodCollB &&
      Proofs.C05Ext.goodCollB (stepX {} 0 demoCollX demoBulk).1) = true ∧
    ((match (stepX {} 0 demoCollX demoBulk).2 with
     | .bulkErr (.doc d) => dget "writeErrors" d
     | _ => none) == some (.arr [.doc [("index", .int 1), ("code", .int 11000)],
                                 .doc [("index", .int 4), ("code", .null)]]) ∧
    (midColls {} 0 demoCollX demoBulk).map (·.docs.length) = [3, 4, 4, 4, 4, 4, 5, 4] ∧
    (stepX {} 0 demoCollX demoBulk).1.docs.map (·.1) == [.int 1, .dbl 5 1, .int 2, .int 9]) := by
  decide +kernel

/-- non-vacuity of `stepX_inv_partial` (bulk): `demoBulk` on `demoCollX` -/
example : IdInv (stepX {} 0 demoCollX demoBulk).1 := stepX_inv_check _ _ _ _ demoBulk_facts.1

/-- … what the bulk did: BulkWriteError with write errors at the indexes 1 (DuplicateKeyError)
    and 4, eight collections between the requests, four documents at the end -/
example :
    (match (stepX {} 0 demoCollX demoBulk).2 with
     | .bulkErr (.doc d) => dget "writeErrors" d
     | _ => none) == some (.arr [.doc [("index", .int 1), ("code", .int 11000)],
                                 .doc [("index", .int 4), ("code", .null)]]) ∧
    (midColls {} 0 demoCollX demoBulk).map (·.docs.length) = [3, 4, 4, 4, 4, 4, 5, 4] ∧
    (stepX {} 0 demoCollX demoBulk).1.docs.map (·.1) == [.int 1, .dbl 5 1, .int 2, .int 9] :=
  demoBulk_facts.2

/-- non-vacuity of `stepX_inv_partial` (find-and-modify): `find_one_and_update` with a sort,
    that finds nothing and upserts; `find_one_and_delete` of the document sorted first -/
example :
    IdInv (stepX {} 0 demoCollX (.arr [.str "find_one_and_update", .doc [("_id", .int 7)],
      .doc [("$set", .doc [("b", .int 1)])], .null, .arr [.arr [.str "a", .int (-1)]],
      .bool true, .bool true])).1 ∧
    IdInv (stepX {} 0 demoCollX (.arr [.str "find_one_and_delete", .doc [],
      .null, .arr [.arr [.str "a", .int (-1)]]])).1 :=
  ⟨stepX_inv_check _ _ _ _ (by decide +kernel), stepX_inv_check _ _ _ _ (by decide +kernel)⟩

/-- What `midColls` lists for a `bulk_write` whose requests pass the registration check: the
    collections the executor loop (`bulkLoop`) leaves after the first `n` requests, `n = 0 … `
    the number of requests (a loop that stopped earlier stays where it stopped). -/
theorem midColls_bulk (cfg : Cfg) (now : Int) (c : Coll) (reqs : List Val) (ordered : Val)
    (hp : bulkPrecheck reqs = .ok ()) :
    midColls cfg now c (.arr [.str "bulk_write", .arr reqs, ordered]) =
      (List.range (reqs.length + 1)).map (fun n =>
        (bulkLoop cfg now (boolOf ordered) (reqs.take n) 0 c {}).1) :=
  Proofs.C05Ext.midColls_bulk cfg now c reqs ordered hp

/-- non-vacuity: the requests of `demoBulk` pass the registration check -/
example : (match demoBulk with
    | .arr [_, .arr reqs, _] => bulkPrecheck reqs
    | _ => .error .other) = .ok () := by decide +kernel

/-- `traceX` lists (at least) every state along the history: the hypothesis of
    `reachableX_inv_partial` covers what `reachable_inv_partial` asks, `GoodColl` of the state
    after every prefix. -/
theorem traceX_states (cfg : Cfg) (ops : List Val) (n : Nat) :
    (runX cfg (ops.take n)).2.c ∈ traceX cfg ops :=
  Proofs.C05Ext.traceX_states cfg ops n

/-- **In every state reachable through ANY of the modelled operations** (`runX`: any history of
    any length from the empty collection over the basic operations, `find_one`, the
    find-and-modify family, `bulk_write` and the bulk builder) no two store keys are equal and
    every document sits under its own `_id`, PROVIDED every collection the history passes
    through (`traceX`: the states along it and the collections between the requests of its bulks)
    holds well-behaved entries only (`GoodColl`).  Same exclusions as `reachable_inv_partial`. -/
theorem reachableX_inv_partial (cfg : Cfg) (ops : List Val)
    (hg : ∀ m ∈ traceX cfg ops, GoodColl m) : IdInv (runX cfg ops).2.c :=
  Proofs.C05Ext.reachableX_inv_alt cfg ops hg

/-- For a concrete history the hypothesis of `reachableX_inv_partial` can be discharged by
    evaluation (`goodB`: scalar store keys, dict-shaped documents). -/
theorem reachableX_inv_check (cfg : Cfg) (ops : List Val)
    (h : (traceX cfg ops).all (fun m => m.docs.all goodB) = true) : IdInv (runX cfg ops).2.c :=
  Proofs.C05Ext.reachableX_inv_check cfg ops h

/-- the history used below: an insert, an upserting `find_one_and_update`, a sorted
    `find_one_and_update`, an unordered `bulk_write` mixing kinds with a failing request
    (`1.0 == 1`), an ordered bulk builder that stops at a duplicate and is executed twice, a
    `find_one_and_replace`, a `find_one_and_delete`, a `find_one` -/
def demoHistoryX : List Val := [
  .arr [.str "insert_one", .doc [("_id", .int 1), ("a", .int 1)]],
  .arr [.str "find_one_and_update", .doc [("_id", .int 7)], .doc [("$set", .doc [("b", .int 1)])],
    .null, .null, .bool true, .bool true],
  .arr [.str "find_one_and_update", .doc [("a", .int 1)], .doc [("$inc", .doc [("a", .int 1)])],
    .null, .arr [.arr [.str "a", .int 1]], .bool false, .bool false],
  .arr [.str "bulk_write", .arr [
    .arr [.str "InsertOne", .doc [("_id", .int 2)]],
    .arr [.str "InsertOne", .doc [("_id", .dbl 1 0)]],
    .arr [.str "UpdateMany", .doc [], .doc [("$set", .doc [("z", .int 0)])], .bool false],
    .arr [.str "ReplaceOne", .doc [("_id", .int 9)], .doc [("q", .int 1)], .bool true],
    .arr [.str "DeleteOne", .doc [("_id", .int 2)]]], .bool false],
  .arr [.str "bulk_builder", .arr [
    .arr [.str "InsertOne", .doc [("_id", .int 3)]],
    .arr [.str "InsertOne", .doc [("_id", .int 3)]],
    .arr [.str "InsertOne", .doc [("_id", .int 4)]]], .bool true, .int 2],
  .arr [.str "find_one_and_replace", .doc [("_id", .int 3)], .doc [("r", .int 1)],
    .null, .null, .bool false, .bool true],
  .arr [.str "find_one_and_delete", .doc [("_id", .int 7)], .null, .null],
  .arr [.str "find_one", .doc [("_id", .int 3)], .null, .null]]

/-- `demoHistoryX`: every collection it passes through has scalar store keys and dict-shaped
    documents; what happened along it -/
private theorem demoHistoryX_facts :
    (traceX {} demoHistoryX).all (fun m => m.docs.all goodB) = true ∧
    ((runX {} demoHistoryX).1.map (fun r => r.1.isErr) =
      [false, false, false, true, false, false, false, false] ∧
    (traceX {} demoHistoryX).map (·.docs.length) =
      [0, 1, 2, 2, 2, 3, 3, 3, 4, 3, 3, 3, 4, 4, 4, 4, 4, 3, 3] ∧
    (runX {} demoHistoryX).2.c.docs.map (·.1) == [.int 1, .int 9, .int 3]) := by
  decide +kernel

/-- non-vacuity of `reachableX_inv_partial` -/
example : IdInv (runX {} demoHistoryX).2.c := reachableX_inv_check _ _ demoHistoryX_facts.1

/-- … and what happened along `demoHistoryX`: the bulk_write raised BulkWriteError, nothing else
    raised; the history passed through 19 collections; the final `_id`s -/
example :
    (runX {} demoHistoryX).1.map (fun r => r.1.isErr) =
      [false, false, false, true, false, false, false, false] ∧
    (traceX {} demoHistoryX).map (·.docs.length) =
      [0, 1, 2, 2, 2, 3, 3, 3, 4, 3, 3, 3, 4, 4, 4, 4, 4, 3, 3] ∧
    (runX {} demoHistoryX).2.c.docs.map (·.1) == [.int 1, .int 9, .int 3] :=
  demoHistoryX_facts.2

/-- **An `InsertOne` request whose `_id` is already a key yields a write error at its index**
    (code 11000, DuplicateKeyError) **and leaves the collection as the expiry pass alone leaves
    it**: an ordered bulk stops there with BulkWriteError, an unordered one goes on with the
    remaining requests from that collection (`dup_rejected` for the bulk path). -/
theorem bulk_dup_rejected (cfg : Cfg) (now : Int) (ordered : Bool) (c c1 : Coll) (idx : Nat)
    (fs : Fields) (id : Val) (rest : List Val) (t : BulkTotals)
    (hid : dget "_id" (patchFields fs) = some id) (hk : storeKey id = .ok id)
    (he : expire now c = .ok c1) (hd : c1.hasKey id = true) :
    bulkLoop cfg now ordered (.arr [.str "InsertOne", .doc fs] :: rest) idx c t =
      if ordered then
        (c1, .bulkErr ({ t with errors := t.errors ++
          [Val.doc [("index", .int idx), ("code", .int 11000)]] }).toVal)
      else
        bulkLoop cfg now ordered rest (idx + 1) c1 { t with errors := t.errors ++
          [Val.doc [("index", .int idx), ("code", .int 11000)]] } :=
  Proofs.C05Ext.bulk_dup_rejected cfg now ordered c c1 idx fs id rest t hid hk he hd

/-- non-vacuity: `{_id: 1.0}` against `demoCollX` (`1.0 == 1`), ordered, as the third request -/
example : bulkLoop {} 0 true [.arr [.str "InsertOne", .doc [("_id", .dbl 1 0)]],
      .arr [.str "InsertOne", .doc [("_id", .int 8)]]] 2 demoCollX {} =
    (demoCollX, .bulkErr ({ ({} : BulkTotals) with errors :=
      [Val.doc [("index", .int 2), ("code", .int 11000)]] }).toVal) :=
  bulk_dup_rejected {} 0 true demoCollX demoCollX 2 _ (.dbl 1 0) _ {} rfl rfl rfl
    (by decide +kernel)

end MongoModel.Props.C05
