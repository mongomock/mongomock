/-
  Props.C20 — unsupported MongoDB features fail loudly instead of being silently ignored.

  Translated model.  `Generated.tables` (the dispatch tables of the code), `Generated.vocab`
  (the OBSERVED disposition of every name of the MongoDB 5.0 vocabulary, of the code's tables,
  near-miss and seeded random names, at each of the 16 syntactic positions), `Generated.sites`,
  `Generated.callSites` and `Generated.siteVocab` (the parts of the stage specifications that hand
  names to a dispatch helper, the calls of those helpers in `mongomock/aggregate.py`, and the
  observed disposition of the probed names at each part), `Generated.methods`,
  `Generated.options` and `Generated.optionPairs` (method × option × opt-out setting, one option
  and two at a time) are rewritten from the working tree of /repo on every run
  (harness/extract_vocab.py, extract_sites.py, extract_options.py; written out by
  gen_c20_lean.py), so the theorems below that quantify over those finite tables are re-proved
  against the code as it stands.
  `MongoModel.Vocab.dispatch` is the hand-written dispatch STRUCTURE of each position over those
  tables; `dispatch_agrees` ties it to the observations, `unknown_raises` is the part no table
  can give: it holds for EVERY name and EVERY table.

  Names are codes (`MongoModel.Vocab.enc`: UTF-8 bytes, little-endian base 256); a name starts
  with `$` iff `isOp code`.

  Known findings (the code really fails the property there; witnesses replayed on the real code
  by the check; `knownIgnoredPairs`, `knownIgnoredSitePairs`, `knownSilent` are generated from
  the `known` entries of known_findings.json):
  * `$ne` / `$nin` in a condition whose path reaches no value select every document whatever
    their operand is (`ignored:queryFieldDeadEnd:$ne`, `…:$nin`; `known_ignored_are_ne_nin`
    names them) — a deviation of the matcher that shows here as an operator taking no part;
  * ONE option is accepted without an opt-out: `Collection.find(collation=…)`, which the
    library stores on the cursor on purpose (`known_silent_is_find_collation` names it);
  * the EXPRESSION parts of the stages (`$project`, `$addFields` / `$set`, `$replaceRoot`,
    `$group` `_id`, `groupBy` of `$bucket`, the argument of every accumulator, `startWith` of
    `$graphLookup`) and its `restrictSearchWithMatch` are looked at only while a document is
    read: on an EMPTY collection an unsupported name there is let through (`lazy-empty:<site>`,
    `knownLazyEmptySites`; `lazy_empty_sites_are_expressions_or_filters`).  The accumulator NAMES
    of `$group` / `$bucket` are checked before any document is read (6f29a71;
    `accumulator_names_loud_on_empty_input`).
  The entries of known_findings.json that the library has repaired appear in no exclusion list;
  their witnesses are probed again on every run (harness/props/c20.py `judge_fixed`), and the
  theorems that cover them hold without exception:
  * `$not` at the top level of a filter raises (b0b21d1): `generated_dispatch_ignores_only_ne_nin`;
  * a condition whose path reaches no value (6c55e75), an update that matches no document
    (1244abc) and the clauses next to `$each` in `$addToSet` (6c1d985) validate their names:
    `unknown_raises` holds at EVERY position;
  * `find` / `find_one` (session: d0b630a; `find_one` collation: 08d4d98), `aggregate` (b1f1430),
    `create_index` (a8af69f), `find_one_and_*` (1dab744), bulk `add_*` (51ec724) and
    `Database.command` (612f87a) refuse the options they do not implement, and an opt-out works
    on `aggregate(session)` (b1f1430) and on the `Database` methods (4a36577):
    `options_loud_except_find_collation`, and `opt_out_is_honoured` over the whole table.
-/
import Proofs.C20Tables

namespace MongoModel.Props.C20
open MongoModel.Vocab

/-! ## the observed vocabulary table -/

/-- The full-strength statement: no name of the vocabulary is ignored at any position. -/
def no_vocab_name_ignored_full : Prop :=
  ∀ e ∈ Generated.vocab, e.disp ≠ .ignored

/-- It is false of the code as it stands (`$ne` / `$nin` on a path that reaches no value): the
    regenerated table contains an `ignored` entry. -/
theorem no_vocab_name_ignored_full_fails : ¬ no_vocab_name_ignored_full := by
  intro h
  obtain ⟨e, he, hd⟩ := List.any_eq_true.mp Proofs.C20.some_entry_ignored
  exact h e he (by simpa using hd)

/-- **Table theorem (partial: modulo the listed known findings).**  Every (position, name) of
    the regenerated table that is observed `ignored` is a listed known finding — a NEW ignored
    entry breaks this proof, and the check reports the probing call as the failing input. -/
theorem no_vocab_name_ignored_partial :
    ∀ e ∈ Generated.vocab, e.disp = .ignored →
      (e.pos, e.code) ∈ Generated.knownIgnoredPairs :=
  fun e he => (Proofs.C20.rows_entries _ _ _ Proofs.C20.rows_ok e he).2

/-- **The listed cases, by name**: `$ne` and `$nin` in a condition whose path reaches no value. -/
theorem known_ignored_are_ne_nin :
    ∀ p ∈ Generated.knownIgnoredPairs, p.1 = .queryFieldDeadEnd ∧ (p.2 = cNe ∨ p.2 = cNin) := by
  intro p hp
  have := List.all_eq_true.mp Proofs.C20.known_ignored_pairs_named p hp
  simpa using this

/-- **No name is ignored, but for `$ne` / `$nin` on a path that reaches no value.**  Over the
    whole regenerated table — every name of the vocabulary, of the code's tables, near-miss and
    random names, at each of the 16 positions. -/
theorem no_vocab_name_ignored_except_ne_nin :
    ∀ e ∈ Generated.vocab, e.disp = .ignored →
      e.pos = .queryFieldDeadEnd ∧ (e.code = cNe ∨ e.code = cNin) :=
  fun e he h => known_ignored_are_ne_nin (e.pos, e.code) (no_vocab_name_ignored_partial e he h)

/-- the hypothesis is inhabited: the table does contain ignored entries to which it applies -/
example : ∃ e ∈ Generated.vocab, e.disp = .ignored := by
  obtain ⟨e, he, hd⟩ := List.any_eq_true.mp Proofs.C20.some_entry_ignored
  exact ⟨e, he, by simpa using hd⟩

/-- **Structure = observation.**  For every entry of the regenerated table the dispatch model
    over the regenerated code tables gives exactly the observed disposition (and the entry's
    code is the encoding of its name). -/
theorem dispatch_agrees :
    ∀ e ∈ Generated.vocab,
      enc e.name = e.code ∧ dispatch Generated.tables e.pos e.code = e.disp :=
  fun e he => (Proofs.C20.rows_entries _ _ _ Proofs.C20.rows_ok e he).1

/-- the code tables of the model are the tables read off the source -/
theorem tables_are_the_source_tables : Generated.tables = Generated.tablesS.map enc :=
  Proofs.C20.tables_encoded

/-! ## the dispatch structure: every name, every table -/

/-- **Unknown names raise — at every position.**  Whatever the tables are, a name that starts
    with `$` and for which the position has no branch at all ends in the default branch, which
    raises: NotImplementedError for stages and accumulators, OperationFailure / WriteError /
    ValueError elsewhere. -/
theorem unknown_raises (T : Tables Code) (pos : Position) (k : Code)
    (hop : isOp k = true) (hk : k ∉ recognised T pos) :
    dispatch T pos k = defaultRaise pos :=
  Proofs.C20.unknown_raises T pos k hop hk

/-- the same without naming the exception: the call raises -/
theorem unknown_raises_everywhere :
    ∀ (T : Tables Code) (pos : Position) (k : Code), isOp k = true → k ∉ recognised T pos →
      (dispatch T pos k).raises = true :=
  Proofs.C20.unknown_raises_everywhere

/-- non-vacuity: `$typo` (its code) is not recognised as a query operator by the regenerated
    tables, nor in a condition whose path reaches no value, in an update that matches no
    document, next to `$each` in `$addToSet` -/
example : isOp 478628377636 = true ∧
    478628377636 ∉ recognised Generated.tables .queryField ∧
    478628377636 ∉ recognised Generated.tables .queryFieldDeadEnd ∧
    478628377636 ∉ recognised Generated.tables .updateNoMatch ∧
    478628377636 ∉ recognised Generated.tables .addToSetModifier := by decide +kernel

/-- At the positions whose default branch does not even look at the `$` (inside `$not`, update
    operator — a document matching or not —, `$push` and `$addToSet` clause, stage, accumulator,
    `$type` alias) ANY unrecognised key raises. -/
theorem unknown_raises_strict (T : Tables Code) (pos : Position) (k : Code)
    (hs : Proofs.C20.Position.strict pos = true) (hk : k ∉ recognised T pos) :
    dispatch T pos k = defaultRaise pos :=
  Proofs.C20.unknown_raises_strict T pos k hs hk

example : Proofs.C20.Position.strict .typeAlias = true ∧
    enc "integer" ∉ recognised Generated.tables .typeAlias := by decide +kernel

/-- **The structure ignores a name only in the listed ways**: a connective of
    `LOGICAL_OPERATOR_MAP` other than `$not` whose value is truthy whatever its operands say, at
    the top level of a filter or of an `$elemMatch` query; `$ne` / `$nin` in a condition whose
    path reaches no value; an update operator that the pre-check `_validate_update_operators`
    lets through and the operator loop has no branch for, when no document matches; an
    accumulator that the pre-check `_validate_accumulators` lets through and `_accumulate_group`
    has no branch for (it has no default branch, 6f29a71). -/
theorem ignored_only_structurally (T : Tables Code) (pos : Position) (k : Code)
    (h : dispatch T pos k = .ignored) :
    (k ∈ T.logicalConst ∧ k ∈ T.logicalOps ∧ k ≠ cNot ∧
      (pos = .queryTop ∨ pos = .queryElemMatch)) ∨
    (pos = .queryFieldDeadEnd ∧ (k = cNe ∨ k = cNin)) ∨
    (pos = .updateNoMatch ∧ k ∈ T.updateChecked ∧ k ∉ T.updaters ∧ k ∉ T.updateInline) ∨
    (pos = .accumulator ∧ k ∈ T.groupChecked ∧ k ∉ T.groupingMap ∧ k ∉ T.groupInline) :=
  Proofs.C20.ignored_only_structurally T pos k h

/-- the first alternative is inhabited by tables with a constant connective other than `$not`
    (`LOGICAL_OPERATOR_MAP` itself has none: its only constant entry is `$not`, which the top
    level refuses — known_findings.json `toplevelnot`, repaired by b0b21d1) -/
example : dispatch { Tables.empty with logicalOps := [cAll], logicalConst := [cAll] } .queryTop cAll
    = .ignored := by decide +kernel

/-- the second by any table that implements `$ne`, the third by a pre-check that lets through
    a name the operator loop does not know -/
example : dispatch { Tables.empty with operatorMap := [cNe] } .queryFieldDeadEnd cNe = .ignored ∧
    dispatch { Tables.empty with updateChecked := [7] } .updateNoMatch 7 = .ignored ∧
    dispatch { Tables.empty with groupChecked := [7] } .accumulator 7 = .ignored := by
  decide +kernel

/-- **The pre-check of the accumulators lets through only what `_accumulate_group` has a branch
    for** (regenerated tables: the names `_validate_accumulators` accepts against
    `_GROUPING_OPERATOR_MAP` and the `elif operator == '$op'` branches).  `_accumulate_group` has
    no default branch (6f29a71): a name in the first and not in the second would give no output
    field, silently. -/
theorem accumulator_precheck_within_loop :
    ∀ k ∈ Generated.tables.groupChecked,
      k ∈ Generated.tables.groupingMap ∨ k ∈ Generated.tables.groupInline := by
  intro k hk
  have := List.all_eq_true.mp Proofs.C20.accumulator_precheck_within_loop_tbl k hk
  simpa using this

/-- **The pre-check of an update lets through only what the operator loop has a branch for**
    (regenerated tables: `_updaters` ∪ `_OTHER_UPDATE_OPERATORS` against `_updaters` and the
    `elif k == '$op'` branches of `_apply_update`). -/
theorem update_precheck_within_loop :
    ∀ k ∈ Generated.tables.updateChecked,
      k ∈ Generated.tables.updaters ∨ k ∈ Generated.tables.updateInline := by
  intro k hk
  have := List.all_eq_true.mp Proofs.C20.update_precheck_within_loop_tbl k hk
  simpa using this

/-- **Over the regenerated tables the structure ignores nothing but `$ne` / `$nin` on a path
    that reaches no value** — for EVERY name (probed or not) and every position. -/
theorem generated_dispatch_ignores_only_ne_nin (pos : Position) (k : Code)
    (h : dispatch Generated.tables pos k = .ignored) :
    pos = .queryFieldDeadEnd ∧ (k = cNe ∨ k = cNin) :=
  Proofs.C20.generated_dispatch_ignores_only_ne_nin pos k h

example : dispatch Generated.tables .queryFieldDeadEnd cNe = .ignored := by decide +kernel

/-- `$not` at the top level of a filter raises, and is evaluated inside `$elemMatch`, whatever
    the tables say about `LOGICAL_OPERATOR_MAP` -/
example : dispatch { Tables.empty with logicalOps := [cNot], logicalConst := [cNot] } .queryTop cNot
    = .raisesOther ∧
    dispatch { Tables.empty with logicalOps := [cNot], logicalConst := [cNot] } .queryElemMatch cNot
    = .implemented := by decide +kernel

/-- Stages the code declares without a handler, and everything else that has no handler, raise
    NotImplementedError. -/
theorem stage_without_handler_raises (T : Tables Code) (k : Code) (h : k ∉ T.stagesImpl) :
    dispatch T .stage k = .raisesNotImplemented := by
  simp [dispatch, dispatchC, stageDispatch, classify, h]

/-- `$type` aliases mapped to `None` raise NotImplementedError. -/
theorem type_alias_none_raises (T : Tables Code) (k : Code) (h : k ∉ T.typeImpl)
    (h' : k ∈ T.typeNone) : dispatch T .typeAlias k = .raisesNotImplemented := by
  simp [dispatch, dispatchC, typeDispatch, classify, h, h']

example : (7 : Code) ∉ ({ Tables.empty with typeNone := [7] }).typeImpl ∧
    (7 : Code) ∈ ({ Tables.empty with typeNone := [7] }).typeNone := by decide

/-- The four expression positions go through one dispatcher. -/
theorem expr_positions_agree (T : Tables Code) (k : Code) :
    dispatch T .exprAddFields k = dispatch T .exprProject k ∧
    dispatch T .exprMatchExpr k = dispatch T .exprProject k ∧
    dispatch T .exprGroupId k = dispatch T .exprProject k :=
  Proofs.C20.expr_positions_agree T k

/-! ## the consumers of the shared dispatchers (every part of a stage that carries names) -/

/-- **Every consumer follows its dispatcher.**  `Generated.sites` are the parts of the stage
    specifications that reach a dispatch helper (`_accumulate_group`, `_parse_expression`,
    `process_pipeline`, `filter_applies`, and whatever else the source has that consults a table
    of `$`-names), derived on every run from the syntax tree of `mongomock/aggregate.py` and a
    traced run of every stage.  At each of them every probed name gets the disposition the
    dispatcher of the helper gives it — or the site raises (it may be stricter: `newRoot` must
    evaluate to a document).  A consumer that drops a name its dispatcher refuses (`output` of
    `$bucket` with an accumulator that is not implemented) breaks this proof. -/
theorem sites_follow_dispatch :
    ∀ e ∈ Generated.siteVocab,
      dispatch Generated.tables e.pos e.code = e.disp ∨ e.disp.raises = true :=
  fun e he => (Proofs.C20.siteRows_entries _ _ _ _ Proofs.C20.site_rows_ok e he).1

/-- **No name is ignored at a consumer site** (modulo the listed known findings,
    `knownIgnoredSitePairs`). -/
theorem no_site_name_ignored :
    ∀ e ∈ Generated.siteVocab, e.disp = .ignored →
      (e.site, e.code) ∈ Generated.knownIgnoredSitePairs :=
  fun e he => (Proofs.C20.siteRows_entries _ _ _ _ Proofs.C20.site_rows_ok e he).2.1

/-! ### empty input: a refusal must not depend on there being a document to read -/

/-- The full-strength statement: a name that a site refuses on a populated collection (every
    probing call raises) is refused by the same calls on an empty collection. -/
def sites_loud_on_empty_input_full : Prop :=
  ∀ e ∈ Generated.siteVocab, e.disp.raises = true → e.onEmpty = .raises

/-- False as it stands (known findings `lazy-empty:<site>`): the expression parts of the stages
    are parsed once per document, so never on an empty collection. -/
theorem sites_loud_on_empty_input_full_fails : ¬ sites_loud_on_empty_input_full := by
  intro h
  obtain ⟨e, he, hd⟩ := List.any_eq_true.mp Proofs.C20.some_site_silent_on_empty
  simp only [Bool.and_eq_true, decide_eq_true_eq] at hd
  have := h e he hd.1
  rw [hd.2] at this
  exact absurd this (by decide)

/-- **Loud on empty input (partial: outside the listed sites).**  Every refusal observed at a
    site was tried again on an empty collection, and it is repeated there — except at the sites
    listed as `lazy-empty:<site>`. -/
theorem sites_loud_on_empty_input_partial :
    ∀ e ∈ Generated.siteVocab, e.disp.raises = true → e.site ∉ Generated.knownLazyEmptySites →
      e.onEmpty = .raises := by
  intro e he hr hn
  obtain ⟨h1, h2⟩ := (Proofs.C20.siteRows_entries _ _ _ _ Proofs.C20.site_rows_ok e he).2.2
  cases ho : e.onEmpty with
  | notProbed => exact absurd ho (h1 hr)
  | raises => rfl
  | silent => exact absurd (h2 ho) hn

/-- **The listed sites, by kind**: each is a part of a stage that is handed to the expression
    parser or to the matcher (`restrictSearchWithMatch`) — no accumulator-name site, no
    sub-pipeline of `$facet`. -/
theorem lazy_empty_sites_are_expressions_or_filters :
    ∀ i ∈ Generated.knownLazyEmptySites,
      Proofs.C20.siteFamily i = some .expr ∨ Proofs.C20.siteFamily i = some .query := by
  intro i hi
  have := List.all_eq_true.mp Proofs.C20.lazy_empty_families_tbl i hi
  simpa using this

/-- **Accumulator names and sub-pipeline stages are refused on empty input too** (6f29a71 for
    the accumulators: `_validate_accumulators` runs before `$group` / `$bucket` read any
    document): at every site whose helper dispatches accumulators or stages, a name refused on
    a populated collection is refused on an empty one. -/
theorem accumulator_names_loud_on_empty_input :
    ∀ e ∈ Generated.siteVocab,
      (Proofs.C20.siteFamily e.site = some .accumulator ∨
        Proofs.C20.siteFamily e.site = some .stage) →
      e.disp.raises = true → e.onEmpty = .raises := by
  intro e he hf hr
  apply sites_loud_on_empty_input_partial e he hr
  intro hmem
  rcases lazy_empty_sites_are_expressions_or_filters e.site hmem with h | h <;>
    rcases hf with hf | hf <;> rw [hf] at h <;> cases h

/-- non-vacuity: the table has refusals at accumulator-name sites, repeated on empty input -/
example : ∃ e ∈ Generated.siteVocab, Proofs.C20.siteFamily e.site = some .accumulator ∧
    e.disp.raises = true ∧ e.onEmpty = .raises := by
  obtain ⟨e, he, hd⟩ := List.any_eq_true.mp Proofs.C20.some_accumulator_refused_on_empty
  simp only [Bool.and_eq_true, beq_iff_eq, decide_eq_true_eq] at hd
  exact ⟨e, he, hd.1.1, hd.1.2, hd.2⟩

/-- **Unknown names raise at every consumer site**: a probed `$name` for which the site's
    dispatcher has no branch at all makes the call raise there. -/
theorem site_unknown_raises :
    ∀ e ∈ Generated.siteVocab, isOp e.code = true →
      e.code ∉ recognised Generated.tables e.pos → e.disp.raises = true :=
  fun e he h2 h3 =>
    Proofs.C20.site_unknown_raises Generated.tables e (sites_follow_dispatch e he) h2 h3

/-- **The list of sites is complete for the source**: every call of a dispatch helper in a
    module-level function of `mongomock/aggregate.py` is reached by a probed site. -/
theorem every_call_site_probed :
    callSitesCovered Generated.callSites Generated.sites = true := by
  decide +kernel

/-- non-vacuity: every site was probed with names that raise there (so a site of the list is
    never an empty promise), and `$typo` is an unrecognised accumulator -/
example : (List.range Generated.sites.length).all (fun i =>
    Generated.siteVocab.any (fun e => e.site == i && e.disp.raises)) = true :=
  Proofs.C20.every_site_has_a_refusal

example : isOp 478628377636 = true ∧
    478628377636 ∉ recognised Generated.tables .accumulator := by decide +kernel

/-! ## the option matrix -/

/-- The full-strength statement: without opt-out no relevant option is accepted silently. -/
def options_loud_full : Prop :=
  ∀ e ∈ Generated.options, e.optedOut = false → e.relevant = true → e.disp ≠ .accepted

/-- False as it stands (known finding `silent-option:Collection.find:collation`). -/
theorem options_loud_full_fails : ¬ options_loud_full := by
  intro h
  obtain ⟨e, he, hd⟩ := List.any_eq_true.mp Proofs.C20.some_option_silent
  simp only [Bool.and_eq_true, Bool.not_eq_true', decide_eq_true_eq] at hd
  exact h e he hd.1.1 hd.1.2 hd.2

/-- **Options are loud (partial: modulo the listed known findings).**  On every probed method,
    a relevant option (session, collation, array_filters, let; hint on writes) that the caller
    has not opted out of is accepted silently only in the listed cases. -/
theorem options_loud_partial :
    ∀ e ∈ Generated.options, e.optedOut = false → e.relevant = true → e.disp = .accepted →
      e.key ∈ Generated.knownSilent :=
  fun e he h1 h2 h3 => Proofs.C20.options_loud e he h1 h2 h3

example : ∃ e ∈ Generated.options, e.optedOut = false ∧ e.relevant = true ∧
    e.disp = .accepted := by
  obtain ⟨e, he, hd⟩ := List.any_eq_true.mp Proofs.C20.some_option_silent
  simp only [Bool.and_eq_true, Bool.not_eq_true', decide_eq_true_eq] at hd
  exact ⟨e, he, hd.1.1, hd.1.2, hd.2⟩

/-- **The listed cases, by name.**  The list of options that are dropped silently has one
    member: the `collation` argument of `Collection.find`. -/
theorem known_silent_is_find_collation :
    ∀ k ∈ Generated.knownSilent,
      Generated.methods[k.1]? = some ("Collection", "find") ∧ k.2 = .collation :=
  Proofs.C20.known_silent_is_find_collation

/-- **Options are loud, but for `find(collation=…)`.**  Over the whole regenerated table: a
    relevant option the caller has not opted out of makes the call raise, on every method other
    than `Collection.find` and for every option other than `collation`. -/
theorem options_loud_except_find_collation :
    ∀ e ∈ Generated.options, e.optedOut = false → e.relevant = true → e.disp = .accepted →
      Generated.methods[e.mid]? = some ("Collection", "find") ∧ e.option = .collation :=
  fun e he h1 h2 h3 => known_silent_is_find_collation e.key (options_loud_partial e he h1 h2 h3)

/-- **Options are loud in company (modulo the listed known finding).**  For every method and
    every ordered pair (A, B) of distinct options it accepts, called with BOTH present — A opted
    out with `ignore_feature` or not, B not opted out: a relevant B is accepted silently only
    where B alone already is (`find(collation=…)`).  An opted-out option does not shield the
    options that accompany it. -/
theorem options_loud_pairs :
    ∀ e ∈ Generated.optionPairs, e.relevant = true → e.disp = .accepted →
      e.key ∈ Generated.knownSilent := by
  intro e he h2 h3
  have := List.all_eq_true.mp Proofs.C20.options_pairs_tbl e he
  simpa [Proofs.C20.pairLoud, h2, h3] using this

/-- the table does contain pairs with A opted out in which B is (rightly) rejected -/
example : ∃ e ∈ Generated.optionPairs, e.relevant = true ∧ e.aOptedOut = true ∧
    e.disp = .raisesNotImplemented := by
  obtain ⟨e, he, hd⟩ := List.any_eq_true.mp Proofs.C20.some_pair_rejected
  simp only [Bool.and_eq_true, decide_eq_true_eq] at hd
  exact ⟨e, he, hd.1.1, hd.1.2, hd.2⟩

/-- **Every opt-out is honoured** (full statement, the whole table, no exception): for session,
    collation, array_filters, let, on every method that knows the option at all (does not
    reject it as an unknown argument, `raisesOther`), the call goes through once the caller has
    opted out with `ignore_feature`.  (Covers the repaired findings
    `optout-ineffective:Collection.aggregate:session`, b1f1430, and those of the `Database`
    methods, 4a36577.) -/
theorem opt_out_is_honoured :
    ∀ e ∈ Generated.options, e.option.ignorable = true → e.optedOut = true →
      e.disp ≠ .raisesOther → e.disp = .accepted := by
  intro e he h1 h2 h3
  have := (Bool.and_eq_true_iff.mp (List.all_eq_true.mp Proofs.C20.options_ok e he)).2
  simp only [h1, h2, h3, Bool.not_true, decide_false, Bool.false_or, Bool.and_eq_true,
    decide_eq_true_eq] at this
  exact this.2

/-- the table does contain opted-out options that are let through -/
example : ∃ e ∈ Generated.options, e.option.ignorable = true ∧ e.optedOut = true ∧
    e.disp = .accepted := by
  obtain ⟨e, he, hd⟩ := List.any_eq_true.mp Proofs.C20.some_optout_effective
  simp only [Bool.and_eq_true, decide_eq_true_eq] at hd
  exact ⟨e, he, hd.1.1, hd.1.2, hd.2⟩

/-- The full-strength statement: an option a method recognises is ignored iff opted out. -/
def options_ignored_iff_opted_out_full : Prop :=
  ∀ e ∈ Generated.options, e.option.ignorable = true → e.disp ≠ .raisesOther →
    (e.disp = .accepted ↔ e.optedOut = true)

/-- False as it stands, in ONE direction only (the other one is `opt_out_is_honoured`): the known
    finding `silent-option:Collection.find:collation` is accepted without an opt-out. -/
theorem options_ignored_iff_opted_out_full_fails : ¬ options_ignored_iff_opted_out_full := by
  intro h
  obtain ⟨e, he, hd⟩ := List.any_eq_true.mp Proofs.C20.some_ignorable_silent
  simp only [Bool.and_eq_true, Bool.not_eq_true', decide_eq_true_eq] at hd
  have := (h e he hd.1.1 (by rw [hd.2]; decide)).mp hd.2
  rw [hd.1.2] at this
  exact absurd this (by decide)

/-- **Ignored iff opted out (partial: modulo `find(collation=…)`).**  For session, collation,
    array_filters, let: wherever the method does not reject the option as unknown
    (`raisesOther`), the option is accepted exactly when the caller has opted out with
    `ignore_feature`.  The only exclusion list is `knownSilent`, i.e.
    `Collection.find(collation)`. -/
theorem options_ignored_iff_opted_out_partial :
    ∀ e ∈ Generated.options, e.option.ignorable = true → e.disp ≠ .raisesOther →
      e.key ∉ Generated.knownSilent →
      (e.disp = .accepted ↔ e.optedOut = true) := by
  intro e he h1 h2 h3
  have := (Bool.and_eq_true_iff.mp (List.all_eq_true.mp Proofs.C20.options_ok e he)).2
  simp only [h1, h2, h3, List.contains_eq_mem, Bool.and_eq_true, Bool.or_eq_true,
    Bool.not_true, decide_false, Bool.false_eq_true, false_or, beq_iff_eq] at this
  rw [← this.1, decide_eq_true_eq]

/-- … and raises NotImplementedError otherwise: **an ignorable option the caller has not opted
    out of raises NotImplementedError** on every method that knows it, `find(collation=…)`
    excepted. -/
theorem options_not_implemented_unless_opted_out :
    ∀ e ∈ Generated.options, e.option.ignorable = true → e.disp ≠ .raisesOther →
      e.key ∉ Generated.knownSilent → e.optedOut = false → e.disp = .raisesNotImplemented := by
  intro e he h1 h2 h3 h4
  have hiff := options_ignored_iff_opted_out_partial e he h1 h2 h3
  cases hd : e.disp with
  | raisesNotImplemented => rfl
  | raisesOther => exact absurd hd h2
  | accepted => rw [h4] at hiff; exact absurd (hiff.mp hd) (by decide)

/-- the table does contain ignorable options that raise NotImplementedError for want of an
    opt-out (the pair probes above: even next to an opted-out one) -/
example : ∃ e ∈ Generated.options, e.option.ignorable = true ∧ e.optedOut = false ∧
    e.key ∉ Generated.knownSilent ∧ e.disp = .raisesNotImplemented := by
  obtain ⟨e, he, hd⟩ := List.any_eq_true.mp Proofs.C20.some_ignorable_loud
  simp only [Bool.and_eq_true, Bool.not_eq_true', decide_eq_true_eq, List.contains_eq_mem,
    decide_eq_false_iff_not] at hd
  exact ⟨e, he, hd.1.1.1, hd.1.1.2, hd.1.2, hd.2⟩

/-! ## the opt-out switches (`not_implemented.py`), every state and feature name -/

/-- After `ignore_feature(f)` the guard of `f` lets the option through. -/
theorem ignore_then_passes (fs fs' : Features) (f : String) (h : ignoreFeature fs f = some fs') :
    raiseForFeature fs' f = .passes :=
  Proofs.C20.ignore_then_passes fs fs' f h

/-- After `warn_on_feature(f)` it raises NotImplementedError. -/
theorem warn_then_raises (fs fs' : Features) (f : String) (h : warnOnFeature fs f = some fs') :
    raiseForFeature fs' f = .raisesNotImplemented :=
  Proofs.C20.warn_then_raises fs fs' f h

/-- Opting out of one feature changes the guard of no other feature ("and only then"). -/
theorem ignore_frame (fs fs' : Features) (f g : String) (hne : g ≠ f)
    (h : ignoreFeature fs f = some fs') : raiseForFeature fs' g = raiseForFeature fs g :=
  Proofs.C20.ignore_frame fs fs' f g hne h

example : ignoreFeature [("session", false), ("collation", false)] "session"
    = some [("session", true), ("collation", false)] := by decide

/-- A guarded option (`if value: raise_for_feature(feature, …)`) that is given is let through
    iff the feature is opted out. -/
theorem guard_passes_iff (fs : Features) (f : String) (b : Bool) (h : fs.lookup f = some b) :
    optionGuard fs f true = .passes ↔ b = true :=
  Proofs.C20.guard_passes_iff fs f b h

/-- **Independent guards** (the shape of `_apply_update`, `_delete`, `count_documents`): in a
    sequence of independent `if value: raise_for_feature(..)` guards over known features, a given
    option whose feature is not opted out makes the call raise, wherever it stands in the
    sequence and whatever the other options and their opt-outs are. -/
theorem guards_independent (fs : Features) (gs : List (String × Bool)) (f : String)
    (hknown : ∀ g ∈ gs, (fs.lookup g.1).isSome = true)
    (hmem : (f, true) ∈ gs) (hf : fs.lookup f = some false) :
    guardSeq fs gs = .raisesNotImplemented := by
  induction gs with
  | nil => cases hmem
  | cons g rest ih =>
    obtain ⟨v, hv⟩ := Option.isSome_iff_exists.mp (hknown g List.mem_cons_self)
    have ih := ih fun g hg => hknown g (List.mem_cons_of_mem _ hg)
    rw [guardSeq, optionGuard, raiseForFeature]
    rcases List.mem_cons.mp hmem with rfl | h
    · simp [hf]
    · rw [hv]; cases g.2 <;> cases v <;> simp [ih h]

/-- non-vacuity: session opted out and given first, collation given and not opted out -/
example : guardSeq [("session", true), ("collation", false)]
    [("session", true), ("collation", true)] = .raisesNotImplemented := by decide

end MongoModel.Props.C20
