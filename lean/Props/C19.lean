/-
  C19 — a collection can be used from several threads without deadlock or corruption.

  Objects: `RWLock.step` is the interpreter of N threads running flat code compiled from lists of
  `CollectionStore` method calls (`MongoModel/RWLock.lean`); `pstep` is the lock protocol on its
  own with most-general clients (`MongoModel/RWLockProto.lean`); `Generated.protocol` and
  `Generated.discipline` are REGENERATED from mongomock/thread.py and mongomock/store.py by
  tracing on every check.
-/
import Proofs.C19Main
import Proofs.C19Eval
namespace MongoModel.Props.C19
open MongoModel.RWLock MongoModel.Generated

theorem protocol_is_reference : Generated.protocol = referenceProtocol := by decide

theorem discipline_is_reference : Generated.discipline = referenceDiscipline := by decide

/-- the certificate for 2 threads contains the initial state, is closed under every action of
    every thread and contains no bad and no deadlocked state (evaluated by the kernel) -/
theorem cert_2_checked : pcheckCert Generated.protocol C2 2 = true := cert2_ok

theorem cert_3_checked : pcheckCert Generated.protocol C3 3 = true := cert3_ok

/-- a checked certificate covers every execution of any length: no reachable state of the
    protocol machine is bad (exclusion violated, failing release, lock leaked) or deadlocked -/
theorem closed_set_sound (P : Protocol) (C : Cert) (n : Nat) (h : pcheckCert P C n = true) :
    ∀ s, PReach P n s → pbad P s = false ∧ pdeadlocked P s = false :=
  closed_set_sound' h

example : pcheckCert Generated.protocol C2 2 = true := cert_2_checked

theorem protocol_safe_2 : PGood Generated.protocol 2 := closed_set_sound' cert_2_checked
theorem protocol_safe_3 : PGood Generated.protocol 3 := closed_set_sound' cert_3_checked

/-- for code whose phase tags are a correct account of the protocol (`conformant`, decidable) the
    projection of every reachable state of the interpreter is reachable for the protocol machine -/
theorem refinement (P : Protocol) (cfg : Cfg) (hc : cfg.conformant P = true) :
    ∀ s, Reach cfg s → PReach P cfg.codes.length (proj cfg s) := sim hc

/-- three threads: `_documents` iteration with a throwing consumer; a write and the creation of a
    TTL index; a failing read, an expiry pass and the drop of a TTL index -/
def sampleScenario : Scenario :=
  { docs0 := [0, 1], idx0 := [0], ttl0 := [0], expired := [0],
    progs := [[{ m := .documents, throwAt := 1 }],
              [{ m := .setItem, key := 2 }, { m := .createIndexTtl, key := 1 }],
              [{ m := .getItem, key := 2 }, { m := .expireDocuments }, { m := .dropIndex, key := 0 }]] }

def sampleCfg : Cfg := mkCfg Generated.protocol Generated.discipline sampleScenario

theorem sample_ok : sampleCfg.conformant Generated.protocol = true ∧ sampleCfg.disciplined = true ∧
    sampleCfg.mutatesTtl = true ∧ sampleCfg.walksTtl = true ∧ sampleCfg.codes.length = 3 := by
  -- evaluated through the one-pass forms of the two checks (`Proofs/C19Eval.lean`): as defined
  -- they walk the code from its start for every instruction
  simp only [Cfg.conformant, Cfg.disciplined, conformant_eq, docsIterScoped_eq]
  decide +kernel

example : ∃ cfg : Cfg, cfg.conformant Generated.protocol = true := ⟨sampleCfg, sample_ok.1⟩

/-- every single store-method call compiles (with the regenerated protocol and discipline) to
    conformant, disciplined code — complete table over the thirteen methods -/
def allMethods : List Method :=
  [.contains, .getItem, .setItem, .delItem, .discard, .len, .documents, .isEmpty, .expireDocuments,
   .removeExpired, .createIndex, .createIndexTtl, .dropIndex]

theorem store_methods_conformant :
    allMethods.all (fun m =>
      let code := compile Generated.protocol Generated.discipline [{ m := m, key := 1, throwAt := 1 }]
      conformant Generated.protocol code && docsGuarded code && docsIterScoped code &&
        noNestedDel code && ttlIterSnapshotted code) = true := by
  simp only [conformant_eq, docsIterScoped_eq]
  decide +kernel

/-- N = 2 or 3 threads, ANY conformant programs: no exclusion violation (two writers, or a writer
    with a reader, inside), no lock still held / counter non-zero once all threads are outside
    their sections (in particular after sections that ended with a raise), no deadlock, no failing
    lock release -/
theorem released_and_deadlock_free (cfg : Cfg) (hc : cfg.conformant Generated.protocol = true)
    (hn : cfg.codes.length = 2 ∨ cfg.codes.length = 3) (s : State) (hr : Reach cfg s) :
    exclusionViolated cfg s = false ∧ leaked cfg s = false ∧ deadlocked cfg s = false ∧
      noLockFault s :=
  program_safe hc (pgood_2_3 protocol_safe_2 protocol_safe_3 hn) s hr

example : sampleCfg.conformant Generated.protocol = true ∧
    (sampleCfg.codes.length = 2 ∨ sampleCfg.codes.length = 3) :=
  ⟨sample_ok.1, Or.inr sample_ok.2.2.2.2⟩

/-- N = 2 or 3 threads, ANY programs — reads, writes, expiry passes, creation of (TTL) indexes,
    index drops — whose compiled code is conformant and disciplined (decidable; true of all code
    compiled from the regenerated discipline, see `store_methods_conformant`; recomputed by the
    driver for every generated scenario): no reachable state has an exclusion violation, an
    internal error of any kind (`faulted []`: changed-size / mutated-during-iteration errors,
    a key vanished under the expiry pass, a failing lock release), or a leaked lock, and none is
    deadlocked.  Threads that create a TTL index or drop an index are included (finding
    `ttl-index-race`, repaired). -/
theorem thread_safe (cfg : Cfg) (hc : cfg.conformant Generated.protocol = true)
    (hd : cfg.disciplined = true)
    (hn : cfg.codes.length = 2 ∨ cfg.codes.length = 3) (s : State) (hr : Reach cfg s) :
    bad [] cfg s = false ∧ deadlocked cfg s = false :=
  program_correct hc (pgood_2_3 protocol_safe_2 protocol_safe_3 hn) hd s hr

/-- the hypotheses are satisfied by a program that creates a TTL index, drops a TTL index and runs
    expiry passes concurrently -/
example : sampleCfg.conformant Generated.protocol = true ∧ sampleCfg.disciplined = true ∧
    sampleCfg.mutatesTtl = true ∧ sampleCfg.walksTtl = true ∧
    (sampleCfg.codes.length = 2 ∨ sampleCfg.codes.length = 3) :=
  ⟨sample_ok.1, sample_ok.2.1, sample_ok.2.2.1, sample_ok.2.2.2.1, Or.inr sample_ok.2.2.2.2⟩

/-! The finding `ttl-index-race` (repaired).  `unrepairedDiscipline` is store.py with
  `_remove_expired_documents` iterating the live `_ttl_indexes` dict, which `create_index` /
  `drop_index` change outside every section.  Under it the schedule below raises "dictionary
  changed size during iteration"; the same scenario compiled from the regenerated discipline
  satisfies the hypotheses of `thread_safe`. -/

/-- thread 0 is inside `_remove_expired_documents` of `1 in store` when thread 1 creates a second
    TTL index -/
def ttlRaceScenario : Scenario :=
  { docs0 := [0, 1], idx0 := [], ttl0 := [0], expired := [0],
    progs := [[{ m := .contains, key := 1 }], [{ m := .createIndexTtl, key := 1 }]] }

def ttlRaceSchedule : List Nat :=
  [0, 0, 1, 1, 0, 0, 0, 0, 0, 0, 0, 0, 0, 0, 0, 0, 0, 0, 0, 0, 0, 0, 0, 0, 0, 0, 0, 0, 0, 0, 0, 0,
   0, 0, 0]

def unrepairedCfg : Cfg := mkCfg Generated.protocol unrepairedDiscipline ttlRaceScenario

/-- under `unrepairedDiscipline` thread 0's next `next()` on the dict iterator raises -/
theorem unrepaired_ttl_race :
    (match runSched unrepairedCfg (initState unrepairedCfg) ttlRaceSchedule with
     | some s => faulted [] s
     | none => false) = true := by decide +kernel

/-- hence the property fails for `unrepairedDiscipline`: a reachable state with an internal error -/
theorem unrepaired_not_thread_safe : ∃ s, Reach unrepairedCfg s ∧ bad [] unrepairedCfg s = true := by
  have hw := unrepaired_ttl_race
  split at hw
  · rename_i s hs
    exact ⟨s, reach_run ttlRaceSchedule _ s Reach.init hs, by simp [bad, hw]⟩
  · exact absurd hw Bool.false_ne_true

/-- and `thread_safe` does not apply to it: that code is conformant to the lock protocol but
    not disciplined (it iterates the live `_ttl_indexes`) -/
theorem unrepaired_not_disciplined :
    unrepairedCfg.conformant Generated.protocol = true ∧ unrepairedCfg.disciplined = false := by
  simp only [Cfg.conformant, Cfg.disciplined, conformant_eq, docsIterScoped_eq]
  decide +kernel

/-- the same scenario compiled from the regenerated (repaired) discipline: the hypotheses of
    `thread_safe` hold, so NO schedule leads to an error; in particular `ttlRaceSchedule` does not -/
def repairedCfg : Cfg := mkCfg Generated.protocol Generated.discipline ttlRaceScenario

theorem repaired_ok : repairedCfg.conformant Generated.protocol = true ∧
    repairedCfg.disciplined = true ∧ repairedCfg.mutatesTtl = true ∧
    repairedCfg.walksTtl = true ∧ repairedCfg.codes.length = 2 := by
  simp only [Cfg.conformant, Cfg.disciplined, conformant_eq, docsIterScoped_eq]
  decide +kernel

theorem repaired_ttl_race_gone (s : State) (hr : Reach repairedCfg s) :
    bad [] repairedCfg s = false ∧ deadlocked repairedCfg s = false :=
  thread_safe repairedCfg repaired_ok.1 repaired_ok.2.1 (Or.inl repaired_ok.2.2.2.2) s hr

/-- `mutex_inv`: in every reachable state of the protocol machine, for any number of threads, the
    counters and the holders of the five locks are determined by the positions of the threads
    (see `MutexInv`: e.g. `rc` = number of threads between the increment and the decrement of
    the read switch; `no_writers` is held iff a writer is inside or some reader is past the
    switch) -/
theorem mutex_inv (n : Nat) (s : PState) (hr : PReach referenceProtocol n s) : MutexInv s :=
  mutexInv_reach s hr

/-- at most one writer is inside its section -/
theorem writers_exclusive (n : Nat) (s : PState) (hr : PReach referenceProtocol n s) :
    s.pos.countP isWBody ≤ 1 := by
  rw [countP_isWBody]; exact (inv_exclusion (mutexInv_reach s hr)).1

/-- a writer inside excludes every reader -/
theorem writer_excludes_readers (n : Nat) (s : PState) (hr : PReach referenceProtocol n s)
    (hw : 1 ≤ s.pos.countP isWBody) : s.pos.countP (· == Phase.body false) = 0 := by
  rw [countP_isWBody] at hw
  have := (inv_exclusion (mutexInv_reach s hr)).2 hw
  have hc : s.pos.countP (· == Phase.body false) ≤ cnt s.pos .rb := by
    unfold cnt
    apply List.countP_mono_left
    intro p _ hp
    simp only [beq_iff_eq] at hp
    subst hp; rfl
  omega

example : ∃ s, PReach referenceProtocol 2 s ∧ 1 ≤ s.pos.countP isWBody :=
  ⟨_, reach_prun [(0, .begin true), (0, .op), (0, .op), (0, .op), (0, .op), (0, .op)] _ _
      PReach.init rfl, by decide⟩

/-- concurrent readers are admitted together: a state with two readers inside is reachable -/
theorem readers_admitted_together :
    ∃ s, PReach referenceProtocol 2 s ∧ s.pos = [Phase.body false, Phase.body false] := by
  have h := two_readers_inside
  cases hs : prun referenceProtocol (pinit 2) twoReaders with
  | none => rw [hs] at h; simp at h
  | some s =>
    rw [hs] at h
    exact ⟨s, reach_prun twoReaders _ s PReach.init hs, by simpa using h⟩

/-- the lock is released when the guarded operation raises: the release executed after a raise
    is the release executed normally, and whenever all threads are outside their sections —
    however those ended — every lock is free and both counters are zero -/
theorem released_on_raise :
    (referenceProtocol.rRelRaise = referenceProtocol.rRel ∧
     referenceProtocol.wRelRaise = referenceProtocol.wRel) ∧
    ∀ (n : Nat) (s : PState), PReach referenceProtocol n s → s.pos.all (· == .out) = true →
      s.lk.free = true := by
  refine ⟨⟨rfl, rfl⟩, fun n s hr hall => ?_⟩
  have := inv_not_leaked (mutexInv_reach s hr)
  simp only [pleaked, hall, Bool.true_and, Bool.not_eq_false'] at this
  exact this

/-- no deadlock, no failing release, for ANY number of threads (hand proof from `mutex_inv`) -/
theorem reference_protocol_good (n : Nat) : PGood referenceProtocol n := reference_good n

/-- the property for ANY number of threads: since the regenerated protocol is the reference
    protocol, every conformant, disciplined program — TTL index creation and index drops
    included — has no bad and no deadlocked reachable state -/
theorem thread_safe_any_n (cfg : Cfg) (hc : cfg.conformant Generated.protocol = true)
    (hd : cfg.disciplined = true) (s : State) (hr : Reach cfg s) :
    bad [] cfg s = false ∧ deadlocked cfg s = false :=
  program_correct hc (protocol_is_reference ▸ reference_good _) hd s hr

example : sampleCfg.conformant Generated.protocol = true ∧ sampleCfg.disciplined = true ∧
    sampleCfg.mutatesTtl = true := ⟨sample_ok.1, sample_ok.2.1, sample_ok.2.2.1⟩

/-! The finding `concurrent-delete-keyerror` (repaired).  `Collection._delete` removes the documents
  it has read with `discard`, whose body is `d.pop(key, None)` inside a writer section.  With
  `del self._store[doc_id]` (store method `__delitem__`, `unrepairedDeleteScenario`) a second
  deleter — another `delete_one` / `delete_many`, a TTL expiry pass — in between makes it raise
  `KeyError(doc_id)`. -/

/-- `d.pop(key, None)` — the body of `discard` and of the expiry pass — never raises and records
    no error, in any state, whoever removed the key before -/
theorem pop_never_raises (cfg : Cfg) (code : Code) (sh : Shared) (th : Thread) (d : Dict) (k : Key) :
    ∃ e, dictOp cfg code sh th (.popItem d k) = some e ∧ e.raised = none ∧ e.th.fault = th.fault := by
  simp only [dictOp]
  (repeat' split) <;> exact ⟨_, rfl, rfl, rfl⟩

/-- ANY number of threads, any conformant and disciplined programs: an exception raised by an
    action of a reachable state is raised by an instruction that declares it — `d[key]` /
    `del d[key]` on a key that is not there (`KeyError`), or the consumer of `documents` throwing
    into the generator.  No "changed size" / "mutated during iteration" error, no failing release,
    and no `KeyError` from a `pop` -/
theorem raises_only_where_declared (cfg : Cfg) (hc : cfg.conformant Generated.protocol = true)
    (hd : cfg.disciplined = true) (s : State) (hr : Reach cfg s) (t : Nat) (x : Exc)
    (h : stepRaised cfg s t = some x) :
    ∃ th ins, s.ths[t]? = some th ∧ (cfg.code t)[th.pc]? = some ins ∧
      declaredRaise ins.op x = true :=
  raises_declared hc (protocol_is_reference ▸ reference_good _) hd s hr t x h

/-- ANY number of deleters (and scanners, inserters, expiry passes): when no thread reads `d[key]`
    or does `del d[key]` (`Cfg.noKeyedAccess`: scans, membership tests, lengths, inserts,
    `discard`s, expiry passes, index creation) — documents are removed through `discard` only —
    no interleaving makes any action raise `KeyError` or an internal error: the only exception
    there can be is the one a consumer throws into its own scan -/
theorem deleters_never_fail (cfg : Cfg) (hc : cfg.conformant Generated.protocol = true)
    (hd : cfg.disciplined = true) (hq : cfg.noKeyedAccess = true) (s : State) (hr : Reach cfg s)
    (t : Nat) : stepRaised cfg s t = none ∨ stepRaised cfg s t = some .thrown :=
  no_keyed_access_quiet hc (protocol_is_reference ▸ reference_good _) hd hq s hr t

/-- the store-level programs of two concurrent `delete_one({'_id': 2})`: each
    scans the collection and then discards document 2; a TTL expiry pass that removes the same
    document runs next to them -/
def deleteRaceScenario : Scenario :=
  { docs0 := [1, 2], idx0 := [0], ttl0 := [0], expired := [2],
    progs := [[{ m := .documents }, { m := .discard, key := 2 }],
              [{ m := .documents }, { m := .discard, key := 2 }],
              [{ m := .expireDocuments }]] }

def deleteRaceCfg : Cfg := mkCfg Generated.protocol Generated.discipline deleteRaceScenario

theorem delete_race_ok : deleteRaceCfg.conformant Generated.protocol = true ∧
    deleteRaceCfg.disciplined = true ∧ deleteRaceCfg.noKeyedAccess = true ∧
    deleteRaceCfg.codes.length = 3 := by
  simp only [Cfg.conformant, Cfg.disciplined, conformant_eq, docsIterScoped_eq]
  decide +kernel

/-- so NO schedule of the three makes anybody fail, and nothing is bad or deadlocked -/
theorem repaired_delete_race_gone (s : State) (hr : Reach deleteRaceCfg s) (t : Nat) :
    (stepRaised deleteRaceCfg s t = none ∨ stepRaised deleteRaceCfg s t = some .thrown) ∧
      bad [] deleteRaceCfg s = false ∧ deadlocked deleteRaceCfg s = false :=
  ⟨deleters_never_fail _ delete_race_ok.1 delete_race_ok.2.1 delete_race_ok.2.2.1 s hr t,
   thread_safe_any_n _ delete_race_ok.1 delete_race_ok.2.1 s hr⟩

/-- `_delete` with `del self._store[doc_id]`: scan, then `del store[2]` -/
def unrepairedDeleteScenario : Scenario :=
  { docs0 := [1, 2], idx0 := [], ttl0 := [], expired := [],
    progs := [[{ m := .documents }, { m := .delItem, key := 2 }],
              [{ m := .documents }, { m := .delItem, key := 2 }]] }

def unrepairedDeleteCfg : Cfg :=
  mkCfg Generated.protocol Generated.discipline unrepairedDeleteScenario

/-- both threads scan (23 actions each), thread 0 deletes (12 actions), thread 1 reaches its
    `del` (5 actions) -/
def deleteRaceSchedule : List Nat :=
  List.replicate 23 0 ++ List.replicate 23 1 ++ List.replicate 12 0 ++ List.replicate 5 1

/-- … and thread 1's `del` raises `KeyError`: the key vanished between its scan and its delete.
    (The code is conformant and disciplined: `thread_safe` never promised that `del d[key]` finds
    its key — that is why the repair had to be made in `Collection._delete`.) -/
theorem unrepaired_delete_race :
    unrepairedDeleteCfg.conformant Generated.protocol = true ∧
    unrepairedDeleteCfg.disciplined = true ∧ unrepairedDeleteCfg.noKeyedAccess = false ∧
    (match runSched unrepairedDeleteCfg (initState unrepairedDeleteCfg) deleteRaceSchedule with
     | some s => stepRaised unrepairedDeleteCfg s 1 == some .keyError
     | none => false) = true := by
  simp only [Cfg.conformant, Cfg.disciplined, conformant_eq, docsIterScoped_eq]
  decide +kernel

/-- while a thread is inside a reader section (e.g. iterating `documents`), no step of any thread
    changes `_documents` — corollary of exclusion and the discipline -/
theorem snapshot_iteration (cfg : Cfg) (hc : cfg.conformant Generated.protocol = true)
    (hd : cfg.disciplined = true) (hn : cfg.codes.length = 2 ∨ cfg.codes.length = 3)
    (s s' : State) (t u : Nat) (hr : Reach cfg s) (hu : insideR cfg s u = true)
    (h : step cfg s t = some s') : s'.sh.docs = s.sh.docs :=
  snapshot hc (pgood_2_3 protocol_safe_2 protocol_safe_3 hn) hd hr hu h

end MongoModel.Props.C19
