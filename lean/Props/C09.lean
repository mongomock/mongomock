/-
  Props.C09 — TTL indexes hide and remove exactly the documents whose date has expired.
  The lemmas are in Proofs/C09*.lean.  Model: `MongoModel.expire` / `expireIndex`, `stepColl`,
  `createIndexColl`, `dropIndexColl` / `dropIndexesColl` / `dropColl`, and from FindModify.lean
  `stepX`, `findOneColl`, `findAndModify`, `bulkWrite`.
-/
import Proofs.C09
import Proofs.C09Ext

namespace MongoModel.Props.C09
open MongoModel MongoModel.Spec

/-- The code's expiry test is the rule of the property, for every document, period and clock. -/
theorem expired_eq_spec (field : String) (secs now : Int) (d : Val) :
    meetsExpiry field secs now d = isExpired field secs now d :=
  Proofs.C09.expired_eq_spec field secs now d

/-- With one single-field TTL index of `secs` seconds the expiry pass keeps exactly the documents
    that are not expired, in their order. -/
theorem expire_single (now secs : Int) (c : Coll) (ix : Index) (field : String) (dir raw : Val)
    (ht : c.ttlIndexes = [ix]) (hk : ix.keys = [(field, dir)]) (hr : ix.ttl = some raw)
    (hs : ttlSeconds raw = .ok (some secs)) :
    ∃ c', expire now c = .ok c' ∧
      c'.docs = c.docs.filter (fun p => !isExpired field secs now p.2) ∧
      c'.indexes = c.indexes ∧ c'.ttlIndexes = c.ttlIndexes :=
  Proofs.C09.expire_single now secs c ix field dir raw ht hk hr hs

/-- non-vacuity: at the boundary clock `date + N` one document expires and one survives -/
example : (match expire 1600000005000000
      { docs := [(.int 1, .doc [("_id", .int 1), ("t", .date 1600000000000000 none)]),
                 (.int 2, .doc [("_id", .int 2), ("t", .arr [.str "x", .date 1600000000000001 none])])],
        ttlIndexes := [{ name := "t_1", keys := [("t", .int 1)], ttl := some (.int 5) }] } with
    | .ok c' => c'.docs.map (·.1) == [.int 2]
    | .error _ => false) = true := by decide +kernel

/-- The pass is idempotent: what it leaves has nothing more to lose at the same clock. -/
theorem expire_idem (now : Int) (c c' : Coll) (h : expire now c = .ok c') :
    expire now c' = .ok c' :=
  Proofs.C09.expire_idem now c c' h

/-- **Visibility**: every data operation (reads and writes alike) behaves exactly as if it had
    been issued on the collection without its expired documents: same outcome, and the same
    collection as far as any later operation at that clock can tell. -/
theorem ops_see_unexpired_only (cfg : Cfg) (now : Int) (c c' : Coll) (op : Val)
    (h : expire now c = .ok c') (hop : dataOp op = true) :
    (stepColl cfg now c op).2 = (stepColl cfg now c' op).2 ∧
    expire now (stepColl cfg now c op).1 = expire now (stepColl cfg now c' op).1 :=
  Proofs.C09.ops_see_unexpired_only cfg now c c' op h hop

/-- Documents that cannot expire are never removed by the pass: no date in the field (missing
    field, non-date values), or a date still in the future of `now - N`. -/
theorem never_removed (now : Int) (c c' : Coll) (ix : Index) (p : Val × Val)
    (h : expireIndex now c ix = .ok c') (hp : p ∈ c.docs)
    (hne : ∀ field dir secs raw, ix.keys = [(field, dir)] → ix.ttl = some raw →
            ttlSeconds raw = .ok (some secs) → isExpired field secs now p.2 = false) :
    p ∈ c'.docs :=
  Proofs.C09.never_removed now c c' ix p h hp hne

/-- Compound TTL keys and non-numeric periods never expire anything. -/
theorem compound_or_non_numeric_inert (now : Int) (c : Coll) (ix : Index) :
    (ix.keys.length > 1 → ∀ c', expireIndex now c ix = .ok c' → c' = c) ∧
    (∀ raw, ix.ttl = some raw → ttlSeconds raw = .ok none → expireIndex now c ix = .ok c) :=
  Proofs.C09.compound_or_non_numeric_inert now c ix

/-- The pass only removes: whatever clock comes later (or earlier), a removed
    document does not come back by expiry. -/
theorem gone_for_good (now now' : Int) (c c' c'' : Coll) (h : expire now c = .ok c')
    (h' : expire now' c' = .ok c'') :
    c'.docs.Sublist c.docs ∧ c''.docs.Sublist c'.docs :=
  Proofs.C09.gone_for_good now now' c c' c'' h h'

/-- Dropping the index, all indexes or the collection stops expiry. -/
theorem drop_stops_expiry (now : Int) (c : Coll) :
    (c.ttlIndexes = [] → expire now c = .ok c) ∧
    (dropIndexesColl c).ttlIndexes = [] ∧ (dropColl c).ttlIndexes = [] ∧
    (∀ name c', dropIndexColl now c name = (c', .ok ()) →
        ∀ ix ∈ c'.ttlIndexes, ix.name ≠ name) :=
  Proofs.C09.drop_stops_expiry now c

/-- **Only existing indexes expire documents**: a `create_index` that is refused (duplicates
    under a unique key, a name taken with other options, …) does not come into being in any
    respect, whatever options it carried - `expireAfterSeconds` included: the listed indexes and
    the TTL indexes are what they were, and the collection is left as it was or as the expiry
    pass of the indexes that DO exist leaves it (the scan of a unique index reads the store). -/
theorem refused_creation_inert (now : Int) (c : Coll) (ix : Index) (e : Err)
    (h : (createIndexColl now c ix).2 = .error e) :
    (createIndexColl now c ix).1.indexes = c.indexes ∧
    (createIndexColl now c ix).1.ttlIndexes = c.ttlIndexes ∧
    ((createIndexColl now c ix).1 = c ∨ expire now c = .ok (createIndexColl now c ix).1) :=
  Proofs.C09.refused_creation_inert now c ix e h

/-- non-vacuity: a unique TTL index of 5 s over two documents with the same date is refused; an
    hour later both documents are still there -/
example :
    let c : Coll := {
      docs := [(.int 1, .doc [("_id", .int 1), ("t", .date 1600000000000000 none)]),
               (.int 2, .doc [("_id", .int 2), ("t", .date 1600000000000000 none)])] }
    let ix : Index := { name := "t_1", keys := [("t", .int 1)], unique := true, ttl := some (.int 5) }
    (match createIndexColl 1600000000000000 c ix with
     | (c', .error .dupKey) =>
       c'.ttlIndexes.isEmpty && c'.indexes.isEmpty &&
       (match expire 1600003600000000 c' with
        | .ok c'' => c''.docs.map (·.1) == [.int 1, .int 2]
        | .error _ => false)
     | _ => false) = true := by decide +kernel

/-- **Visibility, `stepX`** (find_one with sort / projection, find_one_and_update / _replace /
    _delete, bulk_write and the bulk builders): every data operation of `stepX` has the same
    outcome, and leaves the same collection as far as any later operation at that clock can tell,
    whether it is issued on the collection as stored or on the collection without its expired
    documents.  Every component of these operations begins with the expiry pass. -/
theorem stepX_expired_invisible (cfg : Cfg) (now : Int) (c c' : Coll) (op : Val)
    (h : expire now c = .ok c') (hop : dataOpX op = true) :
    (stepX cfg now c op).2 = (stepX cfg now c' op).2 ∧
    expire now (stepX cfg now c op).1 = expire now (stepX cfg now c' op).1 :=
  Proofs.C09Ext.stepX_expired_invisible cfg now c c' op h hop

/-- `find_one` (any filter, projection and sort) is blind to expired documents.  C14 is stated on
    `findOneColl`. -/
theorem find_one_expired_invisible (now : Int) (c c' : Coll) (f proj : Val)
    (sort : Option SortSpec) (h : expire now c = .ok c') :
    (findOneColl now c f proj sort).2 = (findOneColl now c' f proj sort).2 ∧
    expire now (findOneColl now c f proj sort).1 = expire now (findOneColl now c' f proj sort).1 :=
  Proofs.C09Ext.find_one_expired_invisible now c c' f proj sort h

/-- `_find_and_modify` is blind to expired documents: one is never the target of a
    find_one_and_*, never returned, never updated, replaced or deleted by it, and never stands in
    the way of its upsert -/
theorem fam_expired_invisible (cfg : Cfg) (now : Int) (c c' : Coll) (q proj : Val)
    (upd : Option Val) (upsert : Bool) (sort : Option SortSpec) (after : Bool)
    (h : expire now c = .ok c') :
    (findAndModify cfg now c q proj upd upsert sort after).2 =
      (findAndModify cfg now c' q proj upd upsert sort after).2 ∧
    expire now (findAndModify cfg now c q proj upd upsert sort after).1 =
      expire now (findAndModify cfg now c' q proj upd upsert sort after).1 :=
  Proofs.C09Ext.fam_expired_invisible cfg now c c' q proj upd upsert sort after h

/-- `bulk_write` (ordered or not, any requests) is blind to expired documents: same result or
    same BulkWriteError details, same collection up to the pass -/
theorem bulk_expired_invisible (cfg : Cfg) (now : Int) (c c' : Coll) (reqs : List Val)
    (ordered : Bool) (h : expire now c = .ok c') :
    (bulkWrite cfg now c reqs ordered).2 = (bulkWrite cfg now c' reqs ordered).2 ∧
    expire now (bulkWrite cfg now c reqs ordered).1 =
      expire now (bulkWrite cfg now c' reqs ordered).1 :=
  Proofs.C09Ext.bulk_expired_invisible cfg now c c' reqs ordered h

/-- non-vacuity: document 1 expired 95 s ago and is still stored; it sorts first and shares its
    `_id` with the bulk's insert.  The sorted find_one_and_update acts on document 2, the bulk
    inserts a new document 1 — exactly as on the collection without the expired document. -/
example :
    let now : Int := 1600000100000000
    let ix : Index := { name := "t_1", keys := [("t", .int 1)], ttl := some (.int 5) }
    let c : Coll := {
      docs := [(.int 1, .doc [("_id", .int 1), ("t", .date 1600000000000000 none), ("s", .int 1)]),
               (.int 2, .doc [("_id", .int 2), ("t", .date 1600000099000000 none), ("s", .int 2)])],
      indexes := [ix], ttlIndexes := [ix] }
    let fam : Val := .arr [.str "find_one_and_update", .doc [], .doc [("$set", .doc [("hit", .int 1)])],
                           .doc [("_id", .int 1)], .arr [.arr [.str "s", .int 1]], .bool false, .bool true]
    let bulk : Val := .arr [.str "bulk_write", .arr [
      .arr [.str "InsertOne", .doc [("_id", .int 1), ("s", .int 0)]],
      .arr [.str "UpdateMany", .doc [], .doc [("$set", .doc [("seen", .int 1)])], .bool false],
      .arr [.str "DeleteOne", .doc [("s", .int 2)]]], .bool true]
    (match expire now c with
     | .ok c' =>
       c'.docs.length == 1 && dataOpX fam && dataOpX bulk &&
       (match stepX {} now c fam, stepX {} now c' fam with
        | (a, .val v), (b, .val w) =>
          v == .doc [("_id", .int 2)] && w == v && a.docs.length == 1 && b.docs.length == 1
        | _, _ => false) &&
       (match stepX {} now c bulk, stepX {} now c' bulk with
        | (a, .val v), (b, .val w) =>
          v == w && a.docs.map (·.1) == [.int 1] && b.docs.map (·.1) == [.int 1]
        | _, _ => false)
     | .error _ => false) = true := by decide +kernel

end MongoModel.Props.C09
