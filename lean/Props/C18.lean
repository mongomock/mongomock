/-
  Props.C18 — datetimes are stored as UTC milliseconds on every path and queried consistently.
  The statements of the property; the theory they follow from in a few lines each is in
  Proofs/C18*.lean.

  Impl  = MongoModel.patch      (helpers.patch_datetime_awareness_in_document)
          MongoModel.makeAware  (helpers.make_datetime_timezone_aware_in_document)
          MongoModel.filterApplies (the matcher, C01)
          MongoModel.readDoc (what a reader is handed), MongoModel.aggPipeline / aggInput /
                                aggResult (what `Collection.aggregate` hands `process_pipeline`,
                                and what it hands the caller for each result)
          MongoModel.Expr.compareOp (the comparison operators of expressions, C04),
          MongoModel.Pipe.matchStage / aggregate (the pipeline, C03)
          — tied to /repo by the per-run correspondence of harness/props/c18.py.
  The property is a law about the implementation (idempotent normal form, invariant, agreement of
  equivalent operands), so the theorems are stated on Impl directly; the vocabulary of the
  statements (`Normal`, `AllDates`, `sameMillisecond`, `SameMs`, `shape`, `datesOf`, `DateInv`,
  `ReadForm`) is in MongoModel/DateTime.lean and is the trusted reading of "naive UTC, whole
  milliseconds, at every depth".  Five more definitions that statements mention sit in the Proofs
  files: `plainKey` (Proofs/C18Filter.lean), `cmpMs` / `dateCmpOps` / `aggregateTz`
  (Proofs/C18Agg.lean), `writeAt` (Proofs/C18Provenance.lean).

  All theorems are unbounded (mutual induction over the nested `Val`).  The store-level part
  (`DateInv` along every history of the collection state machine) is delivered as a library:
  provenance lemmas for every container-building primitive plus `reachable_date_inv`, into which
  a collection model plugs its `step`.  No theorem instantiates it with the update / store model
  of MongoModel: for the full update language the invariant is checked by the direct oracle of
  harness/props/c18.py only.

  The direct check on the real API has no exclusion class left.  Repaired findings (fixed records
  in known_findings.json; their witnesses are run on every check as regression cases):
    currentdate_raw         `$currentDate` on an existing document stored `mongomock.utcnow()` as
                            it came (78a8043; `unrepaired_raw_clock_not_normal` is the model-side
                            witness)
    tzaware_delete_date_id  tz_aware=True: deleting a document whose `_id` holds a datetime raised
                            KeyError (6c3956b)
    tzaware_deepcopy        tz_aware=True: the `utc` tzinfo handed out could not be deep-copied, so
                            `$unwind` / `$graphLookup` raised TypeError (6f8861a)
    aggregate_literal_raw   datetime literals in a pipeline outside `$match` were handed on as
                            written (d1da933; section 9, `unrepaired_literal_*`)
    aggregate_computed_raw  a datetime computed in a pipeline (`$dateFromParts`) was naive also for
                            a tz_aware=True client, whose stored datetimes the pipeline read aware:
                            comparing the two raised TypeError, and the result came out naive
                            (e05c961, with 8825a6b for the millisecond argument; section 9,
                            `unrepaired_computed_*`)
  Scope limits: PEP 495 fold, tzinfo that is not a fixed whole-minute offset, bson.Timestamp.
-/
import Proofs.C18
import Proofs.C18Filter
import Proofs.C18Provenance
import Proofs.C18Agg

namespace MongoModel.Props.C18
open MongoModel

/-! ## 1. `patch` is an idempotent projection onto the normal form -/

/-- Normalising twice is normalising once — so it does not matter how many of the call sites a
    value passes (filter and update are patched in `_update`, the upsert seed again in
    `_insert`, `$match` patches stored documents again). -/
theorem patch_idem (v : Val) : patch (patch v) = patch v :=
  Proofs.C18.patch_idem v

/-- Every datetime of the result, at any depth, is naive with whole milliseconds. -/
theorem patch_normal (v : Val) : AllDates Normal (patch v) :=
  Proofs.C18.patch_normal v

/-- A value that is already normal is left exactly as it is. -/
theorem patch_fixes_normal (v : Val) (h : AllDates Normal v) : patch v = v :=
  Proofs.C18.patch_fixes_normal v h

/-- non-vacuity: normal datetimes (one before 1970) two and three levels down -/
example : AllDates Normal
    (.doc [("a", .doc [("b", .arr [.date 1577836800123000 none, .int 1])]),
           ("c", .arr [.doc [("d", .date (-1000) none)]])]) :=
  (Proofs.C18.allNormalB_iff _).1 (by decide)

/-- The normal form is exactly the set of fixed points. -/
theorem patch_fixed_iff (v : Val) : patch v = v ↔ AllDates Normal v :=
  Proofs.C18.patch_fixed_iff v

/-! ## 2. `patch` identifies exactly the datetimes of one millisecond -/

/-- Two datetimes — naive or aware, any offsets, any microseconds, before or after 1970 — have
    the same stored form iff they denote the same millisecond (UTC). -/
theorem patch_instant (u : Int) (o : Option Int) (u' : Int) (o' : Option Int) :
    patch (.date u o) = patch (.date u' o') ↔ sameMillisecond (.date u o) (.date u' o') :=
  Proofs.C18.patch_instant u o u' o'

/-- non-vacuity: 05:30:00.123456+05:30 and 23:00:00.123999-01:00 (the day before) are the same
    millisecond; so are two instants before the epoch (floor, not truncation) -/
example : sameMillisecond (.date (1577856600123456) (some 330))
                          (.date (1577833200123999) (some (-60))) := by
  simp [sameMillisecond, msOf, dateUtc]
example : sameMillisecond (.date (-1) none) (.date (-999) none) ∧
          ¬ sameMillisecond (.date (-1) none) (.date 0 none) := by
  simp [sameMillisecond, msOf, dateUtc]

/-- The stored value denotes the millisecond of the input. -/
theorem patch_keeps_ms (u : Int) (o : Option Int) :
    sameMillisecond (patch (.date u o)) (.date u o) :=
  Proofs.C18.patch_keeps_ms u o

/-- The stored value is naive, a whole number of milliseconds, and is the UTC instant of the
    input rounded *down* by less than one millisecond. -/
theorem patch_date_bounds (u : Int) (o : Option Int) :
    ∃ m, patch (.date u o) = .date m none ∧ m % 1000 = 0 ∧
      m ≤ dateUtc u o ∧ dateUtc u o < m + 1000 :=
  Proofs.C18.patch_date_bounds u o

/-- Whole values: equal stored forms iff same shape and, position by position, same
    milliseconds. -/
theorem patch_eq_iff_sameMs (a b : Val) : patch a = patch b ↔ SameMs a b :=
  Proofs.C18.patch_eq_iff_sameMs a b

/-! ## 3. `patch` changes nothing but datetimes -/

/-- Same keys in the same order, same lengths, same non-date leaves at every depth. -/
theorem patch_shape (v : Val) : shape (patch v) = shape v := by
  rw [Proofs.C18.patch_eq]
  exact Proofs.C18.shape_mapDates _ v

/-- The datetimes of the result are the normalised datetimes of the input, in position. -/
theorem patch_dates (v : Val) :
    datesOf (patch v) = (datesOf v).map (fun d => (floorMs (dateUtc d.1 d.2), none)) := by
  rw [Proofs.C18.patch_eq]
  exact Proofs.C18.datesOf_mapDates _ v

/-- `shape` and `datesOf` together determine a value, so the two theorems above describe `patch`
    completely. -/
theorem shape_dates_determine (a b : Val) (hs : shape a = shape b) (hd : datesOf a = datesOf b) :
    a = b :=
  Proofs.C18.eq_of_shape_dates a b hs hd

example : shape (.doc [("a", .date 5 none), ("b", .int 1)])
            = shape (.doc [("a", .date 5 none), ("b", .int 1)]) ∧
          datesOf (.doc [("a", .date 5 none), ("b", .int 1)])
            = datesOf (.doc [("a", .date 5 none), ("b", .int 1)]) := ⟨rfl, rfl⟩

theorem patch_keys (fs : Fields) : dkeys (patchFields fs) = dkeys fs :=
  Proofs.C18.dkeys_patchFields fs

theorem patch_length (xs : List Val) : (patchList xs).length = xs.length := by
  simp [Proofs.C18.patchList_eq_map]

theorem patch_field (k : String) (fs : Fields) :
    dget k (patchFields fs) = (dget k fs).map patch :=
  Proofs.C18.dget_patchFields k fs

theorem patch_item (xs : List Val) (i : Nat) : (patchList xs)[i]? = (xs[i]?).map patch := by
  simp [Proofs.C18.patchList_eq_map]

theorem patch_leaf (v : Val) (hd : v.isDate = false) (hdoc : v.isDoc = false)
    (harr : v.isArr = false) : patch v = v := by
  cases v with
  | date _ _ => cases hd
  | doc _ => cases hdoc
  | arr _ => cases harr
  | _ => rfl

example : (Val.str "2020-01-01").isDate = false ∧ (Val.str "2020-01-01").isDoc = false ∧
    (Val.str "2020-01-01").isArr = false := ⟨rfl, rfl, rfl⟩

/-- At the end of every path (`get_value_by_dot`: keys and array indexes, any depth) sits the
    normalised form of what sat there before; paths that do not exist still do not. -/
theorem patch_depth_commutes (ps : List String) (v : Val) :
    getByDotParts ps (patch v) = (getByDotParts ps v).map patch := by
  rw [funext Proofs.C18.patch_eq]
  exact Proofs.C18.getByDotParts_mapDates _ ps v

theorem patch_depth (ps : List String) (v : Val) (u : Int) (o : Option Int)
    (h : getByDotParts ps v = .ok (.date u o)) :
    getByDotParts ps (patch v) = .ok (.date (floorMs (dateUtc u o)) none) :=
  Proofs.C18.patch_depth ps v u o h

example : getByDotParts ["a", "1", "b"]
    (.doc [("a", .arr [.null, .doc [("b", .date 1577856600123456 (some 330))]])])
    = .ok (.date 1577856600123456 (some 330)) := by
  simp [getByDotParts, dget, Proofs.C18.pyInt?_one]

/-! ## 4. reads: `tz_aware=True` -/

/-- Every datetime of the result, at any depth, is aware with offset 0. -/
theorem makeAware_utc (v : Val) : AllDates AwareUtc (makeAware v) :=
  Proofs.C18.makeAware_utc v

/-- Nothing but datetimes changes. -/
theorem makeAware_shape (v : Val) : shape (makeAware v) = shape v := by
  rw [Proofs.C18.makeAware_eq]
  exact Proofs.C18.shape_mapDates _ v

/-- Wall clocks are kept, position by position … -/
theorem makeAware_dates (v : Val) : datesOf (makeAware v) = (datesOf v).map (fun d => (d.1, some 0)) := by
  rw [Proofs.C18.makeAware_eq]
  exact Proofs.C18.datesOf_mapDates _ v

/-- … so for stored (naive) values every datetime keeps its UTC instant. -/
theorem makeAware_same_instant (v : Val) (h : AllDates Naive v) :
    (datesOf (makeAware v)).map (fun d => dateUtc d.1 d.2)
      = (datesOf v).map (fun d => dateUtc d.1 d.2) :=
  Proofs.C18.makeAware_same_instant v h

example : AllDates Naive (.doc [("a", .arr [.doc [("b", .date 1577836800123000 none)]])]) := by
  simp [AllDates, AllDatesF, AllDatesL, Naive]

/-- At every depth: the same statement through path access. -/
theorem makeAware_depth (ps : List String) (v : Val) (u : Int) (o : Option Int)
    (h : getByDotParts ps v = .ok (.date u o)) :
    getByDotParts ps (makeAware v) = .ok (.date u (some 0)) :=
  Proofs.C18.makeAware_depth ps v u o h

example : getByDotParts ["a", "0", "b"]
    (.doc [("a", .arr [.doc [("b", .date 1577836800123000 none)]])])
    = .ok (.date 1577836800123000 none) := by
  simp [getByDotParts, dget, Proofs.C18.pyInt?_zero]

theorem makeAware_depth_commutes (ps : List String) (v : Val) :
    getByDotParts ps (makeAware v) = (getByDotParts ps v).map makeAware := by
  rw [funext Proofs.C18.makeAware_eq]
  exact Proofs.C18.getByDotParts_mapDates _ ps v

/-- Writing back what a `tz_aware` client read stores the same document again. -/
theorem patch_makeAware_roundtrip (v : Val) (h : AllDates Normal v) : patch (makeAware v) = v :=
  Proofs.C18.patch_makeAware v h

example : AllDates Normal (.doc [("a", .arr [.doc [("b", .date 1577836800123000 none)]])]) :=
  (Proofs.C18.allNormalB_iff _).1 (by decide)

/-! ## 5. equivalent operands give the same query -/

/-- A query `{k: a}` and a query `{k: b}` with `b` denoting the same millisecond are the same
    query after normalisation, so they select the same documents (and raise on the same). -/
theorem equivalent_operand_finds (k : String) (a b d : Val) (h : sameMillisecond a b) :
    filterApplies (patch (.doc [(k, a)])) d = filterApplies (patch (.doc [(k, b)])) d :=
  Proofs.C18.equivalent_operand_finds k a b d h

/-- The datetime may sit anywhere in the filter: under `$gt`, in an `$in` list, in an
    `$elemMatch`, in `$and` / `$or` branches, in an embedded-document operand. -/
theorem equivalent_filter_finds (f g d : Val) (h : SameMs f g) :
    filterApplies (patch f) d = filterApplies (patch g) d :=
  Proofs.C18.equivalent_filter_finds f g d h

/-- non-vacuity: the same millisecond written two ways, three levels inside a filter -/
example : SameMs
    (.doc [("$or", .arr [.doc [("a.b", .doc [("$in", .arr [.date 1577856600123456 (some 330), .null])])]])])
    (.doc [("$or", .arr [.doc [("a.b", .doc [("$in", .arr [.date 1577836800123000 none, .null])])]])]) :=
  (patch_eq_iff_sameMs _ _).1 (by simp [patch, patchFields, patchList, floorMs, dateUtc])

/-- The `$match` stage (both sides patched). -/
theorem equivalent_match_stage (f g d : Val) (h : SameMs f g) :
    filterApplies (patch f) (patch d) = filterApplies (patch g) (patch d) :=
  Proofs.C18.equivalent_match_stage f g d h

/-- Found or not: a document whose field `k` (a plain field path reaching exactly one value)
    holds the stored form of `a` is selected by `{k: b}` exactly when `b` denotes the same
    millisecond as `a`. -/
theorem found_iff_same_millisecond (k : String) (u : Int) (o : Option Int) (u' : Int)
    (o' : Option Int) (d : Val) (hk : Proofs.C18.plainKey k = true)
    (hc : candsKey k d = .ok [some (patch (.date u o))]) :
    filterApplies (patch (.doc [(k, .date u' o')])) d = .ok (msOf u o == msOf u' o') :=
  Proofs.C18.found_iff_same_millisecond k u o u' o' d hk hc

example : Proofs.C18.plainKey "a.b" = true := by decide +kernel
example : candsKey "a.b" (.doc [("a", .doc [("b", patch (.date 1577856600123456 (some 330)))])])
    = .ok [some (patch (.date 1577856600123456 (some 330)))] := rfl

/-! ## 6. provenance: where a stored datetime can come from

`P` is any predicate on datetimes (`Normal` for the store invariant, `AwareUtc` for what a
`tz_aware` reader hands out).  Building blocks either preserve `AllDates P` or inherit it. -/

section provenance
variable {P : DatePred}

theorem provenance_dset {k : String} {v : Val} {fs : Fields} (h : AllDates P (.doc fs))
    (hv : AllDates P v) : AllDates P (.doc (dset k v fs)) :=
  Proofs.C18.allDatesF_dset h hv

theorem provenance_derase {k : String} {fs : Fields} (h : AllDates P (.doc fs)) :
    AllDates P (.doc (derase k fs)) :=
  Proofs.C18.allDatesF_derase h

theorem provenance_dget {k : String} {fs : Fields} {v : Val} (h : AllDates P (.doc fs))
    (hg : dget k fs = some v) : AllDates P v :=
  Proofs.C18.allDatesF_dget h hg

theorem provenance_rename {src dst : String} {fs : Fields} {v : Val} (h : AllDates P (.doc fs))
    (hg : dget src fs = some v) : AllDates P (.doc (dset dst v (derase src fs))) :=
  Proofs.C18.allDatesF_dset (Proofs.C18.allDatesF_derase h) (Proofs.C18.allDatesF_dget h hg)

theorem provenance_append {xs ys : List Val} (h : AllDates P (.arr xs)) (hy : AllDates P (.arr ys)) :
    AllDates P (.arr (xs ++ ys)) :=
  Proofs.C18.allDatesL_append h hy

theorem provenance_push {xs : List Val} {v : Val} (h : AllDates P (.arr xs)) (hv : AllDates P v) :
    AllDates P (.arr (xs ++ [v])) :=
  Proofs.C18.allDatesL_concat h hv

theorem provenance_insert_at {xs each : List Val} (p : Nat) (h : AllDates P (.arr xs))
    (he : AllDates P (.arr each)) : AllDates P (.arr (xs.take p ++ each ++ xs.drop p)) :=
  Proofs.C18.allDatesL_insert_at p h he

theorem provenance_take {xs : List Val} (n : Nat) (h : AllDates P (.arr xs)) :
    AllDates P (.arr (xs.take n)) :=
  Proofs.C18.allDatesL_take n h

theorem provenance_drop {xs : List Val} (n : Nat) (h : AllDates P (.arr xs)) :
    AllDates P (.arr (xs.drop n)) :=
  Proofs.C18.allDatesL_drop n h

theorem provenance_filter {xs : List Val} (p : Val → Bool) (h : AllDates P (.arr xs)) :
    AllDates P (.arr (xs.filter p)) :=
  Proofs.C18.allDatesL_filter p h

theorem provenance_rearranged {xs ys : List Val} (hp : xs.Perm ys) (h : AllDates P (.arr xs)) :
    AllDates P (.arr ys) :=
  Proofs.C18.allDatesL_perm hp h

theorem provenance_set_at {xs : List Val} {v : Val} (i : Nat) (h : AllDates P (.arr xs))
    (hv : AllDates P v) : AllDates P (.arr (xs.set i v)) :=
  Proofs.C18.allDatesL_set i h hv

theorem provenance_pad_set {xs : List Val} {v : Val} (n : Nat) (h : AllDates P (.arr xs))
    (hv : AllDates P v) : AllDates P (.arr (xs ++ List.replicate n .null ++ [v])) :=
  Proofs.C18.allDatesL_pad_set n h hv

theorem provenance_item {xs : List Val} {i : Nat} {x : Val} (h : AllDates P (.arr xs))
    (hx : xs[i]? = some x) : AllDates P x :=
  Proofs.C18.allDatesL_getElem? h hx

/-- the general form: a list all of whose items come from a good list or are good -/
theorem provenance_from_members {xs ys : List Val} (h : AllDates P (.arr xs))
    (hy : ∀ y ∈ ys, y ∈ xs ∨ AllDates P y) : AllDates P (.arr ys) :=
  Proofs.C18.allDatesL_of_subset h hy

/-- whatever a dotted path reaches inside a good value is good -/
theorem provenance_path (ps : List String) (d x : Val) (h : AllDates P d)
    (hx : getByDotParts ps d = .ok x) : AllDates P x :=
  Proofs.C18.allDates_getByDotParts ps d x h hx

/-- a worked composition: a generic dotted-path writer (documents created, arrays padded with
    nulls) keeps `AllDates P` — the shape a per-operator proof takes -/
theorem provenance_write_at (ps : List String) (v d : Val) (hv : AllDates P v) (hd : AllDates P d) :
    AllDates P (Proofs.C18.writeAt ps v d) :=
  Proofs.C18.allDates_writeAt ps v d hv hd

end provenance

/-- non-vacuity for the provenance hypotheses (`P := Normal`): a stored document, a patched
    operand, and the path writer descending through a document, into an array past its end -/
example : AllDates Normal (.doc [("a", .arr [.date 1577836800123000 none])]) ∧
    AllDates Normal (patch (.date 1577856600123456 (some 330))) ∧
    Proofs.C18.writeAt ["a", "2", "b"] (patch (.date 1577856600123456 (some 330)))
        (.doc [("a", .arr [.date 1577836800123000 none])])
      = .doc [("a", .arr [.date 1577836800123000 none, .null,
                          .doc [("b", .date 1577836800123000 none)]])] := by
  exact ⟨(Proofs.C18.allNormalB_iff _).1 (by decide), patch_normal _, rfl⟩

/-! ## 7. the store invariant, pluggable -/

/-- insert / upsert: the stored document is the patched argument. -/
theorem date_inv_insert {s : List Val} (d : Val) (h : DateInv s) : DateInv (s ++ [patch d]) :=
  fun x hx => (List.mem_append.1 hx).elim (h x) fun hx => List.mem_singleton.1 hx ▸ patch_normal d

/-- update / replace: a position receives a document proved good by the provenance lemmas. -/
theorem date_inv_set {s : List Val} (i : Nat) {d : Val} (h : DateInv s) (hd : AllDates Normal d) :
    DateInv (s.set i d) :=
  fun x hx => (List.mem_or_eq_of_mem_set hx).elim (h x) fun e => e ▸ hd

/-- delete. -/
theorem date_inv_filter {s : List Val} (p : Val → Bool) (h : DateInv s) : DateInv (s.filter p) :=
  fun x hx => h x (List.mem_filter.1 hx).1

/-- A store that satisfies the invariant is a fixed point of normalisation (what `$match` relies
    on when it patches stored documents again). -/
theorem date_inv_patch_id {s : List Val} (h : DateInv s) : s.map patch = s :=
  (List.map_congr_left fun d hd => patch_fixes_normal d (h d hd)).trans (List.map_id s)

example : DateInv [.doc [("_id", .int 1), ("a", .arr [.date 1577836800123000 none])]] := by
  intro d hd
  simp only [List.mem_singleton] at hd
  subst hd
  exact (Proofs.C18.allNormalB_iff _).1 (by decide)

/-- Reads with `tz_aware=False` hand out stored documents as they are: every datetime naive. -/
theorem reads_naive {s : List Val} (h : DateInv s) {d : Val} (hd : d ∈ s) : AllDates Naive d :=
  Proofs.C18.allDates_mono (fun _ _ hn => hn.1) d (h d hd)

/-- Reads with `tz_aware=True` (`makeAware` of a stored document): aware UTC at every depth, and
    nothing is lost — normalising the result gives the stored document back. -/
theorem reads_aware_everywhere {s : List Val} (h : DateInv s) {d : Val} (hd : d ∈ s) :
    AllDates AwareUtc (makeAware d) ∧ patch (makeAware d) = d :=
  ⟨Proofs.C18.makeAware_utc d, Proofs.C18.patch_makeAware d (h d hd)⟩

/-- **The plug.** For any state machine (`docs` projects the stored documents out of its
    state): if every step preserves the invariant, every reachable state satisfies it. -/
theorem reachable_date_inv {σ Op : Type} (docs : σ → List Val) (step : σ → Op → σ)
    (hstep : ∀ s op, DateInv (docs s) → DateInv (docs (step s op)))
    (ops : List Op) (s : σ) (h : DateInv (docs s)) : DateInv (docs (ops.foldl step s)) := by
  induction ops generalizing s with
  | nil => exact h
  | cons op ops ih => exact ih _ (hstep s op h)

/-- non-vacuity of `hstep`: the machine whose operations are "insert this document" and
    "write this operand at this path of document i" -/
example : ∀ (s : List Val) (op : Val ⊕ (Nat × List String × Val)), DateInv s →
    DateInv (match op with
      | .inl d => s ++ [patch d]
      | .inr (i, ps, v) => s.set i (Proofs.C18.writeAt ps (patch v) (s[i]?.getD .null))) := by
  intro s op h
  cases op with
  | inl d => exact date_inv_insert d h
  | inr t =>
    obtain ⟨i, ps, v⟩ := t
    refine date_inv_set i h (Proofs.C18.writeAt_patched_normal ps v _ ?_)
    cases hx : s[i]? with
    | none => simp [AllDates]
    | some x => exact h x (List.mem_of_getElem? hx)

/-! ## 8. the clock of `$currentDate`

`_current_date_updater` stores `patch (mongomock.utcnow())` (repair 78a8043; MongoModel/Store.lean
`nowV`), so whatever the clock returns the stored value is normal. -/

theorem patched_clock_normal (us : Int) (off : Option Int) :
    AllDates Normal (patch (.date us off)) :=
  patch_normal _

/-- A clock value stored as it comes would be normal exactly when it happens to be naive with
    whole milliseconds … -/
theorem raw_clock_normal_iff (us : Int) (off : Option Int) :
    AllDates Normal (.date us off) ↔ off = none ∧ us % 1000 = 0 :=
  Iff.rfl

/-- … which is what the code before the repair relied on: 2020-01-01T00:00:00.123456 kept its
    microseconds (the witness of the fixed finding `currentdate_raw`, replayed on the real code by
    every check). -/
theorem unrepaired_raw_clock_not_normal : ¬ AllDates Normal (.date 1577836800123456 none) := by
  simp [AllDates, Normal]

/-! ## 9. the aggregation pipeline: datetimes written in it, read by it, computed by it

`Collection.aggregate` (repairs d1da933, e05c961): `pipeline = patch pipeline` (`aggPipeline`); the
input is the documents as stored (`aggInput`), the documents `$lookup` / `$graphLookup` fetch are
patched: so every datetime inside `process_pipeline` is naive — stored, fetched, written, or
computed (`$dateFromParts`, `$add` of a date); the client's `tz_aware` acts on the results only
(`aggResult tz` = `makeAware` of every result document under `tz_aware=True`).  The statements on
`aggPipeline` hold for the whole pipeline value, so for a datetime at every position in it:
`$addFields` / `$project` / `$literal` values, `$group` keys and accumulator arguments, `$bucket`
boundaries, `$facet` sub-pipelines, `$replaceRoot`, operands of expression operators, `$match`,
before `$out`. -/

/-- A written datetime meets the stored ones in their own form. -/
theorem pipeline_literal_as_stored (p : Val) : aggPipeline p = aggInput (patch p) :=
  rfl

/-- Every datetime of the prepared pipeline, at any depth, is naive with whole milliseconds —
    for every client. -/
theorem pipeline_literals_normal (p : Val) : AllDates Normal (aggPipeline p) :=
  patch_normal p

/-- Nothing but datetimes changes in the pipeline … -/
theorem literal_shape (p : Val) : shape (aggPipeline p) = shape p :=
  patch_shape p

/-- … and each becomes the millisecond floor of the instant written, position by position. -/
theorem literal_dates (p : Val) :
    datesOf (aggPipeline p) = (datesOf p).map (fun d => (floorMs (dateUtc d.1 d.2), none)) :=
  patch_dates p

/-- At every depth: through any path into the pipeline value. -/
theorem literal_depth (ps : List String) (p : Val) (u : Int) (o : Option Int)
    (h : getByDotParts ps p = .ok (.date u o)) :
    getByDotParts ps (aggPipeline p) = .ok (.date (floorMs (dateUtc u o)) none) :=
  patch_depth ps p u o h

/-- non-vacuity: a literal below `$addFields` / `$literal` inside a `$facet` sub-pipeline -/
example : getByDotParts ["0", "$facet", "x", "0", "$addFields", "l", "$literal", "a", "1"]
    (.arr [.doc [("$facet", .doc [("x", .arr [.doc [("$addFields", .doc [("l", .doc [("$literal",
      .doc [("a", .arr [.null, .date 1577856600123456 (some 330)])])])])]])])]])
    = .ok (.date 1577856600123456 (some 330)) := by
  simp [getByDotParts, dget, Proofs.C18.pyInt?_zero, Proofs.C18.pyInt?_one]

theorem literal_depth_commutes (ps : List String) (p : Val) :
    getByDotParts ps (aggPipeline p) = (getByDotParts ps p).map aggPipeline :=
  patch_depth_commutes ps p

/-- What `$out` stores (it inserts, so it normalises) and what `$match` queries with (it patches
    its filter) is the prepared pipeline itself. -/
theorem literal_stored_like_inserted (p : Val) : patch (aggPipeline p) = patch p :=
  patch_idem p

/-- Preparing twice is preparing once (a result fed into the next pipeline). -/
theorem pipeline_prepare_idem (p : Val) : aggPipeline (aggPipeline p) = aggPipeline p :=
  patch_idem p

/-- `patch_eq_iff_sameMs` for pipelines: prepared alike iff same shape and same milliseconds. -/
theorem pipeline_eq_iff_sameMs (p q : Val) : aggPipeline p = aggPipeline q ↔ SameMs p q :=
  patch_eq_iff_sameMs p q

/-- `reads_aware_everywhere` for aggregation results, with no hypothesis at all: under
    `tz_aware=True` every datetime of a result, at any depth, is aware UTC — whether the pipeline
    read it, fetched it, was given it or computed it. -/
theorem reads_aware_results (r : Val) : AllDates AwareUtc (aggResult true r) :=
  makeAware_utc r

/-- `reads_naive` for aggregation results: a `tz_aware=False` client gets the values as the
    pipeline has them — naive, since everything inside it is. -/
theorem reads_naive_results (r : Val) (h : AllDates Naive r) : AllDates Naive (aggResult false r) :=
  h

example : AllDates Naive (.doc [("_id", .date 1577836800123000 none)]) := by
  simp [AllDates, AllDatesF, Naive]

/-- Both settings at once, with the whole-millisecond part: stored documents as `find` hands them
    out … -/
theorem reads_form (tz : Bool) {s : List Val} (h : DateInv s) {d : Val} (hd : d ∈ s) :
    AllDates (ReadForm tz) (readDoc tz d) :=
  Proofs.C18.readDoc_form tz d (h d hd)

example : DateInv [.doc [("a", .arr [.doc [("b", .date 1577836800123000 none)]])]] ∧
    readDoc true (.doc [("a", .arr [.doc [("b", .date 1577836800123000 none)]])])
      = .doc [("a", .arr [.doc [("b", .date 1577836800123000 (some 0))]])] := by
  refine ⟨?_, rfl⟩
  intro d hd
  simp only [List.mem_singleton] at hd
  subst hd
  exact (Proofs.C18.allNormalB_iff _).1 (by decide)

/-- … and any value of an aggregation result whose datetimes are normal — stored ones passed on,
    written ones, fetched ones, and computed ones with whole milliseconds — have one and the same
    form … -/
theorem result_form (tz : Bool) (r : Val) (h : AllDates Normal r) :
    AllDates (ReadForm tz) (aggResult tz r) :=
  Proofs.C18.readDoc_form tz r h

/-- non-vacuity: a `$group` document whose `_id` was computed and which collected a stored value -/
example : AllDates Normal (.doc [("_id", .date 1577836800123000 none),
    ("p", .arr [.doc [("f", .date (-1000) none)]])]) :=
  (Proofs.C18.allNormalB_iff _).1 (by decide)

/-- … with nothing lost: normalising what the caller got gives the value the pipeline computed. -/
theorem result_roundtrip (tz : Bool) (r : Val) (h : AllDates Normal r) :
    patch (aggResult tz r) = r :=
  Proofs.C18.patch_readDoc tz r h

example : AllDates Normal (.arr [.date 0 none]) := (Proofs.C18.allNormalB_iff _).1 (by decide)

/-- In particular a written datetime that the pipeline passes on comes out as a stored copy of it
    is read by this client. -/
theorem literal_form (tz : Bool) (p : Val) :
    aggResult tz (aggPipeline p) = readDoc tz (patch p) ∧
    AllDates (ReadForm tz) (aggResult tz (aggPipeline p)) :=
  ⟨rfl, Proofs.C18.readDoc_form tz _ (patch_normal p)⟩

/-- Nothing but datetimes changes in a result, … -/
theorem result_shape (tz : Bool) (r : Val) : shape (aggResult tz r) = shape r := by
  cases tz
  · rfl
  · exact makeAware_shape r

/-- … every naive datetime keeps its wall clock (aware UTC under `tz_aware=True`), … -/
theorem result_dates (tz : Bool) (r : Val) (h : AllDates Naive r) :
    datesOf (aggResult tz r) = (datesOf r).map (fun d => (d.1, if tz then some 0 else none)) := by
  cases tz
  · refine ((List.map_congr_left fun d hd => ?_).trans (List.map_id _)).symm
    exact Prod.ext rfl ((Proofs.C18.allDates_iff_dates Naive r).1 h d hd).symm
  · exact makeAware_dates r

/-- … so its instant, … -/
theorem result_same_instant (tz : Bool) (r : Val) (h : AllDates Naive r) :
    (datesOf (aggResult tz r)).map (fun d => dateUtc d.1 d.2)
      = (datesOf r).map (fun d => dateUtc d.1 d.2) := by
  cases tz
  · rfl
  · exact makeAware_same_instant r h

example : AllDates Naive (.doc [("x", .arr [.date 1577836800000123 none])]) := by
  simp [AllDates, AllDatesF, AllDatesL, Naive]

/-- … at every depth (`$group` ids, `$facet` branches, pushed arrays). -/
theorem result_depth (tz : Bool) (ps : List String) (r : Val) (u : Int)
    (h : getByDotParts ps r = .ok (.date u none)) :
    getByDotParts ps (aggResult tz r) = .ok (.date u (if tz then some 0 else none)) := by
  cases tz
  · exact h
  · exact makeAware_depth ps r u none h

example : getByDotParts ["x", "0", "_id", "d"]
    (.doc [("x", .arr [.doc [("_id", .doc [("d", .date 1577836800123000 none)])]])])
    = .ok (.date 1577836800123000 none) := by
  simp [getByDotParts, dget, Proofs.C18.pyInt?_zero]

/-! ### `Collection.aggregate` as a whole (`aggregateTz`: prepare the pipeline, run
`process_pipeline` of MongoModel/Pipeline.lean over the stored collections, convert the results) -/

theorem aggregate_naive_client (db : Pipe.Db) (coll : String) (p : Val) :
    Proofs.C18.aggregateTz false db coll p = Pipe.aggregate db coll (patch p) := by
  unfold Proofs.C18.aggregateTz aggPipeline
  cases Pipe.aggregate db coll (patch p) with
  | error _ => rfl
  | ok xs => exact congrArg Except.ok (List.map_id'' (fun _ => rfl) xs)

/-- **`tz_aware` acts on the form of the results and on nothing else.** The aggregation of a
    `tz_aware=True` client fails exactly when the other client's does, and otherwise is
    `makeAware` of it, document by document: the same documents selected, grouped and joined, the
    same values compared and computed. -/
theorem aggregate_tz_only_rebuilds_results (db : Pipe.Db) (coll : String) (p : Val) :
    Proofs.C18.aggregateTz true db coll p
      = (Proofs.C18.aggregateTz false db coll p).map (List.map makeAware) := by
  rw [aggregate_naive_client]; rfl

/-- Every datetime a `tz_aware=True` client finds in the results of any aggregation is aware
    UTC. -/
theorem aggregate_results_aware (db : Pipe.Db) (coll : String) (p : Val) (rs : List Val)
    (h : Proofs.C18.aggregateTz true db coll p = .ok rs) : ∀ r ∈ rs, AllDates AwareUtc r := by
  unfold Proofs.C18.aggregateTz at h
  cases hp : Pipe.aggregate db coll (aggPipeline p) with
  | error e => rw [hp] at h; cases h
  | ok xs =>
    rw [hp] at h; cases h
    intro r hr
    obtain ⟨x, _, rfl⟩ := List.mem_map.1 hr
    exact makeAware_utc x

/-- non-vacuity: the stored document read through the empty pipeline -/
example : Proofs.C18.aggregateTz true
    ⟨[("c", [.doc [("_id", .int 1), ("f", .date 1577836800123000 none)]])]⟩ "c" (.arr [])
    = .ok [.doc [("_id", .int 1), ("f", .date 1577836800123000 (some 0))]] := by
  rfl

/-- Results whose datetimes the pipeline left or made normal reach either client in its read
    form. -/
theorem aggregate_results_form (tz : Bool) (db : Pipe.Db) (coll : String) (p : Val)
    (xs : List Val) (h : Pipe.aggregate db coll (aggPipeline p) = .ok xs)
    (hn : ∀ x ∈ xs, AllDates Normal x) :
    ∃ rs, Proofs.C18.aggregateTz tz db coll p = .ok rs ∧ ∀ r ∈ rs, AllDates (ReadForm tz) r := by
  refine ⟨xs.map (aggResult tz), by simp [Proofs.C18.aggregateTz, h, Except.map], ?_⟩
  intro r hr
  obtain ⟨x, hx, rfl⟩ := List.mem_map.1 hr
  exact Proofs.C18.readDoc_form tz x (hn x hx)

/-- `equivalent_operand_finds` for the aggregate-literal positions: whatever stage the datetime
    is written in and however deep, writing it in another way that denotes the same millisecond
    gives the same aggregation. -/
theorem equivalent_pipeline_aggregates (tz : Bool) (db : Pipe.Db) (coll : String) (p q : Val)
    (h : SameMs p q) :
    Proofs.C18.aggregateTz tz db coll p = Proofs.C18.aggregateTz tz db coll q :=
  Proofs.C18.equivalent_pipeline_aggregates tz db coll p q h

/-- non-vacuity: the same millisecond written two ways as a `$group` key -/
example : SameMs
    (.arr [.doc [("$group", .doc [("_id", .doc [("d", .date 1577856600123456 (some 330))])])]])
    (.arr [.doc [("$group", .doc [("_id", .doc [("d", .date 1577836800123000 none)])])]]) :=
  (patch_eq_iff_sameMs _ _).1 (by simp [patch, patchFields, patchList, floorMs, dateUtc])

/-- The same for anything at all that is computed from the prepared pipeline. -/
theorem equivalent_pipeline_any {α : Type} (run : Val → α) (p q : Val)
    (h : SameMs p q) : run (aggPipeline p) = run (aggPipeline q) :=
  Proofs.C18.equivalent_pipeline_any run p q h

example : SameMs (.arr [.doc [("$out", .str "c")], .date (-1) none])
                 (.arr [.doc [("$out", .str "c")], .date (-1000) (some 0)]) :=
  (patch_eq_iff_sameMs _ _).1 (by simp [patch, patchFields, patchList, floorMs, dateUtc])

/-- **Any two datetimes the pipeline can meet.**  They are naive, and an expression operator
    compares two naive datetimes without error, by their instants — whichever of them was
    stored, fetched, written or computed. -/
theorem compare_naive_dates (op : String) (hop : op ∈ Proofs.C18.dateCmpOps) (x y : Int) :
    Expr.compareOp op (.date x none) (.date y none) = .ok (.bool (Proofs.C18.cmpMs op x y)) :=
  Proofs.C18.compare_naive_dates op hop x y

example : "$lt" ∈ Proofs.C18.dateCmpOps := by simp [Proofs.C18.dateCmpOps]

/-- **A stored field against a written datetime.**  `{op: ['$f', b]}` where `f` holds the stored
    form of `a`: the comparison of the two milliseconds — no error, and (the statement has no
    `tz`) one answer for every client. -/
theorem compare_field_with_literal (op : String) (hop : op ∈ Proofs.C18.dateCmpOps)
    (u : Int) (o : Option Int) (u' : Int) (o' : Option Int) :
    Expr.compareOp op (aggInput (patch (.date u o))) (aggPipeline (.date u' o'))
      = .ok (.bool (Proofs.C18.cmpMs op (msOf u o) (msOf u' o'))) :=
  Proofs.C18.compare_field_with_literal op hop u o u' o'

example : "$gte" ∈ Proofs.C18.dateCmpOps := by simp [Proofs.C18.dateCmpOps]

/-- The written datetime on the left: `{op: [b, '$f']}`. -/
theorem compare_literal_with_field (op : String) (hop : op ∈ Proofs.C18.dateCmpOps)
    (u : Int) (o : Option Int) (u' : Int) (o' : Option Int) :
    Expr.compareOp op (aggPipeline (.date u' o')) (aggInput (patch (.date u o)))
      = .ok (.bool (Proofs.C18.cmpMs op (msOf u' o') (msOf u o))) :=
  Proofs.C18.compare_literal_with_field op hop u o u' o'

example : "$ne" ∈ Proofs.C18.dateCmpOps := by simp [Proofs.C18.dateCmpOps]

/-- **A stored field against a computed datetime** (`$dateFromParts`, `$add` of a date and a
    number: naive, `m` µs after the epoch): no error, the stored instant against `m` … -/
theorem compare_field_with_computed (op : String) (hop : op ∈ Proofs.C18.dateCmpOps)
    (u : Int) (o : Option Int) (m : Int) :
    Expr.compareOp op (aggInput (patch (.date u o))) (.date m none)
      = .ok (.bool (Proofs.C18.cmpMs op (floorMs (dateUtc u o)) m)) :=
  Proofs.C18.compare_field_with_computed op hop u o m

example : "$lte" ∈ Proofs.C18.dateCmpOps := by simp [Proofs.C18.dateCmpOps]

/-- … which for a computed datetime of whole milliseconds is the comparison of milliseconds. -/
theorem compare_field_with_computed_ms (op : String) (hop : op ∈ Proofs.C18.dateCmpOps)
    (u : Int) (o : Option Int) (ms : Int) :
    Expr.compareOp op (aggInput (patch (.date u o))) (.date (ms * 1000) none)
      = .ok (.bool (Proofs.C18.cmpMs op (msOf u o) ms)) :=
  Proofs.C18.compare_field_with_computed_ms op hop u o ms

example : "$gt" ∈ Proofs.C18.dateCmpOps := by simp [Proofs.C18.dateCmpOps]

/-- A written datetime against a computed one. -/
theorem compare_literal_with_computed (op : String) (hop : op ∈ Proofs.C18.dateCmpOps)
    (u : Int) (o : Option Int) (m : Int) :
    Expr.compareOp op (aggPipeline (.date u o)) (.date m none)
      = .ok (.bool (Proofs.C18.cmpMs op (floorMs (dateUtc u o)) m)) :=
  Proofs.C18.compare_literal_with_computed op hop u o m

example : "$eq" ∈ Proofs.C18.dateCmpOps := by simp [Proofs.C18.dateCmpOps]

/-- In particular `$eq` says "same millisecond". -/
theorem eq_field_with_literal_iff (u : Int) (o : Option Int) (u' : Int) (o' : Option Int) :
    Expr.compareOp "$eq" (aggInput (patch (.date u o))) (aggPipeline (.date u' o'))
      = .ok (.bool true) ↔ sameMillisecond (.date u o) (.date u' o') := by
  rw [compare_field_with_literal "$eq" List.mem_cons_self]
  simp [Proofs.C18.cmpMs, sameMillisecond]

/-- Equivalent written datetimes compare alike against any value. -/
theorem equivalent_literal_compares (op : String) (x a b : Val) (h : sameMillisecond a b) :
    Expr.compareOp op x (aggPipeline a) = Expr.compareOp op x (aggPipeline b) :=
  congrArg (Expr.compareOp op x) (Proofs.C18.patch_eq_of_sameMillisecond h)

example : sameMillisecond (.date (1577856600123456) (some 330)) (.date 1577836800123999 none) := by
  simp [sameMillisecond, msOf, dateUtc]

/-- **`$match` inside `aggregate`.**  On the stored documents — the input of the pipeline for
    every client — the stage selects what `find` selects with the filter as written (and raises on
    the same). -/
theorem match_stage_eq_find (f : Val) (docs : List Val) (h : DateInv docs) :
    Pipe.matchStage (aggPipeline f) docs = Pipe.findDocs f docs := by
  simp only [Pipe.matchStage, Pipe.findDocs, aggPipeline, patch_idem]
  cases docs with
  | nil => rfl
  | cons d r =>
    exact Proofs.C18.filterR_congr _ _ _ fun x hx => by rw [patch_fixes_normal x (h x hx)]

example : DateInv [.doc [("_id", .int 1), ("f", .date 1577836800123000 none)]] := by
  intro d hd
  simp only [List.mem_singleton] at hd
  subst hd
  exact (Proofs.C18.allNormalB_iff _).1 (by decide)

/-! ### before the repair d1da933 (witness of the fixed finding `aggregate_literal_raw`)

`aggPipelineUnrepaired tz p = p`: the pipeline went on as written; the input was read through
`find()` (`aggInputUnrepaired tz = readDoc tz`). -/

/-- The literal of the recorded witness has neither read form … -/
theorem unrepaired_literal_form (tz : Bool) :
    ¬ AllDates (ReadForm tz) (aggPipelineUnrepaired tz (.date 1577856600123456 (some 330))) :=
  Proofs.C18.unrepaired_literal_form tz

/-- … under `tz_aware=True` a naive literal could not be compared with a field at all … -/
theorem unrepaired_literal_compare_raises :
    Expr.compareOp "$gt" (aggInputUnrepaired true (patch (.date 1577836800123000 none)))
        (aggPipelineUnrepaired true (.date 1577836800123999 none)) = .error .typeErr :=
  rfl

/-- … and under `tz_aware=False` `$eq` answered "different" for the very datetime stored. -/
theorem unrepaired_literal_eq_wrong :
    Expr.compareOp "$eq" (aggInputUnrepaired false (patch (.date 1577856600123456 (some 330))))
        (aggPipelineUnrepaired false (.date 1577856600123456 (some 330))) = .ok (.bool false) :=
  rfl

/-! ### before the repair e05c961 (witness of the fixed finding `aggregate_computed_raw`)

The input was still read through `find()`, the results were handed out as computed
(`aggResultUnrepaired tz r = r`). -/

/-- Under `tz_aware=True` the datetime `$dateFromParts` computes for {year: 2020, millisecond: 123}
    could not be compared with the stored 2021-01-01 … -/
theorem unrepaired_computed_compare_raises :
    Expr.compareOp "$lt" (.date 1577836800123000 none)
        (aggInputUnrepaired true (patch (.date 1609459200000000 none))) = .error .typeErr :=
  Proofs.C18.unrepaired_computed_compare_raises

/-- … and reached that client naive. -/
theorem unrepaired_computed_form :
    ¬ AllDates (ReadForm true) (aggResultUnrepaired true (.date 1577836800123000 none)) :=
  Proofs.C18.unrepaired_computed_form

end MongoModel.Props.C18
