/-
  Props.C14 — single-document operations act on exactly one, well-defined document.
  Statements; the longer proofs are in Proofs/C14*.lean.  Model: `applyUpdateColl … multi=false`,
  `deleteColl … multi=false` (Store.lean) and `findAndModify` (FindModify.lean).
  Collections are assumed to satisfy C05's invariant `IdInv` and `GoodKeys` (hypotheses: nothing
  here derives them).  `c1` is the collection the expiry pass leaves; `sel` the documents the
  filter selects.
-/
import Proofs.C14

namespace MongoModel.Props.C14
open MongoModel MongoModel.Spec MongoModel.Proofs.C14Cex

/-- `update_one` / `replace_one` (no upsert) touch at most the FIRST selected document in natural
    order: every other document is still there, unchanged, and nothing is added. -/
theorem update_one_touches_first_only (cfg : Cfg) (now : Int) (c c1 c' : Coll) (fs : Fields) (u : Val)
    (q : Val × Val) (rest : List (Val × Val)) (r : R UpdateResult)
    (he : expire now c = .ok c1) (hi : IdInv c) (hg : GoodKeys c) (hn : c.ttlIndexes = [])
    (hs : selectDocs (patchDT (.doc fs)) c1.docs = .ok (q :: rest))
    (h : applyUpdateColl cfg now c (.doc fs) u false false = (c', r)) :
    sameExcept q.1 c1.docs c'.docs ∧ c'.docs.length = c1.docs.length :=
  Proofs.C14.update_one_touches_first_only cfg now c c1 c' fs u q rest r he hi hg hn hs h

/-- When nothing is selected `update_one` / `replace_one` (no upsert) change nothing.  Full
    statement (for any call, failing ones included, with TTL indexes): FALSE of the model and of
    the code — a call that raises before the scan (an empty `$set: {}` on server < 5, a
    non-document update) returns before the expiry pass, so expired documents are still stored
    afterwards. -/
def update_one_no_match_noop_full : Prop :=
  ∀ (cfg : Cfg) (now : Int) (c c1 c' : Coll) (fs : Fields) (u : Val) (r : R UpdateResult),
    expire now c = .ok c1 → c1.docs ≠ [] →
    selectDocs (patchDT (.doc fs)) c1.docs = .ok [] →
    applyUpdateColl cfg now c (.doc fs) u false false = (c', r) →
    c'.docs = c1.docs

theorem update_one_no_match_noop_full_fails : ¬ update_one_no_match_noop_full := by
  intro H
  have k1 : (match expire 10000000 cC with
      | .ok c1 => c1.docs.length == 1 &&
        (match selectDocs (patchDT (.doc [("a", .int 1)])) c1.docs with
         | .ok [] => true
         | _ => false)
      | _ => false) = true := by decide +kernel
  cases he : expire 10000000 cC with
  | error e => rw [he] at k1; cases k1
  | ok c1 =>
    rw [he] at k1
    simp only [Bool.and_eq_true, beq_iff_eq] at k1
    obtain ⟨hl, hsel⟩ := k1
    cases hs : selectDocs (patchDT (.doc [("a", .int 1)])) c1.docs with
    | error e => rw [hs] at hsel; cases hsel
    | ok sel =>
      cases sel with
      | cons _ _ => rw [hs] at hsel; cases hsel
      | nil =>
        have := H { preV5 := true } 10000000 cC c1 _ [("a", .int 1)] (.doc [("$set", .doc [])]) _
          he (by intro e; rw [e] at hl; cases hl) hs rfl
        have h2 : cC.docs.length = 2 := rfl
        rw [this, hl] at h2
        cases h2

/-- what holds for every call: the collection is the expired one, or the call raised before the
    scan and returned the collection exactly as given (nothing changed either way) -/
theorem update_one_no_match_noop_partial (cfg : Cfg) (now : Int) (c c1 c' : Coll) (fs : Fields) (u : Val)
    (r : R UpdateResult) (he : expire now c = .ok c1) (hne : c1.docs ≠ [])
    (hs : selectDocs (patchDT (.doc fs)) c1.docs = .ok [])
    (h : applyUpdateColl cfg now c (.doc fs) u false false = (c', r)) :
    c' = c1 ∨ (c' = c ∧ ∃ e, r = .error e) := by
  have hno := Proofs.C10Lemmas.select_none hs
  unfold applyUpdateColl at h
  extract_lets spec document nowV at h
  have hspec : spec = .doc (patchFields fs) := Proofs.C18.patchDT_doc fs
  have hno' : ∀ p ∈ c1.docs, filterApplies spec p.2 = .ok false := hno
  clear_value spec document nowV
  subst hspec
  rw [Proofs.C10.pre_eq now c c1 _ he hne] at h
  split at h
  · split at h
    · cases h; exact Or.inr ⟨rfl, _, rfl⟩
    · dsimp only at h
      rw [Proofs.C10Lemmas.loop_nomatch now _ _ nowV false c1 hno' c1.docs 0 0] at h
      simp at h
      exact Or.inl h.1.symm
  · cases h; exact Or.inr ⟨rfl, _, rfl⟩

/-- the conclusion of `update_one_no_match_noop_full` holds for every successful call -/
theorem update_one_no_match_noop_ok (cfg : Cfg) (now : Int) (c c1 c' : Coll) (fs : Fields)
    (u : Val) (res : UpdateResult) (he : expire now c = .ok c1) (hne : c1.docs ≠ [])
    (hs : selectDocs (patchDT (.doc fs)) c1.docs = .ok [])
    (h : applyUpdateColl cfg now c (.doc fs) u false false = (c', .ok res)) :
    c'.docs = c1.docs := by
  rcases update_one_no_match_noop_partial cfg now c c1 c' fs u _ he hne hs h with rfl | ⟨_, e, he'⟩
  · rfl
  · cases he'

/-- the conclusion of `update_one_no_match_noop_full` holds for every call on a collection without
    TTL index -/
theorem update_one_no_match_noop_nottl (cfg : Cfg) (now : Int) (c c1 c' : Coll) (fs : Fields)
    (u : Val) (r : R UpdateResult) (he : expire now c = .ok c1) (hne : c1.docs ≠ [])
    (hn : c.ttlIndexes = [])
    (hs : selectDocs (patchDT (.doc fs)) c1.docs = .ok [])
    (h : applyUpdateColl cfg now c (.doc fs) u false false = (c', r)) :
    c'.docs = c1.docs := by
  rcases update_one_no_match_noop_partial cfg now c c1 c' fs u _ he hne hs h with rfl | ⟨rfl, _⟩
  · rfl
  · rw [Proofs.C09Lemmas.expire_nil now _ hn] at he; cases he; rfl

/-- `delete_one` removes exactly the first selected document in natural order. -/
theorem delete_one_removes_first (now : Int) (c c1 : Coll) (fs : Fields)
    (q : Val × Val) (rest : List (Val × Val))
    (he : expire now c = .ok c1) (hi : IdInv c) (hg : GoodKeys c)
    (hs : selectDocs (patchDT (.doc fs)) c1.docs = .ok (q :: rest)) :
    (deleteColl now c (.doc fs) false).2 = .ok 1 ∧
    (deleteColl now c (.doc fs) false).1.docs = c1.docs.filter (fun p => !pyEq q.1 p.1) :=
  Proofs.C14.delete_one_removes_first now c c1 fs q rest he hi hg hs

/-- `find_one` with a sort returns the projection of the first selected document in that sort
    order. -/
theorem find_one_is_first_sorted (now : Int) (c c1 : Coll) (fs : Fields) (proj : Val)
    (sort : Option SortSpec) (sel : List (Val × Val)) (out : Option Val)
    (he : expire now c = .ok c1) (hne : c1.docs ≠ [])
    (hs : selectDocs (patchDT (.doc fs)) c1.docs = .ok sel)
    (h : (findOneColl now c (.doc fs) proj sort).2 = .ok out) :
    ∃ t, firstSorted sort sel = .ok t ∧
      (match t with
       | none => out = none
       | some d => copyOnlyFields d proj = .ok (out.getD .null) ∧ out.isSome) :=
  Proofs.C14.find_one_is_first_sorted now c c1 fs proj sort sel out he hne hs h

/-- **find_one_and_delete** acts on exactly the first match in the requested sort order,
    whatever projection is requested, and returns that document's projected image.
    Full statement over ALL model states satisfying `IdInv`/`GoodKeys`: FALSE — the model's state
    space contains collections with a stored `_id` that is not normalised to milliseconds, or an
    array as store key, on which the second look-up by `_id` misses the target.  No history should
    reach them (`insert` normalises, `storeKey` rejects lists), but no theorem says so. -/
def fam_delete_spec_full : Prop :=
  ∀ (cfg : Cfg) (now : Int) (c c1 c' : Coll) (fs : Fields) (proj : Val)
    (sort : Option SortSpec) (sel : List (Val × Val)) (target : Val) (tid : Val) (ret : Option Val),
    expire now c = .ok c1 → IdInv c → GoodKeys c → c.ttlIndexes = [] →
    selectDocs (patchDT (.doc fs)) c1.docs = .ok sel →
    firstSorted sort sel = .ok (some target) → idOf target = some tid →
    isScalar tid = true →
    findAndModify cfg now c (.doc fs) proj none false sort false = (c', .ok ret) →
    sameExcept tid c1.docs c'.docs ∧ c'.docs.length + 1 = c1.docs.length ∧
    copyOnlyFields target proj = .ok (ret.getD .null) ∧ ret.isSome

theorem fam_delete_spec_full_fails : ¬ fam_delete_spec_full := by
  intro H
  have k : (match findAndModify {} 0 cB (.doc []) .null none false none false with
      | (_, .ok none) => true
      | _ => false) = true := by decide +kernel
  generalize hx : findAndModify {} 0 cB (.doc []) .null none false none false = x at k
  obtain ⟨c', r⟩ := x
  cases r with
  | error e => cases k
  | ok ret =>
    cases ret with
    | some v => cases k
    | none =>
      have := H {} 0 cB cB c' [] .null none cB.docs (.doc [("_id", .date 1500 none)])
        (.date 1500 none) none rfl cB_inv cB_good rfl rfl rfl rfl rfl hx
      exact absurd this.2.2.2 (by decide)

/-- proved when no store key is an array and the target's `_id` is normalised (`hna`, `hpt`) -/
theorem fam_delete_spec_partial (cfg : Cfg) (now : Int) (c c1 c' : Coll) (fs : Fields) (proj : Val)
    (sort : Option SortSpec) (sel : List (Val × Val)) (target : Val) (tid : Val) (ret : Option Val)
    (he : expire now c = .ok c1) (hi : IdInv c) (hg : GoodKeys c) (hn : c.ttlIndexes = [])
    (hna : ∀ p ∈ c.docs, p.1.isArr = false)
    (hs : selectDocs (patchDT (.doc fs)) c1.docs = .ok sel)
    (ht : firstSorted sort sel = .ok (some target)) (hid : idOf target = some tid)
    (hsc : isScalar tid = true) (hpt : patchDT tid = tid)
    (h : findAndModify cfg now c (.doc fs) proj none false sort false = (c', .ok ret)) :
    sameExcept tid c1.docs c'.docs ∧ c'.docs.length + 1 = c1.docs.length ∧
    copyOnlyFields target proj = .ok (ret.getD .null) ∧ ret.isSome :=
  Proofs.C14.fam_delete_spec_alt cfg now c c1 c' fs proj sort sel target tid ret he hi hg hn hna hs
    ht hid hsc hpt h

/-- **find_one_and_update / find_one_and_replace** (a target exists): only the first match in
    sort order may change, nothing is added or removed, with return_document=BEFORE the returned
    document is the projection of the target as it was, with AFTER the projection of the stored
    document under the target's `_id`.  Full statement: FALSE on the same states as
    `fam_delete_spec_full`. -/
def fam_update_spec_full : Prop :=
  ∀ (cfg : Cfg) (now : Int) (c c1 c' : Coll) (fs : Fields) (proj u : Val) (upsert after : Bool)
    (sort : Option SortSpec) (sel : List (Val × Val)) (target : Val) (tid : Val) (ret : Option Val),
    expire now c = .ok c1 → IdInv c → GoodKeys c → c.ttlIndexes = [] →
    selectDocs (patchDT (.doc fs)) c1.docs = .ok sel →
    firstSorted sort sel = .ok (some target) → idOf target = some tid →
    isScalar tid = true →
    findAndModify cfg now c (.doc fs) proj (some u) upsert sort after = (c', .ok ret) →
    sameExcept tid c1.docs c'.docs ∧ c'.docs.length = c1.docs.length ∧
    (after = false → copyOnlyFields target proj = .ok (ret.getD .null) ∧ ret.isSome) ∧
    (after = true → ∃ p' ∈ c'.docs, pyEq p'.1 tid = true ∧
        copyOnlyFields p'.2 proj = .ok (ret.getD .null))

theorem fam_update_spec_full_fails : ¬ fam_update_spec_full := by
  intro H
  have k : (match findAndModify {} 0 cB (.doc []) .null
        (some (.doc [("$set", .doc [("x", .int 1)])])) false none false with
      | (_, .ok none) => true
      | _ => false) = true := by decide +kernel
  generalize hx : findAndModify {} 0 cB (.doc []) .null
    (some (.doc [("$set", .doc [("x", .int 1)])])) false none false = x at k
  obtain ⟨c', r⟩ := x
  cases r with
  | error e => cases k
  | ok ret =>
    cases ret with
    | some v => cases k
    | none =>
      have := H {} 0 cB cB c' [] .null _ false false none cB.docs
        (.doc [("_id", .date 1500 none)])
        (.date 1500 none) none rfl cB_inv cB_good rfl rfl rfl rfl rfl hx
      exact absurd (this.2.2.1 rfl).2 (by decide)

/-- proved under `hna`, `hpt` (see `fam_delete_spec_partial`); the AFTER conjunct moreover assumes
    that the target has pairwise distinct top-level keys, as every Python dict has -/
theorem fam_update_spec_partial (cfg : Cfg) (now : Int) (c c1 c' : Coll) (fs : Fields) (proj u : Val)
    (upsert after : Bool)
    (sort : Option SortSpec) (sel : List (Val × Val)) (target : Val) (tid : Val) (ret : Option Val)
    (he : expire now c = .ok c1) (hi : IdInv c) (hg : GoodKeys c) (hn : c.ttlIndexes = [])
    (hna : ∀ p ∈ c.docs, p.1.isArr = false)
    (hs : selectDocs (patchDT (.doc fs)) c1.docs = .ok sel)
    (ht : firstSorted sort sel = .ok (some target)) (hid : idOf target = some tid)
    (hsc : isScalar tid = true) (hpt : patchDT tid = tid)
    (h : findAndModify cfg now c (.doc fs) proj (some u) upsert sort after = (c', .ok ret)) :
    sameExcept tid c1.docs c'.docs ∧ c'.docs.length = c1.docs.length ∧
    (after = false → copyOnlyFields target proj = .ok (ret.getD .null) ∧ ret.isSome) ∧
    (after = true → (∀ tfs, target = Val.doc tfs → (dkeys tfs).Nodup) →
      ∃ p' ∈ c'.docs, pyEq p'.1 tid = true ∧
        copyOnlyFields p'.2 proj = .ok (ret.getD .null)) :=
  Proofs.C14.fam_update_spec_alt cfg now c c1 c' fs proj u upsert after sort sel target tid ret
    he hi hg hn hna hs ht hid hsc hpt h

/-- With no match and no upsert `find_one_and_*` returns nothing and changes nothing. -/
theorem fam_no_match_noop (cfg : Cfg) (now : Int) (c c1 c' : Coll) (fs : Fields) (proj : Val)
    (u : Option Val) (sort : Option SortSpec) (after : Bool) (ret : Option Val)
    (he : expire now c = .ok c1) (hne : c1.docs ≠ [])
    (hs : selectDocs (patchDT (.doc fs)) c1.docs = .ok [])
    (h : findAndModify cfg now c (.doc fs) proj u false sort after = (c', .ok ret)) :
    ret = none ∧ c'.docs = c1.docs :=
  Proofs.C14.fam_no_match_noop cfg now c c1 c' fs proj u sort after ret he hne hs h

/-- non-vacuity: three matching documents, descending sort, a projection dropping `_id`: the
    model updates document 3 (first in sort order, last in natural order) and returns `{s: 3}` -/
example : (match findAndModify {} 0
      { docs := [(.int 1, .doc [("_id", .int 1), ("a", .int 1), ("s", .int 1)]),
                 (.int 2, .doc [("_id", .int 2), ("a", .int 1), ("s", .int 2)]),
                 (.int 3, .doc [("_id", .int 3), ("a", .int 1), ("s", .int 3)])] }
      (.doc [("a", .int 1)]) (.doc [("_id", .int 0), ("s", .int 1)])
      (some (.doc [("$set", .doc [("hit", .int 1)])])) false (some [("s", -1)]) false with
    | (c', .ok (some ret)) =>
      ret == .doc [("s", .int 3)] &&
      (c'.lookup (.int 3) == some (.doc [("_id", .int 3), ("a", .int 1), ("s", .int 3), ("hit", .int 1)]))
    | _ => false) = true := by decide +kernel

/-- non-vacuity of the extra hypotheses of the `_partial` theorems, on the store keys and the
    target of the example above: no store key is an array, the target's `_id` is normalised, its
    keys are distinct -/
example : (∀ p ∈ ([(.int 1, .null), (.int 2, .null), (.int 3, .null)] : List (Val × Val)),
      p.1.isArr = false) ∧ patchDT (.int 3) = .int 3 ∧
    (dkeys [("_id", .int 3), ("a", .int 1), ("s", .int 3)]).Nodup := by
  refine ⟨?_, rfl, by decide⟩
  intro p hp
  simp only [List.mem_cons, List.not_mem_nil, or_false] at hp
  rcases hp with rfl | rfl | rfl <;> rfl

end MongoModel.Props.C14
