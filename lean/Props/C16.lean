/-
  Props.C16 — aggregation is read-only, leaves its arguments alone, and is repeatable.

  Impl  = MongoModel.AggHeap (object identities; each stage by its edit discipline
          `Disc.reference`, tied to /repo by `Generated.AggDiscipline.discipline_is_reference` and
          by the correspondence of harness/props/c16.py).
  Spec  = the laws themselves (read-only, argument unchanged, repeatable, facet isolation, $out).
  D     = empty: `pipeline_arg_unchanged` holds for EVERY pipeline (`aggregate` hands the stages a
          rebuilt pipeline, `Disc.pipelineCopy`), read-only / repeatable for every pipeline without
          `$out`, the `$out` laws for `… ++ [$out]`.  The four findings
          `sample-pops-size`, `literal-written`, `facet-sibling-nested-addfields`,
          `facet-sibling-lookup` were defects of /repo and are repaired there; `Disc.reference` is
          the repaired discipline, and the theorems `unrepaired_*` show that every one of the laws
          FAILS under the discipline /repo had before the repairs (`Disc.unrepaired`), on the
          witnesses the check replays.

  The theorems quantify over every pipeline of the modelled stages (all the writing ones
  included: `$lookup`, `$addFields/$set` on dotted paths, `$unwind` with `includeArrayIndex`,
  `$sample`, `$facet`, nested), every state and every value-level semantics `Sem`.  The one
  hypothesis on states, `State.persistent`, is the name-space convention of the model: what
  persists between calls holds no run-local identity.  The proof carries the invariant `WInv`
  ("what the call works on was allocated by the call, in a window of identities nothing
  persistent lives in") through every stage and every `$facet` branch (Proofs/C16Inv.lean).

  `tz_aware` collections: the state a call leaves is the plain call's (`tz_aware_same_state`), and
  the results are a rebuild made only of objects allocated after the last stage finished
  (`tz_aware_results_separate`, from `Disc.resultCopy`).

  The repaired `$addFields` copies every level of a dotted name before it writes it (through an
  array every item is rebuilt and receives its own deep copy of the value), so
  the stages of the class `Stage.pure` — everything but `$lookup`, `$out`, `$facet` — contain no
  in-place write at all: `pure_stage_writes_nothing` / `stage_input_unchanged` hold in EVERY
  world, with no invariant and no hypothesis on the state, and `$facet` isolation of such
  sub-pipelines does not depend on the per-branch copy (`facet_isolated_by_stage_discipline`,
  stated under `Disc.sharing`); the copy is necessary because of `$lookup`
  (`sharing_witnesses`).
-/
import Proofs.C16Top
import Generated.AggDiscipline

namespace MongoModel.Props.C16
open MongoModel MongoModel.AggHeap MongoModel.Proofs.C16

/-- **An in-place write leaves the store alone** whenever the object written is not an object of
    the store: `World.mutate` rewrites the object everywhere, and nowhere in the collections. -/
theorem write_keeps_store (w : World) (id : Id) (f : Kids → Kids)
    (hstore : allColls Id.isSt w.colls = true) (hid : id.isSt = false) :
    (w.mutate id f).colls = w.colls := by
  simp only [World.mutate]
  exact mutateColls_noop Id.isSt id f hid w.colls hstore

example : allColls Id.isSt [("a", [HV.node (.st 0) true [("k", .atom (.int 1))]])] = true ∧
    (Id.tmp 3).isSt = false ∧ (Id.cl 0).isSt = false := by decide

/-- the same for the caller's pipeline object when the object written was allocated by the call -/
theorem write_keeps_pipeline (w : World) (id : Id) (f : Kids → Kids)
    (hpipe : w.pipe.all (fun i => !i.isTmp) = true) (hid : id.isTmp = true) :
    (w.mutate id f).pipe = w.pipe := by
  simp only [World.mutate]
  exact mutate_noop (fun i => !i.isTmp) id f (by simp [hid]) w.pipe hpipe

example : (HV.node (.cl 0) false [("", .node (.cl 1) true [])]).all (fun i => !i.isTmp) = true := by
  decide

/-- **`aggregate` starts from copies**: under the reference discipline every object of the
    working list is a new object of the call — none belongs to the store or to the caller. -/
theorem source_is_fresh (s : State) (coll : String) :
    allL Id.isTmp (s.world Disc.reference coll).work = true := by
  simp only [State.world, Disc.reference]
  rw [runL_deep_eq]
  exact deepTmpL_tmp _ _

/-- … and the copies (`deepTmp`) are equal to the stored documents as values -/
theorem copy_equals_value (v : HV) (n : Nat) : (deepTmp v n).1.toVal = v.toVal :=
  deepTmp_toVal v n

/-! ### the witnesses (the same pipelines are replayed on /repo by the check) -/

def doc0 : HV := .node (.st 0) true
  [("_id", .atom (.int 1)), ("k", .atom (.int 1)), ("a", .node (.st 1) true [("x", .atom (.int 1))])]
def docB : HV := .node (.st 2) true [("_id", .atom (.int 10)), ("k", .atom (.int 1))]

def mkState (pipe : HV) : State := { colls := [("a", [doc0]), ("b", [docB])], idx := [], pipe := pipe, nextSt := 3 }

/-- `[{'$sample': {'size': 1}}]` -/
def pipeSample : HV := .node (.cl 0) false [("", .node (.cl 1) true
  [("$sample", .node (.cl 2) true [("size", .atom (.int 1))])])]

/-- `[{'$facet': {'x': [{'$addFields': {'a.z': 9}}], 'y': [{'$match': {}}]}}]` -/
def pipeFacetAdd : HV := .node (.cl 0) false [("", .node (.cl 1) true
  [("$facet", .node (.cl 2) true
    [("x", .node (.cl 3) false [("", .node (.cl 4) true
        [("$addFields", .node (.cl 5) true [("a.z", .atom (.int 9))])])]),
     ("y", .node (.cl 6) false [("", .node (.cl 7) true [("$match", .node (.cl 8) true [])])])])])]

/-- `[{'$facet': {'x': [{'$lookup': {from: b, localField: k, foreignField: k, as: j}}],
                  'y': [{'$match': {}}]}}]` -/
def pipeFacetLookup : HV := .node (.cl 0) false [("", .node (.cl 1) true
  [("$facet", .node (.cl 2) true
    [("x", .node (.cl 3) false [("", .node (.cl 4) true
        [("$lookup", .node (.cl 5) true [("from", .atom (.str "b")), ("localField", .atom (.str "k")),
           ("foreignField", .atom (.str "k")), ("as", .atom (.str "j"))])])]),
     ("y", .node (.cl 6) false [("", .node (.cl 7) true [("$match", .node (.cl 8) true [])])])])])]

/-- `[{'$addFields': {'n': {'$literal': {'q': 1}}}}, {'$addFields': {'n.z': 9}}]` -/
def pipeLiteral : HV := .node (.cl 0) false
  [("", .node (.cl 1) true [("$addFields", .node (.cl 2) true
      [("n", .node (.cl 3) true [("$literal", .node (.cl 4) true [("q", .atom (.int 1))])])])]),
   ("", .node (.cl 5) true [("$addFields", .node (.cl 6) true [("n.z", .atom (.int 9))])])]

/-- the witnesses are inside the hypotheses of the theorems below, and their runs succeed -/
theorem witnesses_in_domain :
    ∀ pipe ∈ [pipeSample, pipeFacetAdd, pipeFacetLookup, pipeLiteral],
      (mkState pipe).persistent = true ∧ noOutStages (parsePipe pipe) = true ∧
      (after Disc.reference Sem.trivial (mkState pipe) "a").isSome = true := by
  decide +kernel

/-- **read-only, every stage**: running ANY stage list without `$out` — `$lookup`, `$addFields` on
    nested paths, `$sample`, `$facet` with editing branches, nested — leaves every collection,
    every index entry and the store's counter identical (objects and values), and everything the
    call returns is made of objects the call allocated -/
theorem aggregate_readonly_stages (sem : Sem) (s : State) (coll : String) (stages : List Stage)
    (w : World) (hp : s.persistent = true) (hno : noOutStages stages = true)
    (h : aggregateStages Disc.reference sem s coll stages = .ok w) :
    w.colls = s.colls ∧ w.idx = s.idx ∧ w.nextSt = s.nextSt ∧ allL Id.isTmp w.work = true := by
  have h0 := world_inv s coll hp
  have st := runStages_step sem stages _ _ w h0.1 h0.2 h
  have ss := st.2.2 hno
  exact ⟨ss.colls, ss.idx, ss.nextSt, allL_mono inR_isTmp _ st.1.inv.work⟩

/-- **read-only**: `db[coll].aggregate(pipe)` without `$out` changes no document, no index entry
    and no catalog entry of any collection -/
theorem aggregate_readonly (sem : Sem) (s s' : State) (coll : String) (out : List HV)
    (hp : s.persistent = true) (hno : noOutStages (parsePipe s.pipe) = true)
    (h : aggregate Disc.reference sem s coll = .ok (out, s')) :
    s'.colls = s.colls ∧ s'.idx = s.idx ∧ s'.nextSt = s.nextSt := by
  simp only [aggregate] at h
  split at h
  · next w hw =>
    cases h
    have := aggregate_readonly_stages sem s coll _ w hp hno hw
    exact ⟨this.1, this.2.1, this.2.2.1⟩
  · cases h

/-- **the state a call leaves does not depend on `tz_aware`**: the call on a `tz_aware`
    collection leaves exactly the state the plain call leaves, so `aggregate_readonly`,
    `pipeline_arg_unchanged` and `repeatable` hold for it as they stand -/
theorem tz_aware_same_state (sem : Sem) (tz : Bool) (s s' : State) (coll : String) (out : List HV)
    (h : aggregateTz Disc.reference sem tz s coll = .ok (out, s')) :
    ∃ out0, aggregate Disc.reference sem s coll = .ok (out0, s') ∧
      (tz = false → out = out0) ∧ toVals out = toVals out0 := by
  obtain ⟨w, _, ho, _, ha⟩ := aggregateTz_state Disc.reference sem tz s s' coll out h
  refine ⟨w.work, ha, fun ht => by subst ht; simpa [handOut] using ho, ?_⟩
  cases tz
  · simp [ho, handOut]
  · rw [ho]; exact (handOut_tz w).2

/-- **under `tz_aware` the results share nothing with anything**: every pipeline (`$out`,
    `$lookup`, `$facet` included) hands out documents made ONLY of objects allocated after its
    last stage finished (`Disc.resultCopy`: the rebuild), while everything that existed then —
    the documents the stages built (those `$out` stored copies of, those `$lookup` wrote into),
    every collection, the caller's pipeline object and the call's copy of it — lies outside that
    window.  (Plain collections: the results are the working documents themselves, objects of
    the call: `aggregate_readonly_stages`.) -/
theorem tz_aware_results_separate (sem : Sem) (s s' : State) (coll : String) (out : List HV)
    (hp : s.persistent = true)
    (h : aggregateTz Disc.reference sem true s coll = .ok (out, s')) :
    ∃ (w : World) (n' : Nat), aggregateStages Disc.reference sem s coll (parsePipe s.pipe) = .ok w ∧
      s' = w.state ∧ toVals out = toVals w.work ∧
      allL (inR w.nextTmp n') out = true ∧
      allL (below w.nextTmp) w.work = true ∧ allColls (below w.nextTmp) w.colls = true ∧
      w.pipe.all (below w.nextTmp) = true ∧ w.cpipe.all (below w.nextTmp) = true := by
  obtain ⟨w, hw, ho, hs, _⟩ := aggregateTz_state Disc.reference sem true s s' coll out h
  have h0 := world_inv s coll hp
  have st := (runStages_step sem _ _ _ w h0.1 h0.2 hw).1.inv
  exact ⟨w, (deepTmpL w.work w.nextTmp).2, hw, hs, ho ▸ (handOut_tz w).2, ho ▸ (handOut_tz w).1,
    allL_mono inR_below _ st.work, allColls_mono (notTmp_below _) _ st.colls,
    all_mono (below_mono st.hb) _ st.pipe, all_mono (below_mono st.hb) _ st.cpipe⟩

/-- an identity of the results' window is in none of the classes the rest lives in -/
theorem window_disjoint (m n : Nat) (i : Id) : inR m n i = true → below m i = false :=
  inR_not_below i

/-- the `$lookup` witness runs on a `tz_aware` collection (the hypotheses are satisfiable) -/
example : (mkState pipeFacetLookup).persistent = true ∧
    (aggregateTz Disc.reference Sem.trivial true (mkState pipeFacetLookup) "a").toOption.isSome = true := by
  decide +kernel

/-- the caller's pipeline object after explicit stage lists (`pipeline_arg_unchanged` below) -/
theorem pipeline_arg_unchanged_stages (sem : Sem) (s : State) (coll : String) (stages : List Stage)
    (w : World) (hp : s.persistent = true)
    (h : aggregateStages Disc.reference sem s coll stages = .ok w) : w.pipe = s.pipe :=
  have h0 := world_inv s coll hp
  (runStages_step sem stages _ _ w h0.1 h0.2 h).1.kept.pipe

/-- **the caller's pipeline object is left alone** — the very object, not just its value — by
    EVERY pipeline: `$out` anywhere (last, in the middle, inside a `$facet`), `$lookup`,
    `$sample`, `$literal`s written into by later stages.  `aggregate` rebuilds every dict and
    list of the pipeline before the stages see it (`Disc.pipelineCopy = .deep`), so the stages
    hold no object of the caller; what remains to be shown — and is — is that no in-place write
    of any stage reaches an object that is not the call's own. -/
theorem pipeline_arg_unchanged (sem : Sem) (s s' : State) (coll : String) (out : List HV)
    (hp : s.persistent = true)
    (h : aggregate Disc.reference sem s coll = .ok (out, s')) : s'.pipe = s.pipe := by
  simp only [aggregate] at h
  split at h
  · next w hw =>
    cases h
    exact pipeline_arg_unchanged_stages sem s coll _ w hp hw
  · cases h

/-- **the stages never hold an object of the caller**: the pipeline they read is made of objects
    of the call -/
theorem stages_read_a_copy (s : State) (coll : String) :
    (s.world Disc.reference coll).cpipe.all Id.isTmp = true ∧
    (s.world Disc.reference coll).cpipe.toVal = s.pipe.toVal := by
  simp only [State.world, Disc.reference, Copy.run]
  exact ⟨deepTmp_tmp _ _, deepTmp_toVal _ _⟩

/-- `[{'$replaceRoot': {'newRoot': {'$literal': {'q': 1}}}}, {'$out': 'c'}]`: `$out` writes the
    generated `_id` into the literal's copy; `[{'$out': 'c'}, {'$match': {}}]`: `$out` in the
    middle -/
def pipeLiteralOut : HV := .node (.cl 0) false
  [("", .node (.cl 1) true [("$replaceRoot", .node (.cl 2) true
      [("newRoot", .node (.cl 3) true [("$literal", .node (.cl 4) true [("q", .atom (.int 1))])])])]),
   ("", .node (.cl 5) true [("$out", .atom (.str "c"))])]

def pipeOutMiddle : HV := .node (.cl 0) false
  [("", .node (.cl 1) true [("$out", .atom (.str "c"))]),
   ("", .node (.cl 2) true [("$match", .node (.cl 3) true [])])]

example : ∀ pipe ∈ [pipeLiteralOut, pipeOutMiddle], (mkState pipe).persistent = true ∧
    noOutStages (parsePipe pipe) = false ∧
    (after Disc.reference Sem.trivial (mkState pipe) "a").isSome = true := by
  decide +kernel

/-- **`$out` replaces the target with exactly the pipeline's output**: after `pre ++ [$out t]`,
    when the documents `pre` returns carry their `_id`, collection `t` holds exactly those
    documents (as values, in order) and every other collection is what it was before the call.
    (Documents without `_id` get a generated one written into them first; for those the check's
    direct oracle compares target, returned documents and prefix output on /repo.) -/
theorem out_replaces_target (sem : Sem) (s : State) (coll target : String) (pre : List Stage)
    (w' : World) (hp : s.persistent = true) (hno : noOutStages pre = true)
    (h : aggregateStages Disc.reference sem s coll (pre ++ [.out target]) = .ok w') :
    ∃ w, aggregateStages Disc.reference sem s coll pre = .ok w ∧
      (allHaveId w.work = true →
        toVals (getColl target w'.colls) = toVals w.work ∧
        ∀ c, c ≠ target → getColl c w'.colls = getColl c s.colls) := by
  obtain ⟨w, hw, ho⟩ := aggregateStages_out_split sem s coll target pre w' h
  refine ⟨w, hw, fun ha => ?_⟩
  have hr := outStage_replaces sem target w w' ha ho
  have hro := aggregate_readonly_stages sem s coll pre w hp hno hw
  exact ⟨hr.2.1, fun c hc => by rw [hr.2.2 c hc, hro.1]⟩

/-- **`$out` passes its input through**: the call returns the very documents `pre` returns -/
theorem out_passes_through (sem : Sem) (s : State) (coll target : String) (pre : List Stage)
    (w' : World)
    (h : aggregateStages Disc.reference sem s coll (pre ++ [.out target]) = .ok w') :
    ∃ w, aggregateStages Disc.reference sem s coll pre = .ok w ∧
      (allHaveId w.work = true → w'.work = w.work) := by
  obtain ⟨w, hw, ho⟩ := aggregateStages_out_split sem s coll target pre w' h
  exact ⟨w, hw, fun ha => (outStage_replaces sem target w w' ha ho).1⟩

/-- `[{'$match': {}}, {'$out': 'c'}]` on the witness state: in the hypotheses, and it runs -/
def outWitness : Option (Bool × List Val × List Val) :=
  match aggregateStages Disc.reference Sem.trivial (mkState (.node (.cl 0) false [])) "a"
      [.select "$match" (.doc [])],
    aggregateStages Disc.reference Sem.trivial (mkState (.node (.cl 0) false [])) "a"
      ([.select "$match" (.doc [])] ++ [.out "c"]) with
  | .ok w, .ok w' => some (allHaveId w.work, toVals (getColl "c" w'.colls), toVals w'.work)
  | _, _ => none

example : outWitness.map (fun o => o.1 && o.2.1 == [doc0.toVal] && o.2.2 == [doc0.toVal]) = some true := by
  decide +kernel

/-- **repeatable**: a successful call without `$out` leaves the persistent state — collections,
    catalog, pipeline object — identical, so running it again IS the same computation and gives the
    same answer (for the same draws of `$sample`; see `sample_submultiset` for what may vary) -/
theorem repeatable (sem : Sem) (s s' : State) (coll : String) (out : List HV)
    (hp : s.persistent = true) (hno : noOutStages (parsePipe s.pipe) = true)
    (h : aggregate Disc.reference sem s coll = .ok (out, s')) :
    s' = s ∧ aggregate Disc.reference sem s' coll = .ok (out, s') := by
  have hr := aggregate_readonly sem s s' coll out hp hno h
  have hpipe := pipeline_arg_unchanged sem s s' coll out hp h
  have : s' = s := by  -- a `State` is exactly `colls`, `idx`, `pipe` and `nextSt`
    cases s; cases s'; simp_all
  rw [this] at h ⊢
  exact ⟨rfl, h⟩

/-- **`$sample`**: whatever rearrangement the shuffle draws, the stage returns a sub-multiset of
    its input of size `min size |input|` and changes nothing else (in particular not its options) -/
theorem sample_submultiset (sem : Sem) (w w' : World) (loc : List Nat)
    (hperm : ∀ n, (sem.shuffle n).Perm (List.range n))
    (hs : runStage Disc.reference sem w (.sample loc) = .ok w') :
    SubMultiset w'.work w.work ∧ w' = { w with work := w'.work } ∧
      ∃ (id : Id) (kids : Kids) (n : Int), subAt loc w.cpipe = some (.node id true kids) ∧
        kget "size" kids = some (.atom (.int n)) ∧ w'.work.length = min n.toNat w.work.length := by
  obtain ⟨id, kids, n, hsub, hk, rfl⟩ := sampleStage_ok dr_samplePops hs
  have hp : (pick w.work (sem.shuffle w.work.length)).Perm w.work := by
    have := pick_perm w.work (hperm w.work.length)
    rwa [pick_range] at this
  exact ⟨⟨_, hp, List.take_sublist _ _⟩, rfl, id, kids, n, hsub, hk, by
    simp only [List.length_take, hp.length_eq]⟩

example : ∀ n, (Sem.trivial.shuffle n).Perm (List.range n) := fun _ => List.Perm.refl _

/-- the `$sample` witness draws one document -/
def sampleWitnessLen : Option Nat :=
  match runStage Disc.reference Sem.trivial ((mkState pipeSample).world Disc.reference "a")
      (.sample [0, 0]) with
  | .ok w' => some w'.work.length
  | .error _ => none

example : sampleWitnessLen = some 1 := by decide +kernel

/-- **`$facet` isolation**: in any world the invariant of the call holds in, the stage returns one
    document `{title_j: outs_j}` and `outs_j` is what sub-pipeline `j` returns when it is run
    ALONE (`BranchAlone`): on a fresh deep copy of the stage's original input, against the
    collections, catalog and pipeline object as they were before the stage — whatever its
    siblings did to their documents.  (Equality with a stand-alone run is up to the numbering of
    the fresh identities; the check compares the values on /repo.) -/
theorem facet_isolated (sem : Sem) (b : Nat) (w w' : World) (bs : List (String × List Stage))
    (h : WInv b w) (ho : w.out = []) (hno : noOutBranches bs = true)
    (hs : runStage Disc.reference sem w (.facet bs) = .ok w') :
    ∃ (n : Nat) (outs : List (List HV)), w'.work = [facetDoc n (bs.map (·.1)) outs] ∧
      All2 (BranchAlone sem w w.work) bs outs := by
  simp only [runStage] at hs
  split at hs <;> cases hs
  next w2 hr =>
    obtain ⟨outs, hb⟩ := runBranches_step sem bs { w with stack := w.work :: w.stack } w2 w.work
      w.stack (h.alive _ (Nat.le_refl _) _ (allLL_mono (below_mono h.hb) _ h.stack)) ho rfl hr
    -- `outs` of `BrRes` is in stack order (last branch first); the stage takes the outputs off
    -- the stack and reverses them, and `BrRes.noOut` speaks of `outs.reverse`
    have htake : (w2.stack.drop 1).take bs.length = outs := by rw [hb.stack, ← hb.len]; simp
    exact ⟨w2.nextTmp, _, rfl, htake ▸ (hb.noOut hno).2.imp fun _ _ hab =>
      BranchAlone.congr (w := w) rfl rfl rfl rfl rfl hab⟩

/-- the hypothesis of `facet_isolated` holds when the call starts … -/
theorem facet_isolated_hyp_initial (s : State) (coll : String) (hp : s.persistent = true) :
    WInv (base s) (s.world Disc.reference coll) ∧ (s.world Disc.reference coll).out = [] :=
  world_inv s coll hp

/-- … and after every stage, `$out` included -/
theorem facet_isolated_hyp_step (sem : Sem) (ss : List Stage) (b : Nat) (w w' : World)
    (h : WInv b w) (ho : w.out = [])
    (hs : runStages Disc.reference sem w ss = .ok w') : WInv b w' ∧ w'.out = [] :=
  ⟨(runStages_step sem ss b w w' h ho hs).1.inv, (runStages_step sem ss b w w' h ho hs).2.1⟩

/-- the value of branch `y` (which only matches everything) inside the facet -/
def branchY (D : Disc) (pipe : HV) : Option Val :=
  (observe D Sem.trivial (mkState pipe) "a").bind (fun o =>
    match o.1 with
    | [.doc fs] => dget "y" fs
    | _ => none)

/-- on the witnesses of the findings `facet-sibling-nested-addfields` and `facet-sibling-lookup`
    branch `y` returns the stored documents -/
theorem facet_witnesses_isolated :
    ∀ pipe ∈ [pipeFacetAdd, pipeFacetLookup],
      (branchY Disc.reference pipe).map (· == .arr [doc0.toVal]) = some true := by
  decide +kernel

/-! ### stages that write into nothing that was there before -/

/-- **no in-place write**: a stage other than `$lookup`, `$out`, `$facet` — `$addFields/$set` on
    dotted names and `$unwind` with an index included — leaves everything the world keeps alive
    literally unchanged: collections, catalog, the caller's pipeline object and every list on the
    stack.  In ANY world: no invariant, no hypothesis on who shares objects with the documents. -/
theorem pure_stage_writes_nothing (sem : Sem) (st : Stage) (w w' : World) (hp : st.pure = true)
    (hs : runStage Disc.reference sem w st = .ok w') :
    w'.colls = w.colls ∧ w'.idx = w.idx ∧ w'.pipe = w.pipe ∧ w'.stack = w.stack ∧
      w'.nextSt = w.nextSt := by
  have h := (runStage_pure_same Disc.reference rfl rfl sem st w w' hp hs).1
  exact ⟨h.colls, h.idx, h.pipe, h.stack, h.nextSt⟩

/-- **the documents a stage is handed are left alone**: keep the input list of a run of
    non-writing stages alive (on the stack, as `$facet` does for its sub-pipelines) — afterwards
    it is the same list of the same objects with the same contents -/
theorem stage_input_unchanged (sem : Sem) (ss : List Stage) (w w' : World) (stk : List (List HV))
    (hp : pureStages ss = true)
    (hs : runStages Disc.reference sem { w with stack := w.work :: stk } ss = .ok w') :
    w'.stack = w.work :: stk :=
  (runStages_pure_same Disc.reference rfl rfl sem ss _ w' hp hs).1.stack

/-- `{'$addFields': {'a.z': 9}}`;
    `{'$unwind': {path: '$arr', preserveNullAndEmptyArrays: true, includeArrayIndex: 'a.ix'}}`
    (the witness document has no `arr`: it is kept, and a copy of it gets `a.ix: null`) -/
def addZ : Stage := .addFields [("a.z", .const (.int 9))]
def unwindIx : Stage := .unwind "arr" true (some ["a", "ix"])

/-- the stage's input (kept on the stack) after the stage, as values -/
def inputAfter (D : Disc) (st : Stage) : Option (List Val) :=
  let w := (mkState (.node (.cl 0) false [])).world D "a"
  match runStage D Sem.trivial { w with stack := [w.work] } st with
  | .ok w' => w'.stack.head?.map toVals
  | .error _ => none

/-- both witnesses are in the class, run, and leave their input as it was … -/
example : addZ.pure = true ∧ unwindIx.pure = true ∧ pureStages [addZ, unwindIx] = true ∧
    (inputAfter Disc.reference addZ).map (· == [doc0.toVal]) = some true ∧
    (inputAfter Disc.reference unwindIx).map (· == [doc0.toVal]) = some true := by decide +kernel

/-- … whereas the discipline `$addFields` had before (descend into the sub-document that is
    there) wrote `a.z` into the stage's input -/
theorem unrepaired_addfields_writes_input :
    (inputAfter { Disc.reference with addFieldsNested := .none } addZ).map (· == [doc0.toVal])
      = some false := by
  decide +kernel

/-- **`$facet` isolation by the stages' own discipline**: when every sub-pipeline consists of
    non-writing stages, each output is what the sub-pipeline returns when run alone on the
    stage's input ITSELF (`BranchShared`: the very objects, no copy) — under the discipline
    `Disc.sharing` that hands ONE list to all sub-pipelines — and the stage has written into
    nothing.  The per-branch copy of `Disc.reference` is what `$lookup` needs (below). -/
theorem facet_isolated_by_stage_discipline (sem : Sem) (w w' : World)
    (bs : List (String × List Stage)) (ho : w.out = []) (hp : pureBranches bs = true)
    (hs : runStage Disc.sharing sem w (.facet bs) = .ok w') :
    (w'.colls = w.colls ∧ w'.pipe = w.pipe ∧ w'.stack = w.stack) ∧
    ∃ (n : Nat) (outs : List (List HV)), w'.work = [facetDoc n (bs.map (·.1)) outs] ∧
      All2 (BranchShared Disc.sharing sem w w.work) bs outs := by
  have h := facet_shared_isolated_stage Disc.sharing rfl rfl rfl sem w w' bs ho hp hs
  exact ⟨⟨h.1.colls, h.1.pipe, h.1.stack⟩, h.2⟩

/-- the `$addFields` witness is such a `$facet`, and it runs under `Disc.sharing` -/
example : (∃ bs, parsePipe pipeFacetAdd = [.facet bs] ∧ pureBranches bs = true) ∧
    (observe Disc.sharing Sem.trivial (mkState pipeFacetAdd) "a").isSome = true :=
  ⟨⟨_, rfl, by decide⟩, by decide +kernel⟩

/-- without the per-branch copy: `$addFields` on a dotted name in branch `x` is not seen by
    branch `y`, `$lookup` is — and so is the `$addFields` /repo had before its repair
    (`addFieldsNested := .none`) -/
theorem sharing_witnesses :
    (branchY Disc.sharing pipeFacetAdd).map (· == .arr [doc0.toVal]) = some true ∧
    (branchY Disc.sharing pipeFacetLookup).map (· == .arr [doc0.toVal]) = some false ∧
    (branchY { Disc.sharing with addFieldsNested := .none } pipeFacetAdd).map
      (· == .arr [doc0.toVal]) = some false := by
  decide +kernel

/-! ### the laws fail under the discipline /repo had before the repairs -/

/-- `$sample` popped `size` out of the caller's dict … -/
theorem unrepaired_pipeline_arg_changed :
    ((after Disc.unrepaired Sem.trivial (mkState pipeSample) "a").all
      (fun s' => s'.pipe.toVal == pipeSample.toVal)) = false := by
  decide +kernel

/-- … and the second run of the same pipeline object raised -/
theorem unrepaired_sample_second_run_fails :
    ((after Disc.unrepaired Sem.trivial (mkState pipeSample) "a").map
      (fun s' => (observe Disc.unrepaired Sem.trivial s' "a").isNone)) = some true := by
  decide +kernel

/-- a `$literal` was written into by a later `$addFields` on a dotted path -/
theorem unrepaired_literal_written :
    ((after Disc.unrepaired Sem.trivial (mkState pipeLiteral) "a").all
      (fun s' => s'.pipe.toVal == pipeLiteral.toVal)) = false := by
  decide +kernel

/-- a sibling's `$addFields` on a nested path / `$lookup` was seen by branch `y` -/
theorem unrepaired_facet_not_isolated :
    ∀ pipe ∈ [pipeFacetAdd, pipeFacetLookup],
      (branchY Disc.unrepaired pipe).map (· == .arr [doc0.toVal]) = some false := by
  decide +kernel

/-- under `Disc.reference` the same runs leave the pipeline object alone (instances of
    `pipeline_arg_unchanged`, computed) -/
theorem repaired_witnesses :
    ∀ pipe ∈ [pipeSample, pipeLiteral, pipeFacetAdd, pipeFacetLookup],
      ((observe Disc.reference Sem.trivial (mkState pipe) "a").all
        (fun o => o.2.1 == pipe.toVal && o.2.2 == [("a", [doc0.toVal]), ("b", [docB.toVal])])) = true := by
  decide +kernel

/-- the rebuilt pipeline alone protects the caller's object: with EVERY stage discipline as it
    was before the repairs (`$sample` pops, `$literal` hands out the pipeline's object, `$facet`
    shares, `$addFields` descends) but the stages reading the call's own copy, the caller's
    pipeline is what it was on all the witnesses, and a second run gives the same answer -/
theorem rebuilt_pipeline_protects_caller :
    ∀ pipe ∈ [pipeSample, pipeLiteral, pipeFacetAdd, pipeFacetLookup, pipeLiteralOut],
      ((after { Disc.unrepaired with pipelineCopy := .deep } Sem.trivial (mkState pipe) "a").all
        (fun s' => s'.pipe.toVal == pipe.toVal)) = true ∧
      (after { Disc.unrepaired with pipelineCopy := .deep } Sem.trivial (mkState pipe) "a").isSome
        = true := by
  decide +kernel

/-! ### the discipline the theorems are about is the one the check extracts from the source
  of /repo on every run -/

theorem discipline_current : Generated.AggDiscipline.discipline = Disc.reference :=
  Generated.AggDiscipline.discipline_is_reference

end MongoModel.Props.C16
