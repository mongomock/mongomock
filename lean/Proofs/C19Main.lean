/-
  C19 — running a fixed schedule reaches only reachable states, for the interpreter (`runSched`,
  `reach_run`: the witnesses of the unrepaired disciplines) and for the protocol machine (`prun`,
  `reach_prun`; `twoReaders` puts two readers inside together).  The imports gather what
  `Props/C19.lean` states: the certificates, the regenerated discipline, the invariant.
-/
import Proofs.C19Docs
import Proofs.C19Inv
import Generated.RWLockCert_2
import Generated.RWLockCert_3
import Generated.LockDiscipline
namespace MongoModel.RWLock

def runSched (cfg : Cfg) : State → List Nat → Option State
  | s, [] => some s
  | s, t :: ts => match step cfg s t with
    | some s' => runSched cfg s' ts
    | none => none

theorem reach_run {cfg : Cfg} : ∀ (sched : List Nat) (s s' : State), Reach cfg s →
    runSched cfg s sched = some s' → Reach cfg s'
  | [], _, _, hr, h => by cases h; exact hr
  | t :: ts, s, s', hr, h => by
    rw [runSched] at h
    split at h
    · exact reach_run ts _ s' (Reach.step hr ‹_›) h
    · cases h

def prun (P : Protocol) : PState → List (Nat × Lab) → Option PState
  | s, [] => some s
  | s, (t, lab) :: rest => match pstep P s t lab with
    | some s' => prun P s' rest
    | none => none

theorem reach_prun {P : Protocol} {n : Nat} : ∀ (sched : List (Nat × Lab)) (s s' : PState),
    PReach P n s → prun P s sched = some s' → PReach P n s'
  | [], _, _, hr, h => by cases h; exact hr
  | (t, lab) :: rest, s, s', hr, h => by
    rw [prun] at h
    split at h
    · exact reach_prun rest _ s' (PReach.step hr ‹_›) h
    · cases h

/-- both threads enter a reader section one after the other -/
def twoReaders : List (Nat × Lab) :=
  [(0, .begin false), (0, .op), (0, .op), (0, .op), (0, .op), (0, .op), (0, .op), (0, .op),
   (0, .op), (1, .begin false), (1, .op), (1, .op), (1, .op), (1, .op), (1, .op), (1, .op),
   (1, .op), (1, .op)]

theorem two_readers_inside :
    (prun referenceProtocol (pinit 2) twoReaders).map (·.pos)
      = some [Phase.body false, Phase.body false] := by decide

end MongoModel.RWLock
