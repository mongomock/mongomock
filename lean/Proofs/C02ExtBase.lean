/-
  Proofs.C02ExtBase — the abstract part of "a whole update is the pointwise combination of its
  entries": steps that read and write a document only at a set `H` of top-level keys (`Local`),
  their sequential composition, and a fold of them against its steps run alone (`fold_outcome`).

  Documents of the model may hold a key twice, so "the document at key `k`" is the list of ALL
  entries with that key (`proj k`, Proofs/C02Basic.lean), not only the first one (`dget k`).
-/
import Proofs.C02Frame


namespace MongoModel.Proofs.C02Lemmas
open MongoModel MongoModel.Spec

/-- `fs` and `gs` hold the same entries under every key of `H` -/
def Agree (H : List String) (fs gs : Fields) : Prop := ∀ k, k ∈ H → proj k fs = proj k gs

/-- outside `H` the document `fs'` holds what `fs` held -/
def FrameP (H : List String) (fs fs' : Fields) : Prop := ∀ k, k ∉ H → proj k fs' = proj k fs

theorem Agree.refl (H : List String) (fs : Fields) : Agree H fs fs := fun _ _ => rfl

theorem Agree.symm {H : List String} {fs gs : Fields} (h : Agree H fs gs) : Agree H gs fs :=
  fun k hk => (h k hk).symm

theorem Agree.trans {H : List String} {fs gs hs : Fields} (h1 : Agree H fs gs)
    (h2 : Agree H gs hs) : Agree H fs hs := fun k hk => (h1 k hk).trans (h2 k hk)

theorem Agree.mono {H H' : List String} {fs gs : Fields} (h : Agree H fs gs)
    (hs : ∀ k, k ∈ H' → k ∈ H) : Agree H' fs gs := fun k hk => h k (hs k hk)

theorem Agree.dget {H : List String} {fs gs : Fields} (h : Agree H fs gs) {k : String}
    (hk : k ∈ H) : dget k fs = dget k gs := dget_of_proj (h k hk)

theorem FrameP.refl (H : List String) (fs : Fields) : FrameP H fs fs := fun _ _ => rfl

/-- a frame away from `H'` keeps agreement on `H'` -/
theorem FrameP.agree {H H' : List String} {fs fs' : Fields} (h : FrameP H fs fs')
    (hd : ∀ k, k ∈ H' → k ∉ H) : Agree H' fs' fs := fun k hk => h k (hd k hk)

/-- the outcomes of one step on two documents: the same error, or two documents that agree on
    `H` and are unchanged outside `H` -/
inductive Rel (H : List String) (fs gs : Fields) : R Val → R Val → Prop
  | err (e : Err) : Rel H fs gs (.error e) (.error e)
  | ok (fs' gs' : Fields) : Agree H fs' gs' → FrameP H fs fs' → FrameP H gs gs' →
      Rel H fs gs (.ok (.doc fs')) (.ok (.doc gs'))

/-- `F` reads and writes a document only at the top-level keys `H`: on documents that agree on
    `H` it fails alike or yields documents that agree on `H`, each unchanged outside `H` -/
def Local (H : List String) (F : Val → R Val) : Prop :=
  ∀ fs gs, Agree H fs gs → Rel H fs gs (F (.doc fs)) (F (.doc gs))

theorem Local.id (H : List String) : Local H (fun d => .ok d) :=
  fun fs gs h => .ok fs gs h (FrameP.refl _ _) (FrameP.refl _ _)

theorem Local.fail (H : List String) (e : Err) : Local H (fun _ => .error e) :=
  fun _ _ _ => .err e

theorem Local.congr {H : List String} {F G : Val → R Val} (h : Local H F)
    (he : ∀ d, G d = F d) : Local H G := by
  intro fs gs ha
  rw [he, he]; exact h fs gs ha

/-- a successful local step yields a document, unchanged outside `H` -/
theorem Local.frame {H : List String} {F : Val → R Val} (hF : Local H F) {fs : Fields} {d' : Val}
    (h : F (.doc fs) = .ok d') : ∃ fs', d' = .doc fs' ∧ FrameP H fs fs' := by
  have hr := hF fs fs (Agree.refl _ _)
  rw [h] at hr
  cases hr with
  | ok fs' gs' _ hf _ => exact ⟨fs', rfl, hf⟩

theorem Local.comp {H H' : List String} {F G : Val → R Val} (hF : Local H F) (hG : Local H' G) :
    Local (H ++ H') (fun d => (F d).bind G) := by
  intro fs gs ha
  have ha1 : Agree H fs gs := ha.mono (fun k hk => List.mem_append_left _ hk)
  have hr := hF fs gs ha1
  generalize hx : F (.doc fs) = x at hr
  generalize hy : F (.doc gs) = y at hr
  show Rel (H ++ H') fs gs ((F (.doc fs)).bind G) ((F (.doc gs)).bind G)
  rw [hx, hy]
  cases hr with
  | err e => exact .err e
  | ok fs1 gs1 hag hf1 hg1 =>
    have ha2 : Agree H' fs1 gs1 := by
      intro k hk
      by_cases hkH : k ∈ H
      · exact hag k hkH
      · rw [hf1 k hkH, hg1 k hkH]; exact ha k (List.mem_append_right _ hk)
    have hr2 := hG fs1 gs1 ha2
    show Rel (H ++ H') fs gs (G (.doc fs1)) (G (.doc gs1))
    generalize G (.doc fs1) = x2 at hr2
    generalize G (.doc gs1) = y2 at hr2
    cases hr2 with
    | err e => exact .err e
    | ok fs2 gs2 hag2 hf2 hg2 =>
      refine .ok fs2 gs2 ?_ ?_ ?_
      · intro k hk
        by_cases hk' : k ∈ H'
        · exact hag2 k hk'
        · have hkH : k ∈ H := by
            rcases List.mem_append.mp hk with h | h
            · exact h
            · exact absurd h hk'
          rw [hf2 k hk', hg2 k hk']; exact hag k hkH
      · intro k hk
        simp only [List.mem_append, not_or] at hk
        rw [hf2 k hk.2, hf1 k hk.1]
      · intro k hk
        simp only [List.mem_append, not_or] at hk
        rw [hg2 k hk.2, hg1 k hk.1]

/-- a step that is local at `H` is local at any larger set -/
theorem Local.mono {H H' : List String} {F : Val → R Val} (hF : Local H F)
    (hs : ∀ k, k ∈ H → k ∈ H') : Local H' F := by
  intro fs gs ha
  have hr := hF fs gs (ha.mono hs)
  generalize F (.doc fs) = x at hr
  generalize F (.doc gs) = y at hr
  cases hr with
  | err e => exact .err e
  | ok fs1 gs1 hag hf1 hg1 =>
    refine .ok fs1 gs1 ?_ (fun k hk => hf1 k (fun h => hk (hs k h)))
      (fun k hk => hg1 k (fun h => hk (hs k h)))
    intro k hk
    by_cases hkH : k ∈ H
    · exact hag k hkH
    · rw [hf1 k hkH, hg1 k hkH]; exact ha k hk

variable {σ : Type}

theorem fold_local (step : Val → σ → R Val) (hs : σ → List String) :
    ∀ (l : List σ), (∀ s, s ∈ l → Local (hs s) (fun d => step d s)) →
      Local (l.flatMap hs) (fun d => l.foldlM step d)
  | [], _ => by
    simp only [List.flatMap_nil, List.foldlM_nil]
    exact Local.id []
  | s :: l, h => by
    have h1 : Local (hs s) (fun d => step d s) := h s (List.mem_cons_self ..)
    have h2 := fold_local step hs l (fun s' hs' => h s' (List.mem_cons_of_mem _ hs'))
    have := h1.comp h2
    simp only [List.flatMap_cons]
    refine this.congr ?_
    intro d
    simp only [List.foldlM_cons]
    rfl

/-- **a fold of local steps with pairwise disjoint key sets** (`Nodup` of their concatenation),
    against its steps run alone on (any document agreeing with) the ORIGINAL document: when the
    fold fails, some step alone fails; when it succeeds, every step alone succeeds and yields, at
    its keys, what the fold yields there -/
theorem fold_outcome (step : Val → σ → R Val) (hs : σ → List String) :
    ∀ (l : List σ), (∀ s, s ∈ l → Local (hs s) (fun d => step d s)) → (l.flatMap hs).Nodup →
      ∀ (fs gs : Fields), Agree (l.flatMap hs) fs gs →
        match l.foldlM step (.doc fs) with
        | .error _ => ∃ s, s ∈ l ∧ ∃ e, step (.doc gs) s = .error e
        | .ok d' => ∃ fs', d' = .doc fs' ∧ ∀ s, s ∈ l →
            ∃ gs1, step (.doc gs) s = .ok (.doc gs1) ∧ Agree (hs s) fs' gs1
  | [], _, _, fs, gs, _ => ⟨fs, rfl, fun s hs' => absurd hs' (by simp)⟩
  | s :: l, hl, hnd, fs, gs, ha => by
    rw [List.flatMap_cons] at hnd ha
    have hdisj : ∀ k, k ∈ l.flatMap hs → k ∉ hs s := fun k hk hk' =>
      (List.nodup_append.mp hnd).2.2 k hk' k hk rfl
    have hl2 : ∀ s', s' ∈ l → Local (hs s') (fun d => step d s') :=
      fun s' hs' => hl s' (List.mem_cons_of_mem _ hs')
    have hr := hl s (List.mem_cons_self ..) fs gs (ha.mono fun k hk => List.mem_append_left _ hk)
    rw [List.foldlM_cons]
    beta_reduce at hr
    generalize step (.doc fs) s = x at hr ⊢
    generalize hy : step (.doc gs) s = y at hr
    cases hr with
    | err e => exact ⟨s, List.mem_cons_self .., e, hy⟩
    | ok fs1 gs1 hag hf1 hg1 =>
      have ih := fold_outcome step hs l hl2 (List.nodup_append.mp hnd).2.1 fs1 gs fun k hk => by
        rw [hf1 k (hdisj k hk)]; exact ha k (List.mem_append_right _ hk)
      show match l.foldlM step (.doc fs1) with | .error _ => _ | .ok d' => _
      cases hrest : l.foldlM step (.doc fs1) with
      | error e =>
        rw [hrest] at ih
        obtain ⟨s', hs', he⟩ := ih
        exact ⟨s', List.mem_cons_of_mem _ hs', he⟩
      | ok d' =>
        rw [hrest] at ih
        obtain ⟨fs', rfl, hall⟩ := ih
        -- the rest of the fold leaves the keys of `s` alone
        obtain ⟨_, e, hfr⟩ := (fold_local step hs l hl2).frame hrest
        cases e
        refine ⟨fs', rfl, fun s' hs' => ?_⟩
        rcases List.mem_cons.mp hs' with rfl | hs'
        · exact ⟨gs1, hy, fun k hk => (hfr k fun hk' => hdisj k hk' hk).trans (hag k hk)⟩
        · exact hall s' hs'

end MongoModel.Proofs.C02Lemmas
