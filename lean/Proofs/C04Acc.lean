/-
  Proofs.C04Acc — `eval_eq_spec`: `$sum $avg $min $max` as expression operators (the library
  repairs 94aa9ad and 2f66991 brought them inside the fragment): the operator bodies against the
  rules, then the two syntactic forms (`{$op: [operands]}`, `{$op: "$path"}`).
-/
import Proofs.C04SpecOps

set_option linter.unusedSimpArgs false

namespace MongoModel.Proofs.C04
open MongoModel MongoModel.Expr MongoModel.Spec

/-! ### the values the operators range over -/

/-- the numbers `$sum` / `$avg` keep (a missing operand read as null) are the numbers of the
    rules (booleans are not) -/
theorem numsOfNB_nulled (vs : List (Option Val)) : numsOfNB (nulled vs) = numbersOf vs := by
  induction vs with
  | nil => rfl
  | cons v r ih =>
    rw [nulled_cons]
    cases v with
    | none => simp [numsOfNB, toPyNumNB, numbersOf, ih]
    | some x => cases x <;> simp [numsOfNB, toPyNumNB, numbersOf, number, ih]

/-- dropping the nulls after reading missing as null = keeping what is neither -/
theorem present_nulled (vs : List (Option Val)) :
    (nulled vs).filter (fun v => !isNull v) = presentOf vs := by
  induction vs with
  | nil => rfl
  | cons v r ih =>
    have hc : presentOf (v :: r) = (if nullish v then presentOf r else v.getD .null :: presentOf r) := by
      cases v with
      | none => rfl
      | some x => cases x <;> rfl
    rw [nulled_cons, List.filter_cons, isNull_getD, hc, ih]
    cases nullish v <;> rfl

theorem nulled_some (ys : List Val) : nulled (ys.map some) = ys := by
  induction ys with
  | nil => rfl
  | cons y r ih => rw [List.map_cons, nulled_cons, ih]; rfl

theorem presentOf_map_some (xs : List Val) :
    presentOf (xs.map some) = xs.filter (fun v => !isNull v) := by
  rw [← present_nulled, nulled_some]

/-! ### `$min` / `$max`: `bson_compare` is the BSON order wherever no reason applies -/

theorem ordReasons_comm (a b : Val) : ordReasons a b = ordReasons b a := by
  simp only [ordReasons, boolNumClash, Bool.or_comm a.isArr, Bool.or_comm (hasBool a),
    Bool.or_comm (has01 a), Bool.and_comm (hasWideDoc a), Bool.and_comm (cmpFlat a)]
  rfl

/-- `max(values, key=BsonComparable)` / `min(…)` is the first greatest / least value of the BSON
    order -/
theorem extremum_pure (isMax : Bool) (r : List Val) (best : Val)
    (h : pairwiseReasons (best :: r) = []) :
    bsonExtremum isMax r best = .ok (extremumS isMax r best) := by
  induction r generalizing best with
  | nil => rfl
  | cons v r ih =>
    simp only [pairwiseReasons, List.map_cons, List.flatten_cons, List.append_eq_nil_iff] at h
    obtain ⟨⟨hbv, hbr⟩, hvr, hr⟩ := h
    have hbest := ih best (by simp only [pairwiseReasons, List.append_eq_nil_iff]; exact ⟨hbr, hr⟩)
    have hv := ih v (by simp only [pairwiseReasons, List.append_eq_nil_iff]; exact ⟨hvr, hr⟩)
    have h1 := ordReasons_nil best v hbv
    have h2 := ordReasons_nil v best (by rw [ordReasons_comm]; exact hbv)
    cases isMax <;>
      simp only [bsonExtremum, extremumS, bsonCompare_eq, h1, h2, Except.map, CmpOp.holds,
        Bool.false_eq_true, if_false, if_true] <;>
      split <;> assumption

/-! ### the operator bodies -/

/-- `$sum`: the grouping operator on the operand values (a missing one read as null) is what the
    rules define — for every list of values, no hypothesis -/
theorem sum_eq (vs : List (Option Val)) : groupingInExpr "$sum" (nulled vs) = accS "$sum" vs := by
  simp [groupingInExpr, accS, groupingList, numsOfNB_nulled, sumAll_eq]

/-- `$avg` likewise -/
theorem avg_eq (vs : List (Option Val)) : groupingInExpr "$avg" (nulled vs) = accS "$avg" vs := by
  simp only [groupingInExpr, groupingList, accS, numsOfNB_nulled, sumAll_eq,
    show ¬ ("$avg" = "$sum") by simp, if_false, if_true, decide_true, Bool.true_and]
  cases hns : numbersOf vs with
  | nil =>
    have h0 : (PyNum.i 0).roundedByFloat = false := by decide
    simp [sumNums, h0]
  | cons n r =>
    have hlen : (PyNum.f ((r.length : Int) + 1) 0).isZero = false := by
      simp [PyNum.isZero]; omega
    cases hs : sumNums (n :: r) (.i 0) with
    | error e => simp [bind, Except.bind]
    | ok t =>
      cases hr : t.roundedByFloat with
      | true => simp [bind, Except.bind, pyTrueDiv, hr, PyNum.isFloat, hlen]
      | false =>
        have hf : (PyNum.f ((r.length : Int) + 1) 0).roundedByFloat = false := rfl
        simp [bind, Except.bind, pyTrueDiv, hr, hf]

theorem sumavg_eq (k : String) (hk : k = "$sum" ∨ k = "$avg") (vs : List (Option Val)) :
    groupingInExpr k (nulled vs) = accS k vs := by
  rcases hk with rfl | rfl
  · exact sum_eq vs
  · exact avg_eq vs

/-- `$min` / `$max`: likewise wherever no reason applies to a comparison between two of the
    values that are neither null nor missing -/
theorem minmax_eq (k : String) (hk : k = "$min" ∨ k = "$max") (vs : List (Option Val))
    (hr : pairwiseReasons (presentOf vs) = []) : groupingInExpr k (nulled vs) = accS k vs := by
  have hne : ¬ k = "$sum" ∧ ¬ k = "$avg" := by rcases hk with rfl | rfl <;> simp
  have hdec : (decide (k = "$min") || decide (k = "$max")) = true := by simpa using hk
  simp only [groupingInExpr, hne.2, decide_false, Bool.false_and, Bool.false_eq_true, if_false,
    accS, groupingList, hne.1, present_nulled, hdec, if_true]
  cases hp : presentOf vs with
  | nil => rfl
  | cons y r => exact extremum_pure (decide (k = "$max")) r y (hp ▸ hr)

theorem acc_eq (k : String) (hk : k = "$sum" ∨ k = "$avg" ∨ k = "$min" ∨ k = "$max")
    (vs : List (Option Val)) (hr : strictReasons k vs = []) :
    groupingInExpr k (nulled vs) = accS k vs := by
  rcases hk with h | h | h | h
  · exact sumavg_eq k (Or.inl h) vs
  · exact sumavg_eq k (Or.inr h) vs
  all_goals
    refine minmax_eq k (by simp [h]) vs ?_
    subst h
    simpa [strictReasons, arithOps] using hr

theorem acc_pure (k : String) (hk : k = "$sum" ∨ k = "$avg" ∨ k = "$min" ∨ k = "$max")
    (vs : List (Option Val)) (hr : strictReasons k vs = []) (w : Val) (hs : accS k vs = .ok w) :
    groupingInExpr k (nulled vs) = .ok w := by
  rw [acc_eq k hk vs hr, hs]

/-! ### `{$op: [operands]}` -/

theorem accOps_cases (k : String) (h : accOps.contains k = true) :
    k = "$sum" ∨ k = "$avg" ∨ k = "$min" ∨ k = "$max" := by
  simpa [accOps] using h

/-- what `eval` asks of the keys `$sum $avg $min $max` -/
theorem acc_facts (k : String) (hk : k = "$sum" ∨ k = "$avg" ∨ k = "$min" ∨ k = "$max") :
    k ∈ listKeys ∧ k ∈ listFormKeys ∧
      (∀ xs, applyList k xs = (groupingInExpr k xs).map some) ∧
      (∀ ign w, applyWhole ign k (some w) = (groupingOnValue k w).map some) ∧
      (∀ ign, applyWhole ign k none = (groupingInExpr k []).map some) := by
  rcases hk with rfl | rfl | rfl | rfl <;>
    exact ⟨by simp [listKeys], by simp [listFormKeys],
      fun xs => by simp [applyList, binaryArithOps, groupingOps],
      fun ign w => by simp [applyWhole, unaryArithOps, dateOps, datePartOps, groupingOps],
      fun ign => by simp [applyWhole, unaryArithOps, datePartOps, groupingOps]⟩

/-- `{$op: [e₁, …, eₙ]}`: every operand is evaluated (a missing one read as null), then the
    operator ranges over the values; an error of the rules' arithmetic (a sum that is not an exact
    double) is the same error -/
theorem acc_list_eval (c : Ctx) (hign : c.ign = true) (k : String)
    (hk : k = "$sum" ∨ k = "$avg" ∨ k = "$min" ∨ k = "$max")
    (xs : List Val) (vs : List (Option Val)) (h1 : xs.map (eval c) = vs.map .ok)
    (hr : strictReasons k vs = []) :
    eval c (.doc [(k, .arr xs)]) = (accS k vs).map some := by
  obtain ⟨hl, _, happ, _⟩ := acc_facts k hk
  rw [eval_listKey c hign k hl xs vs h1 (arity_free k (by rcases hk with rfl | rfl | rfl | rfl <;> simp) _),
    happ, acc_eq k hk vs hr]

/-! ### `{$op: "$path"}`: one operand that is not written as a list -/

theorem acc_eval_bare (c : Ctx) (k : String)
    (hk : k = "$sum" ∨ k = "$avg" ∨ k = "$min" ∨ k = "$max") (v : Val) (ha : v.isArr = false) :
    eval c (.doc [(k, v)]) = (eval c v).bind (applyWhole c.ign k) := by
  exact eval_listForm_bare c (acc_facts k hk).2.1 v ha

/-- an operand whose value is an array: the operator ranges over its elements -/
theorem acc_bare_eval (c : Ctx) (_ : c.ign = true) (k : String)
    (hk : k = "$sum" ∨ k = "$avg" ∨ k = "$min" ∨ k = "$max") (v : Val) (ha : v.isArr = false)
    (ys : List Val) (h1 : eval c v = .ok (some (.arr ys)))
    (hr : strictReasons k (ys.map some) = []) :
    eval c (.doc [(k, v)]) = (accS k (ys.map some)).map some := by
  have hp := acc_eq k hk (ys.map some) hr
  rw [nulled_some] at hp
  rw [acc_eval_bare c k hk v ha, h1, Except.bind, (acc_facts k hk).2.2.2.1, groupingOnValue, hp]

theorem strictReasons_single (k : String) (hk : k = "$sum" ∨ k = "$avg" ∨ k = "$min" ∨ k = "$max")
    (x : Option Val) : strictReasons k [x] = [] := by
  have : presentOf [x] = [] ∨ ∃ w, presentOf [x] = [w] := by
    rcases x with _ | w
    · exact Or.inl rfl
    · cases w <;> first | exact Or.inl rfl | exact Or.inr ⟨_, rfl⟩
  rcases hk with rfl | rfl | rfl | rfl <;> simp [strictReasons, arithOps] <;>
    rcases this with h | ⟨w, h⟩ <;> simp [h, pairwiseReasons]

/-- an operand whose value is not an array (it used to be iterated over, a TypeError for numbers:
    part of finding `scalararg`): it is the one value the operator ranges over -/
theorem acc_bare_eval_val (c : Ctx) (k : String)
    (hk : k = "$sum" ∨ k = "$avg" ∨ k = "$min" ∨ k = "$max") (v : Val) (ha : v.isArr = false)
    (x : Val) (hx : x.isArr = false) (h1 : eval c v = .ok (some x)) :
    eval c (.doc [(k, v)]) = (accS k [some x]).map some := by
  have hp : groupingInExpr k [x] = accS k [some x] :=
    acc_eq k hk [some x] (strictReasons_single k hk (some x))
  have hfl : (k = "$first" || k = "$last") = false := by
    rcases hk with rfl | rfl | rfl | rfl <;> simp
  have hg : groupingOnValue k x = groupingInExpr k [x] := by
    cases x <;> simp [Val.isArr] at hx <;> simp [groupingOnValue, hfl]
  rw [acc_eval_bare c k hk v ha, h1, Except.bind, (acc_facts k hk).2.2.2.1, hg, hp]

theorem acc_bare_case (c : Ctx) (hign : c.ign = true) (k : String)
    (hk : k = "$sum" ∨ k = "$avg" ∨ k = "$min" ∨ k = "$max") (v : Val) (ha : v.isArr = false)
    (ys : List Val) (h1 : eval c v = .ok (some (.arr ys)))
    (hr : strictReasons k (ys.map some) = []) (w : Val) (hs : accS k (ys.map some) = .ok w) :
    eval c (.doc [(k, v)]) = .ok (some w) := by
  rw [acc_bare_eval c hign k hk v ha ys h1 hr, hs]; rfl

/-- a missing bare operand: there is nothing to accumulate, `$sum` is 0 and the others are null
    (it used to make the whole expression missing: finding `accbaremissing`, repaired by 50b60be) -/
theorem acc_bare_missing (c : Ctx) (k : String)
    (hk : k = "$sum" ∨ k = "$avg" ∨ k = "$min" ∨ k = "$max") (v : Val) (ha : v.isArr = false)
    (h1 : eval c v = .ok none) : eval c (.doc [(k, v)]) = (accBareS k none).map some := by
  have hp : groupingInExpr k [] = accS k [] := acc_eq k hk [] (by
    rcases hk with rfl | rfl | rfl | rfl <;> simp [strictReasons, arithOps, presentOf, pairwiseReasons])
  have : accBareS k none = accS k [] := by
    rcases hk with rfl | rfl | rfl | rfl <;> rfl
  rw [acc_eval_bare c k hk v ha, h1, Except.bind, (acc_facts k hk).2.2.2.2, hp, this]

theorem sumAll_ints (is : List Int) (a : Int) :
    sumAll (is.map PyNum.i) (.i a) = .ok (.i (is.foldl (· + ·) a)) := by
  induction is generalizing a with
  | nil => rfl
  | cons i r ih =>
    simp only [List.map_cons, sumAll, PyNum.add, PyNum.check, bind, Except.bind, List.foldl_cons]
    exact ih (a + i)

theorem numbersOf_ints (is : List Int) :
    numbersOf (is.map (fun i => some (Val.int i))) = is.map PyNum.i := by
  induction is with
  | nil => rfl
  | cons i r ih => simp [numbersOf, number, ih]

end MongoModel.Proofs.C04
