/-
  Proofs.C12Sub — the walk of the projection functions (through documents field by field,
  through arrays item by item) and `proj_sub`: whatever the specification, a projected document
  is ⊑ the input.
-/
import MongoModel.Project
import Spec.ProjectDomain
import Proofs.Basics

namespace MongoModel.Proofs.C12
open MongoModel MongoModel.Spec.Proj

theorem bind_ok {α β : Type} {x : R α} {f : α → R β} {b : β} (h : (x >>= f) = .ok b) :
    ∃ a, x = .ok a ∧ f a = .ok b := MongoModel.bind_ok h

theorem pure_ok {α : Type} {a b : α} (h : (pure a : R α) = .ok b) : a = b :=
  Except.ok.inj h

/-- induction along the walk of `fpVal` / `apVal` / `inclVal` / `exclVal` / `sub`: a document
    field by field, an array item by item, anything else is a leaf -/
theorem walk_ind {P : Val → Prop} {PF : Fields → Prop} {PL : List Val → Prop}
    (doc : ∀ fs, PF fs → P (.doc fs)) (arr : ∀ xs, PL xs → P (.arr xs))
    (leaf : ∀ v, v.isDoc = false → v.isArr = false → P v)
    (fnil : PF []) (fcons : ∀ k v rest, P v → PF rest → PF ((k, v) :: rest))
    (lnil : PL []) (lcons : ∀ x xs, P x → PL xs → PL (x :: xs)) :
    (∀ v, P v) ∧ (∀ fs, PF fs) ∧ ∀ xs, PL xs := by
  have hv : ∀ v, P v := fun v =>
    Val.rec (motive_1 := P) (motive_2 := PF) (motive_3 := PL) (motive_4 := fun p => P p.2)
      (leaf _ rfl rfl) (fun _ => leaf _ rfl rfl) (fun _ => leaf _ rfl rfl)
      (fun _ _ => leaf _ rfl rfl) (fun _ => leaf _ rfl rfl) (fun _ _ => leaf _ rfl rfl)
      (fun _ => leaf _ rfl rfl) doc arr fnil (fun p rest => fcons p.1 p.2 rest)
      lnil lcons (fun _ _ h => h) v
  refine ⟨hv, fun fs => ?_, fun xs => ?_⟩
  · induction fs with
    | nil => exact fnil
    | cons kv rest ih => exact fcons kv.1 kv.2 rest (hv _) ih
  · induction xs with
    | nil => exact lnil
    | cons x xs ih => exact lcons x xs (hv _) ih

theorem fpVal_leaf {v : Val} (hd : v.isDoc = false) (ha : v.isArr = false) (cs : PSpec)
    (incl : Bool) : fpVal v cs incl = .ok (if incl then none else some v) := by
  cases v <;> first | rfl | contradiction

theorem apVal_leaf {v : Val} (hd : v.isDoc = false) (ha : v.isArr = false) (cs : PSpec)
    (incl : Bool) : apVal v cs incl = if incl then none else some v := by
  cases v <;> first | rfl | contradiction

/-- a field goes into the copy with the value `w`, or is left out -/
def keepField (k : String) : Option Val → Fields → Fields
  | some w, r => (k, w) :: r
  | none, r => r

/-- what `_project_by_spec` of collection.py makes of the value `v` of a field whose key the
    specification maps to `t`; `_refuse_positional_projection` runs at the top of the recursive
    call, which only a document or an array reaches -/
def fpField (incl : Bool) (v : Val) : Option PTree → R (Option Val)
  | some (.node sub) => do
    if v.isDoc || v.isArr then positionalGuard sub incl
    fpVal v sub incl
  | some (.leaf _) => .ok (if incl then some v else none)
  | none => .ok (if incl then none else some v)

theorem fpFields_cons (k : String) (v : Val) (rest : Fields) (cs : PSpec) (incl : Bool) :
    fpFields ((k, v) :: rest) cs incl = (do
      let w ← fpField incl v (tget k cs)
      let r ← fpFields rest cs incl
      pure (keepField k w r)) := by
  generalize h : tget k cs = t
  cases v <;> rcases t with _ | ⟨_ | sub⟩ <;> simp only [fpFields, h]
  case doc.some.node | arr.some.node =>
    simp only [fpField, fpVal, Val.isDoc, Val.isArr, Bool.true_or, Bool.or_true, if_true,
      bind_assoc, pure_bind, keepField]
  all_goals cases incl <;> rfl

/-- the same for `_project_by_spec` of aggregate.py, which has no such guard -/
def apField (incl : Bool) (v : Val) : Option PTree → Option Val
  | some (.node sub) => apVal v sub incl
  | some (.leaf _) => if incl then some v else none
  | none => if incl then none else some v

theorem apFields_cons (k : String) (v : Val) (rest : Fields) (cs : PSpec) (incl : Bool) :
    apFields ((k, v) :: rest) cs incl =
      keepField k (apField incl v (tget k cs)) (apFields rest cs incl) := by
  generalize h : tget k cs = t
  cases v <;> rcases t with _ | ⟨_ | _⟩ <;> simp only [apFields, h] <;> cases incl <;> rfl

theorem embedAt_split {p : Val → Bool} {k : List Val → Bool} :
    ∀ {zs : List Val}, embedAt p k zs = true →
      ∃ pre y post, zs = pre ++ y :: post ∧ p y = true ∧ k post = true
  | [], h => by simp [embedAt] at h
  | z :: zs, h => by
    simp only [embedAt, Bool.or_eq_true, Bool.and_eq_true] at h
    rcases h with ⟨h1, h2⟩ | h
    · exact ⟨[], z, zs, rfl, h1, h2⟩
    · obtain ⟨pre, y, post, e, h1, h2⟩ := embedAt_split h
      exact ⟨z :: pre, y, post, by simp [e], h1, h2⟩

theorem subList_skip {xs ys : List Val} (y : Val) (h : subList xs ys = true) :
    subList xs (y :: ys) = true := by
  cases xs with
  | nil => exact subList.eq_1 _
  | cons x xs =>
    simp only [subList] at h ⊢
    simp [embedAt, h]

theorem subList_take {x y : Val} {xs ys : List Val} (h1 : sub x y = true)
    (h2 : subList xs ys = true) : subList (x :: xs) (y :: ys) = true := by
  simp [subList, embedAt, h1, h2]

theorem subList_prepend {xs ys : List Val} (pre : List Val) (h : subList xs ys = true) :
    subList xs (pre ++ ys) = true := by
  induction pre with
  | nil => simpa using h
  | cons a pre ih => exact subList_skip a ih

theorem subList_tail {x : Val} {xs zs : List Val} (h : subList (x :: xs) zs = true) :
    subList xs zs = true := by
  simp only [subList] at h
  obtain ⟨pre, y, post, e, _, h2⟩ := embedAt_split h
  subst e
  exact subList_prepend pre (subList_skip y h2)

/-- a sublist of an embedded list is embedded -/
theorem subList_of_sublist {ys xs : List Val} (hs : ys.Sublist xs) :
    ∀ {zs : List Val}, subList xs zs = true → subList ys zs = true := by
  induction hs with
  | slnil => intro zs _; exact subList.eq_1 _
  | cons a _ ih => intro zs h; exact ih (subList_tail h)
  | cons_cons a _ ih =>
    intro zs h
    simp only [subList] at h
    obtain ⟨pre, y, post, e, h1, h2⟩ := embedAt_split h
    subst e
    exact subList_prepend pre (subList_take h1 (ih h2))

theorem subFields_iff (fs gs : Fields) :
    subFields fs gs = true ↔ ∀ kv ∈ fs, ∃ kw ∈ gs, kw.1 = kv.1 ∧ sub kv.2 kw.2 = true := by
  induction fs with
  | nil => simp [subFields]
  | cons kv r ih =>
    obtain ⟨k, v⟩ := kv
    simp only [subFields, Bool.and_eq_true, ih, List.any_eq_true, beq_iff_eq, List.mem_cons,
      forall_eq_or_imp]

theorem sub_refl_walk : (∀ v, sub v v = true) ∧ (∀ fs : Fields, ∀ kv ∈ fs, sub kv.2 kv.2 = true) ∧
    ∀ xs, subList xs xs = true := by
  refine walk_ind ?_ ?_ ?_ ?_ ?_ ?_ ?_
  · intro fs ih
    simp only [sub]
    exact (subFields_iff fs fs).mpr fun kv hkv => ⟨kv, hkv, rfl, ih kv hkv⟩
  · intro xs ih; simpa only [sub] using ih
  · intro v hd ha
    cases v <;> first | contradiction | simp [sub, Val.beq]
  · exact fun _ h => nomatch h
  · exact fun k v rest hv hr => List.forall_mem_cons.mpr ⟨hv, hr⟩
  · exact subList.eq_1 _
  · exact fun x xs => subList_take

theorem sub_refl : ∀ v : Val, sub v v = true := sub_refl_walk.1

theorem subFields_refl_aux : ∀ (fs : Fields) (kv : String × Val), kv ∈ fs → sub kv.2 kv.2 = true :=
  sub_refl_walk.2.1

theorem subList_refl : ∀ xs : List Val, subList xs xs = true := sub_refl_walk.2.2

/-- `o ⊑ d` on field lists, as a proposition -/
def SubF (o d : Fields) : Prop := ∀ kv ∈ o, ∃ kw ∈ d, kw.1 = kv.1 ∧ sub kv.2 kw.2 = true

theorem subF_refl (d : Fields) : SubF d d := fun kv h => ⟨kv, h, rfl, sub_refl _⟩

theorem subF_nil (d : Fields) : SubF [] d := fun _ h => by simp at h

theorem sub_doc_iff (o d : Fields) : sub (.doc o) (.doc d) = true ↔ SubF o d := by
  simp only [sub]; exact subFields_iff o d

theorem mem_derase {k : String} {kv : String × Val} : ∀ {fs : Fields}, kv ∈ derase k fs → kv ∈ fs :=
  MongoModel.mem_derase

theorem subF_derase {o d : Fields} (k : String) (h : SubF o d) : SubF (derase k o) d :=
  fun kv hkv => h kv (mem_derase hkv)

theorem subF_dset {o d : Fields} {k : String} {v w : Val} (h : SubF o d) (hw : (k, w) ∈ d)
    (hv : sub v w = true) : SubF (dset k v o) d := by
  intro kv hkv
  rcases mem_dset hkv with h' | e
  · exact h kv h'
  · subst e; exact ⟨(k, w), hw, rfl, hv⟩

theorem subF_skip {r rest : Fields} (kv : String × Val) (h : SubF r rest) : SubF r (kv :: rest) :=
  fun x hx => let ⟨kw, hm, e⟩ := h x hx; ⟨kw, List.mem_cons_of_mem _ hm, e⟩

theorem subF_keep {r rest : Fields} {k : String} {v' v : Val} (h : SubF r rest)
    (hv : sub v' v = true) : SubF ((k, v') :: r) ((k, v) :: rest) := by
  intro x hx
  rcases List.mem_cons.mp hx with e | hx
  · subst e; exact ⟨(k, v), by simp, rfl, hv⟩
  · exact subF_skip _ h x hx

/-- **the walk never alters or invents**: what the find-path functions answer is ⊑ the input -/
theorem fp_sub (incl : Bool) :
    (∀ v cs w, fpVal v cs incl = .ok (some w) → sub w v = true) ∧
    (∀ fs cs o, fpFields fs cs incl = .ok o → SubF o fs) ∧
    ∀ xs cs ys, fpList xs cs incl = .ok ys → subList ys xs = true := by
  have same : ∀ {c : Bool} {v w : Val}, (.ok (if c then none else some v) : R (Option Val)) =
      .ok (some w) → sub w v = true := by
    intro c v w h
    cases c
    · cases h; exact sub_refl _
    · cases h
  refine walk_ind ?_ ?_ ?_ ?_ ?_ ?_ ?_
  · intro fs ih cs w h
    simp only [fpVal] at h
    obtain ⟨o, h2, h⟩ := bind_ok h
    cases pure_ok h
    exact (sub_doc_iff _ _).mpr (ih cs o h2)
  · intro xs ih cs w h
    simp only [fpVal] at h
    obtain ⟨o, h2, h⟩ := bind_ok h
    cases pure_ok h
    simpa only [sub] using ih cs o h2
  · intro v hd ha cs w h
    rw [fpVal_leaf hd ha] at h
    exact same h
  · intro cs o h
    cases h; exact subF_nil _
  · intro k v rest hv hr cs o h
    rw [fpFields_cons] at h
    obtain ⟨w, h1, h⟩ := bind_ok h
    obtain ⟨r, h2, h⟩ := bind_ok h
    cases pure_ok h
    cases w with
    | none => exact subF_skip _ (hr cs r h2)
    | some w =>
      refine subF_keep (hr cs r h2) ?_
      rcases ht : tget k cs with _ | ⟨_ | sub⟩ <;> rw [ht] at h1
      · exact same h1
      · cases incl
        · cases h1
        · cases h1; exact sub_refl _
      · simp only [fpField] at h1
        split at h1
        · obtain ⟨_, _, h1⟩ := bind_ok h1
          exact hv sub w h1
        · exact hv sub w h1
  · intro cs ys h
    cases h; exact subList.eq_1 _
  · intro x xs hx hxs cs ys h
    simp only [fpList] at h
    obtain ⟨y, h1, h⟩ := bind_ok h
    obtain ⟨ys', h2, h⟩ := bind_ok h
    cases pure_ok h
    cases y with
    | some y => exact subList_take (hx cs y h1) (hxs cs ys' h2)
    | none => exact subList_skip x (hxs cs ys' h2)

theorem fpVal_sub : ∀ (v : Val) (cs : PSpec) (incl : Bool) (w : Val),
    fpVal v cs incl = .ok (some w) → sub w v = true :=
  fun v cs incl => (fp_sub incl).1 v cs

theorem fpFields_sub (fs : Fields) (cs : PSpec) (incl : Bool) (o : Fields) :
    fpFields fs cs incl = .ok o → SubF o fs :=
  (fp_sub incl).2.1 fs cs o

theorem fpList_sub : ∀ (xs : List Val) (cs : PSpec) (incl : Bool) (ys : List Val),
    fpList xs cs incl = .ok ys → subList ys xs = true :=
  fun xs cs incl => (fp_sub incl).2.2 xs cs

theorem pySlice_sublist (xs : List Val) (a b : Int) : (projSlice xs a b).Sublist xs := by
  unfold projSlice
  exact (List.take_sublist _ _).trans (List.drop_sublist _ _)

theorem slicePairNum_sublist {s l : Val} {xs ys : List Val}
    (h : slicePairNum s l xs = .ok ys) : ys.Sublist xs := by
  unfold slicePairNum at h
  simp only at h
  split at h
  · cases h
  · split at h
    · cases h; exact pySlice_sublist _ _ _
    · split at h
      · split at h
        · cases h; exact pySlice_sublist _ _ _
        · cases h
      · cases h

theorem sliceOp_sublist {sv : Val} {xs ys : List Val} (h : sliceOp sv xs = .ok ys) :
    ys.Sublist xs := by
  unfold sliceOp at h
  split at h
  · split at h
    · cases h
    · cases h
    · split at h
      · cases h; exact pySlice_sublist _ _ _
      · exact slicePairNum_sublist h
  · cases h
  · split at h
    · split at h <;> (cases h; exact pySlice_sublist _ _ _)
    · cases h

theorem firstMatch_mem {q : Val} : ∀ {xs : List Val} {x : Val},
    firstMatch q xs = .ok (some x) → x ∈ xs
  | [], x, h => by simp [firstMatch] at h
  | y :: ys, x, h => by
    simp only [firstMatch] at h
    obtain ⟨b, _, h⟩ := bind_ok h
    cases b
    · simp only [Bool.false_eq_true, if_false] at h
      exact List.mem_cons_of_mem _ (firstMatch_mem h)
    · simp only [if_true] at h
      have := pure_ok h; cases this; simp

/-- replacing the array held by a field of the copy by a sublist of it keeps the copy ⊑ -/
theorem subF_dset_sublist {dc doc : Fields} {field : String} {xs ys : List Val}
    (h : SubF dc doc) (hg : dget field dc = some (.arr xs)) (hs : ys.Sublist xs) :
    SubF (dset field (.arr ys) dc) doc := by
  obtain ⟨kw, hm, hk, hsub⟩ := h _ (dget_mem hg)
  obtain ⟨k', w⟩ := kw
  simp only at hk hsub
  subst hk
  cases w with
  | arr zs =>
    simp only [sub] at hsub
    exact subF_dset h hm (by simp only [sub]; exact subList_of_sublist hs hsub)
  | _ => simp [sub] at hsub

theorem applyOp_sub {doc dc dc' : Fields} {field : String} {op : Fields}
    (h : SubF dc doc) (ho : applyOp doc dc field op = .ok dc') : SubF dc' doc := by
  unfold applyOp at ho
  simp only at ho
  split at ho
  · cases ho; exact h
  · rename_i start dc0 hstart
    have h0 : SubF dc0 doc := by
      split at hstart
      · cases hstart; exact h
      · split at hstart
        · rename_i v hv
          cases hstart
          exact subF_dset h (dget_mem hv) (sub_refl v)
        · cases hstart
    obtain ⟨dc1, h1, ho⟩ := bind_ok ho
    have h1' : SubF dc1 doc := by
      split at h1
      · have := pure_ok h1; subst this; exact h0
      · split at h1
        · rename_i xs hxs
          obtain ⟨ys, hys, h1⟩ := bind_ok h1
          have := pure_ok h1; subst this
          exact subF_dset_sublist h0 hxs (sliceOp_sublist hys)
        · cases h1
    split at ho
    · have := pure_ok ho; subst this; exact h1'
    · split at ho
      · rename_i xs hxs
        obtain ⟨m, hm, ho⟩ := bind_ok ho
        split at ho
        · rename_i item
          have := pure_ok ho; subst this
          exact subF_dset_sublist h1' hxs (List.singleton_sublist.mpr (firstMatch_mem hm))
        · have := pure_ok ho; subst this
          exact subF_derase _ h1'
      · have := pure_ok ho; subst this
        exact subF_derase _ h1'

theorem applyOps_sub {doc : Fields} : ∀ {ops dc dc' : Fields},
    SubF dc doc → applyProjOps doc ops dc = .ok dc' → SubF dc' doc
  | [], dc, dc', h, ho => by cases ho; exact h
  | (field, v) :: r, dc, dc', h, ho => by
    cases v with
    | doc op =>
      obtain ⟨dc1, h1, ho⟩ := bind_ok ho
      exact applyOps_sub (applyOp_sub h h1) ho
    | _ => cases ho

theorem baseCopy_sub {doc plain dc : Fields} {idv : Val} {ka : Bool}
    (h : baseCopy doc plain idv ka = .ok dc) :
    SubF dc doc := by
  unfold baseCopy at h
  obtain ⟨mixed, hm, h⟩ := bind_ok h
  split at h
  · cases h
  · obtain ⟨dc0, hdc, h⟩ := bind_ok h
    have hdc' : SubF dc0 doc := by
      split at hdc
      · have := pure_ok hdc; subst this
        split
        · exact subF_nil _
        · exact subF_refl _
      · obtain ⟨cs, _, hdc⟩ := bind_ok hdc
        obtain ⟨_, _, hdc⟩ := bind_ok hdc
        exact fpFields_sub _ _ _ _ hdc
    have := pure_ok h; subst this
    split
    · exact subF_derase _ hdc'
    · unfold attachId
      split
      · rename_i v hv
        exact subF_dset hdc' (dget_mem hv) (sub_refl v)
      · exact hdc'

theorem copyWithDict_sub {doc fields o : Fields} (h : copyWithDict doc fields = .ok o) :
    SubF o doc := by
  unfold copyWithDict at h
  simp only at h
  obtain ⟨⟨ops, plain⟩, hx, h⟩ := bind_ok h
  simp only at h
  obtain ⟨dc, hdc, h⟩ := bind_ok h
  exact applyOps_sub (baseCopy_sub hdc) h

theorem proj_sub (p d o : Val) (h : copyOnlyFields d p = .ok o) : sub o d = true := by
  have hmap : ∀ {doc fields : Fields}, (copyWithDict doc fields).map Val.doc = .ok o →
      sub o (.doc doc) = true := by
    intro doc fields h
    cases hc : copyWithDict doc fields with
    | error e => rw [hc] at h; cases h
    | ok o' => rw [hc] at h; cases h; exact (sub_doc_iff _ _).mpr (copyWithDict_sub hc)
  unfold copyOnlyFields at h
  split at h
  · split at h
    · cases h; exact sub_refl _
    · cases h; exact sub_refl _
    · cases h; exact sub_refl _
    · exact hmap h
    · obtain ⟨fields, _, h⟩ := bind_ok h
      exact hmap h
    · cases h
  · cases h

end MongoModel.Proofs.C12
