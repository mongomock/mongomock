/-
  Proofs.C02 — the per-operator theorems of Props/C02.lean, under the same names in namespace
  `Proofs.C02`.  The one induction of the file, `$pull` along a dotted path (`pullWalk_spec`),
  comes first, in `C02Lemmas`.
-/
import Spec.StoreInv
import Proofs.C02PosFrame

namespace MongoModel.Proofs.C02Lemmas
open MongoModel MongoModel.Spec

/-- what `pull_path_spec` says of an outcome of the walk -/
def PullSpec (value : Val) (parts : List String) (d : Val) (r : R Val) : Prop :=
  ∀ d', r = .ok d' →
    (∀ xs, getPath parts d = some (.arr xs) →
      ∃ ys, pullList value xs = .ok ys ∧ getPath parts d' = some (.arr ys)) ∧
    ((∀ xs, getPath parts d ≠ some (.arr xs)) → d' = d)

theorem PullSpec.keep {value : Val} {parts : List String} {d : Val}
    (h : ∀ xs, getPath parts d ≠ some (.arr xs)) : PullSpec value parts d (.ok d) := by
  intro d' e
  cases e
  exact ⟨fun xs hx => absurd hx (h xs), fun _ => rfl⟩

theorem PullSpec.lift {value : Val} {p : String} {rest : List String} {d sub : Val}
    {put : Val → Val} {X : R Val} (hi : Into p d sub put) (hX : PullSpec value rest sub X) :
    PullSpec value (p :: rest) d (X >>= fun s => pure (put s)) := by
  intro d' h
  obtain ⟨s, h1, h2⟩ := bind_ok h
  cases h2
  obtain ⟨i1, i2⟩ := hX s h1
  rw [hi.get, hi.put_get]
  exact ⟨i1, fun hn => by rw [i2 hn, hi.self]⟩

theorem pullWalk_spec (value : Val) : ∀ (parts : List String) (d : Val),
    PullSpec value parts d (pullWalk value parts d)
  | [], d => by
    unfold pullWalk
    cases d with
    | arr xs =>
      intro d' h
      obtain ⟨ys, h1, h2⟩ := bind_ok h
      cases h2
      exact ⟨fun xs' hx => by cases hx; exact ⟨ys, h1, rfl⟩, fun hn => absurd rfl (hn xs)⟩
    | _ => exact .keep nofun
  | part :: rest, d => by
    unfold pullWalk
    cases d with
    | doc fs =>
      dsimp only
      cases hg : dget part fs with
      | none => exact .keep fun xs => by rw [getPath_doc, hg]; nofun
      | some sub => exact .lift (.doc hg) (pullWalk_spec value rest sub)
    | arr xs =>
      dsimp only
      cases hi : pyInt? part with
      | none => exact .keep fun xs' => by rw [getPath_arr, hi]; nofun
      | some i =>
        dsimp only
        refine ite_prop _ (fun _ => nofun) fun hneg => ?_
        cases hx : xs[i.toNat]? with
        | none => exact .keep fun xs' => by rw [getPath_arr, hi]; dsimp only; rw [if_neg hneg, hx]; nofun
        | some sub => exact .lift (.arr hi hneg hx) (pullWalk_spec value rest sub)
    | _ => exact .keep nofun
end MongoModel.Proofs.C02Lemmas

namespace MongoModel.Proofs.C02
open MongoModel MongoModel.Spec MongoModel.Proofs.C02Lemmas

theorem set_get (now v : Val) (parts : List String) (d d' : Val) (hp : parts ≠ [])
    (hw : writable parts d = true)
    (h : updateSingleField .set now v parts d = .ok d') : getPath parts d' = some v := by
  obtain ⟨d'', h1, h2⟩ := set_get_total now v parts d hp hw
  rw [h1] at h; cases h; exact h2

theorem set_total (now v : Val) (parts : List String) (d : Val) (hp : parts ≠ [])
    (hw : writable parts d = true) : ∃ d', updateSingleField .set now v parts d = .ok d' := by
  obtain ⟨d', h1, _⟩ := set_get_total now v parts d hp hw
  exact ⟨d', h1⟩

theorem set_pads_with_null (now v : Val) (xs : List Val) (i : Nat) :
    runUpdater .set now (.arr xs) (toString i) v = .ok (.arr (padSet xs i v)) :=
  listIndex_bind i _ _

theorem single_field_frame (u : Updater) (now v : Val) (p : String) (rest : List String)
    (fs fs' : Fields) (h : updateSingleField u now v (p :: rest) (.doc fs) = .ok (.doc fs')) :
    (∀ k, k ≠ p → dget k fs' = dget k fs) ∧
    (dkeys fs').filter (· ≠ p) = (dkeys fs).filter (· ≠ p) := by
  obtain ⟨fs'', e, ht⟩ := (usf_editsKey u now v p rest).touch h
  cases e
  exact ⟨fun k hk => ht.dget hk, ht.keys⟩

theorem unset_removes (now v : Val) (f : String) (fs : Fields) :
    runUpdater .unset now (.doc fs) f v = .ok (.doc (derase f fs)) ∧
    ((dkeys fs).count f ≤ 1 → dget f (derase f fs) = none) ∧
    (∀ k, k ≠ f → dget k (derase f fs) = dget k fs) :=
  ⟨rfl, fun h => dget_derase_self h, fun _ hk => dget_derase_other hk fs⟩

theorem inc_adds (now : Val) (f : String) (fs : Fields) (n k : Int) :
    (dget f fs = some (.int n) → runUpdater .inc now (.doc fs) f (.int k) = .ok (.doc (dset f (.int (n + k)) fs))) ∧
    (dget f fs = none → runUpdater .inc now (.doc fs) f (.int k) = .ok (.doc (dset f (.int k) fs))) :=
  ⟨fun h => by
    show (pyAdd ((dget f fs).getD (.int 0)) (.int k) >>= _) = _
    rw [h]; rfl,
   fun h => by
    show (pyAdd ((dget f fs).getD (.int 0)) (.int k) >>= _) = _
    rw [h]
    show Except.ok (Val.doc (dset f (.int (0 + k)) fs)) = _
    rw [Int.zero_add]⟩

theorem min_max_spec (now : Val) (f : String) (fs : Fields) (n k : Int) (h : dget f fs = some (.int n)) :
    runUpdater .max now (.doc fs) f (.int k) = .ok (.doc (dset f (.int (if k > n then k else n)) fs)) ∧
    runUpdater .min now (.doc fs) f (.int k) = .ok (.doc (dset f (.int (if k < n then k else n)) fs)) :=
  ⟨by
    show (pyMax ((dget f fs).getD (.int k)) (.int k) >>= _) = _
    rw [h]; exact bind_ok_eq (pyMax_int n k),
   by
    show (pyMin ((dget f fs).getD (.int k)) (.int k) >>= _) = _
    rw [h]; exact bind_ok_eq (pyMin_int n k)⟩

theorem pop_spec (now : Val) (f : String) (fs : Fields) (xs : List Val) (h : dget f fs = some (.arr xs)) :
    runUpdater .pop now (.doc fs) f (.int 1) = .ok (.doc (dset f (.arr xs.dropLast) fs)) ∧
    runUpdater .pop now (.doc fs) f (.int (-1)) = .ok (.doc (dset f (.arr (xs.drop 1)) fs)) :=
  ⟨by
    show (match dget f fs with | none => _ | some (.arr xs) => _ | some _ => _) = _
    rw [h]; rfl,
   by
    show (match dget f fs with | none => _ | some (.arr xs) => _ | some _ => _) = _
    rw [h]; rfl⟩

theorem rename_spec (src dst : String) (fs : Fields) (x : Val)
    (hs : src.toList.contains '.' = false) (hd : dst.toList.contains '.' = false)
    (h : dget src fs = some x) :
    renameFields (.doc [(src, .str dst)]) (.doc fs) = .ok (.doc (dset dst x (derase src fs))) :=
  by
  have hs' : ¬ '.' ∈ src.toList := by simpa using hs
  have hd' : ¬ '.' ∈ dst.toList := by simpa using hd
  simp [renameFields, eachField, hs', hd', h, bind, Except.bind, pure, Except.pure]

theorem pySlice_split (xs : List Val) (i : Int) :
    pySlice xs (some 0) (some i) ++ pySlice xs (some i) none = xs := by
  rw [pySlice_prefix, pySlice_suffix, List.take_append_drop]

theorem push_keeps_order (xs es : List Val) (pos : Option Int) :
    ∃ k, k ≤ xs.length ∧ pushValue (.arr xs) (.doc (("$each", .arr es) ::
        (match pos with | some p => [("$position", .int p)] | none => []))) =
      .ok (.arr (xs.take k ++ es ++ xs.drop k)) := by
  cases pos with
  | none =>
    refine ⟨xs.length, Nat.le_refl _, ?_⟩
    rw [List.take_length, List.drop_length, List.append_nil]
    rfl
  | some p =>
    refine ⟨sliceBound xs.length p, sliceBound_le _ _, ?_⟩
    rw [← pySlice_prefix, ← pySlice_suffix]
    rfl

theorem push_position_spec (xs es : List Val) (p : Int) :
    pushValue (.arr xs) (.doc [("$each", .arr es), ("$position", .int p)]) =
      .ok (.arr (pySlice xs (some 0) (some p) ++ es ++ pySlice xs (some p) none)) :=
  rfl

theorem push_appends (xs : List Val) (v : Val) (h : ∀ fs, v = .doc fs → dget "$each" fs = none) :
    pushValue (.arr xs) v = .ok (.arr (xs ++ [v])) := by
  cases v with
  | doc fs => simp [pushValue, h fs rfl]
  | _ => rfl

theorem push_slice_spec (xs es : List Val) (n : Int) :
    pushValue (.arr xs) (.doc [("$each", .arr es), ("$slice", .int n)]) =
      .ok (.arr (if n < 0 then (xs ++ es).drop ((xs ++ es).length - n.natAbs)
                 else (xs ++ es).take n.toNat)) := by
  show Except.ok (Val.arr (if n < 0 then pySlice (xs ++ es) (some n) none
    else if n = 0 then [] else pySlice (xs ++ es) none (some n))) = _
  rw [pySlice_suffix, pySlice_prefix', sliceBound_eq]
  congr 2
  by_cases hn : n < 0
  · rw [if_pos hn, if_pos hn, if_pos hn]
  · rw [if_neg hn, if_neg hn, if_neg hn]
    by_cases h0 : n = 0
    · subst h0; rfl
    · rw [if_neg h0]
      by_cases hl : n.toNat ≤ (xs ++ es).length
      · rw [Nat.min_eq_right hl]
      · rw [Nat.min_eq_left (by omega), List.take_of_length_le (by omega),
          List.take_of_length_le (by omega)]

theorem addToSet_spec (xs es : List Val) (v : Val) (hv : ∀ fs, v = .doc fs → dget "$each" fs = none) :
    addToSetValue (.arr xs) (.doc [("$each", .arr es)]) = .ok (.arr (addAll xs es)) ∧
    addToSetValue (.arr xs) v = .ok (.arr (addOne xs v)) :=
  ⟨congrArg (fun l => Except.ok (Val.arr l)) (addEach_eq xs es), by
    unfold addOne
    cases v with
    | doc fs => simp [addToSetValue, eachWithOtherClause, hv fs rfl]
    | _ => rfl⟩

theorem addToSet_each_once (xs es : List Val) :
    ∃ added, addAll xs es = xs ++ added ∧
      (∀ o ∈ added, o ∈ es ∧ pyIn o xs = false) ∧
      added.Pairwise (fun a b => pyEq a b = false) := by
  obtain ⟨added, h1, h2, h3⟩ := addAll_once xs es [] (by simp) (by simp)
  refine ⟨added, by simpa [addAll] using h1, fun o ho => ?_, h3⟩
  obtain ⟨h4, h5⟩ := h2 o ho
  exact ⟨by simpa using h4, h5⟩

theorem min_max_array_spec (now : Val) (xs : List Val) (i : Nat) :
    (∀ n k : Int, xs[i]? = some (.int n) →
      runUpdater .max now (.arr xs) (toString i) (.int k) =
        .ok (.arr (xs.set i (.int (if k > n then k else n)))) ∧
      runUpdater .min now (.arr xs) (toString i) (.int k) =
        .ok (.arr (xs.set i (.int (if k < n then k else n))))) ∧
    (∀ v : Val, xs[i]? = none →
      runUpdater .max now (.arr xs) (toString i) v = .ok (.arr (padSet xs i v)) ∧
      runUpdater .min now (.arr xs) (toString i) v = .ok (.arr (padSet xs i v))) :=
  ⟨fun n k h =>
    ⟨(listIndex_bind i _ _).trans (by
        simp only [Int.toNat_natCast, h]; exact bind_ok_eq (pyMax_int n k)),
     (listIndex_bind i _ _).trans (by
        simp only [Int.toNat_natCast, h]; exact bind_ok_eq (pyMin_int n k))⟩,
   fun v h =>
    ⟨(listIndex_bind i _ _).trans (by simp only [Int.toNat_natCast, h]; rfl),
     (listIndex_bind i _ _).trans (by simp only [Int.toNat_natCast, h]; rfl)⟩⟩

theorem pull_path_spec (value : Val) (parts : List String) (d d' : Val)
    (h : pullWalk value parts d = .ok d') :
    (∀ xs, getPath parts d = some (.arr xs) →
      ∃ ys, pullList value xs = .ok ys ∧ getPath parts d' = some (.arr ys)) ∧
    ((∀ xs, getPath parts d ≠ some (.arr xs)) → d' = d) :=
  pullWalk_spec value parts d d' h

theorem pullAll_missing_path_noop (spec d : Val) (field : String) (value d' : Val)
    (hm : getPath (splitDots field) d = none)
    (h : pullAllField spec d field value = .ok d') : d' = d := by
  revert d' h
  show Unchanged d _
  unfold pullAllField
  refine ite_prop _ (fun _ => nofun) fun _ => ite_prop _ (fun _ => nofun) fun _ => ?_
  have key : Unchanged d (withSubdoc (pullAllAt value) false (splitDots field) true spec d) := by
    refine withSubdoc_nocreate_missing _ ?_ _ _ _ _ (splitDotsChars_ne_nil _ _) hm
    intro parent last hp
    unfold pullAllAt
    cases parent with
    | doc ps => dsimp only; rw [getPath_single_doc_none hp]; intro d' h; cases h; rfl
    | arr xs =>
      dsimp only
      refine ite_prop _ (fun _ => ?_) fun _ => fun d' h => by cases h; rfl
      rw [getPath] at hp
      cases hi : pyInt? last with
      | none => exact nofun
      | some i =>
        rw [hi] at hp
        dsimp only at hp ⊢
        refine ite_prop _ (fun _ => fun d' h => by cases h; rfl) fun hneg => ?_
        rw [if_neg hneg] at hp
        cases hx : xs[i.toNat]? with
        | none => intro d' h; cases h; rfl
        | some cur => rw [hx] at hp; cases hp
    | _ => intro d' h; cases h; rfl
  -- the model's `match splitDots field, d` reduces only on a path of known shape (and, for one
  -- component, a known `d`); its `[f]`, `.doc` shortcut is `withSubdoc` on `[f]` unfolded, so every
  -- branch is `key`
  cases hs : splitDots field with
  | nil => exact absurd hs (splitDotsChars_ne_nil _ _)
  | cons f t =>
    rw [hs] at key
    cases t with
    | cons q r => exact key
    | nil =>
      cases d with
      | doc fs => exact key
      | _ => exact key

theorem pullAll_spec (xs vs : List Val) :
    pullAllValue (.arr xs) (.arr vs) = .ok (.arr (xs.filter (fun o => !pyIn o vs))) := rfl

theorem pull_spec (v : Val) (xs : List Val) (hv : isScalar v = true) (hx : xs.all isScalar = true) :
    pullList v xs = .ok (xs.filter (fun o => !pyEq v o)) := by
  have h := pull_fold v hv xs xs hx (Nat.le_refl _)
  cases v <;> first | (simp [isScalar] at hv; done) | (simp only [pullList]; rw [h])

theorem replace_spec (doc : Fields) (existing : Fields) (id : Val)
    (hid : dget "_id" existing = some id) (hrefl : pyEq id id = true) (hn : dget "_id" doc = none)
    (hd : doc.all (fun kv => !kv.1.startsWith "$") = true) (hk : (dkeys doc).Nodup) :
    replaceWhole doc (.doc existing) = .ok (.doc (("_id", id) :: doc)) :=
  by
  have hany : doc.any (fun kv => kv.1.startsWith "$") = false := by
    rw [List.any_eq_false]
    intro kv hm
    simpa using List.all_eq_true.mp hd kv hm
  have hfold : doc.foldl (fun acc kv => dset kv.1 kv.2 acc) [("_id", id)] = ("_id", id) :: doc := by
    rw [foldl_dset_fresh doc _ hk]
    · rfl
    · intro k hk' hm
      simp only [dkeys, List.map_cons, List.map_nil, List.mem_singleton] at hm
      subst hm
      exact dget_none_iff.mp hn hk'
  simp only [replaceWhole, hany, Bool.false_eq_true, if_false, hid, hfold]
  simp [dget, hrefl]

theorem untouched_fields (spec now : Val) (wasInsert : Bool) (u : Fields) (fs fs' : Fields)
    (hu : u.all (fun kv => kv.1.startsWith "$") = true) (hne : u ≠ [])
    (h : applyUpdate spec (.doc u) now wasInsert (.doc fs) = .ok (.doc fs')) :
    ∀ k, k ∉ addressed u → dget k fs' = dget k fs := by
  obtain ⟨fs'', e, hf⟩ := applyUpdate_frame spec now wasInsert u fs _ hu hne h
  cases e; exact hf

theorem update_stays_document (spec now : Val) (wasInsert : Bool) (u : Fields) (fs : Fields) (d' : Val)
    (hu : u.all (fun kv => kv.1.startsWith "$") = true) (hne : u ≠ [])
    (h : applyUpdate spec (.doc u) now wasInsert (.doc fs) = .ok d') : ∃ fs', d' = .doc fs' := by
  obtain ⟨fs', e, _⟩ := applyUpdate_frame spec now wasInsert u fs d' hu hne h
  exact ⟨fs', e⟩

theorem single_field_stays_document (u : Updater) (now v : Val) (p : String) (rest : List String)
    (fs : Fields) (d' : Val) (h : updateSingleField u now v (p :: rest) (.doc fs) = .ok d') :
    ∃ fs', d' = .doc fs' := by
  obtain ⟨fs', e, _⟩ := (usf_editsKey u now v p rest).touch h
  exact ⟨fs', e⟩

theorem empty_operator (fs : Fields) (op : String) (hop : updaterKeys.contains op = true)
    (h : dget op fs = some (.doc [])) :
    emptyOperatorCheck { preV5 := true } fs = .error .writeErr ∧
    emptyOperatorCheck { preV5 := false } fs = .ok () := by
  constructor
  · unfold emptyOperatorCheck
    rw [if_pos]
    simp only [Bool.true_and, List.any_eq_true]
    exact ⟨op, by simpa using hop, by simp [h, Val.truthy]⟩
  · simp [emptyOperatorCheck]

end MongoModel.Proofs.C02
