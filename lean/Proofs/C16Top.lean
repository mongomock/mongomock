/-
  Proofs.C16Top — what Props/C16.lean needs besides the step lemmas of Proofs.C16Inv: the invariant
  holds in the world a call starts in (`world_inv`), and the facts that use no invariant — what
  `$sample` and `$out` compute, that the stages of the class `Stage.pure` contain no in-place write
  (hence `$facet` isolation of such sub-pipelines without the per-branch copy), and that a
  `tz_aware` call hands out a rebuild of the working documents.
-/
import Proofs.C16Inv

namespace MongoModel.Proofs.C16
open MongoModel MongoModel.AggHeap

/-- the window of the call starts where the copy of the pipeline ends -/
def base (s : State) : Nat := (deepTmp s.pipe 0).2

theorem dr_pipelineCopy : Dr.pipelineCopy = .deep := rfl

/-- `aggregate` starts in a world that satisfies the invariant: the call's copy of the pipeline
    was allocated first, the window of the working documents starts after it -/
theorem world_inv (s : State) (coll : String) (hp : s.persistent = true) :
    WInv (base s) (s.world Dr coll) ∧ (s.world Dr coll).out = [] := by
  simp only [State.persistent, Bool.and_eq_true] at hp
  refine ⟨?_, rfl⟩
  simp only [State.world, dr_source, dr_pipelineCopy, Copy.run, base]
  rw [runL_deep_eq]
  have hc := deepTmpL_win (b := (deepTmp s.pipe 0).2) (getColl coll s.colls) (deepTmp s.pipe 0).2
    (Nat.le_refl _)
  exact ⟨hc.1, hc.2, rfl, allColls_iff.mpr fun nl hnl => List.all_eq_true.mp hp.1 nl hnl,
    all_mono (notTmp_below _) _ hp.2, all_mono inR_below _ (deepTmp_inR s.pipe 0).2, rfl⟩

theorem pick_perm (l : List HV) {a b : List Nat} (h : a.Perm b) : (pick l a).Perm (pick l b) := by
  induction h with
  | nil => exact List.Perm.refl _
  | cons x _ ih =>
    cases h1 : l[x]? <;> simp only [pick, h1]
    · exact ih
    · exact ih.cons _
  | swap x y l' =>
    cases h1 : l[x]? <;> cases h2 : l[y]? <;> simp only [pick, h1, h2] <;>
      first | exact List.Perm.refl _ | exact List.Perm.swap _ _ _
  | trans _ _ ih1 ih2 => exact ih1.trans ih2

theorem pick_range' : ∀ (l pre : List HV), pick (pre ++ l) (List.range' pre.length l.length) = l
  | [], pre => by simp [pick]
  | x :: r, pre => by
    have hx : (pre ++ x :: r)[pre.length]? = some x := by simp
    have ih := pick_range' r (pre ++ [x])
    simp only [List.append_assoc, List.singleton_append, List.length_append, List.length_singleton] at ih
    simp only [List.length_cons, List.range'_succ, pick, hx, ih]

theorem pick_range (l : List HV) : pick l (List.range l.length) = l := by
  have := pick_range' l []
  simpa [List.range_eq_range'] using this

/-- `a` is a sub-multiset of `b`: a sub-list of a rearrangement of `b` -/
def SubMultiset {α : Type} (a b : List α) : Prop := ∃ l : List α, l.Perm b ∧ a.Sublist l

theorem runStages_append (D : Disc) (sem : Sem) : ∀ (a c : List Stage) (w : World),
    runStages D sem w (a ++ c) = (runStages D sem w a).bind (fun w1 => runStages D sem w1 c)
  | [], c, w => by simp [runStages, Except.bind]
  | s :: a, c, w => by
    simp only [List.cons_append, runStages]
    cases runStage D sem w s with
    | error e => simp [Except.bind]
    | ok w1 => simp only [runStages_append D sem a c w1]

mutual
  theorem deepSt_toVal : ∀ (v : HV) (n : Nat), (deepSt v n).1.toVal = v.toVal
    | .atom _, _ => by simp [deepSt]
    | .node _ true kids, n => by
      simp only [deepSt, HV.toVal]; rw [(deepStKids_toVal kids (n + 1)).1]
    | .node _ false kids, n => by
      simp only [deepSt, HV.toVal]; rw [(deepStKids_toVal kids (n + 1)).2]
  theorem deepStKids_toVal : ∀ (ks : Kids) (n : Nat),
      toFields (deepStKids ks n).1 = toFields ks ∧ toList (deepStKids ks n).1 = toList ks
    | [], _ => by simp [deepStKids]
    | (k, v) :: r, n => by
      simp only [deepStKids, toFields, toList]
      rw [deepSt_toVal v n, (deepStKids_toVal r _).1, (deepStKids_toVal r _).2]
      exact ⟨rfl, rfl⟩
end

theorem toVals_eq : ∀ l : List HV, toVals l = l.map HV.toVal
  | [] => rfl
  | x :: r => by rw [toVals, toVals_eq r, List.map_cons]

theorem getColl_setColl_same (t : String) (docs : List HV) : ∀ c : List (String × List HV),
    getColl t (setColl t docs c) = docs
  | [] => by simp [setColl, getColl]
  | (n, l) :: r => by
    simp only [setColl]
    split
    · next h => simp [getColl, h]
    · next h => simp [getColl, h, getColl_setColl_same t docs r]

theorem getColl_setColl_other (t x : String) (docs : List HV) (hx : x ≠ t) :
    ∀ c : List (String × List HV), getColl x (setColl t docs c) = getColl x c
  | [] => by simp [setColl, getColl, Ne.symm hx]
  | (n, l) :: r => by
    simp only [setColl]
    split
    · next h => subst h; simp [getColl, Ne.symm hx]
    · next h =>
      simp only [getColl]
      split
      · rfl
      · exact getColl_setColl_other t x docs hx r

theorem dr_outStores : Dr.outStores = .deep := rfl

theorem outInsert_haveId (sem : Sem) (target : String) :
    ∀ (fuel : Nat) (w : World) (j : Nat) (w' : World), allHaveId w.work = true →
      w.work.length ≤ fuel + j → outInsert Dr sem target w fuel j = (w', none) →
      w'.work = w.work ∧ (∀ c, c ≠ target → getColl c w'.colls = getColl c w.colls) ∧
      toVals (getColl target w'.colls) = toVals (getColl target w.colls) ++ toVals (w.work.drop j) := by
  intro fuel
  induction fuel with
  | zero =>
    intro w j w' _ hl hs
    cases hs
    simp [List.drop_eq_nil_of_le (show w.work.length ≤ j by omega), toVals]
  | succ fuel ih =>
    intro w j w' ha hl hs
    unfold outInsert at hs
    split at hs
    · next hn =>
      cases hs
      simp [List.drop_eq_nil_of_le (List.getElem?_eq_none_iff.mp hn), toVals]
    · next doc hd =>
      have hdoc : doc.hasId = true := List.all_eq_true.mp ha doc (List.mem_of_getElem? hd)
      split at hs
      · next id kids =>
        simp only [HV.hasId] at hdoc
        simp only [hdoc, if_true, hd, dr_outStores] at hs
        split at hs
        · cases hs
        · have ih := (ih _ (j + 1) w' · · hs) ha (by simp only; omega)
          obtain ⟨hj, hx⟩ := List.getElem?_eq_some_iff.mp hd
          refine ⟨ih.1, fun c hc => ?_, ?_⟩
          · rw [ih.2.1 c hc]; exact getColl_setColl_other target c _ hc _
          · rw [ih.2.2, List.drop_eq_getElem_cons hj, hx]
            simp [getColl_setColl_same, toVals_eq, deepSt_toVal]
      · cases hs

/-- **`$out`** on documents that carry their `_id`: the target collection holds exactly the
    stage's input (as values, in order), every other collection is untouched, and the stage hands
    its input on — the same objects -/
theorem outStage_replaces (sem : Sem) (target : String) (w w' : World)
    (ha : allHaveId w.work = true) (hs : outStage Dr sem target w = .ok w') :
    w'.work = w.work ∧ toVals (getColl target w'.colls) = toVals w.work ∧
      ∀ c, c ≠ target → getColl c w'.colls = getColl c w.colls := by
  simp only [outStage] at hs
  split at hs <;> cases hs
  next he =>
    simp only [outStageW] at he
    split at he
    · next hemp =>
      have h := outInsert_haveId sem target _ w 0 w' ha (by omega) he
      exact ⟨h.1, by rw [h.2.2, List.isEmpty_iff.mp hemp]; simp [toVals], h.2.1⟩
    · have h := outInsert_haveId sem target _
        { w with colls := setColl target [] w.colls, idx := dropIdx target w.idx } 0 w' ha
        (by simp only; omega) he
      exact ⟨h.1, by rw [h.2.2]; simp [getColl_setColl_same, toVals],
        fun c hc => by rw [h.2.1 c hc]; exact getColl_setColl_other target c [] hc _⟩

theorem aggregateStages_out_split (sem : Sem) (s : State) (coll target : String) (pre : List Stage)
    (w' : World) (h : aggregateStages Dr sem s coll (pre ++ [.out target]) = .ok w') :
    ∃ w, aggregateStages Dr sem s coll pre = .ok w ∧ outStage Dr sem target w = .ok w' := by
  simp only [aggregateStages] at h ⊢
  rw [runStages_append] at h
  cases h1 : runStages Dr sem (s.world Dr coll) pre with
  | error e => simp [h1, Except.bind] at h
  | ok w1 =>
    simp only [h1, Except.bind, runStages, runStage] at h
    refine ⟨w1, rfl, ?_⟩
    split at h
    · next w2 h2 => cases h; exact h2
    · cases h

/-! ### stages that write into nothing that was there before

  No invariant is needed here: these stages contain no in-place write at all, so EVERYTHING the
  world keeps alive — collections, catalog, the caller's pipeline object, and every list on the
  stack, in particular the stage's own input when the caller keeps it — is literally unchanged.
  The two facts about the discipline this rests on: `$sample` does not pop (`samplePops = false`)
  and `$addFields` copies every level of a dotted name (`addFieldsNested = .shallow`). -/

/-- only the list under construction and the counter differ -/
def OnlyOut (w w' : World) : Prop := Same w w' ∧ w'.work = w.work

theorem OnlyOut.refl (w : World) : OnlyOut w w := ⟨Same.rfl' w, rfl⟩

theorem OnlyOut.bump (w : World) (n : Nat) : OnlyOut w { w with nextTmp := n } :=
  ⟨⟨rfl, rfl, rfl, rfl, rfl, rfl⟩, rfl⟩

theorem OnlyOut.trans {a b c : World} (h1 : OnlyOut a b) (h2 : OnlyOut b c) : OnlyOut a c :=
  ⟨h1.1.trans h2.1, h2.2.trans h1.2⟩

theorem setOut_same (D : Disc) (h2 : D.addFieldsNested = .shallow) (w : World) (j : Nat)
    (path : List String) (v : HV) (w' : World) (hs : setOut D w j path v = .ok w') :
    OnlyOut w w' := by
  simp only [setOut, h2] at hs
  split at hs <;> cases hs
  · exact ⟨⟨rfl, rfl, rfl, rfl, rfl, rfl⟩, rfl⟩
  · exact .refl w

theorem addField_same (D : Disc) (h2 : D.addFieldsNested = .shallow) (path : List String) (e : AExpr) :
    ∀ (fuel : Nat) (w : World) (j : Nat) (w' : World),
      addField D w path e fuel j = .ok w' → OnlyOut w w' := by
  intro fuel
  induction fuel with
  | zero => intro w j w' hs; cases hs; exact .refl w
  | succ fuel ih =>
    intro w j w' hs
    unfold addField at hs
    split at hs
    · cases hs; exact .refl w
    · split at hs
      · cases hs
      · exact (OnlyOut.bump w _).trans (ih _ (j + 1) w' hs)
      · split at hs
        · next w1 hso =>
          exact (OnlyOut.bump w _).trans
            ((setOut_same D h2 _ j path _ w1 hso).trans (ih w1 (j + 1) w' hs))
        · cases hs

theorem addFieldsAll_same (D : Disc) (h2 : D.addFieldsNested = .shallow) :
    ∀ (fields : List (String × AExpr)) (w w' : World),
      addFieldsAll D w fields = .ok w' → OnlyOut w w' := by
  intro fields
  induction fields with
  | nil => intro w w' hs; cases hs; exact .refl w
  | cons fe r ih =>
    intro w w' hs
    unfold addFieldsAll at hs
    split at hs
    · next w1 h1 => exact (addField_same D h2 (splitDots fe.1) fe.2 _ w 0 w1 h1).trans (ih w1 w' hs)
    · cases hs

/-- **a stage of the class `Stage.pure` performs no in-place write**: in ANY world, whatever it
    holds and whoever shares objects with the documents the stage is handed.  Every stage of the
    class but `$addFields` returns the world with another working list and counter. -/
theorem runStage_pure_same (D : Disc) (h1 : D.samplePops = false) (h2 : D.addFieldsNested = .shallow)
    (sem : Sem) : ∀ (st : Stage) (w w' : World), st.pure = true → runStage D sem w st = .ok w' →
      Same w w' ∧ (w.out = [] → w'.out = []) := by
  intro st w w' hp hs
  cases st with
  | sample loc =>
    obtain ⟨_, _, _, _, _, rfl⟩ := sampleStage_ok h1 hs
    exact ⟨⟨rfl, rfl, rfl, rfl, rfl, rfl⟩, id⟩
  | addFields fields =>
    simp only [runStage] at hs
    split at hs
    · cases hs
    · split at hs <;> cases hs
      next w1 ha =>
        have s1 := (addFieldsAll_same D h2 fields _ w1 ha).1
        -- the stage returns `{ w1 with work := w1.out, out := [] }`: fields `Same` does not read
        exact ⟨⟨s1.colls, s1.idx, s1.pipe, s1.cpipe, s1.stack, s1.nextSt⟩, fun _ => rfl⟩
  | unwind key preserve idx =>
    unfold runStage at hs
    split at hs
    · cases hs
    · split at hs
      · cases hs
      · split at hs <;> cases hs
        exact ⟨⟨rfl, rfl, rfl, rfl, rfl, rfl⟩, id⟩
  | select | project | replaceRoot | count =>
    unfold runStage at hs
    split at hs <;> cases hs <;> exact ⟨⟨rfl, rfl, rfl, rfl, rfl, rfl⟩, id⟩
  | lookup | facet | out | fail => cases hp

theorem runStages_pure_same (D : Disc) (h1 : D.samplePops = false) (h2 : D.addFieldsNested = .shallow)
    (sem : Sem) : ∀ (ss : List Stage) (w w' : World), pureStages ss = true →
      runStages D sem w ss = .ok w' → Same w w' ∧ (w.out = [] → w'.out = []) := by
  intro ss
  induction ss with
  | nil => intro w w' _ hs; cases hs; exact ⟨Same.rfl' w, id⟩
  | cons st r ih =>
    intro w w' hp hs
    simp only [pureStages, List.all_cons, Bool.and_eq_true] at hp
    unfold runStages at hs
    split at hs
    · next w1 hw1 =>
      have s1 := runStage_pure_same D h1 h2 sem st w w1 hp.1 hw1
      have s2 := ih w1 w' hp.2 hs
      exact ⟨s1.1.trans s2.1, fun ho => s2.2 (s1.2 ho)⟩
    · cases hs

/-! ### `$facet` WITHOUT the per-branch copy, for sub-pipelines of non-writing stages -/

/-- `br` run alone on the list `input` ITSELF (the very objects the stage was handed), against
    the collections, catalog and pipeline object of `w` -/
def BranchShared (D : Disc) (sem : Sem) (w : World) (input : List HV) (br : String × List Stage)
    (o : List HV) : Prop :=
  ∃ (n : Nat) (stk : List (List HV)) (ws' : World),
    runStages D sem { colls := w.colls, idx := w.idx, pipe := w.pipe, cpipe := w.cpipe, stack := stk,
                      work := input, out := [], nextTmp := n, nextSt := w.nextSt } br.2 = .ok ws' ∧
      o = ws'.work

theorem BranchShared.congr {D : Disc} {sem : Sem} {w v : World} {input : List HV}
    {br : String × List Stage} {o : List HV} (hc : v.colls = w.colls) (hi : v.idx = w.idx)
    (hp : v.pipe = w.pipe) (hq : v.cpipe = w.cpipe) (hn : v.nextSt = w.nextSt)
    (h : BranchShared D sem v input br o) : BranchShared D sem w input br o := by
  obtain ⟨n, stk, ws', h1, h2⟩ := h
  rw [hc, hi, hp, hq, hn] at h1
  exact ⟨n, stk, ws', h1, h2⟩

/-- under a discipline that hands ONE list to all sub-pipelines, sub-pipelines of non-writing
    stages still all see the stage's input as it was: nobody writes into it -/
theorem runBranches_shared_iso (D : Disc) (h1 : D.samplePops = false)
    (h2 : D.addFieldsNested = .shallow) (h3 : D.facetSharesInput = true) (sem : Sem) :
    ∀ (bs : List (String × List Stage)) (w w' : World) (input : List HV) (rest : List (List HV)),
      w.out = [] → w.stack = input :: rest → pureBranches bs = true →
      runBranches D sem w bs = .ok w' →
      (w'.colls = w.colls ∧ w'.idx = w.idx ∧ w'.pipe = w.pipe ∧ w'.cpipe = w.cpipe ∧
        w'.nextSt = w.nextSt ∧ w'.out = []) ∧
      ∃ outs : List (List HV), w'.stack = input :: (outs ++ rest) ∧ outs.length = bs.length ∧
        All2 (BranchShared D sem w input) bs outs.reverse := by
  intro bs
  induction bs with
  | nil =>
    intro w w' input rest ho hstk _ hs
    cases hs
    exact ⟨⟨rfl, rfl, rfl, rfl, rfl, ho⟩, [], hstk, rfl, All2.nil⟩
  | cons tsub r ih =>
    intro w w' input rest ho hstk hp hs
    obtain ⟨t, sub⟩ := tsub
    simp only [pureBranches, List.all_cons, Bool.and_eq_true] at hp
    simp only [runBranches, hstk, h3, Bool.not_true, Bool.false_and, Bool.false_eq_true, if_false,
      if_true] at hs
    split at hs
    · next w1 hw1 =>
      have s1 := runStages_pure_same D h1 h2 sem sub _ w1 hp.1 hw1
      have hst1 : w1.stack = input :: rest := s1.1.stack
      rw [hst1] at hs
      simp only at hs
      have ih := ih { w1 with stack := input :: w1.work :: rest } w' input (w1.work :: rest)
        (s1.2 ho) rfl hp.2 hs
      obtain ⟨⟨ic, ii, ip, iq, in_, io⟩, outs, hstk2, hlen, hall⟩ := ih
      refine ⟨⟨ic.trans s1.1.colls, ii.trans s1.1.idx, ip.trans s1.1.pipe, iq.trans s1.1.cpipe,
        in_.trans s1.1.nextSt, io⟩,
        outs ++ [w1.work], by rw [hstk2]; simp, by simp [hlen], ?_⟩
      rw [List.reverse_append]
      simp only [List.reverse_cons, List.reverse_nil, List.nil_append, List.singleton_append]
      refine All2.cons ?_ (All2.imp (fun a b hab => ?_) hall)
      · rw [ho] at hw1
        exact ⟨w.nextTmp, input :: rest, w1, hw1, rfl⟩
      · exact BranchShared.congr (w := w) s1.1.colls s1.1.idx s1.1.pipe s1.1.cpipe s1.1.nextSt hab
    · cases hs

/-- **`$facet` isolation by the stages' own discipline**: when every sub-pipeline consists of
    non-writing stages, the outputs are those of the sub-pipelines run alone on the stage's input
    itself — even under a discipline that hands all of them the same list — and the stage as a
    whole has written into nothing -/
theorem facet_shared_isolated_stage (D : Disc) (h1 : D.samplePops = false)
    (h2 : D.addFieldsNested = .shallow) (h3 : D.facetSharesInput = true) (sem : Sem) (w w' : World)
    (bs : List (String × List Stage)) (ho : w.out = []) (hp : pureBranches bs = true)
    (hs : runStage D sem w (.facet bs) = .ok w') :
    Same w w' ∧ ∃ (n : Nat) (outs : List (List HV)), w'.work = [facetDoc n (bs.map (·.1)) outs] ∧
      All2 (BranchShared D sem w w.work) bs outs := by
  unfold runStage at hs
  split at hs
  · next w2 hr =>
    cases hs
    have iso := runBranches_shared_iso D h1 h2 h3 sem bs { w with stack := w.work :: w.stack } w2
      w.work w.stack ho rfl hp hr
    obtain ⟨⟨ic, ii, ip, iq, in_, _⟩, outs, hstk, hlen, hall⟩ := iso
    have hdrop : w2.stack.drop (1 + bs.length) = w.stack := by
      rw [hstk, ← hlen, Nat.add_comm]; simp
    have htake : (w2.stack.drop 1).take bs.length = outs := by
      rw [hstk, ← hlen]; simp
    refine ⟨⟨ic, ii, ip, iq, hdrop, in_⟩, w2.nextTmp, _, rfl, ?_⟩
    rw [htake]
    exact All2.imp (fun a b hab => BranchShared.congr (w := w) rfl rfl rfl rfl rfl hab) hall
  · cases hs

theorem dr_resultCopy : Dr.resultCopy = .deep := rfl

theorem deepTmpL_toVals : ∀ (l : List HV) (n : Nat), toVals (deepTmpL l n).1 = toVals l
  | [], _ => by simp [deepTmpL, toVals]
  | v :: r, n => by simp [deepTmpL, toVals, deepTmp_toVal, deepTmpL_toVals r]

/-- the documents a `tz_aware` call hands out are made of objects allocated after every stage
    has finished — in ANY world — and equal the working documents as values -/
theorem handOut_tz (w : World) :
    allL (inR w.nextTmp (deepTmpL w.work w.nextTmp).2) (handOut Dr true w) = true ∧
    toVals (handOut Dr true w) = toVals w.work := by
  simp only [handOut, dr_resultCopy, if_true]
  rw [runL_deep_eq]
  exact ⟨(deepTmpL_win (b := w.nextTmp) w.work w.nextTmp (Nat.le_refl _)).2, deepTmpL_toVals _ _⟩

/-- the state a call leaves does not depend on `tz_aware` -/
theorem aggregateTz_state (D : Disc) (sem : Sem) (tz : Bool) (s s' : State) (coll : String)
    (out : List HV) (h : aggregateTz D sem tz s coll = .ok (out, s')) :
    ∃ w, aggregateStages D sem s coll (parsePipe s.pipe) = .ok w ∧ out = handOut D tz w ∧
      s' = w.state ∧ aggregate D sem s coll = .ok (w.work, s') := by
  simp only [aggregateTz] at h
  split at h
  · next w hw =>
    cases h
    exact ⟨w, hw, rfl, rfl, by simp [aggregate, aggregateStages, hw]⟩
  · cases h

end MongoModel.Proofs.C16
