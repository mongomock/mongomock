/-
  Proofs.C07Step — the bound `cnt a out ≤ cnt a in + ind n n' a` of Proofs.C07Heap, carried from
  single copies to each function `step` is made of.  Taking a sub-value, keeping children, deleting
  and scribbling only lower counts; a template or an edit whose travelling values are copied adds
  fresh identities only (`Cons`, `evalTpl_copied`), and one that may take the caller's own objects
  uncopied adds, outside what the caller holds, fresh identities only (`evalTpl_detached`).
-/
import Proofs.C07Heap

namespace MongoModel.Proofs.C07
open MongoModel MongoModel.Heap

theorem cntK_set (a : Nat) : ∀ (kids : Kids) (i : Nat) (kv : String × HVal) (k : String) (v' : HVal),
    kids[i]? = some kv → cntK a (kids.set i (k, v')) + cnt a kv.2 = cntK a kids + cnt a v' := by
  intro kids
  induction kids with
  | nil => intro i kv k v' h; simp at h
  | cons hd tl ih =>
    intro i kv k v' h
    cases i with
    | zero => simp at h; subst h; simp only [List.set_cons_zero]; rw [cntK_cons, cntK_cons']; omega
    | succ j =>
      simp at h
      simp only [List.set_cons_succ]
      rw [cntK_cons', cntK_cons']
      have := ih j kv k v' h
      omega

theorem cntL_set (a : Nat) : ∀ (l : List HVal) (i : Nat) (d d' : HVal),
    l[i]? = some d → cntL a (l.set i d') + cnt a d = cntL a l + cnt a d' := by
  intro l
  induction l with
  | nil => intro i d d' h; simp at h
  | cons hd tl ih =>
    intro i d d' h
    cases i with
    | zero => simp at h; subst h; simp only [List.set_cons_zero, cntL_cons]; omega
    | succ j =>
      simp at h
      simp only [List.set_cons_succ, cntL_cons]
      have := ih j d d' h
      omega

theorem cntK_get {a : Nat} (kids : Kids) (i : Nat) (kv : String × HVal) (h : kids[i]? = some kv) :
    cnt a kv.2 ≤ cntK a kids := by
  -- set the entry to a scalar, which counts 0: `cntK_set` then bounds the old entry by the whole
  have := cntK_set a kids i kv "" (.atom .null) h
  rw [cnt_atom] at this; omega

theorem cntL_get {a : Nat} (l : List HVal) (i : Nat) (v : HVal) (h : l[i]? = some v) :
    cnt a v ≤ cntL a l := by
  have := cntL_set a l i v (.atom .null) h
  rw [cnt_atom] at this; omega

/-- two different positions of a list hold disjoint shares of the multiplicity -/
theorem cntL_two (a : Nat) (l : List HVal) (i j : Nat) (x y : HVal) (hne : i ≠ j)
    (hx : l[i]? = some x) (hy : l[j]? = some y) : cnt a x + cnt a y ≤ cntL a l := by
  -- the same device: with entry `i` set to a scalar, entry `j` is still there
  have h1 := cntL_set a l i x (.atom .null) hx
  have h2 := cntL_get (a := a) (l.set i (.atom .null)) j y (by rw [List.getElem?_set_ne hne]; exact hy)
  rw [cnt_atom] at h1; omega

theorem subAt_sub (a : Nat) : ∀ (p : List Nat) (v : HVal), cnt a (subAt p v) ≤ cnt a v := by
  intro p
  induction p with
  | nil => intro v; simp [subAt]
  | cons i p ih =>
    intro v
    cases v with
    | atom x => simp [subAt]
    | node id d kids =>
      simp only [subAt]
      cases h : kids[i]? with
      | none => simp
      | some kv =>
        simp only []
        have h1 := ih kv.2
        have h2 := cntK_get (a := a) kids i kv h
        rw [cnt_node]; omega

theorem getAt_sub (a : Nat) (l : List HVal) (i : Nat) (p : List Nat) :
    cnt a (getAt l i p) ≤ cntL a l := by
  unfold getAt
  cases h : l[i]? with
  | none => simp
  | some v =>
    simp only []
    have h1 := subAt_sub a p v
    have h2 := cntL_get (a := a) l i v h
    omega

theorem evalTpl_mono (T : Table) (e : Env) :
    (∀ t n, n ≤ (evalTpl T e t n).2) ∧ (∀ ks n, n ≤ (evalTplKids T e ks n).2) := by
  apply Tpl.ind2
  · exact fun v n => Nat.le_refl n
  · exact fun pos src n => chain_mono _ _ _
  · intro d kids ih n; have := ih (n + 1); simp only [evalTpl]; omega
  · exact fun n => Nat.le_refl n
  · intro k t r iht ihr n
    exact Nat.le_trans (iht n) (ihr _)

/-- a copied template (every travelling value deep-copied or a scalar) yields fresh identities
    only, each once -/
theorem evalTpl_copied (T : Table) (e : Env) :
    (∀ t, Tpl.copied T e t = true → ∀ n a,
        cnt a (evalTpl T e t n).1 ≤ ind n (evalTpl T e t n).2 a) ∧
    (∀ ks, Tpl.copiedKids T e ks = true → ∀ n a,
        cntK a (evalTplKids T e ks n).1 ≤ ind n (evalTplKids T e ks n).2 a) := by
  apply Tpl.ind2
  · intro v _ n a; simp [evalTpl]
  · intro pos src h n a
    simp only [Tpl.copied, Bool.or_eq_true] at h
    simp only [evalTpl]
    rcases h with h | h
    · exact chain_deep _ h _ _ a
    · cases hs : src.get e with
      | atom x => simp [chain_atom]
      | node id d kids => simp [hs, HVal.isAtom] at h
  · intro d kids ih h n a
    simp only [evalTpl, cnt_node, ind_single]
    have := ih h (n + 1) a
    have := ind_split a (Nat.le_add_right n 1) ((evalTpl_mono T e).2 kids (n + 1))
    omega
  · intro _ n a; simp [evalTplKids]
  · intro k t r iht ihr h n a
    simp only [Tpl.copiedKids, Bool.and_eq_true] at h
    simp only [evalTplKids, cntK_cons]
    have := iht h.1 n a
    have := ihr h.2 (evalTpl T e t n).2 a
    have := ind_split a ((evalTpl_mono T e).1 t n) ((evalTpl_mono T e).2 r (evalTpl T e t n).2)
    omega

/-- a detached template (nothing uncopied out of the store or a cache, no temporary) yields
    identities that are fresh or belong to objects the caller holds already -/
theorem evalTpl_detached (T : Table) (e : Env) :
    (∀ t, Tpl.detached T e t = true → Tpl.noTemp t = true → ∀ n a, cntL a e.held = 0 →
        cnt a (evalTpl T e t n).1 ≤ ind n (evalTpl T e t n).2 a) ∧
    (∀ ks, Tpl.detachedKids T e ks = true → Tpl.noTempKids ks = true → ∀ n a, cntL a e.held = 0 →
        cntK a (evalTplKids T e ks n).1 ≤ ind n (evalTplKids T e ks n).2 a) := by
  apply Tpl.ind2
  · intro v _ _ n a _; simp [evalTpl]
  · intro pos src h hn n a ha
    simp only [Tpl.detached, Bool.or_eq_true] at h
    simp only [evalTpl]
    rcases h with (h | h) | h
    · exact chain_deep _ h (src.get e) n a
    · cases hs : src.get e with
      | atom x => simp [chain_atom]
      | node id d kids => simp [hs, HVal.isAtom] at h
    · cases src with
      | store i p => simp [Src.fromLib] at h
      | cache i p => simp [Src.fromLib] at h
      | temp i p => simp [Tpl.noTemp] at hn
      | held i p =>
        have h1 := chain_sub (T.disc pos) (Src.get e (.held i p)) n a
        have h2 : cnt a (Src.get e (.held i p)) ≤ cntL a e.held := getAt_sub a e.held i p
        omega
  · intro d kids ih h hn n a ha
    simp only [evalTpl, cnt_node, ind_single]
    have := ih h hn (n + 1) a ha
    have := ind_split a (Nat.le_add_right n 1) ((evalTpl_mono T e).2 kids (n + 1))
    omega
  · intro _ _ n a _; simp [evalTplKids]
  · intro k t r iht ihr h hn n a ha
    simp only [Tpl.detachedKids, Bool.and_eq_true] at h
    simp only [Tpl.noTempKids, Bool.and_eq_true] at hn
    simp only [evalTplKids, cntK_cons]
    have := iht h.1 hn.1 n a ha
    have := ihr h.2 hn.2 (evalTpl T e t n).2 a ha
    have := ind_split a ((evalTpl_mono T e).1 t n) ((evalTpl_mono T e).2 r (evalTpl T e t n).2)
    omega

theorem keepKids_sub (a : Nat) : ∀ (kids : Kids) (ks : List (Option String)),
    cntK a (keepKids kids ks) ≤ cntK a kids := by
  intro kids
  induction kids with
  | nil => intro ks; simp [keepKids]
  | cons kv r ih =>
    intro ks
    cases ks with
    | nil => simp [keepKids]
    | cons o ks =>
      cases o with
      | none => simp only [keepKids]; rw [cntK_cons']; have := ih ks; omega
      | some k => simp only [keepKids]; rw [cntK_cons', cntK_cons']; simp only []; have := ih ks; omega

/-- a state-threading function on values that conserves identities: the counter grows, and
    whatever the result holds beyond its input is fresh -/
def Cons (f : HVal → Nat → HVal × Nat) : Prop :=
  ∀ v n, n ≤ (f v n).2 ∧ ∀ a, cnt a (f v n).1 ≤ cnt a v + ind n (f v n).2 a

theorem nodeEdit_cons (T : Table) (e : Env) (ed : NodeEdit)
    (h : Tpl.copiedKids T e ed.add = true) : Cons (nodeEdit T e ed) := by
  intro v n
  cases v with
  | atom x => simp [nodeEdit]
  | node id d kids =>
    have h1 := (evalTpl_mono T e).2 ed.add n
    have h2 := (evalTpl_copied T e).2 ed.add h n
    by_cases hr : ed.renew = true
    · simp only [nodeEdit, hr, if_true]
      refine ⟨by omega, ?_⟩
      intro a
      rw [cnt_node, cnt_node, cntK_append, ind_single]
      have := h2 a
      have := keepKids_sub a kids ed.keep
      have := ind_split a h1 (Nat.le_add_right (evalTplKids T e ed.add n).2 1)
      omega
    · simp only [Bool.not_eq_true] at hr
      simp only [nodeEdit, hr, Bool.false_eq_true, if_false]
      refine ⟨h1, ?_⟩
      intro a
      rw [cnt_node, cnt_node, cntK_append]
      have := h2 a
      have := keepKids_sub a kids ed.keep
      omega

theorem modifyAt_cons (f : HVal → Nat → HVal × Nat) (hf : Cons f) :
    ∀ p : List Nat, Cons (modifyAt f p) := by
  intro p
  induction p with
  | nil => intro v n; simpa [modifyAt] using hf v n
  | cons i p ih =>
    intro v n
    cases v with
    | atom x => simp [modifyAt]
    | node id d kids =>
      simp only [modifyAt]
      cases h : kids[i]? with
      | none => simp
      | some kv =>
        simp only []
        obtain ⟨h1, h2⟩ := ih kv.2 n
        refine ⟨h1, ?_⟩
        intro a
        rw [cnt_node, cnt_node]
        have := cntK_set a kids i kv kv.1 (modifyAt f p kv.2 n).1 h
        have := h2 a
        omega

theorem editDoc_cons (T : Table) (e : Env) (ed : NodeEdit)
    (h : Tpl.copiedKids T e ed.add = true) : Cons (editDoc T e ed) :=
  modifyAt_cons _ (nodeEdit_cons T e ed h) ed.path

theorem applyEdits_sub (T : Table) (e : Env) : ∀ (eds : List (Nat × NodeEdit))
    (h : eds.all (fun ie => Tpl.copiedKids T e ie.2.add) = true) (st : List HVal) (n : Nat),
    n ≤ (applyEdits T e eds st n).2 ∧
    ∀ a, cntL a (applyEdits T e eds st n).1 ≤ cntL a st + ind n (applyEdits T e eds st n).2 a := by
  intro eds
  induction eds with
  | nil => intro _ st n; simp [applyEdits]
  | cons ie r ih =>
    intro h st n
    simp only [List.all_cons, Bool.and_eq_true] at h
    simp only [applyEdits]
    cases hd : st[ie.1]? with
    | none => simpa using ih h.2 st n
    | some d =>
      simp only []
      obtain ⟨h1, h2⟩ := editDoc_cons T e ie.2 h.1 d n
      obtain ⟨g1, g2⟩ := ih h.2 (st.set ie.1 (editDoc T e ie.2 d n).1) (editDoc T e ie.2 d n).2
      refine ⟨by omega, ?_⟩
      intro a
      have := cntL_set a st ie.1 d (editDoc T e ie.2 d n).1 hd
      have := h2 a
      have := g2 a
      have := ind_split a h1 g1
      omega

theorem evalNewDocs_fresh (T : Table) (e : Env) : ∀ (nds : List (Tpl × Pos))
    (h : nds.all (fun tp => chainDeep (T.disc tp.2) || Tpl.copied T e tp.1) = true) (n : Nat),
    n ≤ (evalNewDocs T e nds n).2 ∧
    ∀ a, cntL a (evalNewDocs T e nds n).1 ≤ ind n (evalNewDocs T e nds n).2 a := by
  intro nds
  induction nds with
  | nil => intro _ n; simp [evalNewDocs]
  | cons tp r ih =>
    intro h n
    simp only [List.all_cons, Bool.and_eq_true, Bool.or_eq_true] at h
    simp only [evalNewDocs]
    -- the assembled document `d`, then what its final chain makes of it, `c`
    have hm1 := (evalTpl_mono T e).1 tp.1 n
    have hc1 := fun hc => (evalTpl_copied T e).1 tp.1 hc n
    generalize evalTpl T e tp.1 n = d at *
    have hm2 := chain_mono (T.disc tp.2) d.1 d.2
    have hs2 := chain_sub (T.disc tp.2) d.1 d.2
    have hd2 := fun hd => chain_deep (T.disc tp.2) hd d.1 d.2
    generalize runChain (T.disc tp.2) d.1 d.2 = c at *
    obtain ⟨g1, g2⟩ := ih h.2 c.2
    refine ⟨by omega, fun a => ?_⟩
    rw [cntL_cons]
    have := g2 a
    have := ind_split a (Nat.le_trans hm1 hm2) g1
    rcases h.1 with hd | hc
    · have := hd2 hd a
      have := ind_mono (hi := c.2) a hm1 (Nat.le_refl _)
      omega
    · have := hc1 hc a
      have := hs2 a
      have := ind_split a hm1 hm2
      omega

theorem evalTemps_mono (T : Table) (held : List HVal) : ∀ (ts : List (Pos × Nat × List Nat)) (n : Nat),
    n ≤ (evalTemps T held ts n).2 := by
  intro ts
  induction ts with
  | nil => intro n; simp [evalTemps]
  | cons t r ih =>
    intro n
    simp only [evalTemps]
    have := chain_mono (T.disc t.1) (getAt held t.2.1 t.2.2) n
    have := ih (runChain (T.disc t.1) (getAt held t.2.1 t.2.2) n).2
    omega

theorem dropIdxFrom_sub (a : Nat) (del : List Nat) : ∀ (st : List HVal) (i : Nat),
    cntL a (dropIdxFrom del i st) ≤ cntL a st := by
  intro st
  induction st with
  | nil => intro i; simp [dropIdxFrom]
  | cons v r ih =>
    intro i
    simp only [dropIdxFrom]
    split
    · rw [cntL_cons]; have := ih (i + 1); omega
    · rw [cntL_cons, cntL_cons]; have := ih (i + 1); omega

theorem evalTpls_detached (T : Table) (e : Env) : ∀ (ts : List Tpl)
    (h : ts.all (fun t => Tpl.detached T e t && Tpl.noTemp t) = true) (n : Nat),
    n ≤ (evalTpls T e ts n).2 ∧
    ∀ a, cntL a e.held = 0 → cntL a (evalTpls T e ts n).1 ≤ ind n (evalTpls T e ts n).2 a := by
  intro ts
  induction ts with
  | nil => intro _ n; simp [evalTpls]
  | cons t r ih =>
    intro h n
    simp only [List.all_cons, Bool.and_eq_true] at h
    simp only [evalTpls]
    have h1 := (evalTpl_mono T e).1 t n
    have h2 := (evalTpl_detached T e).1 t h.1.1 h.1.2 n
    obtain ⟨g1, g2⟩ := ih h.2 (evalTpl T e t n).2
    refine ⟨by omega, ?_⟩
    intro a ha
    rw [cntL_cons]
    have := h2 a ha
    have := g2 a ha
    have := ind_split a h1 g1
    omega

theorem evalTpls_copied (T : Table) (e : Env) : ∀ (ts : List Tpl)
    (h : ts.all (fun t => Tpl.copied T e t) = true) (n : Nat),
    n ≤ (evalTpls T e ts n).2 ∧
    ∀ a, cntL a (evalTpls T e ts n).1 ≤ ind n (evalTpls T e ts n).2 a := by
  intro ts
  induction ts with
  | nil => intro _ n; simp [evalTpls]
  | cons t r ih =>
    intro h n
    simp only [List.all_cons, Bool.and_eq_true] at h
    simp only [evalTpls]
    have h1 := (evalTpl_mono T e).1 t n
    have h2 := (evalTpl_copied T e).1 t h.1 n
    obtain ⟨g1, g2⟩ := ih h.2 (evalTpl T e t n).2
    refine ⟨by omega, ?_⟩
    intro a
    rw [cntL_cons]
    have := h2 a
    have := g2 a
    have := ind_split a h1 g1
    omega

theorem mutate_absent (id : Nat) (f : HVal → HVal) :
    (∀ v, cnt id v = 0 → mutate id f v = v) ∧ (∀ ks, cntK id ks = 0 → mutateKids id f ks = ks) := by
  apply HVal.ind2
  · intro v _; simp [mutate]
  · intro i d kids ih h
    rw [cnt_node] at h
    have hne : i ≠ id := by intro he; simp [he] at h
    have hk : cntK id kids = 0 := by omega
    simp [mutate, hne, ih hk]
  · intro _; simp [mutateKids]
  · intro k v r ihv ihr h
    rw [cntK_cons] at h
    simp [mutateKids, ihv (by omega), ihr (by omega)]

theorem mutateL_absent (id : Nat) (f : HVal → HVal) : ∀ l, cntL id l = 0 → mutateL id f l = l := by
  intro l
  induction l with
  | nil => intro _; simp [mutateL]
  | cons v r ih =>
    intro h
    rw [cntL_cons] at h
    simp [mutateL, (mutate_absent id f).1 v (by omega), ih (by omega)]

theorem mutateL_get (id : Nat) (f : HVal → HVal) : ∀ (l : List HVal) (j : Nat),
    (mutateL id f l)[j]? = (l[j]?).map (mutate id f) := by
  intro l
  induction l with
  | nil => intro j; simp [mutateL]
  | cons v r ih =>
    intro j
    cases j with
    | zero => simp [mutateL]
    | succ k => simp [mutateL, ih k]

/-- scribbling (dropping / re-keying children, adding scalars) never adds an identity -/
theorem scribble_sub (id : Nat) (keep : List (Option String)) (add : List (String × Val)) (a : Nat) :
    (∀ v, cnt a (mutate id (scribbleFn keep add) v) ≤ cnt a v) ∧
    (∀ ks, cntK a (mutateKids id (scribbleFn keep add) ks) ≤ cntK a ks) := by
  have hadd : ∀ l : List (String × Val), cntK a (l.map (fun kv => (kv.1, HVal.atom kv.2))) = 0 := by
    intro l
    induction l with
    | nil => simp
    | cons kv r ih => simp [ih]
  apply HVal.ind2
  · intro v; simp [mutate]
  · intro i d kids ih
    simp only [mutate]
    split
    · simp only [scribbleFn]
      rw [cnt_node, cnt_node, cntK_append, hadd]
      have := keepKids_sub a kids keep
      omega
    · rw [cnt_node, cnt_node]; omega
  · simp [mutateKids]
  · intro k v r ihv ihr
    simp only [mutateKids, cntK_cons]; omega

theorem scribbleL_sub (id : Nat) (keep : List (Option String)) (add : List (String × Val)) (a : Nat) :
    ∀ l, cntL a (mutateL id (scribbleFn keep add) l) ≤ cntL a l := by
  intro l
  induction l with
  | nil => simp [mutateL]
  | cons v r ih =>
    simp only [mutateL, cntL_cons]
    have := (scribble_sub id keep add a).1 v
    omega

end MongoModel.Proofs.C07
