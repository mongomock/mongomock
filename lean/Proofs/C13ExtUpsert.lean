/-
  Proofs.C13ExtUpsert — C13's last clause: after an upsert whose filter consists of plain
  equality conditions the update does not address, the appended document holds every pair of
  the (normalised) filter, is matched by it, and is the one document the filter selects.
-/
import Proofs.C13ExtSeed
import Proofs.C13Loop
import Proofs.C02PosFrame
import Proofs.C18

namespace MongoModel.Proofs.C13Ext
open MongoModel MongoModel.Spec MongoModel.Proofs.C05Lemmas MongoModel.Proofs.C10Lemmas
  MongoModel.Proofs.C13Lemmas MongoModel.Proofs.C02Lemmas

theorem mem_patchFields {kv : String × Val} : ∀ {fs : Fields}, kv ∈ patchFields fs →
    ∃ kv0 ∈ fs, kv = (kv0.1, patch kv0.2)
  | [], h => by simp [patchFields] at h
  | (k, v) :: r, h => by
    simp only [patchFields, List.mem_cons] at h
    rcases h with e | h
    · exact ⟨(k, v), List.mem_cons_self .., e⟩
    · obtain ⟨kv0, hm, e⟩ := mem_patchFields h
      exact ⟨kv0, List.mem_cons_of_mem _ hm, e⟩

theorem isScalar_patch (v : Val) (h : isScalar v = true) : isScalar (patch v) = true := by
  cases v <;> simp_all [isScalar, patch]

theorem patch_fixed {fs : Fields} {kv : String × Val} (h : kv ∈ patchFields fs) : patch kv.2 = kv.2 := by
  obtain ⟨kv0, _, rfl⟩ := mem_patchFields h
  exact MongoModel.Proofs.C18.patch_idem _

theorem plainEq_patch (ss : Fields) (h : plainEqualities ss = true) :
    plainEqualities (patchFields ss) = true := by
  simp only [plainEqualities, List.all_eq_true]
  intro kv hm
  obtain ⟨kv0, hm0, rfl⟩ := mem_patchFields hm
  obtain ⟨h2, h3, h4⟩ := plainEq_entry h hm0
  simp only [h2, h3, isScalar_patch _ h4, Bool.not_false, Bool.and_true]

theorem opAddr_patch (k : String) (v : Val) : opAddr k (patch v) = opAddr k v := by
  cases v with
  | doc body =>
    simp only [patch, opAddr]
    induction body with
    | nil => rfl
    | cons fv r ih =>
      obtain ⟨f, x⟩ := fv
      simp only [patchFields, List.flatMap_cons, ih]
      cases x <;> rfl
  | _ => rfl

theorem addressed_patch : ∀ u : Fields, addressed (patchFields u) = addressed u
  | [] => rfl
  | (k, v) :: r => by
    simp only [patchFields]
    rw [addressed_cons, addressed_cons, opAddr_patch, addressed_patch r]

theorem all_dollar_patch (u : Fields) (h : u.all (fun kv => kv.1.startsWith "$") = true) :
    (patchFields u).all (fun kv => kv.1.startsWith "$") = true := by
  simp only [List.all_eq_true] at h ⊢
  intro kv hm
  obtain ⟨kv0, hm0, rfl⟩ := mem_patchFields hm
  exact h kv0 hm0

theorem patchFields_ne_nil (u : Fields) (h : u ≠ []) : patchFields u ≠ [] := by
  cases u with
  | nil => exact absurd rfl h
  | cons kv r => obtain ⟨k, v⟩ := kv; simp [patchFields]

theorem opUpdate_parts {u : Fields} (h : isOperatorUpdate u = true) :
    u.all (fun kv => kv.1.startsWith "$") = true ∧ u ≠ [] := by
  simp only [isOperatorUpdate, Bool.and_eq_true, Bool.not_eq_true', List.isEmpty_eq_false_iff] at h
  exact ⟨h.2, h.1⟩

/-- an operator update has no top-level key without a leading `$` (used with `_id`) -/
theorem dget_nodollar_none (k : String) (hk : k.startsWith "$" = false) :
    ∀ u : Fields, u.all (fun kv => kv.1.startsWith "$") = true → dget k u = none
  | [], _ => rfl
  | (k', v) :: r, h => by
    simp only [List.all_cons, Bool.and_eq_true] at h
    have : ¬ k' = k := by intro e; subst e; rw [hk] at h; exact absurd h.1 (by simp)
    simp only [dget, this, if_false]
    exact dget_nodollar_none k hk r h.2

theorem upsertIdv_from_filter (ss dfs : Fields) (c3 : Coll) :
    ∀ v, dget "_id" ss = some v → (upsertIdv ss dfs c3).1 = v := by
  intro v h; simp [upsertIdv, h]

theorem holdsAll_withId (ss bf : Fields) (c4 : Coll) (h : HoldsAll ss bf) : HoldsAll ss (withId c4 bf) := by
  intro kv hm
  unfold withId
  split
  · exact h kv hm
  · rename_i hh
    have hne : "_id" ≠ kv.1 := by
      intro e
      have := h kv hm
      rw [← e] at this
      exact hh (by simp [dhas, this])
    rw [dget_dset_other _ hne.symm]
    exact h kv hm

theorem holdsAll_patch (ss fs1 : Fields) (hfix : ∀ kv ∈ ss, patch kv.2 = kv.2) (h : HoldsAll ss fs1) :
    HoldsAll ss (patchFields fs1) := by
  intro kv hm
  rw [MongoModel.Proofs.C18.dget_patchFields, h kv hm]
  simp [hfix kv hm]

theorem selectDocs_append (f : Val) (l : List (Val × Val)) (p : Val × Val)
    (hl : selectDocs f l = .ok []) (hp : filterApplies f p.2 = .ok true) :
    selectDocs f (l ++ [p]) = .ok [p] := by
  induction l with
  | nil => simp [selectDocs, hp, bind, Except.bind, pure, Except.pure]
  | cons q l ih =>
    obtain ⟨b, more, hb, hm, e⟩ := select_cons f q l [] hl
    cases b with
    | true => simp at e
    | false =>
      simp only [Bool.false_eq_true, if_false] at e
      subst e
      simp only [List.cons_append, selectDocs, hb, ih hm, bind, Except.bind, pure, Except.pure,
        Bool.false_eq_true, if_false]

theorem upsert_then_matched (cfg : Cfg) (now : Int) (c c1 c' : Coll) (ss ufs : Fields)
    (multi : Bool) (sel : List (Val × Val)) (r : UpdateResult)
    (he : expire now c = .ok c1) (hne : c1.docs ≠ []) (hn : c.ttlIndexes = [])
    (hi : IdInv c) (hg : GoodKeys c)
    (hk : plainEqualities ss = true) (hd : (dkeys ss).Nodup)
    (hu : isOperatorUpdate ufs = true)
    (hx : ∀ k ∈ dkeys ss, k ∉ addressed ufs)
    (hs : selectDocs (patchDT (.doc ss)) c1.docs = .ok sel)
    (h : applyUpdateColl cfg now c (.doc ss) (.doc ufs) true multi = (c', .ok r))
    (hup : r.upserted.isSome = true) :
    ∃ id fs, r.upserted = some id ∧ c'.docs = c1.docs ++ [(id, .doc fs)] ∧
      dget "_id" fs = some id ∧
      HoldsAll (patchFields ss) fs ∧
      filterApplies (patchDT (.doc ss)) (.doc fs) = .ok true ∧
      selectDocs (patchDT (.doc ss)) c'.docs = .ok [(id, .doc fs)] := by
  have hsel : sel = [] :=
    (MongoModel.Proofs.C13.upsert_iff_no_match cfg now c c1 c' ss (.doc ufs) multi sel r he hne hn hi
      hg hs h).1.1 hup
  subst hsel
  obtain ⟨hc1, dfs, hdfs, hal⟩ := upsert_reaches cfg now c c1 c' ss (.doc ufs) multi r he hn hs h
  subst hc1
  rw [C18.patchDT_doc] at hdfs
  cases hdfs
  obtain ⟨hall, hnil⟩ := opUpdate_parts hu
  have hk' := plainEq_patch ss hk
  have hd' : (dkeys (patchFields ss)).Nodup := by rw [C18.dkeys_patchFields]; exact hd
  obtain ⟨seed, bf, id, hex, hap, hdocs, hid, hr⟩ := afterLoop_built _ _ _ _ _ _ _ _ _ _ hn hal
  obtain ⟨sf, hseed, hsf⟩ := seed_any_id (patchFields ss) hk' hd'
    (upsertIdv (patchFields ss) (patchFields ufs) c1).1 (upsertIdv_from_filter _ _ _)
  rw [hseed] at hex
  cases hex
  obtain ⟨bf', hbf, hframe⟩ := applyUpdate_frame _ _ _ _ _ _ (all_dollar_patch ufs hall)
    (patchFields_ne_nil ufs hnil) hap
  cases hbf
  have hbfh : HoldsAll (patchFields ss) bf := by
    intro kv hm
    have hmem : kv.1 ∈ dkeys ss := by
      rw [← C18.dkeys_patchFields]; exact List.mem_map.2 ⟨kv, hm, rfl⟩
    rw [hframe kv.1 (by rw [addressed_patch]; exact hx kv.1 hmem)]
    exact hsf kv hm
  have hfin := holdsAll_patch _ _ (fun kv hm => patch_fixed hm)
    (holdsAll_withId _ _ (upsertIdv (patchFields ss) (patchFields ufs) c1).2 hbfh)
  have hmatch := holds_matches _ _ hk' hfin
  rw [C18.patchDT_doc]
  refine ⟨id, _, by rw [hr], hdocs, hid, hfin, hmatch, ?_⟩
  rw [hdocs]
  exact selectDocs_append _ _ _ (by rw [← C18.patchDT_doc]; exact hs) hmatch

end MongoModel.Proofs.C13Ext
