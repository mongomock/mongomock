/-
  Proofs.C04SpecEnv — `eval_eq_spec` (the expression evaluator `MongoModel.Expr.eval` computes what
  the rules `Spec.sEval` define, inside the domain D of Spec.ExprDomain): the induction principle
  over a value and everything below it, the relation between the model's and the oracle's variable
  bindings, field paths, variables, constants.
-/
import Proofs.C04Basic

set_option linter.unusedSimpArgs false

namespace MongoModel.Proofs.C04
open MongoModel MongoModel.Expr MongoModel.Spec

/-! ### dispatch: a key that does not start with `$` is a plain field -/

theorem classify_plain (k : String) (hk : startsDollar k = false) : classify k = .plain := by
  -- every operator name is a literal `"$…"`, which unfolds to `String.ofList ('$' :: _)`
  have hne (r : List Char) : k ≠ String.ofList ('$' :: r) := by
    rintro rfl; simp [startsDollar] at hk
  have hk' : ¬ (k.toList.head? = some '$') := by simpa [startsDollar] using hk
  simp [classify, arithmeticOps, unaryArithOps, binaryArithOps, projectOps, projectionOps,
    comparisonOps, dateOps, datePartOps, arrayOps, conditionalOps, controlFlowOps, setOps, stringOps,
    typeConvOps, typeOps, booleanOps, otherKnownOps, hne, hk']

/-! ### induction over a value and everything below it -/

mutual
  /-- `P` holds of the value and of every value below it -/
  def AllSub (P : Val → Prop) : Val → Prop
    | .doc fs => P (.doc fs) ∧ AllSubFields P fs
    | .arr xs => P (.arr xs) ∧ AllSubList P xs
    | v => P v
  def AllSubFields (P : Val → Prop) : Fields → Prop
    | [] => True
    | (_, v) :: r => AllSub P v ∧ AllSubFields P r
  def AllSubList (P : Val → Prop) : List Val → Prop
    | [] => True
    | x :: r => AllSub P x ∧ AllSubList P r
end

theorem AllSub.self {P : Val → Prop} {v : Val} (h : AllSub P v) : P v := by
  cases v <;> first | exact h | exact h.1

theorem AllSubFields.mem {P : Val → Prop} {fs : Fields} (h : AllSubFields P fs) {k : String}
    {v : Val} (hm : (k, v) ∈ fs) : AllSub P v := by
  induction fs with
  | nil => cases hm
  | cons kv r ih =>
    rcases List.mem_cons.mp hm with e | hr
    · subst e; exact h.1
    · exact ih h.2 hr

theorem AllSubList.mem {P : Val → Prop} {xs : List Val} (h : AllSubList P xs) {x : Val}
    (hm : x ∈ xs) : AllSub P x := by
  induction xs with
  | nil => cases hm
  | cons y r ih =>
    rcases List.mem_cons.mp hm with e | hr
    · subst e; exact h.1
    · exact ih h.2 hr

theorem AllSub.fields {P : Val → Prop} {fs : Fields} (h : AllSub P (.doc fs)) : AllSubFields P fs := by
  simp [AllSub] at h; exact h.2

theorem AllSub.items {P : Val → Prop} {xs : List Val} (h : AllSub P (.arr xs)) : AllSubList P xs := by
  simp [AllSub] at h; exact h.2

/-- to prove `P` everywhere it suffices to prove it of a value given it holds *deeply* of the
    children -/
theorem allSub_of_step (P : Val → Prop)
    (hdoc : ∀ fs, AllSubFields P fs → P (.doc fs))
    (harr : ∀ xs, AllSubList P xs → P (.arr xs))
    (hleaf : ∀ v, v.isDoc = false → v.isArr = false → P v) : ∀ v, AllSub P v := by
  intro v
  refine Val.rec (motive_1 := AllSub P) (motive_2 := AllSubFields P) (motive_3 := AllSubList P)
    (motive_4 := fun p => AllSub P p.2)
    ?_ ?_ ?_ ?_ ?_ ?_ ?_ ?_ ?_ ?_ ?_ ?_ ?_ ?_ v
  · exact hleaf _ rfl rfl
  · intro b; exact hleaf _ rfl rfl
  · intro i; exact hleaf _ rfl rfl
  · intro m e; exact hleaf _ rfl rfl
  · intro s; exact hleaf _ rfl rfl
  · intro u o; exact hleaf _ rfl rfl
  · intro n; exact hleaf _ rfl rfl
  · exact fun fs h => ⟨hdoc fs h, h⟩
  · exact fun xs h => ⟨harr xs h, h⟩
  · trivial
  · exact fun _ _ h1 h2 => ⟨h1, h2⟩
  · trivial
  · exact fun _ _ h1 h2 => ⟨h1, h2⟩
  · exact fun _ _ h => h

/-! ### the model's bindings against the oracle's -/

/-- the model's `dict({'ROOT': d, 'CURRENT': d}, **user_vars)` (with the names bound to a missing
    value kept apart in `miss`) and the oracle's list of bindings describe the same variables -/
structure EnvRel (c : Ctx) (root : Val) (env : Env) : Prop where
  hign : c.ign = true
  hroot : c.root = root
  hvar : ∀ name,
    (match env.lookup name with
     | some (some v) => c.miss.contains name = false ∧ dget name c.env = some v
     | some none => c.miss.contains name = true
     | none => c.miss.contains name = false ∧
         dget name c.env = if name = "ROOT" ∨ name = "CURRENT" then some root else none)

theorem EnvRel.init (d : Val) : EnvRel (Ctx.init true d) d [] := by
  refine ⟨rfl, rfl, fun name => ⟨rfl, ?_⟩⟩
  simp only [Ctx.init, dget, eq_comm (b := name)]
  by_cases h1 : name = "ROOT" <;> by_cases h2 : name = "CURRENT" <;> simp [h1, h2]

theorem dget_dset (k k' : String) (v : Val) (fs : Fields) :
    dget k' (dset k v fs) = if k' = k then some v else dget k' fs := by
  by_cases h : k' = k
  · rw [if_pos h, h, dget_dset_same]
  · rw [if_neg h, dget_dset_other v h]

theorem contains_filter_ne (ms : List String) (name n : String) :
    (ms.filter (fun x => x != name)).contains n = (ms.contains n && n != name) := by
  induction ms with
  | nil => simp
  | cons m r ih =>
    by_cases hm : m = name <;> by_cases hn : n = m <;>
      simp_all [List.filter_cons, List.contains_cons]

/-- binding one more variable on both sides keeps the relation -/
theorem EnvRel.bind {c : Ctx} {root : Val} {env : Env} (h : EnvRel c root env) (name : String)
    (v : Val) : EnvRel (c.bind name v) root ((name, some v) :: env) := by
  refine ⟨h.hign, h.hroot, fun n => ?_⟩
  simp only [Ctx.bind, dget_dset, List.lookup, contains_filter_ne]
  by_cases hn : n = name
  · subst hn; simp
  · simpa [hn, beq_false_of_ne hn] using h.hvar n

/-- the same for a `$let` variable whose value may be missing -/
theorem EnvRel.bindOpt {c : Ctx} {root : Val} {env : Env} (h : EnvRel c root env) (name : String)
    (o : Option Val) : EnvRel (c.bindOpt name o) root ((name, o) :: env) := by
  cases o with
  | some v => exact h.bind name v
  | none =>
    refine ⟨h.hign, h.hroot, fun n => ?_⟩
    simp only [Ctx.bindOpt, List.lookup, List.contains_cons]
    by_cases hn : n = name
    · subst hn; simp
    · simpa [hn, beq_false_of_ne hn] using h.hvar n

theorem EnvRel.bindAll {c : Ctx} {root : Val} {env : Env} (h : EnvRel c root env) (bs : Env) :
    EnvRel (c.bindAll bs) root (bs.reverse ++ env) := by
  induction bs generalizing c env with
  | nil => exact h
  | cons kv r ih =>
    simpa [Ctx.bindAll, List.reverse_cons, List.append_assoc] using ih (h.bindOpt kv.1 kv.2)

/-! ### field paths and variables -/

theorem okReasons_nil {α} (r : R α) (h : okReasons r = []) : ∃ v, r = .ok v := by
  cases r with
  | ok v => exact ⟨v, rfl⟩
  | error e => cases e <;> simp [okReasons] at h

/-- two comprehensions over one list agree when they agree item by item -/
theorem mapM_ok_congr {α β} (F G : α → R β) (xs : List α) (rs : List β)
    (h : ∀ x ∈ xs, ∀ r, F x = .ok r → G x = .ok r) (hs : xs.mapM F = .ok rs) :
    xs.mapM G = .ok rs := by
  induction xs generalizing rs with
  | nil => simpa using hs
  | cons x xs ih =>
    simp only [List.mapM_cons, bind, Except.bind] at hs ⊢
    cases hx : F x with
    | error e => simp [hx] at hs
    | ok r =>
      cases hr : xs.mapM F with
      | error e => simp [hx, hr] at hs
      | ok rs' =>
        rw [h x (by simp) r hx, ih rs' (fun y hy => h y (by simp [hy])) hr]
        simpa [hx, hr] using hs

/-- wherever the rule's path lookup has an answer and no numeric component meets an array,
    `get_value_by_dot` computes it: sub-documents are descended, an array gives the values that
    its documents have at the rest of the path -/
theorem getDotGen_of_path (ps : List String) (v : Val) (h : pathIndexesArray ps v = false)
    (r : Option Val) (hs : Spec.path ps v = .ok r) : getDotGen ps v = .ok r := by
  induction ps generalizing v r with
  | nil => cases v <;> simpa [getDotGen, Spec.path] using hs
  | cons p ps ih =>
    cases v with
    | doc fs =>
      simp only [getDotGen, Spec.path, pathIndexesArray] at hs h ⊢
      cases hd : dget p fs with
      | none => simpa [hd] using hs
      | some w => simp only [hd] at h hs ⊢; exact ih w h r hs
    | arr xs =>
      simp only [pathIndexesArray, Bool.or_eq_false_iff] at h
      obtain ⟨hk, hall⟩ := h
      have hk' : keyInt p = .ok none := by
        cases hki : keyInt p with
        | error e => simp [hki] at hk
        | ok o => cases o <;> simp [hki] at hk ⊢
      simp only [getDotGen, Spec.path, hk', bind, Except.bind] at hs ⊢
      split at hs
      · cases hs
      · rename_i rs heq
        rw [mapM_ok_congr _ _ xs rs ?_ heq]
        · exact hs
        · intro x hx r' hr'
          have hx' := List.any_eq_false.mp hall _ hx
          cases x with
          | doc gs =>
            dsimp only at hr' hx' ⊢
            cases hd : dget p gs with
            | none => simpa [hd] using hr'
            | some w =>
              simp only [hd] at hr' hx' ⊢
              exact ih w (by simpa using hx') r' hr'
          | arr ys => simp [unmodelled] at hr'
          | _ => all_goals simpa using hr'
    | _ => all_goals simpa [getDotGen, Spec.path] using hs

/-- the string case: field paths and variables -/
theorem str_case (c : Ctx) (root : Val) (env : Env) (hr : EnvRel c root env) (s : String)
    (h : strReasons root env s = []) (hok : okReasons (sEval root env (.str s)) = []) :
    eval c (.str s) = sEval root env (.str s) := by
  obtain ⟨res, hres⟩ := okReasons_nil _ hok
  rw [hres]
  simp only [sEval] at hres
  simp only [eval, evalBasic]
  unfold strReasons at h
  -- a path that indexes no array: the two lookups agree
  have hpath (ps : List String) (v : Val) (hp : (if pathIndexesArray ps v = true then ["arraypath"] else []) = [])
      (hs : Spec.path ps v = .ok res) : getDotGen ps v = .ok res :=
    getDotGen_of_path ps v (by cases hc : pathIndexesArray ps v <;> simp [hc] at hp ⊢) res hs
  cases hk : strKind s with
  | lit => simp only [hk] at hres ⊢; exact hres
  | field r =>
    simp only [hk] at h hres ⊢
    rw [hr.hroot]
    exact hpath _ _ h hres
  | var r =>
    simp only [hk] at h hres ⊢
    cases hsp : splitDotsChars r [] with
    | nil => exact absurd hsp (splitDotsChars_ne_nil r [])
    | cons name rest =>
      simp only [hsp, varLookup] at h hres
      have hv := hr.hvar name
      simp only [evalVar, List.headD_cons]
      cases hl : env.lookup name with
      | some ov =>
        cases ov with
        | some v =>
          simp only [hl] at h hres hv
          simp only [hv.1, Bool.false_eq_true, if_false, dhas, hv.2, Option.isSome_some,
            Bool.not_true, Bool.false_and, getDotGen]
          exact hpath rest v h hres
        | none =>
          simp only [hl] at hres hv
          simp only [hv, if_true]
          exact hres
      | none =>
        simp only [hl] at h hres hv
        by_cases hn : name = "ROOT" ∨ name = "CURRENT"
        · have hb : (decide (name = "ROOT") || decide (name = "CURRENT")) = true := by
            simpa using hn
          rw [if_pos hb] at h hres
          rw [if_pos hn] at hv
          simp only [hv.1, Bool.false_eq_true, if_false, dhas, hv.2, Option.isSome_some,
            Bool.not_true, Bool.false_and, getDotGen]
          exact hpath rest root h hres
        · have hb : ¬ (decide (name = "ROOT") || decide (name = "CURRENT")) = true := by
            simpa using hn
          rw [if_neg hb] at hres
          rw [if_neg hn] at hv
          by_cases hrm : name = "REMOVE"
          · subst hrm
            rw [if_pos rfl] at hres
            simp [hv.1, dhas, hv.2, systemVars, getDotGen, dget, ← hres]
          · rw [if_neg hrm] at hres
            split at hres <;> simp [unmodelled] at hres

/-! ### constants -/

theorem strKind_lit (s : String) (h : startsDollar s = false) : strKind s = .lit := by
  unfold strKind
  unfold startsDollar at h
  split <;> first | rfl | (rename_i heq; simp [heq] at h)

theorem isConstFields_noDollar (fs : Fields) (h : isConstFields fs = true) :
    hasDollarKey' fs = false := by
  induction fs with
  | nil => rfl
  | cons kv r ih =>
    simp only [isConstFields, Bool.and_eq_true, Bool.not_eq_true'] at h
    simpa [hasDollarKey', h.1.1] using ih h.2

/-- a constant evaluates to itself under the rules -/
theorem const_eval : ∀ v, AllSub (fun v => isConst v = true → ∀ root env,
    sEval root env v = .ok (some v)) v := by
  apply allSub_of_step
  · intro fs hsub hc root env
    simp only [isConst] at hc
    simp only [sEval, isConstFields_noDollar fs hc, Bool.false_eq_true, if_false]
    induction fs with
    | nil => rfl
    | cons kv r ih =>
      simp only [isConstFields, Bool.and_eq_true] at hc
      simp [sFields, hsub.1.self hc.1.2 root env, ih hsub.2 hc.2, bind, Except.bind, pure,
        Except.pure]
  · intro xs hsub hc root env
    simp only [isConst] at hc
    have : sList root env xs = .ok (xs.map some) := by
      induction xs with
      | nil => rfl
      | cons x r ih =>
        simp only [isConstList, Bool.and_eq_true] at hc
        simp [sList, hsub.1.self hc.1 root env, ih hsub.2 hc.2, bind, Except.bind, pure,
          Except.pure]
    simp [sEval, this, bind, Except.bind, pure, Except.pure, Function.comp_def]
  · intro v hd ha hc root env
    cases v with
    | str s =>
      simp only [isConst, Bool.not_eq_true'] at hc
      simp [sEval, strKind_lit s hc]
    | doc fs => simp [Val.isDoc] at hd
    | arr xs => simp [Val.isArr] at ha
    | _ => rfl

end MongoModel.Proofs.C04
