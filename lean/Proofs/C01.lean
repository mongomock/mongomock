/-
  Proofs.C01 — the laws and the main theorem of C01 (proved in Proofs/C01*.lean) under one
  namespace.
-/
import Proofs.C01Main

namespace MongoModel.Proofs.C01
open MongoModel MongoModel.Spec

theorem and_is_conj (qs : List Val) (d : Val) (bs : List Bool)
    (h : qs.map (applyVal · d) = bs.map .ok) : allApply qs d = .ok (bs.all id) :=
  C01Lemmas.and_is_conj qs d bs h

theorem or_is_disj (qs : List Val) (d : Val) (bs : List Bool)
    (h : qs.map (applyVal · d) = bs.map .ok) : anyApply qs d = .ok (bs.any id) :=
  C01Lemmas.or_is_disj qs d bs h

theorem nor_is_neg_disj (qs : List Val) (d : Val) (bs : List Bool)
    (h : qs.map (applyVal · d) = bs.map .ok) : norApply qs d = .ok (!(bs.any id)) :=
  C01Lemmas.nor_is_neg_disj qs d bs h

theorem ne_eq_not_eq (key : String) (v d : Val) :
    applyKey (.doc [("$ne", v)]) key d = (applyKey (.doc [("$eq", v)]) key d).map (!·) :=
  C01Lemmas.ne_eq_not_eq key v d

theorem nin_eq_not_in (key : String) (v d : Val) :
    applyKey (.doc [("$nin", v)]) key d = (applyKey (.doc [("$in", v)]) key d).map (!·) :=
  C01Lemmas.nin_eq_not_in key v d

theorem not_eq_neg (key : String) (gs : Fields) (d : Val) (cs : List (Option Val))
    (hc : candsKey key d = .ok cs) (hne : cs ≠ [])
    (hk : gs.all (fun kv => operatorMapKeys.contains kv.1 || logicalKeys.contains kv.1) = true) :
    applyKey (.doc [("$not", .doc gs)]) key d = (applyKey (.doc gs) key d).map (!·) :=
  C01Lemmas.not_eq_neg key gs d cs hc hne hk

theorem null_eq_missing (key : String) (d : Val) (h : candsKey key d = .ok [none]) :
    applyKey .null key d = .ok true :=
  C01Lemmas.null_eq_missing key d h

theorem unknown_operator_rejected (fs : Fields) (key : String) (d : Val)
    (hops : isOpsFilter (.doc fs) = true)
    (hunk : ∃ op, op ∈ dkeys fs ∧ operatorMapKeys.contains op = false ∧ op ≠ "$not")
    (hopt : ¬ ("$options" ∈ dkeys fs ∧ "$regex" ∈ dkeys fs)) :
    applyKey (.doc fs) key d = .error .opFail ∨ applyKey (.doc fs) key d = .error .notImpl := by
  refine C01Lemmas.applyKey_unknown_op fs key d hops ?_ ?_
  · by_cases h1 : "$options" ∈ dkeys fs
    · by_cases h2 : "$regex" ∈ dkeys fs
      · exact absurd ⟨h1, h2⟩ hopt
      · simp [h2]
    · simp [h1]
  · obtain ⟨op, hm, h1, h2⟩ := hunk
    exact List.any_eq_true.mpr ⟨op, hm, by
      have h2' : (op != "$not") = true := by simpa using h2
      simp only [C01Lemmas.unknownOp, h1, h2', Bool.not_false, Bool.and_self]⟩

theorem matches_eq_spec (f d : Val) (h : inD f d = true) :
    filterApplies f d = specMatches f d :=
  C01Lemmas.matches_eq_spec f d h

end MongoModel.Proofs.C01
