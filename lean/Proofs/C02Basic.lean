/-
  Proofs.C02Basic — the part of a document at one key (`proj`), the equations of the path
  functions, `$set` along a writable path (`set_get_total`), and the notion the frame theorems
  rest on: a step that edits a document at most at one top-level key, the edit decided by the
  value held there (`EditsKey`).
-/
import Spec.UpdateSpec
import Spec.StoreInv
import Proofs.Basics


namespace MongoModel.Proofs.C02Lemmas
open MongoModel MongoModel.Spec

/-- all entries of `fs` under the key `k`, in order -/
def proj (k : String) (fs : Fields) : Fields := fs.filter (fun kv => kv.1 = k)

theorem proj_cons (k : String) (kv : String × Val) (r : Fields) :
    proj k (kv :: r) = if kv.1 = k then kv :: proj k r else proj k r := by
  simp only [proj, List.filter_cons, decide_eq_true_eq]

theorem dget_proj (k : String) : ∀ fs : Fields, dget k (proj k fs) = dget k fs
  | [] => rfl
  | (k', v) :: r => by
    rw [proj_cons]
    by_cases e : k' = k
    · simp [dget, e]
    · simp only [e, if_false, dget]; exact dget_proj k r

theorem dget_of_proj {k : String} {fs gs : Fields} (h : proj k fs = proj k gs) :
    dget k fs = dget k gs := by
  rw [← dget_proj k fs, ← dget_proj k gs, h]

theorem proj_dset_other {k p : String} (v : Val) (h : k ≠ p) :
    ∀ fs : Fields, proj k (dset p v fs) = proj k fs
  | [] => by
    have : ¬ p = k := fun e => h e.symm
    simp [dset, proj, this]
  | (k', v') :: r => by
    simp only [dset]
    split
    · rename_i e; subst e
      have : ¬ k' = k := fun e => h e.symm
      simp [proj_cons, this]
    · simp only [proj_cons, proj_dset_other v h r]

theorem proj_derase_other {k p : String} (h : k ≠ p) :
    ∀ fs : Fields, proj k (derase p fs) = proj k fs
  | [] => by simp [derase]
  | (k', v') :: r => by
    simp only [derase]
    split
    · rename_i e; subst e
      have : ¬ k' = k := fun e => h e.symm
      simp [proj_cons, this]
    · simp only [proj_cons, proj_derase_other h r]

theorem proj_dset_same (p : String) (v : Val) :
    ∀ fs : Fields, proj p (dset p v fs) = dset p v (proj p fs)
  | [] => by simp [dset, proj]
  | (k', v') :: r => by
    by_cases e : k' = p
    · subst e; simp [dset, proj_cons]
    · simp only [dset, e, if_false, proj_cons]; exact proj_dset_same p v r

theorem proj_derase_same (p : String) :
    ∀ fs : Fields, proj p (derase p fs) = derase p (proj p fs)
  | [] => by simp [derase, proj]
  | (k', v') :: r => by
    by_cases e : k' = p
    · subst e; simp [derase, proj_cons]
    · simp only [derase, e, if_false, proj_cons]; exact proj_derase_same p r

theorem dget_derase_other {k p : String} (h : k ≠ p) (fs : Fields) :
    dget k (derase p fs) = dget k fs := dget_of_proj (proj_derase_other h fs)

theorem dkeys_dset_filter (p : String) (v : Val) :
    ∀ fs : Fields, (dkeys (dset p v fs)).filter (· ≠ p) = (dkeys fs).filter (· ≠ p)
  | [] => by simp [dset, dkeys]
  | (k', v') :: r => by
    simp only [dset]
    split
    · rename_i e; subst e; simp [dkeys]
    · have ih := dkeys_dset_filter p v r
      simp only [dkeys] at ih
      simp only [dkeys, List.map_cons, List.filter_cons, ih]

theorem dkeys_derase_filter (p : String) :
    ∀ fs : Fields, (dkeys (derase p fs)).filter (· ≠ p) = (dkeys fs).filter (· ≠ p)
  | [] => by simp [derase]
  | (k', v') :: r => by
    simp only [derase]
    split
    · rename_i e; subst e; simp [dkeys]
    · have ih := dkeys_derase_filter p r
      simp only [dkeys] at ih
      simp only [dkeys, List.map_cons, List.filter_cons, ih]

theorem dget_derase_self {k : String} :
    ∀ {fs : Fields}, (dkeys fs).count k ≤ 1 → dget k (derase k fs) = none
  | [], _ => by simp [derase, dget]
  | (k', v') :: r, h => by
    simp only [derase]
    split
    · rename_i e; subst e
      simp only [dkeys, List.map_cons, List.count_cons_self] at h
      have h0 : (dkeys r).count k' = 0 := by simp only [dkeys]; omega
      exact dget_none_iff.mpr (List.count_eq_zero.mp h0)
    · rename_i ne
      have hc : (dkeys r).count k ≤ 1 := by
        simp only [dkeys, List.map_cons] at h
        rw [List.count_cons_of_ne (by exact ne)] at h
        exact h
      simp [dget, ne, dget_derase_self hc]

theorem bind_error {α β : Type} {x : R α} {f : α → R β} {e : Err} (h : x = .error e) :
    (x >>= f) = .error e := by rw [h]; rfl

theorem bind_ok_eq {α β : Type} {x : R α} {f : α → R β} {a : α} (h : x = .ok a) :
    (x >>= f) = f a := by rw [h]; rfl

theorem ite_prop {α : Type} (F : α → Prop) {c : Prop} [Decidable c] {a b : α}
    (h1 : c → F a) (h2 : ¬ c → F b) : F (if c then a else b) := by
  by_cases hc : c
  · rw [if_pos hc]; exact h1 hc
  · rw [if_neg hc]; exact h2 hc

/-- two conditionals on the same test are related when their branches are -/
theorem ite_rel {α β : Type} (F : α → β → Prop) {c : Prop} [Decidable c] {a b : α} {a' b' : β}
    (h1 : c → F a a') (h2 : ¬ c → F b b') : F (if c then a else b) (if c then a' else b') := by
  by_cases hc : c
  · rw [if_pos hc, if_pos hc]; exact h1 hc
  · rw [if_neg hc, if_neg hc]; exact h2 hc

theorem usf_last (u : Updater) (now v : Val) (last : String) (d : Val) :
    updateSingleField u now v [last] d = runUpdater u now d last v := rfl

theorem usf_doc (u : Updater) (now v : Val) (part q : String) (rest : List String) (fs : Fields) :
    updateSingleField u now v (part :: q :: rest) (.doc fs) =
      (match dget part fs with
       | some sub => (updateSingleField u now v (q :: rest) sub).bind
           (fun sub' => .ok (.doc (dset part sub' fs)))
       | none => if u = .unset || u = .pop then .ok (.doc fs)
         else (updateSingleField u now v (q :: rest) (.doc [])).bind
           (fun sub' => .ok (.doc (dset part sub' fs)))) := rfl

theorem usf_arr (u : Updater) (now v : Val) (part q : String) (rest : List String) (xs : List Val) :
    updateSingleField u now v (part :: q :: rest) (.arr xs) =
      (if part = "$" then unmodelled
       else match pyInt? part with
         | some i =>
           if i < 0 then unmodelled
           else match xs[i.toNat]? with
             | some sub => (updateSingleField u now v (q :: rest) sub).bind
                 (fun sub' => .ok (.arr (xs.set i.toNat sub')))
             | none => .error .indexErr
         | none => updateSingleField u now v (q :: rest) (.arr xs)) := rfl

theorem getPath_doc (p : String) (ps : List String) (fs : Fields) :
    getPath (p :: ps) (.doc fs) = (dget p fs).bind (getPath ps) := by
  show (match dget p fs with | some v => getPath ps v | none => none) = _
  cases dget p fs <;> rfl

theorem writable_doc (p q : String) (ps : List String) (fs : Fields) :
    writable (p :: q :: ps) (.doc fs) =
      (match dget p fs with | some v => writable (q :: ps) v | none => true) := rfl

theorem writable_arr (p q : String) (ps : List String) (xs : List Val) :
    writable (p :: q :: ps) (.arr xs) =
      (match pyInt? p with
       | some i => if i < 0 then false else
         (match xs[i.toNat]? with | some v => writable (q :: ps) v | none => false)
       | none => false) := rfl

theorem getPath_arr (p : String) (ps : List String) (xs : List Val) :
    getPath (p :: ps) (.arr xs) =
      (match pyInt? p with
       | some i => if i < 0 then none else
         (match xs[i.toNat]? with | some v => getPath ps v | none => none)
       | none => none) := rfl

theorem usf_other (u : Updater) (now v : Val) (part q : String) (rest : List String) (d : Val)
    (h1 : ∀ fs, d ≠ .doc fs) (h2 : ∀ xs, d ≠ .arr xs) :
    updateSingleField u now v (part :: q :: rest) d = .ok d := by
  cases d with
  | doc fs => exact absurd rfl (h1 fs)
  | arr xs => exact absurd rfl (h2 xs)
  | _ => rfl

/-- one step of a path walk: `sub` is what the component `p` leads to inside `d`, and `put s` is
    `d` with `s` in its place -/
structure Into (p : String) (d sub : Val) (put : Val → Val) : Prop where
  get : ∀ rest, getPath (p :: rest) d = getPath rest sub
  put_get : ∀ rest s, getPath (p :: rest) (put s) = getPath rest s
  self : put sub = d

theorem Into.doc {p : String} {fs : Fields} {sub : Val} (hg : dget p fs = some sub) :
    Into p (.doc fs) sub (fun s => .doc (dset p s fs)) where
  get rest := by rw [getPath_doc, hg]; rfl
  put_get rest s := by rw [getPath_doc, dget_dset_same]; rfl
  self := congrArg Val.doc (dset_self hg)

theorem Into.arr {p : String} {xs : List Val} {i : Int} {sub : Val} (hi : pyInt? p = some i)
    (hneg : ¬ i < 0) (hx : xs[i.toNat]? = some sub) :
    Into p (.arr xs) sub (fun s => .arr (xs.set i.toNat s)) where
  get rest := by rw [getPath_arr, hi]; exact (if_neg hneg).trans (by rw [hx])
  put_get rest s := by
    rw [getPath_arr, hi]
    exact (if_neg hneg).trans (by rw [List.getElem?_set_self (List.getElem?_eq_some_iff.mp hx).1])
  self := by
    obtain ⟨hl, he⟩ := List.getElem?_eq_some_iff.mp hx
    rw [← he, List.set_getElem_self]

/-- every path is writable in the empty document: everything is created -/
theorem writable_empty : ∀ (ps : List String), writable ps (.doc []) = true
  | [] => rfl
  | [_] => rfl
  | _ :: _ :: _ => rfl

theorem listIndex_of {p : String} {i : Int} (hi : pyInt? p = some i) : listIndex p = .ok i := by
  simp only [listIndex, hi]

theorem listSetPad_get (xs : List Val) (i : Nat) (v : Val) : (listSetPad xs i v)[i]? = some v := by
  unfold listSetPad
  split
  · rename_i h; simp [h]
  · rename_i h
    have : (xs ++ List.replicate (i - xs.length) Val.null).length = i := by
      simp; omega
    rw [List.getElem?_append_right (by omega)]
    simp [this]

theorem set_get_total (now v : Val) : ∀ (parts : List String) (d : Val), parts ≠ [] →
    writable parts d = true →
    ∃ d', updateSingleField .set now v parts d = .ok d' ∧ getPath parts d' = some v
  | [], _, hp, _ => absurd rfl hp
  | [p], d, _, hw => by
    cases d with
    | doc fs => exact ⟨_, rfl, by rw [getPath_doc, dget_dset_same]; rfl⟩
    | arr xs =>
      have hw' : (match pyInt? p with | some i => decide (0 ≤ i) | none => false) = true := hw
      cases hi : pyInt? p with
      | none => rw [hi] at hw'; cases hw'
      | some i =>
        rw [hi] at hw'
        have hneg : ¬ i < 0 := by simpa using hw'
        refine ⟨.arr (listSetPad xs i.toNat v),
          (bind_ok_eq (listIndex_of hi)).trans (if_neg hneg), ?_⟩
        rw [getPath_arr, hi]
        exact (if_neg hneg).trans (by rw [listSetPad_get]; rfl)
    | _ => cases hw
  | p :: q :: rest, d, _, hw => by
    cases d with
    | doc fs =>
      rw [writable_doc] at hw
      rw [usf_doc]
      have key : ∀ sub, writable (q :: rest) sub = true →
          ∃ d', ((updateSingleField .set now v (q :: rest) sub).bind
            fun sub' => .ok (.doc (dset p sub' fs))) = .ok d' ∧
            getPath (p :: q :: rest) d' = some v := fun sub hs => by
        obtain ⟨sub', h1, h2⟩ := set_get_total now v (q :: rest) sub (List.cons_ne_nil _ _) hs
        exact ⟨.doc (dset p sub' fs), by rw [h1]; rfl, by rw [getPath_doc, dget_dset_same]; exact h2⟩
      cases hg : dget p fs with
      | some sub => rw [hg] at hw; exact key sub hw
      | none => exact key _ (writable_empty _)
    | arr xs =>
      rw [writable_arr] at hw
      rw [usf_arr]
      cases hi : pyInt? p with
      | none => rw [hi] at hw; cases hw
      | some i =>
        rw [hi] at hw
        dsimp only at hw ⊢
        by_cases hneg : i < 0
        · rw [if_pos hneg] at hw; cases hw
        rw [if_neg hneg] at hw
        cases hx : xs[i.toNat]? with
        | none => rw [hx] at hw; cases hw
        | some sub =>
          rw [hx] at hw
          obtain ⟨sub', h1, h2⟩ := set_get_total now v (q :: rest) sub (List.cons_ne_nil _ _) hw
          have hd : p ≠ "$" := by
            rintro rfl
            rw [show pyInt? "$" = none by decide +kernel] at hi; cases hi
          exact ⟨.arr (xs.set i.toNat sub'), by rw [if_neg hd, if_neg hneg]; dsimp only; rw [h1]; rfl,
            ((Into.arr hi hneg hx).put_get _ _).trans h2⟩
    | _ => cases hw

/-- `fs'` is `fs` edited at most at the top-level key `p` -/
def Touch (p : String) (fs fs' : Fields) : Prop :=
  fs' = fs ∨ (∃ x, fs' = dset p x fs) ∨ fs' = derase p fs

theorem Touch.dget {p : String} {fs fs' : Fields} (h : Touch p fs fs') {k : String} (hk : k ≠ p) :
    dget k fs' = dget k fs := by
  rcases h with rfl | ⟨x, rfl⟩ | rfl
  · rfl
  · exact dget_dset_other x hk fs
  · exact dget_derase_other hk fs

theorem Touch.keys {p : String} {fs fs' : Fields} (h : Touch p fs fs') :
    (dkeys fs').filter (· ≠ p) = (dkeys fs).filter (· ≠ p) := by
  rcases h with rfl | ⟨x, rfl⟩ | rfl
  · rfl
  · exact dkeys_dset_filter p x fs
  · exact dkeys_derase_filter p fs

/-- the outcomes of one step on two documents: the same error, or the same edit (nothing /
    `h := x` / delete `h`) of `fs` and of `gs` -/
inductive SameEdit (h : String) (fs gs : Fields) : R Val → R Val → Prop
  | err (e : Err) : SameEdit h fs gs (.error e) (.error e)
  | keep : SameEdit h fs gs (.ok (.doc fs)) (.ok (.doc gs))
  | set (x : Val) : SameEdit h fs gs (.ok (.doc (dset h x fs))) (.ok (.doc (dset h x gs)))
  | erase : SameEdit h fs gs (.ok (.doc (derase h fs))) (.ok (.doc (derase h gs)))

theorem SameEdit.bindSet (h : String) (fs gs : Fields) (X : R Val) :
    SameEdit h fs gs (X.bind (fun s => .ok (.doc (dset h s fs))))
      (X.bind (fun s => .ok (.doc (dset h s gs)))) := by
  cases X with
  | error e => exact .err e
  | ok s => exact .set s

theorem SameEdit.touch {h : String} {fs gs : Fields} {d' : Val} {s : R Val}
    (he : SameEdit h fs gs (.ok d') s) : ∃ fs', d' = .doc fs' ∧ Touch h fs fs' := by
  cases he with
  | keep => exact ⟨_, rfl, .inl rfl⟩
  | set x => exact ⟨_, rfl, .inr (.inl ⟨x, rfl⟩)⟩
  | erase => exact ⟨_, rfl, .inr (.inr rfl)⟩

/-- `F` edits a document at most at the top-level key `p`, and which edit it makes (or which
    error it raises) is decided by what the document holds under `p` -/
def EditsKey (p : String) (F : Val → R Val) : Prop :=
  ∀ fs gs, dget p fs = dget p gs → SameEdit p fs gs (F (.doc fs)) (F (.doc gs))

theorem EditsKey.touch {p : String} {F : Val → R Val} (hF : EditsKey p F) {fs : Fields} {d' : Val}
    (h : F (.doc fs) = .ok d') : ∃ fs', d' = .doc fs' ∧ Touch p fs fs' := by
  have he := hF fs fs rfl
  rw [h] at he
  exact he.touch

theorem runUpdater_editsKey (u : Updater) (now v : Val) (p : String) :
    EditsKey p (fun d => runUpdater u now d p v) := by
  intro fs gs hg
  show SameEdit p fs gs (runUpdater u now (.doc fs) p v) (runUpdater u now (.doc gs) p v)
  unfold runUpdater
  cases u <;> dsimp only
  · exact .set v
  · exact .erase
  · rw [← hg]; exact SameEdit.bindSet _ _ _ _
  · rw [← hg]; exact SameEdit.bindSet _ _ _ _
  · rw [← hg]; exact SameEdit.bindSet _ _ _ _
  · -- pop
    rw [← hg]
    cases popSpec v with
    | error e => exact .err e
    | ok last =>
      show SameEdit p fs gs (match dget p fs with | none => _ | some (.arr xs) => _ | some _ => _)
        (match dget p fs with | none => _ | some (.arr xs) => _ | some _ => _)
      cases dget p fs with
      | none => exact .keep
      | some c =>
        cases c <;> first | exact .err _ | exact .set _
  · exact ite_rel _ (fun _ => .err _) fun _ => .set _

theorem usf_editsKey (u : Updater) (now v : Val) (p : String) (rest : List String) :
    EditsKey p (updateSingleField u now v (p :: rest)) := by
  intro fs gs hg
  cases rest with
  | nil => rw [usf_last, usf_last]; exact runUpdater_editsKey u now v p fs gs hg
  | cons q rest =>
    rw [usf_doc, usf_doc, ← hg]
    cases dget p fs with
    | some sub => exact SameEdit.bindSet _ _ _ _
    | none =>
      exact ite_rel _ (fun _ => .keep) fun _ => SameEdit.bindSet _ _ _ _

end MongoModel.Proofs.C02Lemmas
