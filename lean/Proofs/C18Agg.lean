/-
  Proofs.C18Agg — the aggregation pipeline as a path of C18 (follows the repairs d1da933 and
  e05c961: `Collection.aggregate` normalises the pipeline it is given (`MongoModel.aggPipeline`),
  runs it over the documents as stored (`aggInput`), and under `tz_aware=True` rebuilds its results
  aware at the end (`aggResult`)).

    * `aggPipeline` is `patch` and `aggResult` is `readDoc`, so what the pipeline is handed and what
      the caller gets are covered by the theory of the two traversals (Proofs/C18.lean); here: the
      read form of a stored value (`readDoc_form`, `patch_readDoc`);
    * inside the pipeline every datetime is naive, and any two naive datetimes — a computed one
      included — compare without error (`Expr.compareOp`, the model of aggregate.py's comparison
      operators), by their instants;
    * `aggregateTz`: `Collection.aggregate` with the client's setting; two pipelines that differ
      only in how their datetimes are written are the same pipeline once prepared.
-/
import Proofs.C18Filter
import MongoModel.ExprOps
import MongoModel.Pipeline

namespace MongoModel.Proofs.C18
open MongoModel

theorem awareNormalB_iff (u : Int) (o : Option Int) : awareNormalB u o = true ↔ AwareNormal u o := by
  simp [awareNormalB, AwareNormal]

theorem readFormB_iff (tz : Bool) (u : Int) (o : Option Int) :
    readFormB tz u o = true ↔ ReadForm tz u o := by
  cases tz
  · exact normalB_iff u o
  · exact awareNormalB_iff u o

theorem allReadFormB_iff (tz : Bool) (v : Val) :
    allDatesB (readFormB tz) v = true ↔ AllDates (ReadForm tz) v :=
  allDatesB_iff_of (readFormB_iff tz) v

theorem readForm_false : ReadForm false = Normal := rfl
theorem readForm_true : ReadForm true = AwareNormal := rfl

theorem awareNormal_awareUtc (v : Val) (h : AllDates AwareNormal v) : AllDates AwareUtc v :=
  allDates_mono (fun _ _ hn => hn.1) v h

theorem makeAware_awareNormal : ∀ v : Val, AllDates Normal v → AllDates AwareNormal (makeAware v) :=
  fun v h => by
    rw [makeAware_eq]
    exact (allDates_mapDates ..).2 fun d hd => ⟨rfl, ((allDates_iff_dates Normal v).1 h d hd).2⟩

theorem makeAwareFields_awareNormal : ∀ fs : Fields, AllDatesF Normal fs →
    AllDatesF AwareNormal (makeAwareFields fs) :=
  fun fs => makeAware_awareNormal (.doc fs)

theorem makeAwareList_awareNormal : ∀ xs : List Val, AllDatesL Normal xs →
    AllDatesL AwareNormal (makeAwareList xs) :=
  fun xs => makeAware_awareNormal (.arr xs)

/-- a stored value reaches either client in its read form; `aggResult` is `readDoc`, so this is
    also the form of a result whose datetimes the pipeline left or made normal -/
theorem readDoc_form (tz : Bool) (v : Val) (h : AllDates Normal v) :
    AllDates (ReadForm tz) (readDoc tz v) := by
  cases tz
  · exact h
  · exact makeAware_awareNormal v h

/-- nothing is lost by reading: normalising what was read gives the stored value back -/
theorem patch_readDoc (tz : Bool) (v : Val) (h : AllDates Normal v) : patch (readDoc tz v) = v := by
  cases tz
  · exact patch_fixes_normal v h
  · exact patch_makeAware v h

theorem aggResult_eq_readDoc (tz : Bool) (r : Val) : aggResult tz r = readDoc tz r := rfl

/-- `tz_aware=False`: results are handed out as computed -/
theorem aggResult_false (r : Val) : aggResult false r = r := rfl

/-- a written datetime that a pipeline passes on untouched comes out exactly as a stored copy of
    it is read by this client -/
theorem aggResult_aggPipeline (tz : Bool) (p : Val) :
    aggResult tz (aggPipeline p) = readDoc tz (patch p) := rfl

/-! ### comparisons inside the pipeline (what each statement says of mongomock: Props/C18.lean, section 9) -/

/-- the comparison of two integers an expression operator stands for -/
def cmpMs (op : String) (m m' : Int) : Bool :=
  if op = "$eq" then m == m'
  else if op = "$ne" then m != m'
  else if op = "$gt" then decide (m' < m)
  else if op = "$gte" then decide (m' ≤ m)
  else if op = "$lt" then decide (m < m')
  else decide (m ≤ m')

def dateCmpOps : List String := ["$eq", "$ne", "$gt", "$gte", "$lt", "$lte"]

theorem compare_mul_1000 (a b : Int) : compare (a * 1000) (b * 1000) = compare a b := by
  have h : (0 : Int) < 1000 := by decide
  simp only [compare, compareOfLessAndEq, Int.mul_lt_mul_right h,
    Int.mul_eq_mul_right_iff (Int.ne_of_gt h)]

theorem holds_compare (c : CmpOp) (a b : Int) :
    c.holds (compare a b) = match c with
      | .gt => decide (b < a) | .gte => decide (b ≤ a) | .lt => decide (a < b)
      | .lte => decide (a ≤ b) := by
  cases c
  all_goals
    rw [Bool.eq_iff_iff]
    simp only [CmpOp.holds, beq_iff_eq, bne_iff_ne, decide_eq_true_eq]
  · exact Int.compare_eq_gt
  · exact Int.compare_ne_lt
  · exact Int.compare_eq_lt
  · exact Int.compare_ne_gt

theorem bsonCompare_naive_dates (c : CmpOp) (x y : Int) :
    bsonCompare c (.date x none) (.date y none) true = .ok (c.holds (compare x y)) := rfl

theorem compare_naive_dates (op : String) (hop : op ∈ dateCmpOps) (x y : Int) :
    Expr.compareOp op (.date x none) (.date y none) = .ok (.bool (cmpMs op x y)) := by
  have hp : pyEq (.date x none) (.date y none) = (x == y) := rfl
  simp only [dateCmpOps, List.mem_cons, List.mem_nil_iff, or_false] at hop
  rcases hop with rfl | rfl | rfl | rfl | rfl | rfl <;>
    simp [Expr.compareOp, cmpMs, hp, bne, bsonCompare_naive_dates, holds_compare, Except.map]

theorem cmpMs_mul_1000 (op : String) (a b : Int) : cmpMs op (a * 1000) (b * 1000) = cmpMs op a b := by
  have h : (0 : Int) < 1000 := by decide
  simp only [cmpMs, bne, BEq.beq, Int.mul_lt_mul_right h, Int.mul_le_mul_iff_of_pos_right h,
    Int.mul_eq_mul_right_iff (Int.ne_of_gt h)]

theorem compare_field_with_literal (op : String) (hop : op ∈ dateCmpOps)
    (u : Int) (o : Option Int) (u' : Int) (o' : Option Int) :
    Expr.compareOp op (aggInput (patch (.date u o))) (aggPipeline (.date u' o'))
      = .ok (.bool (cmpMs op (msOf u o) (msOf u' o'))) := by
  simp only [aggInput, aggPipeline, patch]
  rw [compare_naive_dates op hop]
  simp only [floorMs, cmpMs_mul_1000, msOf]

theorem compare_literal_with_field (op : String) (hop : op ∈ dateCmpOps)
    (u : Int) (o : Option Int) (u' : Int) (o' : Option Int) :
    Expr.compareOp op (aggPipeline (.date u' o')) (aggInput (patch (.date u o)))
      = .ok (.bool (cmpMs op (msOf u' o') (msOf u o))) :=
  compare_field_with_literal op hop u' o' u o

theorem compare_field_with_computed (op : String) (hop : op ∈ dateCmpOps)
    (u : Int) (o : Option Int) (m : Int) :
    Expr.compareOp op (aggInput (patch (.date u o))) (.date m none)
      = .ok (.bool (cmpMs op (floorMs (dateUtc u o)) m)) := by
  simp only [aggInput, patch]
  exact compare_naive_dates op hop _ _

theorem compare_field_with_computed_ms (op : String) (hop : op ∈ dateCmpOps)
    (u : Int) (o : Option Int) (ms : Int) :
    Expr.compareOp op (aggInput (patch (.date u o))) (.date (ms * 1000) none)
      = .ok (.bool (cmpMs op (msOf u o) ms)) := by
  rw [compare_field_with_computed op hop]
  simp only [floorMs, cmpMs_mul_1000, msOf]

theorem compare_literal_with_computed (op : String) (hop : op ∈ dateCmpOps)
    (u : Int) (o : Option Int) (m : Int) :
    Expr.compareOp op (aggPipeline (.date u o)) (.date m none)
      = .ok (.bool (cmpMs op (floorMs (dateUtc u o)) m)) :=
  compare_field_with_computed op hop u o m

/-- d1da933, the witness of the fixed finding `aggregate_literal_raw`: the literal
    2020-01-01T05:30:00.123456+05:30 handed on as written had neither read form -/
theorem unrepaired_literal_form (tz : Bool) :
    ¬ AllDates (ReadForm tz) (aggPipelineUnrepaired tz (.date 1577856600123456 (some 330))) := by
  cases tz <;> simp [aggPipelineUnrepaired, AllDates, ReadForm, Normal, AwareNormal]

/-- e05c961, the witness of the fixed finding `aggregate_computed_raw`: with the input read
    through `find()`, under `tz_aware=True` the datetime `$dateFromParts` computes for
    {year: 2020, millisecond: 123} (naive) could not be compared with the stored 2021-01-01 … -/
theorem unrepaired_computed_compare_raises :
    Expr.compareOp "$lt" (.date 1577836800123000 none)
        (aggInputUnrepaired true (patch (.date 1609459200000000 none))) = .error .typeErr :=
  rfl

/-- … and, handed out as computed, did not have the read form of that client -/
theorem unrepaired_computed_form :
    ¬ AllDates (ReadForm true) (aggResultUnrepaired true (.date 1577836800123000 none)) := by
  simp [aggResultUnrepaired, AllDates, ReadForm, AwareNormal]

/-- `list(collection.aggregate(pipeline))` for a client with this `tz_aware` setting: the pipeline
    is prepared, the input is the stored documents (`db`), the rest is `process_pipeline`
    (MongoModel/Pipeline.lean), and every result document goes through `aggResult` -/
def aggregateTz (tz : Bool) (db : Pipe.Db) (coll : String) (pipeline : Val) : R (List Val) :=
  (Pipe.aggregate db coll (aggPipeline pipeline)).map (List.map (aggResult tz))

theorem map_map_except {α β γ : Type} (f : α → β) (g : β → γ) (r : R α) :
    (r.map f).map g = r.map (g ∘ f) := by
  cases r <;> rfl

theorem equivalent_pipeline_aggregates (tz : Bool) (db : Pipe.Db) (coll : String) (p q : Val)
    (h : SameMs p q) : aggregateTz tz db coll p = aggregateTz tz db coll q := by
  simp only [aggregateTz, aggPipeline, patch_eq_of_sameMs p q h]

theorem equivalent_pipeline_any {α : Type} (run : Val → α) (p q : Val)
    (h : SameMs p q) : run (aggPipeline p) = run (aggPipeline q) := by
  simp only [aggPipeline, patch_eq_of_sameMs p q h]

/-- for the `$match` stage inside `aggregate` (Props/C18.lean, `match_stage_eq_find`) -/
theorem filterR_congr (p q : Val → R Bool) : ∀ docs : List Val, (∀ d ∈ docs, p d = q d) →
    Pipe.filterR p docs = Pipe.filterR q docs
  | [], _ => rfl
  | d :: r, h => by
    simp only [Pipe.filterR, h d List.mem_cons_self,
      filterR_congr p q r (fun x hx => h x (List.mem_cons_of_mem _ hx))]

end MongoModel.Proofs.C18
