/-
  Proofs.C02ExtMain — a whole operator update is the sequential run of its entries
  (`applyOps_eq`, then `flat_ok`, `flat_ok_conv` in Proofs/C02ExtFlat.lean), and every entry
  `(operator, path, argument)` is a step that reads and writes the document only at the keys it
  addresses (`estep_local`).
-/
import Proofs.C02ExtBase


namespace MongoModel.Proofs.C02Lemmas
open MongoModel MongoModel.Spec

theorem SameEdit.rel {h : String} {fs gs : Fields} {r s : R Val} (he : SameEdit h fs gs r s)
    (ha : Agree [h] fs gs) : Rel [h] fs gs r s := by
  have hp : proj h fs = proj h gs := ha h (List.mem_singleton.mpr rfl)
  have hne : ∀ k, k ∉ [h] → k ≠ h := fun k hk e => hk (List.mem_singleton.mpr e)
  cases he with
  | err e => exact .err e
  | keep => exact .ok fs gs ha (FrameP.refl _ _) (FrameP.refl _ _)
  | set x =>
    refine .ok _ _ ?_ (fun k hk => proj_dset_other x (hne k hk) fs)
      (fun k hk => proj_dset_other x (hne k hk) gs)
    intro k hk
    cases List.mem_singleton.mp hk
    rw [proj_dset_same, proj_dset_same, hp]
  | erase =>
    refine .ok _ _ ?_ (fun k hk => proj_derase_other (hne k hk) fs)
      (fun k hk => proj_derase_other (hne k hk) gs)
    intro k hk
    cases List.mem_singleton.mp hk
    rw [proj_derase_same, proj_derase_same, hp]

theorem EditsKey.local {h : String} {F : Val → R Val} (hF : EditsKey h F) : Local [h] F :=
  fun fs gs ha => (hF fs gs (ha.dget (List.mem_singleton.mpr rfl))).rel ha

theorem updateFields_single (u : Updater) (now a : Val) (p : String) (d : Val) :
    updateFields u now (.doc [(p, a)]) d =
      if hasDollarPart p then unmodelled
      else if !keyOk p then unmodelled
      else updateSingleField u now a (splitDots p) d := by
  simp only [updateFields, List.any_cons, List.any_nil, Bool.or_false, List.foldlM_cons,
    List.foldlM_nil]
  by_cases h1 : hasDollarPart p = true
  · simp only [h1, if_true]
  · simp only [h1, if_false, Bool.false_eq_true]
    exact bind_pure _

theorem updateFields_single_local (u : Updater) (now a : Val) (p : String) :
    Local [headOf p] (fun d => updateFields u now (.doc [(p, a)]) d) := by
  refine EditsKey.local ?_
  intro fs gs hg
  simp only [updateFields_single]
  by_cases h1 : hasDollarPart p = true
  · simp only [h1, if_true]; exact .err _
  · simp only [h1, if_false, Bool.false_eq_true]
    exact fieldStep_editsKey u now (p, a) fs gs hg

theorem eachField_single (f : Val → String → Val → R Val) (p : String) (a d : Val) :
    eachField (.doc [(p, a)]) d f = f d p a := by
  simp only [eachField, List.foldlM_cons, List.foldlM_nil]
  exact bind_pure _

/-- the top-level keys one entry addresses: the head of its path and, for `$rename`, the target -/
def eheads (e : Entry) : List String :=
  headOf e.2.1 :: (if e.1 = "$rename" then (match e.2.2 with | .str d => [d] | _ => []) else [])

theorem rename_single_local (p : String) (a : Val) :
    Local (eheads ("$rename", p, a)) (fun d => renameFields (.doc [(p, a)]) d) := by
  intro fs gs ha
  simp only [eheads, eq_self, if_true] at ha ⊢
  simp only [renameFields, eachField_single]
  cases a with
  | str dst =>
    by_cases hdots : (p.toList.contains '.' || dst.toList.contains '.') = true
    · simp only [hdots, if_true]; exact .err _
    · simp only [hdots, if_false, Bool.false_eq_true]
      simp only [Bool.or_eq_true, not_or, Bool.not_eq_true] at hdots
      have hp : headOf p = p := headOf_nodot p hdots.1
      simp only [hp] at ha ⊢
      have hsrc : proj p fs = proj p gs := ha p (by simp)
      have hdst : proj dst fs = proj dst gs := ha dst (by simp)
      rw [← dget_of_proj hsrc]
      cases hgx : dget p fs with
      | none => exact .ok fs gs ha (FrameP.refl _ _) (FrameP.refl _ _)
      | some x =>
        have hframe : ∀ hs : Fields, FrameP [p, dst] hs (dset dst x (derase p hs)) := by
          intro hs k hk
          simp only [List.mem_cons, List.not_mem_nil, or_false, not_or] at hk
          rw [proj_dset_other x hk.2, proj_derase_other hk.1]
        refine .ok _ _ ?_ (hframe fs) (hframe gs)
        intro k hk
        by_cases hkd : k = dst
        · subst hkd
          rw [proj_dset_same, proj_dset_same]
          by_cases hkp : k = p
          · subst hkp; rw [proj_derase_same, proj_derase_same, hsrc]
          · rw [proj_derase_other hkp, proj_derase_other hkp, hdst]
        · have hkp : k = p := by
            simp only [List.mem_cons, List.not_mem_nil, or_false] at hk
            rcases hk with h | h
            · exact h
            · exact absurd h hkd
          subst hkp
          rw [proj_dset_other x hkd, proj_dset_other x hkd, proj_derase_same, proj_derase_same,
            hsrc]
  | arr _ => exact .err _
  | doc _ => exact .err _
  | _ => simp only []; split <;> exact .err _

/-- what the operator loop does for the operator `k : v` when the update holds a `$`-key, so that
    the replacement branch is an error -/
def opRun (spec now : Val) (wi : Bool) (k : String) (v : Val) (d : Val) : R Val :=
  (opRun? spec now (opClass wi k) v d).getD (.error .valueErr)

theorem applyOps_eq (spec now : Val) (wi : Bool) (whole : Fields)
    (hw : whole.any (fun kv => kv.1.startsWith "$") = true) :
    ∀ (ops : Fields) (first : Bool) (d : Val),
      applyOps spec now wi whole ops first d =
        ops.foldlM (fun acc kv => opRun spec now wi kv.1 kv.2 acc) d
  | [], first, d => rfl
  | (k, v) :: rest, first, d => by
    obtain ⟨first', he⟩ := applyOps_cons spec now wi whole k v rest first d
    rw [he, List.foldlM_cons, opRun]
    cases opRun? spec now (opClass wi k) v d with
    | some X =>
      simp only [Option.getD_some]
      congr 1
      funext d'
      exact applyOps_eq spec now wi whole hw rest first' d'
    | none =>
      simp only [Option.getD_none, replaceWhole_dollar whole _ hw]
      cases first <;> rfl

/-- the step of one entry: the operator with that single field -/
def estep (spec now : Val) (wi : Bool) (d : Val) (e : Entry) : R Val :=
  opRun spec now wi e.1 (.doc [(e.2.1, e.2.2)]) d

def entriesOf (k : String) (v : Val) : List Entry :=
  match v with
  | .doc body => body.map (fun fv => (k, fv.1, fv.2))
  | _ => []

theorem entries_cons (k : String) (v : Val) (rest : Fields) :
    entries ((k, v) :: rest) = entriesOf k v ++ entries rest := by
  simp only [entries, entriesOf, List.flatMap_cons]
  cases v <;> rfl

theorem addressed_single (e : Entry) : addressed (single e) = eheads e := by
  simp only [addressed, single, eheads, List.flatMap_cons, List.flatMap_nil, List.append_nil]
  rfl

theorem opAddr_eq (k : String) (v : Val) : opAddr k v = (entriesOf k v).flatMap eheads := by
  cases v with
  | doc body =>
    simp only [opAddr, entriesOf, List.flatMap_map, eheads]
    rfl
  | _ => simp only [opAddr, entriesOf, List.flatMap_nil]

theorem addressed_entries : ∀ (u : Fields), addressed u = (entries u).flatMap eheads
  | [] => by simp [addressed, entries]
  | (k, v) :: rest => by
    rw [addressed_cons, entries_cons, List.flatMap_append, addressed_entries rest, opAddr_eq]

/-- the update made of one entry runs that entry's step -/
theorem applyUpdate_single (spec now : Val) (wi : Bool) (e : Entry) (d : Val)
    (he : e.1.startsWith "$" = true) (hp : positionalUpdate (single e) = false) :
    applyUpdate spec (.doc (single e)) now wi d = estep spec now wi d e := by
  have hw : (single e).any (fun kv => kv.1.startsWith "$") = true := by
    simp [single, he]
  simp only [single] at hw hp ⊢
  simp only [applyUpdate, hp, Bool.false_eq_true, if_false]
  rw [applyOps_eq spec now wi _ hw]
  simp only [List.foldlM_cons, List.foldlM_nil, estep]
  exact bind_pure _

theorem eheads_plain {k : String} (hk : k ≠ "$rename") (p : String) (a : Val) :
    eheads (k, p, a) = [headOf p] := by
  simp only [eheads, if_neg hk]

/-- every entry is local at the keys it addresses -/
theorem estep_local (spec now : Val) (wi : Bool) (e : Entry) :
    Local (eheads e) (fun d => estep spec now wi d e) := by
  obtain ⟨k, p, a⟩ := e
  simp only [estep, opRun]
  have hk := opClass_key wi k
  cases hc : opClass wi k with
  | fields u =>
    rw [hc] at hk
    rw [eheads_plain hk]
    exact updateFields_single_local u now a p
  | each op =>
    rw [hc] at hk
    rw [eheads_plain hk]
    exact (arrayField_editsKey spec op p a).local.congr (fun d => eachField_single _ p a d)
  | rename =>
    rw [hc] at hk
    cases hk
    exact rename_single_local p a
  | skip => exact Local.id _
  | unknown => exact Local.fail _ .valueErr

end MongoModel.Proofs.C02Lemmas
