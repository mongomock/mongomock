/-
  Proofs.C14Base — on a collection without TTL indexes the expiry pass hidden in `iterDocuments`
  is the identity, and C10's loop invariant holds with nothing to expire.
-/
import Spec.Single
import Proofs.C10

namespace MongoModel.Proofs.C14Lemmas
open MongoModel MongoModel.Spec
open MongoModel.Proofs.C10Lemmas MongoModel.Proofs.C09Lemmas

theorem iter_nil (now : Int) (c c' : Coll) (f : Val) (ms : List Val) (hn : c.ttlIndexes = [])
    (h : iterDocuments now c f = .ok (c', ms)) : c' = c := by
  have := (iter_ok h).1
  rw [expire_nil now c hn] at this
  exact (Except.ok.inj this).symm

theorem cleanDoc_nil (now : Int) (d : Val) : CleanDoc now [] d := by
  intro ix hix; cases hix

theorem linv_nil (now : Int) (c : Coll) (hn : c.ttlIndexes = []) (hd : DK c.docs) (hg : GK c.docs)
    (l : List (Val × Val)) (hl : ∀ p ∈ l, p ∈ c.docs) : LInv now [] l c :=
  ⟨hd, hg, hn, fun p hp => ⟨hl p hp, cleanDoc_nil now p.2⟩⟩

end MongoModel.Proofs.C14Lemmas
