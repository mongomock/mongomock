/-
  Proofs.BsonClass — `bson_compare` looks at the comparison class (`Val.tc`) first: values of
  different classes are ordered by the class, values of one class have the same shape and are
  compared by `leafCmp`.  The lemmas here say which shape each scalar class has, so that a proof
  about two values of one class needs one case per class, not one per pair of constructors.
-/
import MongoModel.Bson

namespace MongoModel.Proofs.Bson
open MongoModel

theorem tc_null : ∀ {x : Val}, x.tc = 5 → x = .null
  | .null, _ => rfl

theorem tc_bool : ∀ {x : Val}, x.tc = 40 → ∃ b, x = .bool b
  | .bool b, _ => ⟨b, rfl⟩

theorem tc_num : ∀ {x : Val}, x.tc = 10 → (∃ i, x = .int i) ∨ ∃ m e, x = .dbl m e
  | .int i, _ => .inl ⟨i, rfl⟩
  | .dbl m e, _ => .inr ⟨m, e, rfl⟩

theorem tc_str : ∀ {x : Val}, x.tc = 15 → ∃ s, x = .str s
  | .str s, _ => ⟨s, rfl⟩

theorem tc_doc : ∀ {x : Val}, x.tc = 20 → ∃ fs, x = .doc fs
  | .doc fs, _ => ⟨fs, rfl⟩

theorem tc_arr : ∀ {x : Val}, x.tc = 25 → ∃ xs, x = .arr xs
  | .arr xs, _ => ⟨xs, rfl⟩

theorem tc_oid : ∀ {x : Val}, x.tc = 35 → ∃ n, x = .oid n
  | .oid n, _ => ⟨n, rfl⟩

theorem tc_date : ∀ {x : Val}, x.tc = 45 → ∃ u o, x = .date u o
  | .date u o, _ => ⟨u, o, rfl⟩

theorem bsonCompare_of_tc_ne (op : CmpOp) {a b : Val} (cct : Bool) (h : a.tc ≠ b.tc) :
    bsonCompare op a b cct = .ok (cct && op.holds (natCmp a.tc b.tc)) :=
  if_pos h

theorem bsonCompare_of_tc_eq (op : CmpOp) {a b : Val} (cct : Bool) (h : a.tc = b.tc)
    (hd : b.isDoc = false) (ha : b.isArr = false) :
    bsonCompare op a b cct = (leafCmp a b).map op.holds := by
  rw [bsonCompare, if_neg (fun n => n h), bsonCmp.eq_3, if_pos h]
  · rintro _ _ _ rfl; cases hd
  · rintro _ _ _ rfl; cases ha

end MongoModel.Proofs.Bson
