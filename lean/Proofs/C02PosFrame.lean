/-
  Proofs.C02PosFrame — the positional branch of an operator update (`applyOpsPos`): every key of
  every operator document edits the document at most at the top-level field its path starts with,
  so the loop is a sequence of such edits like the plain one; `applyUpdate_frame` for both
  branches.
-/
import Proofs.C02Frame


namespace MongoModel.Proofs.C02Lemmas
open MongoModel MongoModel.Spec

theorem editTop_editsKey (h : String) (g : Val → R Val) : EditsKey h (editTop h g) := by
  intro fs gs hg
  simp only [editTop, ← hg]
  cases dget h fs with
  | none => exact .err _
  | some top => exact SameEdit.bindSet _ _ _ _

theorem applyAtSub_editsKey (u : Updater) (now : Val) (sub : SubRef) (last : String) (v : Val)
    (head : String) (hs : ∀ h p, sub = .inside h p → h = head) :
    EditsKey head (applyAtSub u now sub last v) := by
  intro fs gs hg
  cases sub with
  | nil => exact .err _
  | untracked => exact .err _
  | gone c =>
    simp only [applyAtSub]
    cases runUpdater u now c last v with
    | error e => exact .err e
    | ok _ => exact .keep
  | inside h p =>
    cases hs h p rfl
    exact editTop_editsKey _ _ fs gs hg

/-- the outcome of one key on two documents: the same error, or the same edit with the same
    carried container -/
inductive SameSt (h : String) (fs gs : Fields) : R PosState → R PosState → Prop
  | err (e : Err) : SameSt h fs gs (.error e) (.error e)
  | ok (d d' : Val) (sub : SubRef) (lost : Bool) :
      SameEdit h fs gs (.ok d) (.ok d') → SameSt h fs gs (.ok ⟨d, sub, lost⟩) (.ok ⟨d', sub, lost⟩)

theorem SameSt.ofEdit {h : String} {fs gs : Fields} {X Y : R Val} (sub : SubRef) (lost : Bool)
    (he : SameEdit h fs gs X Y) :
    SameSt h fs gs (X.bind (fun d => .ok ⟨d, sub, lost⟩)) (Y.bind (fun d => .ok ⟨d, sub, lost⟩)) := by
  cases he with
  | err e => exact .err e
  | keep => exact .ok _ _ _ _ .keep
  | set x => exact .ok _ _ _ _ (.set x)
  | erase => exact .ok _ _ _ _ .erase

theorem SameSt.touch {h : String} {fs gs : Fields} {st' : PosState} {Y : R PosState}
    (he : SameSt h fs gs (.ok st') Y) : ∃ fs', st'.d = .doc fs' ∧ Touch h fs fs' := by
  cases he with
  | ok d d' sub lost hd => exact hd.touch

theorem SameSt.toEdit {h : String} {fs gs : Fields} {X Y : R PosState} (he : SameSt h fs gs X Y) :
    SameEdit h fs gs (X.bind (fun st => .ok st.d)) (Y.bind (fun st => .ok st.d)) := by
  cases he with
  | err e => exact .err e
  | ok d d' sub lost hd => exact hd

theorem SameSt.bind {α : Type} {h : String} {fs gs : Fields} (x : R α) {f g : α → R PosState}
    (hfg : ∀ a, SameSt h fs gs (f a) (g a)) : SameSt h fs gs (x >>= f) (x >>= g) := by
  cases x with
  | error e => exact .err e
  | ok a => exact hfg a

theorem truthy_congr (sub : SubRef) (fs gs : Fields)
    (hs : ∀ h p, sub = .inside h p → dget h fs = dget h gs) :
    sub.truthy (.doc fs) = sub.truthy (.doc gs) := by
  cases sub with
  | inside h p => simp only [SubRef.truthy, hs h p rfl]
  | _ => rfl

theorem walkSub_head (head : String) (cur : Val) (path : Option (List PStep)) (h : String)
    (p : List PStep)
    (e : (match path with | some p => SubRef.inside head p | none => SubRef.gone cur) = .inside h p) :
    h = head := by
  cases path <;> cases e
  rfl

/-- one key of a positional operator document depends on the document only through the value of
    the top-level field its path starts with (and of the field the carried container sits in) -/
theorem posUpdaterKey_same (u : Updater) (now spec : Val) (sub : SubRef) (lost : Bool)
    (k : String) (v : Val) (fs gs : Fields)
    (hs : ∀ h p, sub = .inside h p → dget h fs = dget h gs)
    (hg : dget (headOf k) fs = dget (headOf k) gs) :
    SameSt (headOf k) fs gs (posUpdaterKey u now spec ⟨.doc fs, sub, lost⟩ k v)
      (posUpdaterKey u now spec ⟨.doc gs, sub, lost⟩ k v) := by
  have hsd := splitDots_cons k
  generalize headOf k = head at hsd hg ⊢
  generalize (splitDots k).tail = t at hsd
  unfold posUpdaterKey
  rw [hsd]
  refine ite_rel _ (fun _ => .err _) fun _ => ?_
  refine ite_rel _ (fun _ => .err _) fun _ => ?_
  refine ite_rel _ (fun _ => SameSt.ofEdit _ _ (usf_editsKey u now v head t fs gs hg)) fun _ => ?_
  cases t with
  | nil => exact .err _
  | cons p2 more =>
    dsimp only
    refine ite_rel _ (fun _ => .err _) fun _ => ?_
    rw [truthy_congr sub fs gs hs]
    refine .bind _ fun b => ite_rel _ (fun _ => ?_) fun _ => ?_
    · -- the carried container is used: no walk
      cases sub with
      | inside h p =>
        refine ite_rel _ (fun hh => ?_) fun _ => .err _
        exact SameSt.ofEdit _ _ (applyAtSub_editsKey u now _ _ v head
          (fun h' p' e => by cases e; exact hh) fs gs hg)
      | gone c =>
        exact SameSt.ofEdit _ _ (applyAtSub_editsKey u now _ _ v head
          (fun h' p' e => by cases e) fs gs hg)
      | _ => exact .err _
    · -- a fresh walk from the top-level field
      cases spec with
      | doc ss =>
        dsimp only
        refine .bind _ fun ns => ?_
        rw [← hg]
        cases dget head fs with
        | none => exact .err _
        | some top =>
          dsimp only
          refine .bind _ fun w => ?_
          obtain ⟨cur, subspec, path⟩ := w
          dsimp only
          have hsub := walkSub_head head cur path
          have hB := fun sub' (hs' : ∀ h p, sub' = SubRef.inside h p → h = head) =>
            SameSt.ofEdit sub' lost
              (applyAtSub_editsKey u now sub' (lastPart (p2 :: more)) v head hs' fs gs hg)
          cases (lastPart (p2 :: more) == "$") with
          | false => exact hB _ hsub
          | true =>
            cases cur with
            | arr xs =>
              dsimp only
              refine ite_rel _ (fun _ => .ok _ _ _ _ .keep) fun _ => ?_
              cases subspec with
              | doc cs =>
                dsimp only
                refine .bind _ fun m => ?_
                cases m with
                | none => exact .ok _ _ _ _ .keep
                | some im =>
                  cases path with
                  | none => exact .ok _ _ _ _ .keep
                  | some p =>
                    exact SameSt.ofEdit (SubRef.inside head p) true
                      (editTop_editsKey head _ fs gs hg)
              | _ => exact .err _
            | _ => exact hB _ hsub
      | _ => exact .err _

/-- one key of a positional operator document edits at most the field its path starts with -/
theorem posUpdaterKey_touch (u : Updater) (now spec : Val) (st st' : PosState) (k : String) (v : Val)
    (fs : Fields) (hd : st.d = .doc fs)
    (h : posUpdaterKey u now spec st k v = .ok st') :
    ∃ fs', st'.d = .doc fs' ∧ Touch (headOf k) fs fs' := by
  obtain ⟨d, sub, lost⟩ := st
  cases hd
  have he := posUpdaterKey_same u now spec sub lost k v fs fs (fun _ _ _ => rfl) rfl
  rw [h] at he
  exact he.touch

theorem withSubdocPos_editsKey {f : Val → String → R Val} {create : Bool} {p : String}
    {rest : List String} {fol : Bool} {ss : Val} (hp : p ≠ "$")
    (hf : rest = [] → EditsKey p (fun d => f d p)) :
    EditsKey p (withSubdocPos f create (p :: rest) fol ss) := by
  intro fs gs hg
  cases rest with
  | nil =>
    simp only [withSubdocPos, if_neg hp, withSubdoc]
    exact hf rfl fs gs hg
  | cons q rest =>
    unfold withSubdocPos
    simp only [if_neg hp, ← hg]
    by_cases hc : (!create && (dget p fs).isNone) = true
    · simp only [hc, if_true]; exact .keep
    · simp only [hc, if_false, Bool.false_eq_true]
      generalize (ite ((!fol) = true) _ _ : Bool × Val × Bool) = t
      by_cases hb : t.2.2 = true
      · simp only [hb, if_true]; exact .err _
      · simp only [hb, if_false, Bool.false_eq_true]
        exact SameEdit.bindSet _ _ _ _

theorem head_ne_dollar {field : String} (h : onePositional field = true) : headOf field ≠ "$" := by
  simp only [onePositional, Bool.and_eq_true, bne_iff_ne, ne_eq] at h
  exact h.2

theorem addToSetFieldPos_touch (spec : Val) (fs : Fields) (field : String) (value d' : Val)
    (h : addToSetFieldPos spec (.doc fs) field value = .ok d') :
    ∃ fs', d' = .doc fs' ∧ Touch (headOf field) fs fs' := by
  unfold addToSetFieldPos at h
  by_cases h1 : (!(splitDots field).contains "$") = true
  · rw [if_pos h1] at h
    exact addToSetField_touch spec fs field value d' h
  rw [if_neg h1] at h
  by_cases h2 : (!onePositional field) = true
  · rw [if_pos h2] at h; cases h
  rw [if_neg h2] at h
  split at h
  · cases h
  · rw [splitDots_cons] at h
    exact (withSubdocPos_editsKey (head_ne_dollar (by simpa using h2))
      fun _ => addToSetAt_editsKey value _).touch h

theorem pullAllFieldPos_touch (spec : Val) (fs : Fields) (field : String) (value d' : Val)
    (h : pullAllFieldPos spec (.doc fs) field value = .ok d') :
    ∃ fs', d' = .doc fs' ∧ Touch (headOf field) fs fs' := by
  unfold pullAllFieldPos at h
  by_cases h1 : (!(splitDots field).contains "$") = true
  · rw [if_pos h1] at h
    exact pullAllField_touch spec fs field value d' h
  rw [if_neg h1] at h
  by_cases h2 : (!onePositional field) = true
  · rw [if_pos h2] at h; cases h
  rw [if_neg h2, splitDots_cons] at h
  exact (withSubdocPos_editsKey (head_ne_dollar (by simpa using h2))
    fun _ => pullAllAt_editsKey value _).touch h

theorem pushFieldPos_touch (spec : Val) (fs : Fields) (field : String) (value d' : Val)
    (h : pushFieldPos spec (.doc fs) field value = .ok d') :
    ∃ fs', d' = .doc fs' ∧ Touch (headOf field) fs fs' := by
  unfold pushFieldPos at h
  by_cases h1 : (!(splitDots field).contains "$") = true
  · rw [if_pos h1] at h
    exact pushField_touch spec fs field value d' h
  rw [if_neg h1] at h
  by_cases h2 : (!onePositional field) = true
  · rw [if_pos h2] at h; cases h
  rw [if_neg h2, splitDots_cons] at h
  exact (withSubdocPos_editsKey (head_ne_dollar (by simpa using h2))
    fun _ => pushAt_editsKey value _).touch h

theorem pullPosAt_editsKey (value : Val) (last : String) :
    EditsKey last (pullPosAt value last) := by
  intro fs gs hg
  simp only [pullPosAt, ← hg]
  cases dget last fs with
  | none => exact .err _
  | some c =>
    cases c
    case arr xs =>
      dsimp only
      cases pullPosList value xs with
      | error e => exact .err e
      | ok r => exact .set _
    all_goals exact .err _

theorem pullFieldPos_touch (spec : Val) (sub : SubRef) (fs : Fields) (field : String) (value : Val)
    (r : Val × SubRef) (h : pullFieldPos spec sub (.doc fs) field value = .ok r) :
    ∃ fs', r.1 = .doc fs' ∧ Touch (headOf field) fs fs' := by
  unfold pullFieldPos at h
  by_cases h1 : (!(splitDots field).contains "$") = true
  · rw [if_pos h1] at h
    obtain ⟨d1, h1, h2⟩ := bind_ok h
    cases h2
    exact pullField_touch fs field value d1 h1
  rw [if_neg h1] at h
  by_cases h2 : (!keyOk field || (splitDots field).headD "" == "$") = true
  · rw [if_pos h2] at h; cases h
  rw [if_neg h2] at h
  obtain ⟨b, _, h⟩ := bind_ok h
  cases b with
  | true =>
    rw [if_pos rfl] at h
    cases sub with
    | inside hh pp =>
      dsimp only at h
      by_cases he : hh = (splitDots field).headD ""
      · rw [if_pos he] at h
        obtain ⟨d1, h1, h2⟩ := bind_ok h
        cases h2
        cases he
        exact (editTop_editsKey _ _).touch h1
      · rw [if_neg he] at h; cases h
    | gone c =>
      obtain ⟨_, _, h2⟩ := bind_ok h
      cases h2; exact ⟨_, rfl, .inl rfl⟩
    | _ => cases h
  | false =>
    rw [if_neg Bool.false_ne_true] at h
    by_cases h3 : (!onePositional field) = true
    · rw [if_pos h3] at h; cases h
    rw [if_neg h3] at h
    obtain ⟨d1, h1, h2⟩ := bind_ok h
    cases h2
    rw [splitDots_cons] at h1
    exact (withSubdocPos_editsKey (head_ne_dollar (by simpa using h3))
      fun hr => by rw [hr]; exact pullPosAt_editsKey value _).touch h1

theorem posFields_touches (u : Updater) (now spec v : Val) (fs : Fields) (sub sub' : SubRef)
    (d' : Val) (k : String) (h : posFields u now spec v (.doc fs) sub = .ok (d', sub')) :
    ∃ fs', d' = .doc fs' ∧ Touches (opAddr k v) fs fs' := by
  cases v with
  | doc body =>
    simp only [posFields] at h
    split at h
    · obtain ⟨st, hst, h2⟩ := bind_ok h
      cases h2
      refine foldlM_touches (fun (s : PosState) => s.d) _ _ ?_ body _ st fs rfl hst
      intro s kv s' fs0 hd0 h0
      obtain ⟨fs1, h1, ht⟩ := posUpdaterKey_touch u now spec s s' kv.1 kv.2 fs0 hd0 h0
      exact ⟨fs1, h1, ht.touches (List.mem_cons_self ..)⟩
    · obtain ⟨d1, h1, h2⟩ := bind_ok h
      cases h2
      exact updateFields_touches u now (.doc body) fs _ k h1
  | _ => simp [posFields] at h

theorem eachFieldS_touches (f : Val → SubRef → String → Val → R (Val × SubRef))
    (hf : ∀ fs s field value r, f (.doc fs) s field value = .ok r →
      ∃ fs', r.1 = .doc fs' ∧ Touch (headOf field) fs fs')
    (v : Val) (fs : Fields) (sub : SubRef) (r : Val × SubRef) (k : String)
    (h : eachFieldS v (.doc fs) sub f = .ok r) :
    ∃ fs', r.1 = .doc fs' ∧ Touches (opAddr k v) fs fs' := by
  cases v with
  | doc body =>
    refine foldlM_touches (fun (s : Val × SubRef) => s.1) _ _ ?_ body _ r fs rfl h
    intro s kv s' fs0 hd0 h0
    obtain ⟨d0, s0⟩ := s
    cases hd0
    obtain ⟨fs1, h1, ht⟩ := hf fs0 s0 kv.1 kv.2 s' h0
    exact ⟨fs1, h1, ht.touches (List.mem_cons_self ..)⟩
  | _ => simp [eachFieldS] at h

/-- the in-line array operators of the positional loop, with what they leave as carried
    container -/
def arrayFieldPos (spec : Val) : ArrayOp → Val → SubRef → String → Val → R (Val × SubRef)
  | .addToSet => fun d s field value => do
    let d' ← addToSetFieldPos spec d field value
    pure (d', subAfterArrayOp false field s)
  | .pull => fun d s field value => pullFieldPos spec s d field value
  | .pullAll => fun d s field value => do
    let d' ← pullAllFieldPos spec d field value
    pure (d', subAfterArrayOp false field s)
  | .push => fun d s field value => do
    let d' ← pushFieldPos spec d field value
    pure (d', subAfterArrayOp true field s)

theorem arrayFieldPos_touch (spec : Val) (a : ArrayOp) (fs : Fields) (s : SubRef) (field : String)
    (value : Val) (r : Val × SubRef) (h : arrayFieldPos spec a (.doc fs) s field value = .ok r) :
    ∃ fs', r.1 = .doc fs' ∧ Touch (headOf field) fs fs' := by
  cases a
  · obtain ⟨d1, h1, h2⟩ := bind_ok h
    cases h2
    exact addToSetFieldPos_touch spec fs field value d1 h1
  · exact pullFieldPos_touch spec s fs field value r h
  · obtain ⟨d1, h1, h2⟩ := bind_ok h
    cases h2
    exact pullAllFieldPos_touch spec fs field value d1 h1
  · obtain ⟨d1, h1, h2⟩ := bind_ok h
    cases h2
    exact pushFieldPos_touch spec fs field value d1 h1

/-- what an operator of class `c` does to the document and the carried container in the
    positional loop -/
def opRunPos? (spec now : Val) (c : OpClass) (v d : Val) (sub : SubRef) :
    Option (R (Val × SubRef)) :=
  match c with
  | .fields u => some (posFields u now spec v d sub)
  | .each a => some (eachFieldS v d sub (arrayFieldPos spec a))
  | .rename => some ((renameFields v d).map (·, renameStale v sub))
  | .skip => some (.ok (d, sub))
  | .unknown => none

theorem applyOpsPos_cons (spec now : Val) (wi : Bool) (whole : Fields) (k : String) (v : Val)
    (rest : Fields) (first : Bool) (sub : SubRef) (d : Val) :
    ∃ first', applyOpsPos spec now wi whole ((k, v) :: rest) first sub d =
      match opRunPos? spec now (opClass wi k) v d sub with
      | some X => X.bind (fun r => applyOpsPos spec now wi whole rest first' r.2 r.1)
      | none => if first then replaceWhole whole d else .error .valueErr := by
  let F : R Val → OpClass → Prop := fun L c => ∃ first', L =
    match opRunPos? spec now c v d sub with
    | some X => X.bind (fun r => applyOpsPos spec now wi whole rest first' r.2 r.1)
    | none => if first then replaceWhole whole d else .error .valueErr
  show F _ _
  unfold applyOpsPos opClass
  cases updaterOf k with
  | some u => exact ⟨false, rfl⟩
  | none =>
    refine ite_rel F (fun _ => ⟨false, ?_⟩) fun _ => ?_
    · show _ = ((renameFields v d).map _).bind _
      cases renameFields v d <;> rfl
    refine ite_rel F (fun _ => ite_rel F (fun _ => ⟨first, rfl⟩) fun _ => ⟨false, rfl⟩) fun _ => ?_
    iterate 5 refine ite_rel F (fun _ => ⟨false, rfl⟩) fun _ => ?_
    exact ⟨false, rfl⟩

theorem opRunPos?_touches (spec now : Val) (wi : Bool) (k : String) (v : Val) (fs : Fields)
    (sub : SubRef) (X : R (Val × SubRef)) (r : Val × SubRef)
    (hX : opRunPos? spec now (opClass wi k) v (.doc fs) sub = some X) (h : X = .ok r) :
    ∃ fs1, r.1 = .doc fs1 ∧ Touches (opAddr k v) fs fs1 := by
  cases hc : opClass wi k with
  | fields u =>
    rw [hc] at hX; cases hX
    exact posFields_touches u now spec v fs sub r.2 r.1 k h
  | each a =>
    rw [hc] at hX; cases hX
    exact eachFieldS_touches _ (arrayFieldPos_touch spec a) v fs sub r k h
  | rename =>
    rw [hc] at hX; cases hX
    have hk := opClass_key wi k
    rw [hc] at hk
    cases hk
    cases hr : renameFields v (.doc fs) with
    | error e => rw [hr] at h; cases h
    | ok d1 =>
      rw [hr] at h; cases h
      exact renameFields_touches v fs d1 hr
  | skip =>
    rw [hc] at hX; cases hX; cases h
    exact ⟨fs, rfl, .refl _⟩
  | unknown => rw [hc] at hX; cases hX

theorem applyOpsPos_step (spec now : Val) (wi : Bool) (whole : Fields) (k : String) (v : Val)
    (rest : Fields) (first : Bool) (sub : SubRef) (fs : Fields) (d' : Val)
    (h : applyOpsPos spec now wi whole ((k, v) :: rest) first sub (.doc fs) = .ok d') :
    (∃ fs1 first' sub', Touches (opAddr k v) fs fs1 ∧
      applyOpsPos spec now wi whole rest first' sub' (.doc fs1) = .ok d') ∨
    replaceWhole whole (.doc fs) = .ok d' := by
  obtain ⟨first', he⟩ := applyOpsPos_cons spec now wi whole k v rest first sub (.doc fs)
  rw [he] at h
  cases hX : opRunPos? spec now (opClass wi k) v (.doc fs) sub with
  | some X =>
    rw [hX] at h
    obtain ⟨r, h1, h2⟩ := bind_ok h
    obtain ⟨fs1, hr, ht⟩ := opRunPos?_touches spec now wi k v fs sub X r hX h1
    rw [hr] at h2
    exact .inl ⟨fs1, first', r.2, ht, h2⟩
  | none =>
    rw [hX] at h
    cases first with
    | true => exact .inr h
    | false => cases h

theorem applyOpsPos_touches (spec now : Val) (wi : Bool) (whole : Fields) :
    ∀ (ops : Fields) (first : Bool) (sub : SubRef) (fs : Fields) (d' : Val),
      applyOpsPos spec now wi whole ops first sub (.doc fs) = .ok d' →
      ∃ fs1, Touches (addressed ops) fs fs1 ∧
        (d' = .doc fs1 ∨ replaceWhole whole (.doc fs1) = .ok d')
  | [], first, sub, fs, d', h => by
    cases h; exact ⟨fs, .refl _, .inl rfl⟩
  | (k, v) :: rest, first, sub, fs, d', h => by
    rw [addressed_cons]
    rcases applyOpsPos_step spec now wi whole k v rest first sub fs d' h with
      ⟨fs1, first', sub', ht, h1⟩ | hr
    · obtain ⟨fs2, ht2, hd⟩ := applyOpsPos_touches spec now wi whole rest first' sub' fs1 d' h1
      exact ⟨fs2, ht.append ht2, hd⟩
    · exact ⟨fs, .refl _, .inr hr⟩

theorem applyOpsPos_frame (spec now : Val) (wi : Bool) (whole : Fields)
    (hw : whole.any (fun kv => kv.1.startsWith "$") = true)
    (ops : Fields) (first : Bool) (sub : SubRef) (fs : Fields) (d' : Val)
    (h : applyOpsPos spec now wi whole ops first sub (.doc fs) = .ok d') :
    ∃ fs', d' = .doc fs' ∧ Frame (addressed ops) fs fs' := by
  obtain ⟨fs1, ht, hd | hr⟩ := applyOpsPos_touches spec now wi whole ops first sub fs d' h
  · exact ⟨fs1, hd, ht.frame⟩
  · rw [replaceWhole_dollar whole _ hw] at hr; cases hr

theorem any_of_all_ne {u : Fields} (hu : u.all (fun kv => kv.1.startsWith "$") = true)
    (hne : u ≠ []) : u.any (fun kv => kv.1.startsWith "$") = true := by
  cases u with
  | nil => exact absurd rfl hne
  | cons kv r =>
    simp only [List.all_cons, Bool.and_eq_true] at hu
    simp [hu.1]

/-- **the frame of a whole operator update**, positional paths included: a successful update
    yields a document that reads as before under every top-level field no path starts with -/
theorem applyUpdate_frame (spec now : Val) (wasInsert : Bool) (u : Fields) (fs : Fields) (d' : Val)
    (hu : u.all (fun kv => kv.1.startsWith "$") = true) (hne : u ≠ [])
    (h : applyUpdate spec (.doc u) now wasInsert (.doc fs) = .ok d') :
    ∃ fs', d' = .doc fs' ∧ ∀ k, k ∉ addressed u → dget k fs' = dget k fs := by
  have hw := any_of_all_ne hu hne
  cases u with
  | nil => exact absurd rfl hne
  | cons kv r =>
    simp only [applyUpdate] at h
    split at h
    · exact applyOpsPos_frame spec now wasInsert _ hw _ true _ fs d' h
    · exact applyOps_frame spec now wasInsert _ hw _ true fs d' h

theorem updaterOf_positional {op : String} {u : Updater} (h : updaterOf op = some u) :
    positionalOperators.contains op = true := by
  cases hc : positionalOperators.contains op with
  | true => rfl
  | false =>
    simp only [positionalOperators, List.contains_cons, Bool.or_eq_false_iff,
      beq_eq_false_iff_ne, ne_eq] at hc
    simp only [updaterOf, if_neg hc.1, if_neg hc.2.1, if_neg hc.2.2.1, if_neg hc.2.2.2.1,
      if_neg hc.2.2.2.2.1, if_neg hc.2.2.2.2.2.1] at h
    cases h

/-- an update without positional keys is the plain operator loop -/
theorem applyUpdate_plain (spec now : Val) (wi : Bool) (kv : String × Val) (r : Fields) (d : Val)
    (hp : positionalUpdate (kv :: r) = false) :
    applyUpdate spec (.doc (kv :: r)) now wi d = applyOps spec now wi (kv :: r) (kv :: r) true d := by
  simp only [applyUpdate, hp, Bool.false_eq_true, if_false]

end MongoModel.Proofs.C02Lemmas
