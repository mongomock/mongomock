/-
  Proofs.C07Heap — sharing is argued by counting.  `cnt a v` is how often identity `a` occurs in
  `v`, `ind n n' a` is 1 when `a` lies in the range `[n, n')` of identities allocated between two
  states of the counter.  Every fact about a copy has the form
  `cnt a out ≤ cnt a in + ind n n' a` (with `cnt a out = ind n n' a`, resp. `≤`, for a deep
  primitive or chain), so a sequence of copies is closed by `ind_split`, which glues two adjacent
  ranges, and `omega`.
-/
import MongoModel.Heap

namespace MongoModel.Proofs.C07
open MongoModel MongoModel.Heap

theorem HVal.ind2 {P : HVal → Prop} {Q : Kids → Prop}
    (hatom : ∀ v, P (.atom v)) (hnode : ∀ id d kids, Q kids → P (.node id d kids))
    (hnil : Q []) (hcons : ∀ k v r, P v → Q r → Q ((k, v) :: r)) :
    (∀ v, P v) ∧ (∀ kids, Q kids) := by
  have hv : ∀ v, P v := fun v =>
    HVal.rec (motive_1 := P) (motive_2 := Q) (motive_3 := fun p => P p.2)
      hatom hnode hnil (fun hd tl h1 h2 => by obtain ⟨k, v⟩ := hd; exact hcons k v tl h1 h2)
      (fun _ _ h => h) v
  refine ⟨hv, ?_⟩
  intro kids
  induction kids with
  | nil => exact hnil
  | cons kv r ih => obtain ⟨k, v⟩ := kv; exact hcons k v r (hv v) ih

theorem Tpl.ind2 {P : Tpl → Prop} {Q : List (String × Tpl) → Prop}
    (hatom : ∀ v, P (.atom v)) (hpiece : ∀ pos src, P (.piece pos src))
    (hnode : ∀ d kids, Q kids → P (.node d kids))
    (hnil : Q []) (hcons : ∀ k t r, P t → Q r → Q ((k, t) :: r)) :
    (∀ t, P t) ∧ (∀ kids, Q kids) := by
  have hv : ∀ t, P t := fun t =>
    Tpl.rec (motive_1 := P) (motive_2 := Q) (motive_3 := fun p => P p.2)
      hatom hpiece hnode hnil (fun hd tl h1 h2 => by obtain ⟨k, v⟩ := hd; exact hcons k v tl h1 h2)
      (fun _ _ h => h) t
  refine ⟨hv, ?_⟩
  intro kids
  induction kids with
  | nil => exact hnil
  | cons kv r ih => obtain ⟨k, v⟩ := kv; exact hcons k v r (hv v) ih

/-- how often identity `a` occurs in a value / a child list / a list of values -/
def cnt (a : Nat) (v : HVal) : Nat := v.ids.count a
def cntK (a : Nat) (k : Kids) : Nat := (idsKids k).count a
def cntL (a : Nat) (l : List HVal) : Nat := (idsL l).count a

/-- indicator of the range `[lo, hi)` -/
def ind (lo hi a : Nat) : Nat := if lo ≤ a ∧ a < hi then 1 else 0

@[simp] theorem cnt_atom (a : Nat) (v : Val) : cnt a (.atom v) = 0 := by simp [cnt, HVal.ids]

theorem cnt_node (a id : Nat) (d : Bool) (kids : Kids) :
    cnt a (.node id d kids) = (if id = a then 1 else 0) + cntK a kids := by
  simp [cnt, cntK, HVal.ids, List.count_cons]; omega

@[simp] theorem cntK_nil (a : Nat) : cntK a [] = 0 := by simp [cntK, idsKids]

@[simp] theorem cntK_cons (a : Nat) (k : String) (v : HVal) (r : Kids) :
    cntK a ((k, v) :: r) = cnt a v + cntK a r := by
  simp [cntK, cnt, idsKids, List.count_append]

theorem cntK_cons' (a : Nat) (kv : String × HVal) (r : Kids) :
    cntK a (kv :: r) = cnt a kv.2 + cntK a r := by
  obtain ⟨k, v⟩ := kv; simp

theorem idsKids_append (k1 k2 : Kids) : idsKids (k1 ++ k2) = idsKids k1 ++ idsKids k2 := by
  induction k1 with
  | nil => simp [idsKids]
  | cons kv r ih => obtain ⟨k, v⟩ := kv; simp [idsKids, ih]

@[simp] theorem cntK_append (a : Nat) (k1 k2 : Kids) : cntK a (k1 ++ k2) = cntK a k1 + cntK a k2 := by
  simp [cntK, idsKids_append, List.count_append]

@[simp] theorem cntL_nil (a : Nat) : cntL a [] = 0 := by simp [cntL, idsL]

@[simp] theorem cntL_cons (a : Nat) (v : HVal) (r : List HVal) :
    cntL a (v :: r) = cnt a v + cntL a r := by
  simp [cntL, cnt, idsL, List.count_append]

theorem idsL_append (l1 l2 : List HVal) : idsL (l1 ++ l2) = idsL l1 ++ idsL l2 := by
  induction l1 with
  | nil => simp [idsL]
  | cons v r ih => simp [idsL, ih]

@[simp] theorem cntL_append (a : Nat) (l1 l2 : List HVal) :
    cntL a (l1 ++ l2) = cntL a l1 + cntL a l2 := by
  simp [cntL, idsL_append, List.count_append]

theorem mem_ids_iff (a : Nat) (v : HVal) : a ∈ v.ids ↔ 0 < cnt a v := by
  simp [cnt, List.count_pos_iff]

theorem mem_idsL_iff (a : Nat) (l : List HVal) : a ∈ idsL l ↔ 0 < cntL a l := by
  simp [cntL, List.count_pos_iff]

theorem mem_idsKids_iff (a : Nat) (k : Kids) : a ∈ idsKids k ↔ 0 < cntK a k := by
  simp [cntK, List.count_pos_iff]

theorem ind_le_one (lo hi a : Nat) : ind lo hi a ≤ 1 := by unfold ind; split <;> omega

theorem ind_pos {lo hi a : Nat} (h : 0 < ind lo hi a) : lo ≤ a ∧ a < hi := by
  unfold ind at h; split at h
  · assumption
  · omega

@[simp] theorem ind_self (n a : Nat) : ind n n a = 0 := by unfold ind; split <;> omega

theorem ind_of_lt {lo hi a : Nat} (h : a < lo) : ind lo hi a = 0 := by
  unfold ind; split <;> omega

theorem ind_of_ge {lo hi a : Nat} (h : hi ≤ a) : ind lo hi a = 0 := by
  unfold ind; split <;> omega

theorem ind_split {lo m hi : Nat} (a : Nat) (h1 : lo ≤ m) (h2 : m ≤ hi) :
    ind lo m a + ind m hi a = ind lo hi a := by
  unfold ind; split <;> split <;> split <;> omega

theorem ind_mono {lo hi lo' hi' : Nat} (a : Nat) (h1 : lo' ≤ lo) (h2 : hi ≤ hi') :
    ind lo hi a ≤ ind lo' hi' a := by
  unfold ind; split <;> split <;> omega

theorem ind_single (n a : Nat) : (if n = a then 1 else 0) = ind n (n + 1) a := by
  unfold ind; split <;> split <;> omega

theorem rebuild_spec :
    (∀ v n, n ≤ (rebuild v n).2 ∧ (∀ a, cnt a (rebuild v n).1 = ind n (rebuild v n).2 a) ∧
        (rebuild v n).1.erase = v.erase) ∧
    (∀ k n, n ≤ (rebuildKids k n).2 ∧ (∀ a, cntK a (rebuildKids k n).1 = ind n (rebuildKids k n).2 a) ∧
        eraseKids (rebuildKids k n).1 = eraseKids k) := by
  apply HVal.ind2
  · intro v n
    refine ⟨by simp [rebuild], ?_, by simp [rebuild]⟩
    intro a; simp [rebuild]
  · intro id d kids ih n
    obtain ⟨h1, h2, h3⟩ := ih (n + 1)
    refine ⟨by simp [rebuild]; omega, ?_, by simp [rebuild, HVal.erase, h3]⟩
    intro a
    simp only [rebuild, cnt_node, h2 a, ind_single]
    exact ind_split a (by omega) h1
  · intro n
    refine ⟨by simp [rebuildKids], ?_, by simp [rebuildKids]⟩
    intro a; simp [rebuildKids]
  · intro k v r ihv ihr n
    obtain ⟨h1, h2, h3⟩ := ihv n
    obtain ⟨g1, g2, g3⟩ := ihr (rebuild v n).2
    refine ⟨by simp [rebuildKids]; omega, ?_, by simp [rebuildKids, eraseKids, h3, g3]⟩
    intro a
    simp only [rebuildKids, cntK_cons, h2 a, g2 a]
    exact ind_split a h1 g1

theorem shallow_mono (v : HVal) (n : Nat) : n ≤ (shallow v n).2 := by
  cases v <;> simp [shallow]

theorem run_mono (p : Prim) (v : HVal) (n : Nat) : n ≤ (p.run v n).2 := by
  cases p <;> simp [Prim.run, copyField, deepcopy, noCopy]
  · exact (rebuild_spec.1 v n).1
  · exact (rebuild_spec.1 v n).1
  · exact (rebuild_spec.1 v n).1
  · exact shallow_mono v n

theorem run_erase (p : Prim) (v : HVal) (n : Nat) : (p.run v n).1.erase = v.erase := by
  cases p <;> simp [Prim.run, copyField, deepcopy, noCopy]
  · exact (rebuild_spec.1 v n).2.2
  · exact (rebuild_spec.1 v n).2.2
  · exact (rebuild_spec.1 v n).2.2
  · cases v <;> simp [shallow, HVal.erase]

theorem run_atom (p : Prim) (x : Val) (n : Nat) : p.run (.atom x) n = (.atom x, n) := by
  cases p <;> simp [Prim.run, copyField, deepcopy, noCopy, rebuild, shallow]

/-- a deep primitive returns fresh identities only, each once -/
theorem run_deep (p : Prim) (hp : p.deep = true) (v : HVal) (n : Nat) (a : Nat) :
    cnt a (p.run v n).1 = ind n (p.run v n).2 a := by
  cases p <;> simp [Prim.deep] at hp <;> simp [Prim.run, copyField, deepcopy] <;>
    exact (rebuild_spec.1 v n).2.1 a

/-- no primitive multiplies an identity of its input; what it adds is fresh -/
theorem run_sub (p : Prim) (v : HVal) (n : Nat) (a : Nat) :
    cnt a (p.run v n).1 ≤ cnt a v + ind n (p.run v n).2 a := by
  cases p
  · rw [run_deep _ (by rfl)]; omega
  · rw [run_deep _ (by rfl)]; omega
  · rw [run_deep _ (by rfl)]; omega
  · cases v with
    | atom x => simp [Prim.run, shallow]
    | node id d kids =>
      simp only [Prim.run, shallow, cnt_node, ind_single]
      omega
  · simp [Prim.run, noCopy]

theorem chain_mono (c : List Prim) : ∀ (v : HVal) (n : Nat), n ≤ (runChain c v n).2 := by
  induction c with
  | nil => intro v n; simp [runChain]
  | cons p c ih =>
    intro v n; simp only [runChain]
    exact Nat.le_trans (run_mono p v n) (ih _ _)

theorem chain_erase (c : List Prim) : ∀ (v : HVal) (n : Nat), (runChain c v n).1.erase = v.erase := by
  induction c with
  | nil => intro v n; simp [runChain]
  | cons p c ih => intro v n; simp only [runChain]; rw [ih, run_erase]

theorem chain_atom (c : List Prim) : ∀ (x : Val) (n : Nat), runChain c (.atom x) n = (.atom x, n) := by
  induction c with
  | nil => intro x n; simp [runChain]
  | cons p c ih => intro x n; simp only [runChain, run_atom, ih]

theorem chain_sub (c : List Prim) : ∀ (v : HVal) (n : Nat) (a : Nat),
    cnt a (runChain c v n).1 ≤ cnt a v + ind n (runChain c v n).2 a := by
  induction c with
  | nil => intro v n a; simp [runChain]
  | cons p c ih =>
    intro v n a
    simp only [runChain]
    have h1 := ih (p.run v n).1 (p.run v n).2 a
    have h2 := run_sub p v n a
    have h3 := ind_split a (run_mono p v n) (chain_mono c (p.run v n).1 (p.run v n).2)
    omega

/-- a chain with a deep primitive in it returns fresh identities only, each at most once -/
theorem chain_deep (c : List Prim) : ∀ (hc : chainDeep c = true) (v : HVal) (n : Nat) (a : Nat),
    cnt a (runChain c v n).1 ≤ ind n (runChain c v n).2 a := by
  induction c with
  | nil => intro hc; simp [chainDeep] at hc
  | cons p c ih =>
    intro hc v n a
    simp only [runChain]
    have hm1 := run_mono p v n
    have hm2 := chain_mono c (p.run v n).1 (p.run v n).2
    by_cases hp : p.deep = true
    · have h1 := chain_sub c (p.run v n).1 (p.run v n).2 a
      have h2 := run_deep p hp v n a
      have h3 := ind_split a hm1 hm2
      omega
    · have hc' : chainDeep c = true := by
        simp [chainDeep, List.any_cons] at hc
        rcases hc with h | h
        · exact absurd h hp
        · simpa [chainDeep] using h
      have h1 := ih hc' (p.run v n).1 (p.run v n).2 a
      have h2 := ind_mono (lo := (p.run v n).2) (hi := (runChain c (p.run v n).1 (p.run v n).2).2)
        (lo' := n) (hi' := (runChain c (p.run v n).1 (p.run v n).2).2) a hm1 (Nat.le_refl _)
      omega

end MongoModel.Proofs.C07
