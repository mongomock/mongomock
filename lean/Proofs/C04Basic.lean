/-
  Proofs.C04Basic — how `MongoModel.Expr.eval` dispatches `{$op: v}` (`eval_op` and its special
  cases, which the operator lemmas of the other C04 modules start from), which handler `mode`
  picks (`mode_eq`, `mode_whole`, `mode_not_whole`; `shapedOps`: the operators that reach `evalOp`
  whatever their argument is), array literals, `$literal`, truthiness, `$not/$and/$or`.

  The operator vocabulary is lists of names, and comparing two names is slow for the kernel:
  `classify_known` and `shaped_not_unary` answer the questions "is it an operator", "is it one
  of those that take one argument" from inclusions between the lists, without comparing a name;
  where names have to be compared (`wholeOps_not_const`, `shapedOps_names`) two lists are compared
  once, by evaluation, and the operator lemmas quote the outcome.
-/
import MongoModel.Expr
import Spec.ExprDomain
import Proofs.Basics

set_option linter.unusedSimpArgs false

namespace MongoModel.Proofs.C04
open MongoModel MongoModel.Expr

/-! ### dispatch facts -/

theorem evalAt_eq (c : Ctx) (key : String) (gs : Fields) :
    evalAt c key gs = (match dget key gs with | some v => eval c v | none => .ok none) := by
  induction gs with
  | nil => simp [evalAt, dget]
  | cons kv r ih =>
    obtain ⟨k, v⟩ := kv
    by_cases h : k = key
    · simp [evalAt, dget, h]
    · simp [evalAt, dget, h, ih]

/-- a walker `f` that looks for the entry `key` with a value of the shape `sh` and hands it to
    `g` finds what `dget` finds (`sAt`, `rAt`; `evalVarsAt`, `sBranchesAt` … with their shapes) -/
theorem walkAt_eq {α β} {f : Fields → α} {g : β → α} {sh : β → Val} {key : String}
    (hit : ∀ k b r, f ((k, sh b) :: r) = if k = key then g b else f r)
    (skip : ∀ k v r, (∀ b, v ≠ sh b) → f ((k, v) :: r) = f r)
    {gs : Fields} {b : β} (h : dget key gs = some (sh b)) : f gs = g b := by
  induction gs with
  | nil => cases h
  | cons kv r ih =>
    obtain ⟨k, w⟩ := kv
    rw [dget] at h
    by_cases hk : k = key
    · rw [if_pos hk] at h
      cases h
      rw [hit, if_pos hk]
    · rw [if_neg hk] at h
      by_cases hw : ∃ b', w = sh b'
      · obtain ⟨b', rfl⟩ := hw
        rw [hit, if_neg hk, ih h]
      · rw [skip k w r fun b' e => hw ⟨b', e⟩, ih h]

theorem eval_single (c : Ctx) (k : String) (v : Val) :
    eval c (.doc [(k, v)]) = evalDoc c [(k, v)] [] := by
  simp [eval]

/-- a field of a computed document: its value is evaluated; a missing value leaves the field out
    (`ignore_missing_keys`) or makes the whole document missing -/
theorem evalDoc_plain (c : Ctx) (k : String) (v : Val) (rest acc : Fields)
    (hk : classify k = .plain) :
    evalDoc c ((k, v) :: rest) acc =
      (eval c v).bind (fun r =>
        match r with
        | none => if c.ign then evalDoc c rest acc else .ok none
        | some x => evalDoc c rest (dset k x acc)) := by
  rw [evalDoc.eq_def]
  simp only [hk]
  rfl

/-- what holds of both branches holds of the conditional (used to walk the `if` chains of
    `classify` and `mode` without unfolding their conditions) -/
theorem ite_cases {α : Type} {P : α → Prop} {c : Prop} [Decidable c] {a b : α} (ha : P a)
    (hb : ¬ c → P b) : P (if c then a else b) := by
  by_cases h : c
  · rwa [if_pos h]
  · rw [if_neg h]; exact hb h

/-- a name of one of the operator lists of `_Parser.parse` is dispatched as an operator; no name
    is compared: each list decides one branch of `classify` -/
theorem classify_known {k : String}
    (h : k ∈ arithmeticOps ∨ k ∈ projectOps ∨ k ∈ projectionOps ∨ k ∈ comparisonOps ∨ k ∈ dateOps ∨
      k ∈ arrayOps ∨ k ∈ conditionalOps ∨ k ∈ controlFlowOps ∨ k ∈ setOps ∨ k ∈ stringOps ∨
      k ∈ typeConvOps ∨ k ∈ typeOps ∨ k ∈ booleanOps) :
    classify k ≠ .plain ∧ classify k ≠ .unknown ∧ classify k ≠ .notImpl := by
  unfold classify
  iterate 13
    refine ite_cases (P := fun x : OpClass => x ≠ .plain ∧ x ≠ .unknown ∧ x ≠ .notImpl)
      ⟨nofun, nofun, nofun⟩ fun _ => ?_
  simp_all

/-- how `eval` runs `{$op: v}`: an operator that takes one argument unwraps a one-item argument
    list, a variadic one wraps a bare operand, then the handler of the operator runs -/
theorem eval_op (c : Ctx) (k : String) (v : Val) (h1 : classify k ≠ .plain)
    (h2 : classify k ≠ .unknown) (h3 : classify k ≠ .notImpl) :
    eval c (.doc [(k, v)]) =
      if (unaryListOps.contains k && v.isArr) = true then
        (match v with
         | .arr xs => evalUnaryList c k xs
         | _ => .error .other)
      else if (variadicOps.contains k && !v.isArr) = true then
        (eval c v).bind (applyBare c.ign k)
      else
        match mode k v with
        | .const r => r
        | .whole => (eval c v).bind (applyWhole c.ign k)
        | .shaped => evalOp c k v := by
  rw [eval_single, evalDoc.eq_def]
  dsimp only
  split
  · exact absurd ‹_› h1
  · exact absurd ‹_› h2
  · exact absurd ‹_› h3
  · rfl

/-- the plain case: neither a one-item list for a unary operator nor a bare variadic operand -/
theorem eval_op_plain (c : Ctx) (k : String) (v : Val) (h1 : classify k ≠ .plain)
    (h2 : classify k ≠ .unknown) (h3 : classify k ≠ .notImpl)
    (hu : (unaryListOps.contains k && v.isArr) = false)
    (hv : (variadicOps.contains k && !v.isArr) = false) :
    eval c (.doc [(k, v)]) =
      match mode k v with
      | .const r => r
      | .whole => (eval c v).bind (applyWhole c.ign k)
      | .shaped => evalOp c k v := by
  rw [eval_op c k v h1 h2 h3, hu, hv]
  rfl

/-- `{$op: [x]}` for an operator that takes exactly one argument -/
theorem eval_op_unary_list (c : Ctx) (k : String) (x : Val) (h1 : classify k ≠ .plain)
    (h2 : classify k ≠ .unknown) (h3 : classify k ≠ .notImpl)
    (hu : unaryListOps.contains k = true) :
    eval c (.doc [(k, .arr [x])]) =
      match mode k x with
      | .const r => r
      | .whole => (eval c x).bind (applyWhole c.ign k)
      | .shaped => evalOp c k x := by
  rw [eval_op c k _ h1 h2 h3]
  simp only [hu, Val.isArr, Bool.and_self, if_true, evalUnaryList]
  cases mode k x <;> rfl

/-- any other number of items is rejected -/
theorem eval_op_unary_arity (c : Ctx) (k : String) (xs : List Val) (h1 : classify k ≠ .plain)
    (h2 : classify k ≠ .unknown) (h3 : classify k ≠ .notImpl)
    (hu : unaryListOps.contains k = true) (hlen : xs.length ≠ 1) :
    eval c (.doc [(k, .arr xs)]) = .error .opFail := by
  rw [eval_op c k _ h1 h2 h3]
  simp only [hu, Val.isArr, Bool.and_self, if_true]
  match xs, hlen with
  | [], _ => rfl
  | [_], h => simp at h
  | _ :: _ :: _, _ => rfl

/-- an operator that is neither unary nor variadic (or a variadic one given a list) whose handler
    takes its argument apart -/
theorem eval_shaped (c : Ctx) (k : String) (v : Val) (h1 : classify k ≠ .plain)
    (h2 : classify k ≠ .unknown) (h3 : classify k ≠ .notImpl)
    (hu : unaryListOps.contains k = false)
    (hv : variadicOps.contains k = false ∨ v.isArr = true) (hm : mode k v = .shaped) :
    eval c (.doc [(k, v)]) = evalOp c k v := by
  rw [eval_op_plain c k v h1 h2 h3 (by rw [hu]; rfl)
    (by rcases hv with h | h <;> rw [h] <;> simp), hm]

/-- likewise for a handler that parses its whole argument -/
theorem eval_whole' (c : Ctx) (k : String) (v : Val) (h1 : classify k ≠ .plain)
    (h2 : classify k ≠ .unknown) (h3 : classify k ≠ .notImpl)
    (hu : unaryListOps.contains k = false ∨ v.isArr = false)
    (hv : variadicOps.contains k = false ∨ v.isArr = true) (hm : mode k v = .whole) :
    eval c (.doc [(k, v)]) = (eval c v).bind (applyWhole c.ign k) := by
  rw [eval_op_plain c k v h1 h2 h3 (by rcases hu with h | h <;> rw [h] <;> simp)
    (by rcases hv with h | h <;> rw [h] <;> simp), hm]

/-- an operator whose handler takes its argument apart is not one of those that take exactly one
    argument: all of these are among the names `mode` answers `const` or `whole` for (again no
    name is compared, `$toDecimal` and the ten of `wholeOps` apart) -/
theorem shaped_not_unary {k : String} {v : Val} (hm : mode k v = .shaped) :
    unaryListOps.contains k = false := by
  rw [← Bool.not_eq_true]
  intro h
  revert hm
  unfold mode
  iterate 4 refine ite_cases (P := fun m : Mode => m ≠ .shaped) nofun fun _ => ?_
  refine ite_cases (P := fun m : Mode => m ≠ .shaped)
    (ite_cases (P := fun m : Mode => m ≠ .shaped) nofun fun _ => nofun) fun _ => ?_
  refine ite_cases (P := fun m : Mode => m ≠ .shaped) nofun fun hw => ?_
  simp only [unaryListOps, wholeOps, dateOps, List.contains_eq_mem, List.mem_append, List.mem_cons,
    List.not_mem_nil, decide_eq_true_eq, Bool.or_eq_true, not_or, or_false] at *
  simp_all

/-- the list handlers of `evalOp`: the operands are parsed by `evalList`, then `applyList` -/
theorem evalOp_list (c : Ctx) (k : String) (xs : List Val) (ha : arityErr k xs.length = none)
    (hl : listOps.contains k = true) :
    evalOp c k (.arr xs) =
      (evalList c (nullOnMissing c.ign k) xs).bind (fun r =>
        match r with
        | none => if k = "$split" then .ok (some .null) else .ok none
        | some vals => applyList k vals) := by
  simp only [evalOp, ha, hl]
  rfl

/-! ### which handler `mode` picks -/

/-- the keys whose outcome `mode` fixes before it looks at the handler: `$literal`, the operators
    that are not implemented, `$regexMatch` -/
def modeConstKeys : List String :=
  ["$literal", "$stdDevPop", "$stdDevSamp", "$convert", "$toDecimal", "$indexOfArray", "$range",
   "$reduce", "$reverseArray", "$zip", "$setIntersection", "$setDifference", "$setIsSubset",
   "$anyElementTrue", "$allElementsTrue", "$indexOfBytes", "$indexOfCP", "$strLenBytes",
   "$strLenCP", "$substrBytes", "$substrCP", "$trim", "$regexMatch"]

theorem mode_eq {k : String} (hc : modeConstKeys.contains k = false) (v : Val) :
    mode k v =
      if dateOps.contains k then (if hasTzKeys v then .const unmodelled else .whole)
      else if wholeOps.contains k then .whole
      else if groupingOps.contains k then (if v.isArr then .shaped else .whole)
      else if k = "$size" || k = "$concatArrays" then (if v.isArr then .shaped else .whole)
      else .shaped := by
  simp only [modeConstKeys, List.contains_eq_mem, List.mem_cons, List.not_mem_nil, or_false,
    decide_eq_false_iff_not, not_or] at hc
  have c2 : ¬ (k = "$stdDevPop" || k = "$stdDevSamp" || k = "$convert" || k = "$toDecimal") = true := by
    simp [hc]
  have c3 : ¬ ["$indexOfArray", "$range", "$reduce", "$reverseArray", "$zip", "$setIntersection",
      "$setDifference", "$setIsSubset", "$anyElementTrue", "$allElementsTrue", "$indexOfBytes",
      "$indexOfCP", "$strLenBytes", "$strLenCP", "$substrBytes", "$substrCP",
      "$trim"].contains k = true := by
    simp [hc]
  unfold mode
  rw [if_neg hc.1, if_neg c2, if_neg c3, if_neg (by simp [hc])]
  cases v <;> rfl

/-- the names of `wholeOps` and `modeConstKeys` compared by evaluation, once -/
theorem wholeOps_not_const : ∀ k ∈ wholeOps, modeConstKeys.contains k = false := by
  decide +kernel

/-- every operator of `wholeOps` is run by parsing its whole argument (the `{date:, timezone:}`
    argument form of the date operators apart) -/
theorem mode_whole {k : String} (hw : wholeOps.contains k = true) (v : Val)
    (htz : dateOps.contains k = true → hasTzKeys v = false) : mode k v = .whole := by
  rw [mode_eq (wholeOps_not_const k (by simpa using hw)), hw]
  cases hd : dateOps.contains k with
  | false => rfl
  | true => rw [htz hd]; rfl

/-- the other handlers take their argument apart, `$sum … $last`, `$size`, `$concatArrays` when it
    is a list -/
theorem mode_not_whole {k : String} (h : (modeConstKeys ++ wholeOps).contains k = false) (v : Val) :
    mode k v =
      if (groupingOps.contains k || (k = "$size" || k = "$concatArrays")) && !v.isArr then .whole
      else .shaped := by
  rw [List.contains_append, Bool.or_eq_false_iff] at h
  have hd : dateOps.contains k = false := by
    cases hd : dateOps.contains k with
    | false => rfl
    | true => rw [wholeOps, List.contains_append, hd, Bool.or_true] at h; cases h.2
  rw [mode_eq h.1, hd, h.2]
  generalize groupingOps.contains k = g
  generalize (decide (k = "$size") || decide (k = "$concatArrays")) = b
  cases g <;> cases b <;> cases v.isArr <;> rfl

/-- the operators whose handler takes apart whatever argument it is given: those of a fixed
    arity, those that take a document of named arguments, the variadic ones and `$strcasecmp` -/
def shapedOps : List String :=
  arityOps ++ ["$let", "$map", "$filter", "$switch", "$strcasecmp"] ++ variadicOps

/-- their names against those `mode` tests, and against the operator lists of `classify`,
    compared by evaluation, once -/
theorem shapedOps_names : ∀ k ∈ shapedOps,
    (modeConstKeys ++ wholeOps ++ groupingOps ++ ["$size", "$concatArrays"]).contains k = false ∧
      (k ∈ comparisonOps ∨ k ∈ arithmeticOps ∨ k ∈ projectionOps ∨ k ∈ projectOps ∨ k ∈ arrayOps ∨
        k ∈ conditionalOps ∨ k ∈ controlFlowOps ∨ k ∈ booleanOps ∨ k ∈ setOps ∨ k ∈ stringOps) := by
  decide +kernel

theorem shapedOps_mode {k : String} (hk : k ∈ shapedOps) (v : Val) : mode k v = .shaped := by
  have h := (shapedOps_names k hk).1
  rw [List.contains_append, List.contains_append, Bool.or_eq_false_iff, Bool.or_eq_false_iff] at h
  rw [mode_not_whole h.1.1, h.1.2]
  simp only [List.contains_cons, List.contains_nil, Bool.or_false, Bool.or_eq_false_iff,
    beq_eq_false_iff_ne, ne_eq] at h
  simp [h.2]

theorem shapedOps_known {k : String} (hk : k ∈ shapedOps) :
    classify k ≠ .plain ∧ classify k ≠ .unknown ∧ classify k ≠ .notImpl :=
  classify_known (by
    rcases (shapedOps_names k hk).2 with h | h | h | h | h | h | h | h | h | h <;> simp [h])

/-- `{$op: v}` for such an operator is `evalOp` on `v` (a variadic one: when `v` is a list) -/
theorem eval_shapedOp (c : Ctx) {k : String} (hk : k ∈ shapedOps) (v : Val)
    (hv : variadicOps.contains k = false ∨ v.isArr = true) :
    eval c (.doc [(k, v)]) = evalOp c k v := by
  have ⟨h1, h2, h3⟩ := shapedOps_known hk
  have hm := shapedOps_mode hk v
  exact eval_shaped c k v h1 h2 h3 (shaped_not_unary hm) hv hm

/-- `{$op: v}` for an operator of a fixed arity is `evalOp` on `v`, list or not -/
theorem eval_arityOp (c : Ctx) (k : String) (hk : arityOps.contains k = true) (v : Val) :
    eval c (.doc [(k, v)]) = evalOp c k v := by
  have : ∀ k ∈ arityOps, variadicOps.contains k = false := by decide +kernel
  have hk' : k ∈ arityOps := by simpa using hk
  exact eval_shapedOp c (List.mem_append_left _ (List.mem_append_left _ hk')) v
    (Or.inl (this k hk'))

/-- every operator that takes one argument is a known operator, and none is variadic -/
theorem unaryListOps_known (k : String) (hk : unaryListOps.contains k = true) :
    classify k ≠ .plain ∧ classify k ≠ .unknown ∧ classify k ≠ .notImpl ∧
      variadicOps.contains k = false := by
  have hv : variadicOps.contains k = false := by
    have : ∀ v ∈ variadicOps, unaryListOps.contains v = false := by decide +kernel
    rw [← Bool.not_eq_true]
    intro hv
    rw [this k (by simpa using hv)] at hk
    cases hk
  have h11 : ∀ k ∈ ["$arrayToObject", "$isArray", "$isNumber", "$not", "$objectToArray", "$toDecimal",
      "$toInt", "$toLong", "$toLower", "$toString", "$toUpper"],
      k ∈ typeConvOps ∨ k ∈ typeOps ∨ k ∈ booleanOps ∨ k ∈ stringOps := by decide +kernel
  have ⟨h1, h2, h3⟩ := classify_known (k := k) (by
    rw [unaryListOps, List.contains_append, List.contains_append, Bool.or_eq_true, Bool.or_eq_true,
      List.contains_iff_mem, List.contains_iff_mem, List.contains_iff_mem] at hk
    rcases hk with (h | h) | h
    · simp [arithmeticOps, h]
    · simp [dateOps, h]
    · rcases h11 k h with h | h | h | h <;> simp [h])
  exact ⟨h1, h2, h3, hv⟩

/-- an array literal evaluates to an array -/
theorem eval_arr (c : Ctx) (xs : List Val) :
    eval c (.arr xs) = (evalItems c xs).map (fun ys => some (.arr ys)) := by
  simp only [eval]
  cases evalItems c xs <;> rfl

theorem eval_arr_ok (c : Ctx) (xs : List Val) (r : Option Val) (h : eval c (.arr xs) = .ok r) :
    ∃ ys, r = some (.arr ys) := by
  rw [eval_arr] at h
  cases hi : evalItems c xs with
  | error e => simp [hi, Except.map] at h
  | ok ys => simp [hi, Except.map] at h; exact ⟨ys, h.symm⟩

/-- an item that raises makes the array raise -/
theorem array_literal_error (c : Ctx) (pre post : List Val) (x : Val) (vs : List (Option Val))
    (e : Err) (h : pre.map (eval c) = vs.map .ok) (hx : eval c x = .error e) :
    eval c (.arr (pre ++ x :: post)) = .error e := by
  rw [eval_arr]
  have : evalItems c (pre ++ x :: post) = .error e := by
    induction pre generalizing vs with
    | nil => simp [evalItems, hx, bind, Except.bind]
    | cons p pre ih =>
      cases vs with
      | nil => simp at h
      | cons v vs =>
        simp only [List.map_cons, List.cons.injEq] at h
        simp [evalItems, h.1, ih vs h.2, bind, Except.bind]
  rw [this]; rfl

/-! ### `$literal` -/

theorem literal_id (c : Ctx) (v : Val) : eval c (.doc [("$literal", v)]) = .ok (some v) := by
  have ⟨h1, h2, h3⟩ := classify_known (k := "$literal") (by simp [projectionOps])
  rw [eval_op_plain c "$literal" v h1 h2 h3
    (by simp [unaryListOps, unaryArithOps, datePartOps]) (by simp [variadicOps])]
  simp [mode]

/-! ### truthiness -/

/-- `helpers.mongodb_to_bool` (`v not in (False, None, 0)`, a KeyError counting as false) is the
    rules' `toBool` -/
theorem toBoolOpt_eq (r : Option Val) : toBoolOpt r = Spec.toBool r := by
  rcases r with _ | v
  · rfl
  · cases v <;> simp [toBoolOpt, Val.mongoBool, pyIn, pyEq, Spec.toBool, Num.eq, bne] <;>
      exact BEq.comm

/-- `toBool v` is false exactly on `false`, `null`, and the zeros -/
theorem toBool_false_iff (v : Val) :
    Spec.toBool (some v) = false ↔
      (v = .bool false ∨ v = .null ∨ v = .int 0 ∨ ∃ e, v = .dbl 0 e) := by
  cases v <;> simp [Spec.toBool]

/-! ### `$not`, `$and`, `$or` -/

theorem not_whole (e : Val) : mode "$not" e = .whole :=
  mode_whole (by simp [wholeOps, unaryArithOps]) e (by simp [dateOps, datePartOps])

theorem applyWhole_not (ign : Bool) :
    applyWhole ign "$not" = fun r => .ok (some (.bool (!Spec.toBool r))) := by
  funext r
  simp [applyWhole, unaryArithOps, toBoolOpt_eq]

/-- `{$not: e}` with `e` not written as a list -/
theorem not_spec (c : Ctx) (e : Val) (he : e.isArr = false) :
    eval c (.doc [("$not", e)]) =
      (eval c e).bind (fun r => .ok (some (.bool (!Spec.toBool r)))) := by
  have ⟨h1, h2, h3⟩ := classify_known (k := "$not") (by simp [booleanOps])
  rw [eval_op_plain c "$not" e h1 h2 h3 (by rw [he, Bool.and_false]) (by simp [variadicOps]),
    not_whole, applyWhole_not]

/-- `{$not: [x]}` is `$not` of `x` (it used to be the constant false: finding `arrayliteral`) -/
theorem not_list_spec (c : Ctx) (x : Val) :
    eval c (.doc [("$not", .arr [x])]) =
      (eval c x).bind (fun r => .ok (some (.bool (!Spec.toBool r)))) := by
  have ⟨h1, h2, h3⟩ := classify_known (k := "$not") (by simp [booleanOps])
  rw [eval_op_unary_list c "$not" x h1 h2 h3 (by simp [unaryListOps]), not_whole, applyWhole_not]

theorem evalAll_ok (c : Ctx) (xs : List Val) (rs : List (Option Val))
    (h : xs.map (eval c) = rs.map .ok) : evalAll c xs = .ok rs := by
  induction xs generalizing rs with
  | nil => cases rs <;> simp_all [evalAll]
  | cons x xs ih =>
    cases rs with
    | nil => simp at h
    | cons r rs =>
      simp only [List.map_cons, List.cons.injEq] at h
      simp [evalAll, h.1, ih rs h.2, bind, Except.bind, pure, Except.pure]

theorem evalOr_ok (c : Ctx) (xs : List Val) (rs : List (Option Val))
    (h : xs.map (eval c) = rs.map .ok) :
    evalOr c xs = .ok (rs.any Spec.toBool) := by
  induction xs generalizing rs with
  | nil => cases rs <;> simp_all [evalOr]
  | cons x xs ih =>
    cases rs with
    | nil => simp at h
    | cons r rs =>
      simp only [List.map_cons, List.cons.injEq] at h
      simp only [evalOr, h.1, List.any_cons, toBoolOpt_eq]
      cases hb : Spec.toBool r <;> simp [hb, bind, Except.bind, pure, Except.pure, ih rs h.2]

/-- `{$and: [..]}` and `{$or: [..]}` reach the list case of `evalOp` -/
theorem eval_andor (c : Ctx) (k : String) (hk : k = "$and" ∨ k = "$or") (xs : List Val) :
    eval c (.doc [(k, .arr xs)]) = evalOp c k (.arr xs) := by
  exact eval_shapedOp c (List.mem_append_right _ (by rcases hk with rfl | rfl <;> simp [variadicOps]))
    _ (Or.inr rfl)

/-- the `$and` and `$or` cases of `evalOp` -/
theorem evalOp_and (c : Ctx) (xs : List Val) :
    evalOp c "$and" (.arr xs) =
      (evalAll c xs).bind (fun rs => .ok (some (.bool (rs.all toBoolOpt)))) := by
  rw [evalOp, arityErr]
  simp [binaryArithOps, comparisonOps, listOps, arithmeticOps, unaryArithOps,
    groupingOps]
  rfl

theorem evalOp_or (c : Ctx) (xs : List Val) :
    evalOp c "$or" (.arr xs) = (evalOr c xs).bind (fun b => .ok (some (.bool b))) := by
  rw [evalOp, arityErr]
  simp [binaryArithOps, comparisonOps, listOps, arithmeticOps, unaryArithOps,
    groupingOps]
  rfl

theorem and_spec (c : Ctx) (xs : List Val) (rs : List (Option Val))
    (h : xs.map (eval c) = rs.map .ok) :
    eval c (.doc [("$and", .arr xs)]) = .ok (some (.bool (rs.all Spec.toBool))) := by
  rw [eval_andor c _ (Or.inl rfl), evalOp_and, evalAll_ok c xs rs h,
    show toBoolOpt = Spec.toBool from funext toBoolOpt_eq]
  rfl

theorem or_spec (c : Ctx) (xs : List Val) (rs : List (Option Val))
    (h : xs.map (eval c) = rs.map .ok) :
    eval c (.doc [("$or", .arr xs)]) = .ok (some (.bool (rs.any Spec.toBool))) := by
  rw [eval_andor c _ (Or.inr rfl), evalOp_or, evalOr_ok c xs rs h]
  rfl

end MongoModel.Proofs.C04
