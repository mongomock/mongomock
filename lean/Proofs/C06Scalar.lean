/-
  Proofs.C06Scalar — Python `==` on keyable values (`Spec.isKeyable`: anything but an array,
  documents with pairwise distinct keys at every depth) is an equivalence; tuples of them (`keyEq`).
-/
import Spec.Unique
import Proofs.C05Eq

set_option linter.unusedVariables false

namespace MongoModel.Proofs.C06Lemmas
open MongoModel MongoModel.Spec
open MongoModel.Proofs.C05Lemmas (pyEq_trans pyEq_refl_wf pyEq_symm_wf scalar_refl)

theorem Num.eq_refl (a : Num) : Num.eq a a = true := C05Lemmas.Num.eq_refl a

/-- values that are `==` both ways compare alike against any third value -/
theorem pyEq_congr {x y : Val} (z : Val) (h : pyEq x y = true) (h' : pyEq y x = true) :
    pyEq x z = pyEq y z :=
  Bool.eq_iff_iff.2 ⟨pyEq_trans y x z h', pyEq_trans x y z h⟩

theorem pyEq_null_left (x : Val) : pyEq .null x = isNull x := by
  cases x <;> rfl

theorem pyEq_null_right' (x : Val) : pyEq x .null = isNull x := by
  rcases x with _|_|_|_|_|⟨_,_|_⟩|_|_|_ <;> rfl

theorem isKeyable_wf {x : Val} (h : isKeyable x = true) : wfVal x = true :=
  (Bool.and_eq_true_iff.1 h).2

theorem isKeyable_notArr {x : Val} (h : isKeyable x = true) : x.isArr = false := by
  simpa using (Bool.and_eq_true_iff.1 h).1

theorem isKeyable_of_scalar {x : Val} (h : isScalar x = true) : isKeyable x = true := by
  cases x <;> first | rfl | cases h

theorem isKeyable_null : isKeyable .null = true := rfl

theorem pyEq_refl_keyable {x : Val} (h : isKeyable x = true) : pyEq x x = true :=
  pyEq_refl_wf x (isKeyable_wf h)

theorem pyEq_symm_keyable {x y : Val} (hx : isKeyable x = true) (hy : isKeyable y = true) :
    pyEq x y = pyEq y x :=
  pyEq_symm_wf x y (isKeyable_wf hx) (isKeyable_wf hy)

theorem pyEq_congr_left_keyable {x y : Val} (z : Val) (hx : isKeyable x = true)
    (hy : isKeyable y = true) (h : pyEq x y = true) : pyEq x z = pyEq y z :=
  pyEq_congr z h (pyEq_symm_keyable hx hy ▸ h)

theorem pyEq_refl_scalar {x : Val} (hs : isScalar x = true) : pyEq x x = true := scalar_refl x hs

theorem pyEq_congr_left {x y z : Val} (hx : isScalar x = true) (hy : isScalar y = true)
    (hz : isScalar z = true) (h : pyEq x y = true) : pyEq x z = pyEq y z :=
  pyEq_congr_left_keyable z (isKeyable_of_scalar hx) (isKeyable_of_scalar hy) h

theorem pyEq_null_right {x : Val} (hx : isScalar x = true) : pyEq x .null = isNull x :=
  pyEq_null_right' x

@[simp] theorem keyEq_nil : keyEq [] [] = true := rfl
@[simp] theorem keyEq_nil_cons (y : Val) (ys : List Val) : keyEq [] (y :: ys) = false := rfl
@[simp] theorem keyEq_cons_nil (x : Val) (xs : List Val) : keyEq (x :: xs) [] = false := rfl
@[simp] theorem keyEq_cons (x y : Val) (xs ys : List Val) :
    keyEq (x :: xs) (y :: ys) = (pyEq x y && keyEq xs ys) := by
  simp only [keyEq, List.length_cons, List.zip_cons_cons, List.all_cons]
  cases pyEq x y <;> simp

theorem pyEqList_eq_keyEq (s t : List Val) : pyEqList s t = keyEq s t := by
  induction s generalizing t with
  | nil => cases t <;> rfl
  | cons x xs ih => cases t <;> simp [pyEqList, ih]

def AllKeyable (l : List Val) : Prop := ∀ v ∈ l, isKeyable v = true

theorem AllKeyable.tail {x : Val} {xs : List Val} (h : AllKeyable (x :: xs)) : AllKeyable xs :=
  fun v hv => h v (List.mem_cons_of_mem _ hv)

theorem AllKeyable.head {x : Val} {xs : List Val} (h : AllKeyable (x :: xs)) : isKeyable x = true :=
  h x (List.mem_cons_self ..)

theorem keyEq_refl {l : List Val} (h : AllKeyable l) : keyEq l l = true := by
  induction l with
  | nil => rfl
  | cons x xs ih => simp [pyEq_refl_keyable h.head, ih h.tail]

theorem keyEq_symm {a b : List Val} (ha : AllKeyable a) (hb : AllKeyable b) :
    keyEq a b = keyEq b a := by
  induction a generalizing b with
  | nil => cases b <;> rfl
  | cons x xs ih =>
    cases b with
    | nil => rfl
    | cons y ys => simp [pyEq_symm_keyable ha.head hb.head, ih ha.tail hb.tail]

theorem keyEq_congr_left {a a' : List Val} (t : List Val) (ha : AllKeyable a) (ha' : AllKeyable a')
    (h : keyEq a a' = true) : keyEq a t = keyEq a' t := by
  induction a generalizing a' t with
  | nil => cases a' <;> first | rfl | cases h
  | cons x xs ih =>
    cases a' with
    | nil => cases h
    | cons y ys =>
      simp only [keyEq_cons, Bool.and_eq_true] at h
      cases t with
      | nil => rfl
      | cons z zs =>
        simp [pyEq_congr_left_keyable z ha.head ha'.head h.1, ih zs ha.tail ha'.tail h.2]

theorem keyEq_all_null {a b : List Val} (ha : AllKeyable a) (h : keyEq a b = true)
    (hb : b.all isNull = true) : a.all isNull = true := by
  induction a generalizing b with
  | nil => rfl
  | cons x xs ih =>
    cases b with
    | nil => cases h
    | cons y ys =>
      simp only [keyEq_cons, Bool.and_eq_true, List.all_cons] at h hb ⊢
      refine ⟨?_, ih ha.tail h.2 hb.2⟩
      cases y <;> cases hb.1
      rw [← pyEq_null_right' x]; exact h.1

end MongoModel.Proofs.C06Lemmas
