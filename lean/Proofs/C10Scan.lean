/-
  Proofs.C10Scan — the shared scan `iterDocuments` is `selectDocs` on the collection the expiry
  pass leaves when that has documents (`iter_eq`); when it has none the filter is validated on
  `{}` (`iter_empty`).  `selectDocs` is a filter (`select_filter`).
-/
import Spec.Counts
import Proofs.C09Expire
import Proofs.C18

namespace MongoModel.Proofs.C10Lemmas
open MongoModel MongoModel.Spec
open MongoModel.Proofs.C09Lemmas

theorem filterMapM_select (f : Val) (l : List (Val × Val)) :
    l.filterMapM (fun p => do
      let b ← filterApplies f p.2
      pure (if b then some p.2 else none)) = (selectDocs f l).map (·.map (·.2)) := by
  induction l with
  | nil => rfl
  | cons p l ih =>
    rw [List.filterMapM_cons, ih]
    simp only [selectDocs]
    cases filterApplies f p.2 with
    | error e => rfl
    | ok b =>
      cases selectDocs f l with
      | error e => cases b <;> rfl
      | ok more => cases b <;> rfl

/-- the verdict of the matcher as a Boolean (an error counts as "no") -/
def matchB (f : Val) (p : Val × Val) : Bool :=
  match filterApplies f p.2 with
  | .ok true => true
  | _ => false

theorem select_cons (f : Val) (p : Val × Val) (l sel : List (Val × Val))
    (h : selectDocs f (p :: l) = .ok sel) :
    ∃ b more, filterApplies f p.2 = .ok b ∧ selectDocs f l = .ok more ∧
      sel = if b then p :: more else more := by
  simp only [selectDocs] at h
  cases hb : filterApplies f p.2 with
  | error e => rw [hb] at h; cases h
  | ok b =>
    rw [hb] at h
    cases hm : selectDocs f l with
    | error e => rw [hm] at h; cases h
    | ok more =>
      rw [hm] at h
      cases h
      exact ⟨b, more, rfl, rfl, rfl⟩

theorem select_filter (f : Val) (l sel : List (Val × Val)) (h : selectDocs f l = .ok sel) :
    sel = l.filter (matchB f) ∧ ∀ p ∈ l, filterApplies f p.2 = .ok (matchB f p) := by
  induction l generalizing sel with
  | nil => cases h; simp
  | cons p l ih =>
    obtain ⟨b, more, hb, hm, rfl⟩ := select_cons f p l sel h
    obtain ⟨h1, h2⟩ := ih more hm
    have hmb : matchB f p = b := by
      unfold matchB; rw [hb]; cases b <;> rfl
    constructor
    · rw [List.filter_cons, hmb, ← h1]
    · intro q hq
      rcases List.mem_cons.1 hq with rfl | hq
      · rw [hmb]; exact hb
      · exact h2 q hq

theorem select_none {f : Val} {l : List (Val × Val)} (h : selectDocs f l = .ok []) :
    ∀ p ∈ l, filterApplies f p.2 = .ok false := by
  obtain ⟨h1, h2⟩ := select_filter f l [] h
  intro p hp
  rw [h2 p hp, Bool.eq_false_iff.2 (List.filter_eq_nil_iff.1 h1.symm p hp)]

theorem select_sublist (f : Val) (l sel : List (Val × Val)) (h : selectDocs f l = .ok sel) :
    sel.Sublist l := by
  rw [(select_filter f l sel h).1]; exact List.filter_sublist

theorem iter_eq (now : Int) (c c1 : Coll) (f : Val) (he : expire now c = .ok c1)
    (hne : c1.docs ≠ []) :
    iterDocuments now c f =
      (selectDocs f c1.docs).map (fun sel => (c1, sel.map (·.2))) := by
  unfold iterDocuments
  have hemp : c1.docs.isEmpty = false := by
    cases hd : c1.docs with
    | nil => exact absurd hd hne
    | cons a l => rfl
  rw [he]
  simp only [bind, Except.bind, hemp, Bool.false_eq_true, if_false]
  rw [expire_idem now c c1 he]
  simp only [pure, Except.pure]
  have := filterMapM_select f c1.docs
  simp only [bind, Except.bind, pure, Except.pure] at this
  rw [this]
  cases selectDocs f c1.docs <;> rfl

/-- the scan on a collection the expiry pass leaves empty: the filter is validated on `{}` -/
theorem iter_empty (now : Int) (c c1 : Coll) (f : Val) (he : expire now c = .ok c1)
    (hemp : c1.docs = []) :
    iterDocuments now c f =
      match filterApplies f (.doc []) with
      | .error e => .error e
      | .ok _ => .ok (c1, []) := by
  simp only [iterDocuments]
  rw [he]
  simp only [bind, Except.bind, hemp, List.isEmpty_nil, if_true]
  cases filterApplies f (.doc []) with
  | error e => rfl
  | ok b =>
    dsimp only
    rw [expire_idem now c c1 he]
    simp only [hemp, List.filterMapM_nil, pure, Except.pure]

/-- a scan that answers, on any collection: it leaves what the expiry pass leaves and answers the
    selection on that -/
theorem iter_ok {now : Int} {c c1 : Coll} {f : Val} {ms : List Val}
    (h : iterDocuments now c f = .ok (c1, ms)) :
    expire now c = .ok c1 ∧ ∃ sel, selectDocs f c1.docs = .ok sel ∧ ms = sel.map (·.2) := by
  cases he : expire now c with
  | error e => simp only [iterDocuments, he, bind, Except.bind] at h; cases h
  | ok c2 =>
    by_cases hemp : c2.docs = []
    · rw [iter_empty now c c2 f he hemp] at h
      cases hv : filterApplies f (.doc []) with
      | error e => rw [hv] at h; cases h
      | ok b => rw [hv] at h; cases h; exact ⟨rfl, [], by rw [hemp]; rfl, rfl⟩
    · rw [iter_eq now c c2 f he hemp] at h
      cases hs : selectDocs f c2.docs with
      | error e => rw [hs] at h; cases h
      | ok sel => rw [hs] at h; cases h; exact ⟨rfl, sel, hs, rfl⟩

theorem patch_doc_twice (fs : Fields) : patchDT (patchDT (.doc fs)) = patchDT (.doc fs) :=
  MongoModel.Proofs.C18.patch_idem _

end MongoModel.Proofs.C10Lemmas
