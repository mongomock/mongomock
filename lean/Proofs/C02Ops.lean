/-
  Proofs.C02Ops — the leaf computations of the operators, each brought to the plain form the
  statements of Props/C02.lean are written in: `pyMax` / `pyMin` on ints as an `if`, a Python slice
  as `take` / `drop` at `sliceBound`, `$addToSet` with `$each` as `foldl addOne`, `$pull` of a scalar
  as a `filter`, and `int(str(i)) = i` for an array index written in decimal (`toString i`).
-/
import Proofs.C02Basic
import Proofs.C05Eq


namespace MongoModel.Proofs.C02Lemmas
open MongoModel MongoModel.Spec

theorem pyNativeCmp_int (k n : Int) :
    pyNativeCmp (.int k) (.int n) = some (if k < n then .lt else if k = n then .eq else .gt) := by
  simp [pyNativeCmp, Val.num?, Num.lt, Num.eq]

theorem pyMax_int (n k : Int) : pyMax (.int n) (.int k) = .ok (.int (if k > n then k else n)) := by
  unfold pyMax
  rw [pyNativeCmp_int]
  by_cases h1 : k < n
  · rw [if_pos h1, if_neg (by omega)]
  · by_cases h2 : k = n
    · rw [if_neg h1, if_pos h2, if_neg (by omega)]
    · rw [if_neg h1, if_neg h2, if_pos (by omega)]

theorem pyMin_int (n k : Int) : pyMin (.int n) (.int k) = .ok (.int (if k < n then k else n)) := by
  unfold pyMin
  rw [pyNativeCmp_int]
  by_cases h1 : k < n
  · rw [if_pos h1, if_pos h1]
  · by_cases h2 : k = n
    · rw [if_neg h1, if_pos h2, if_neg h1]
    · rw [if_neg h1, if_neg h2, if_neg h1]

/-- on an array, a field name that is no index makes every updater raise, but for `$unset` and
    `$currentDate`, which leave arrays alone -/
theorem runUpdater_arr_nonindex (u : Updater) (now : Val) (xs : List Val) (x : String) (v : Val)
    (hnum : pyInt? x = none) (hu : u ≠ .unset) (hcd : u ≠ .currentDate) :
    ∃ e, runUpdater u now (.arr xs) x v = .error e := by
  have hl : listIndex x = .error .valueErr := by simp only [listIndex, hnum]
  cases u with
  | unset => exact absurd rfl hu
  | currentDate => exact absurd rfl hcd
  | pop =>
    cases hp : popSpec v with
    | error e => exact ⟨e, bind_error hp⟩
    | ok last =>
      refine ⟨.valueErr, ?_⟩
      show (popSpec v >>= _) = _
      rw [hp]
      exact bind_error (x := listIndex x) hl
  | _ => exact ⟨.valueErr, bind_error hl⟩

theorem sliceBound_eq (n : Nat) (i : Int) :
    sliceBound n i = if i < 0 then n - i.natAbs else min n i.toNat := by
  unfold sliceBound
  by_cases h : i < 0
  · rw [if_pos h, if_pos h]
    by_cases h' : (n : Int) + i < 0
    · rw [if_pos h']; omega
    · rw [if_neg h']; omega
  · rw [if_neg h, if_neg h]
    by_cases h' : i > n
    · rw [if_pos h']; omega
    · rw [if_neg h']; omega

theorem sliceBound_le (n : Nat) (i : Int) : sliceBound n i ≤ n := by
  rw [sliceBound_eq]
  by_cases h : i < 0
  · rw [if_pos h]; omega
  · rw [if_neg h]; omega

theorem sliceBound_zero (n : Nat) : sliceBound n 0 = 0 := by
  unfold sliceBound; simp

theorem pySlice_prefix (xs : List Val) (i : Int) :
    pySlice xs (some 0) (some i) = xs.take (sliceBound xs.length i) := by
  simp [pySlice, sliceBound_zero]

theorem pySlice_prefix' (xs : List Val) (i : Int) :
    pySlice xs none (some i) = xs.take (sliceBound xs.length i) := by
  simp [pySlice]

theorem pySlice_suffix (xs : List Val) (i : Int) :
    pySlice xs (some i) none = xs.drop (sliceBound xs.length i) := by
  simp only [pySlice]
  apply List.take_of_length_le
  simp

theorem pyIn_append (v : Val) (xs ys : List Val) : pyIn v (xs ++ ys) = (pyIn v xs || pyIn v ys) := by
  simp [pyIn, List.any_append]

/-- the helper's "not in the array and not among the values added so far" is "not in the array
    as it is by now" -/
theorem valuesToAdd_fold (xs : List Val) : ∀ (es acc : List Val),
    xs ++ es.foldl (fun toAdd v => if !pyIn v xs && !pyIn v toAdd then toAdd ++ [v] else toAdd) acc =
      es.foldl addOne (xs ++ acc)
  | [], acc => rfl
  | v :: es, acc => by
    simp only [List.foldl_cons]
    rw [valuesToAdd_fold xs es]
    congr 1
    unfold addOne
    rw [pyIn_append]
    cases pyIn v xs <;> cases pyIn v acc <;> simp

theorem addEach_eq (xs es : List Val) : addEach xs es = addAll xs es := by
  have := valuesToAdd_fold xs es []
  simpa [addEach, valuesToAdd, addAll] using this

/-- what `$each` adds: only listed values that were not there, none of them twice -/
theorem addAll_once (xs : List Val) : ∀ (es : List Val) (acc : List Val),
    (∀ o ∈ acc, pyIn o xs = false) → acc.Pairwise (fun a b => pyEq a b = false) →
    ∃ added, es.foldl addOne (xs ++ acc) = xs ++ added ∧
      (∀ o ∈ added, (o ∈ acc ∨ o ∈ es) ∧ pyIn o xs = false) ∧
      added.Pairwise (fun a b => pyEq a b = false)
  | [], acc, h1, h2 => ⟨acc, rfl, fun o ho => ⟨.inl ho, h1 o ho⟩, h2⟩
  | v :: es, acc, h1, h2 => by
    simp only [List.foldl_cons]
    by_cases hin : pyIn v (xs ++ acc) = true
    · have e : addOne (xs ++ acc) v = xs ++ acc := by simp [addOne, hin]
      rw [e]
      obtain ⟨added, h3, h4, h5⟩ := addAll_once xs es acc h1 h2
      refine ⟨added, h3, fun o ho => ?_, h5⟩
      obtain ⟨h6, h7⟩ := h4 o ho
      exact ⟨h6.imp id (fun h => List.mem_cons_of_mem _ h), h7⟩
    · have hin' : pyIn v (xs ++ acc) = false := by simpa using hin
      have e : addOne (xs ++ acc) v = xs ++ (acc ++ [v]) := by
        simp [addOne, hin', List.append_assoc]
      rw [e]
      rw [pyIn_append, Bool.or_eq_false_iff] at hin'
      obtain ⟨added, h3, h4, h5⟩ := addAll_once xs es (acc ++ [v])
        (by
          intro o ho
          rcases List.mem_append.mp ho with ho | ho
          · exact h1 o ho
          · simp only [List.mem_singleton] at ho; subst ho; exact hin'.1)
        (by
          rw [List.pairwise_append]
          refine ⟨h2, by simp, ?_⟩
          intro a ha b hb
          simp only [List.mem_singleton] at hb; subst hb
          have := hin'.2
          simp only [pyIn, List.any_eq_false] at this
          simpa using this a ha)
      refine ⟨added, h3, fun o ho => ?_, h5⟩
      obtain ⟨h6, h7⟩ := h4 o ho
      refine ⟨?_, h7⟩
      rcases h6 with h6 | h6
      · rcases List.mem_append.mp h6 with h6 | h6
        · exact .inl h6
        · simp only [List.mem_singleton] at h6; subst h6; exact .inr (by simp)
      · exact .inr (List.mem_cons_of_mem _ h6)

open MongoModel.Proofs.C05Lemmas (pyEq_trans scalar_symm' scalar_refl)

/-- on scalars, being `==` to `y` (itself `==` to `v`) is being `==` to `v` -/
theorem eq_class (v x y : Val) (hv : isScalar v = true) (hx : isScalar x = true)
    (hy : pyEq v y = true) : pyEq x y = pyEq v x := by
  have sv := scalar_symm' v hv
  have sx := scalar_symm' x hx
  rw [Bool.eq_iff_iff]
  constructor
  · intro h
    have h' : pyEq y x = true := by rw [← sx y]; exact h
    exact pyEq_trans v y x hy h'
  · intro h
    have h' : pyEq x v = true := by rw [sx v]; exact h
    exact pyEq_trans x v y h' hy

theorem removeFirst_filter (v y : Val) (hv : isScalar v = true) (hy : pyEq v y = true) :
    ∀ arr : List Val, arr.all isScalar = true →
      (removeFirst y arr).filter (fun o => !pyEq v o) = arr.filter (fun o => !pyEq v o) ∧
      (removeFirst y arr).countP (fun o => pyEq v o) = arr.countP (fun o => pyEq v o) - 1 ∧
      (removeFirst y arr).all isScalar = true
  | [], _ => by simp [removeFirst]
  | x :: r, h => by
    simp only [List.all_cons, Bool.and_eq_true] at h
    have e := eq_class v x y hv h.1 hy
    obtain ⟨i1, i2, i3⟩ := removeFirst_filter v y hv hy r h.2
    simp only [removeFirst]
    by_cases hxy : pyEq x y = true
    · have hvx : pyEq v x = true := by rw [← e]; exact hxy
      simp [hxy, hvx, h.2]
    · have hvx : pyEq v x = false := by rw [← e]; simpa using hxy
      simp only [hxy, if_false, Bool.false_eq_true]
      refine ⟨?_, ?_, ?_⟩
      · simp [hvx, i1]
      · simp [hvx, i2]
      · simp [h.1, i3]

theorem pull_fold (v : Val) (hv : isScalar v = true) :
    ∀ (ys arr : List Val), arr.all isScalar = true →
      arr.countP (fun o => pyEq v o) ≤ ys.countP (fun o => pyEq v o) →
      ys.foldl (fun arr obj => if pyEq v obj then removeFirst obj arr else arr) arr =
        arr.filter (fun o => !pyEq v o)
  | [], arr, _, hc => by
    simp only [List.countP_nil, Nat.le_zero, List.countP_eq_zero] at hc
    simp only [List.foldl_nil]
    symm
    rw [List.filter_eq_self]
    intro a ha
    simpa using hc a ha
  | y :: ys, arr, ha, hc => by
    simp only [List.foldl_cons]
    by_cases hy : pyEq v y = true
    · obtain ⟨i1, i2, i3⟩ := removeFirst_filter v y hv hy arr ha
      simp only [hy, if_true]
      rw [pull_fold v hv ys _ i3 ?_, i1]
      rw [i2]
      simp only [List.countP_cons, hy, if_true] at hc
      omega
    · simp only [hy, if_false, Bool.false_eq_true]
      apply pull_fold v hv ys arr ha
      simpa [List.countP_cons, hy] using hc

theorem foldl_dset_fresh : ∀ (doc base : Fields), (dkeys doc).Nodup →
    (∀ k, k ∈ dkeys doc → k ∉ dkeys base) →
    doc.foldl (fun acc kv => dset kv.1 kv.2 acc) base = base ++ doc
  | [], base, _, _ => by simp
  | (k, v) :: r, base, hn, hf => by
    simp only [dkeys, List.map_cons, List.nodup_cons] at hn
    have hk : k ∉ dkeys base := hf k (by simp [dkeys])
    simp only [List.foldl_cons]
    rw [dset_absent hk, foldl_dset_fresh r _ hn.2 ?_]
    · simp
    · intro k' hk' hm
      simp only [dkeys, List.map_append, List.map_cons, List.map_nil, List.mem_append,
        List.mem_singleton] at hm
      rcases hm with hm | rfl
      · exact hf k' (by simp only [dkeys, List.map_cons, List.mem_cons]; exact .inr hk') hm
      · exact hn.1 hk'

theorem foldl_digits (ds : List Char) (init : Nat) :
    ds.foldl (fun n c => n * 10 + (c.toNat - '0'.toNat)) init = Nat.ofDigitChars 10 ds init := by
  unfold Nat.ofDigitChars
  congr 1
  funext n c
  rw [Nat.mul_comm]

theorem pyInt_digits (ds : List Char) (hne : ds ≠ []) (hd : ∀ c ∈ ds, c.isDigit = true) :
    pyInt? (String.ofList ds) = some (Int.ofNat (Nat.ofDigitChars 10 ds 0)) := by
  have hall : ds.all Char.isDigit = true := by simpa [List.all_eq_true] using hd
  have hemp : ds.isEmpty = false := by cases ds <;> simp_all
  unfold pyInt?
  simp only [String.toList_ofList]
  split
  · rename_i r
    have := hd '-' (by simp)
    exact absurd this (by decide)
  · rename_i r
    have := hd '+' (by simp)
    exact absurd this (by decide)
  · simp only [hemp, hall, Bool.false_eq_true, if_false, if_true, Option.map_some, foldl_digits]

theorem pyInt_toString (i : Nat) : pyInt? (toString i) = some (Int.ofNat i) := by
  rw [Nat.toString_eq_ofList_toDigits, pyInt_digits _ Nat.toDigits_ne_nil
    (fun c hc => Nat.isDigit_of_mem_toDigits (by decide) (by decide) hc),
    Nat.ofDigitChars_ten_toDigits]

theorem listIndex_toString (i : Nat) : listIndex (toString i) = .ok (i : Int) := by
  simp only [listIndex, pyInt_toString, Int.ofNat_eq_natCast]

/-- how the updaters enter an array by an index written in decimal -/
theorem listIndex_bind {α : Type} (i : Nat) (A : R α) (g : Int → R α) :
    (listIndex (toString i) >>= fun j => if j < 0 then A else g j) = g i :=
  (bind_ok_eq (listIndex_toString i)).trans (if_neg (Int.not_lt.mpr (Int.natCast_nonneg i)))

end MongoModel.Proofs.C02Lemmas
