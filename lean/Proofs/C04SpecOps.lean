/-
  Proofs.C04SpecOps — `eval_eq_spec`: the operator bodies of the model against those of the oracle,
  on evaluated operands inside D (arithmetic, comparisons against the BSON order, arrays, strings,
  date parts).
-/
import Proofs.C04Cmp
import Proofs.C04SpecRun
set_option linter.unusedSimpArgs false
namespace MongoModel.Proofs.C04
open MongoModel MongoModel.Expr MongoModel.Spec

theorem sumAll_eq : ∀ ns acc, sumAll ns acc = sumNums ns acc := by
  intro ns
  induction ns with
  | nil => intro _; rfl
  | cons n r ih => intro acc; simp only [sumAll, sumNums, ih]

theorem mulAll_eq : ∀ ns acc, mulAll ns acc = mulNums ns acc := by
  intro ns
  induction ns with
  | nil => intro _; rfl
  | cons n r ih => intro acc; simp only [mulAll, mulNums, ih]; rfl

/-- a number of the rules is a number of the code, and neither null nor a boolean -/
theorem number_some {x : Val} {p : PyNum} (h : number x = some p) :
    toPyNum x = some p ∧ isNull x = false ∧ isBoolV x = false := by
  cases x <;> simp [number] at h <;> simp [toPyNum, isNull, isBoolV, h]

theorem nullish_some (x : Val) : nullish (some x) = isNull x := by cases x <;> rfl

theorem isNull_getD (a : Option Val) : isNull (a.getD .null) = nullish a := by
  cases a with
  | none => rfl
  | some x => exact (nullish_some x).symm

/-- operands that are null, missing or numbers (no booleans): the loop of `$multiply` finds the
    numbers, or returns None at the first null -/
theorem checkNums_eq (vs : List (Option Val))
    (h : ∀ v ∈ vs, nullish v = true ∨ (v.bind number).isSome = true) :
    checkNums (nulled vs) = .ok (numbers vs) := by
  induction vs with
  | nil => rfl
  | cons v r ih =>
    have ih := ih (fun w hw => h w (by simp [hw]))
    have hv := h v (by simp)
    rcases v with _ | x
    · rfl
    · cases x <;> simp [nullish, number] at hv <;>
        simp [nulled_cons, checkNums, toPyNum, numbers, number, ih, bind, Except.bind] <;>
        cases numbers r <;> rfl

/-- the loop of `$add` likewise; the date set aside is kept -/
theorem checkAdd_eq (vs : List (Option Val)) (d : Option Int)
    (h : ∀ v ∈ vs, nullish v = true ∨ (v.bind number).isSome = true) :
    checkAdd (nulled vs) d = .ok ((numbers vs).map (d, ·)) := by
  induction vs with
  | nil => cases d <;> rfl
  | cons v r ih =>
    have ih := ih (fun w hw => h w (by simp [hw]))
    have hv := h v (by simp)
    rcases v with _ | x
    · cases d <;> rfl
    · cases x <;> simp [nullish, number] at hv <;> cases d <;>
        simp [nulled_cons, checkAdd, toPyNum, numbers, number, ih, bind, Except.bind] <;>
        cases numbers r <;> rfl

theorem numbers_no_nullish (vs : List (Option Val)) (ns : List PyNum) (h : numbers vs = some ns) :
    vs.any nullish = false := by
  induction vs generalizing ns with
  | nil => rfl
  | cons v r ih =>
    rcases v with _ | x
    · simp [numbers] at h
    · cases hr : numbers r with
      | none => cases hx : number x <;> simp [numbers, hx, hr] at h
      | some ms => cases x <;> simp [numbers, number] at h <;> simp [nullish, ih ms hr]

theorem numbers_all (vs : List (Option Val)) (ns : List PyNum) (h : numbers vs = some ns) :
    ∀ v ∈ vs, nullish v = true ∨ (v.bind number).isSome = true := by
  induction vs generalizing ns with
  | nil => simp
  | cons v r ih =>
    rcases v with _ | x
    · simp [numbers] at h
    · cases hr : numbers r with
      | none => cases hx : number x <;> simp [numbers, hx, hr] at h
      | some ms =>
        cases hx : number x with
        | none => simp [numbers, hx] at h
        | some n =>
          intro w hw
          rcases List.mem_cons.mp hw with rfl | hw
          · simp [hx]
          · exact ih ms hr w hw

theorem dates_nil_filter (vs : List (Option Val)) (h : dates vs = []) :
    vs.filter (fun v => !isDate v) = vs := by
  induction vs with
  | nil => rfl
  | cons v r ih =>
    rcases v with _ | x
    · rw [List.filter_cons_of_pos (by simp [isDate]), ih h]
    · cases x with
      | date u o =>
        cases o with
        | none => simp [dates] at h
        | some off => rw [List.filter_cons_of_pos (by simp [isDate]), ih h]
      | _ => all_goals rw [List.filter_cons_of_pos (by simp [isDate]), ih h]

/-- exactly one (naive) date among numbers: the loop of `$add` sets it aside -/
theorem checkAdd_date (vs : List (Option Val)) (u : Int) (ns : List PyNum)
    (hd : dates vs = [u]) (hn : numbers (vs.filter (fun v => !isDate v)) = some ns) :
    checkAdd (nulled vs) none = .ok (some (some u, ns)) := by
  induction vs generalizing ns with
  | nil => simp [dates] at hd
  | cons v r ih =>
    rcases v with _ | x
    · simp [List.filter_cons, isDate, numbers] at hn
    · cases x with
      | date u' o =>
        cases o with
        | none =>
          simp only [dates, List.cons.injEq] at hd
          obtain ⟨rfl, hd'⟩ := hd
          rw [List.filter_cons_of_neg (by simp [isDate]), dates_nil_filter r hd'] at hn
          simp [nulled_cons, checkAdd, checkAdd_eq r (some u') (numbers_all r ns hn), hn]
        | some off => simp [List.filter_cons, isDate, numbers, number] at hn
      | int i | dbl m e =>
        rw [List.filter_cons_of_pos (by simp [isDate])] at hn
        cases hr : numbers (r.filter (fun v => !isDate v)) with
        | none => simp [numbers, number, hr] at hn
        | some ms =>
          simp only [numbers, number, hr, Option.some.injEq] at hn
          subst hn
          simp [nulled_cons, checkAdd, toPyNum, bind, Except.bind, pure, Except.pure, ih ms hd hr]
      | _ => all_goals (simp [List.filter_cons, isDate, numbers, number] at hn)

theorem nulled_isEmpty (vs : List (Option Val)) : (nulled vs).isEmpty = vs.isEmpty := by
  cases vs <;> rfl

/-- `$add` / `$multiply` on operands without booleans (`$add`: at most one date); the rules read
    every other name as the code does, as `$multiply` -/
theorem nary_pure (k : String) (vs : List (Option Val)) (r : Val) (hs : arithN k vs = .ok r) :
    naryArith k (nulled vs) = .ok r := by
  unfold arithN at hs
  cases he : vs.isEmpty with
  | true => simp [he, unmodelled] at hs
  | false =>
  simp only [he, Bool.false_eq_true, if_false] at hs
  simp only [naryArith, nulled_isEmpty, he, Bool.false_eq_true, if_false]
  cases hn : vs.any nullish with
  | true =>
    simp only [hn, if_true] at hs
    split at hs
    · rename_i hall
      cases hs
      have h : ∀ v ∈ vs, nullish v = true ∨ (v.bind number).isSome = true := by
        intro v hv
        cases hv' : nullish v with
        | true => exact Or.inl rfl
        | false => exact Or.inr (List.all_eq_true.mp hall v (by simp [hv, hv']))
      have hnone : numbers vs = none := by
        cases hnum : numbers vs with
        | none => rfl
        | some ns => rw [numbers_no_nullish vs ns hnum] at hn; cases hn
      simp [checkNums_eq vs h, checkAdd_eq vs none h, hnone, bind, Except.bind, pure, Except.pure]
    · simp [unmodelled] at hs
  | false =>
    simp only [hn, Bool.false_eq_true, if_false] at hs
    cases hnum : numbers vs with
    | some ns =>
      have h := numbers_all vs ns hnum
      simp only [hnum] at hs
      simp only [checkNums_eq vs h, checkAdd_eq vs none h, hnum, Option.map_some, bind, Except.bind,
        ← sumAll_eq, ← mulAll_eq]
      by_cases ha : k = "$add"
      · simpa [ha, bind, Except.bind] using hs
      · simp only [ha, if_false] at hs ⊢
        cases vs with
        | nil => simp at he
        | cons v t =>
          cases t with
          | nil =>
            rcases v with _ | x
            · simp [numbers] at hnum
            · simpa [nulled, pure, Except.pure] using hs
          | cons w t' =>
            cases ns with
            | nil => simp [unmodelled] at hs
            | cons n ms => simpa [nulled, bind, Except.bind] using hs
    | none =>
      -- `$add` of one date and numbers
      simp only [hnum] at hs
      by_cases ha : k = "$add"
      · simp only [ha, bne_self_eq_false, Bool.false_eq_true, if_false, if_true] at hs ⊢
        cases hds : dates vs with
        | nil => simp [hds] at hs
        | cons u t =>
          cases t with
          | cons u2 t2 => simp [hds] at hs
          | nil =>
            cases hnn : numbers (vs.filter (fun v => !isDate v)) with
            | none => simp [hds, hnn] at hs
            | some ns =>
              simp only [hds, hnn, bind, Except.bind] at hs
              simp only [checkAdd_date vs u ns hds hnn, bind, Except.bind, ← sumAll_eq]
              cases hsum : sumAll ns (.i 0) with
              | error e => simp [hsum] at hs
              | ok tot =>
                simp only [hsum] at hs ⊢
                rw [← hs]
                cases tot <;> rfl
      · have : (k != "$add") = true := by simpa using ha
        simp [this] at hs

theorem pyMod_eq (p q : PyNum) (hq : q.isZero = false) :
    pyMod p q = intRes Int.tmod p q (pyFmod p q) := by
  cases p <;> cases q <;> try rfl
  rename_i a b
  have hb : (b == 0) = false := by simpa [PyNum.isZero] using hq
  simp [pyMod, intRes, hb]

theorem pyPowT_ok (p q : PyNum) (r : Val)
    (hs : (match p, q with
     | .i a, .i b => if (b ≥ 0 && b ≤ 64) = true then
         (if (a ^ b.toNat).natAbs < 2 ^ 63 then (.ok (.int (a ^ b.toNat)) : R Val) else unmodelled)
       else unmodelled
     | _, _ => pyPow p q) = .ok r) : pyPowT p q = .ok r := by
  cases p with
  | f m e => cases q <;> exact hs
  | i a =>
    cases q with
    | f m e => exact hs
    | i b =>
      simp only at hs
      split at hs
      · rename_i hb
        split at hs
        · rename_i hlt
          simp only [Bool.and_eq_true, decide_eq_true_eq] at hb
          have h1 : -(2 : Int) ^ 63 ≤ a ^ b.toNat := by omega
          have h2 : a ^ b.toNat < (2 : Int) ^ 63 := by omega
          simp only [pyPowT, hb.1, hb.2, h1, h2, decide_true, Bool.and_self, if_true]
          exact hs
        · simp [unmodelled] at hs
      · simp [unmodelled] at hs

/-- `binaryArith` on two numbers of the rules (the nested match of its last case is never shown
    to `simp`, which would generate its 81 equations) -/
theorem binaryArith_num (k : String) {p q : PyNum} {x y : Val} (hx : number x = some p)
    (hy : number y = some q) :
    binaryArith k x y =
      if k = "$subtract" then pySubtract x y
      else if k = "$divide" then pyTrueDiv p q
      else if k = "$mod" then pyMod p q
      else if k = "$pow" then pyPowT p q
      else if k = "$log" then
        (if p.isZero || p.isNeg || q.isZero || q.isNeg then .error .valueErr
         else if Num.eq q.num ⟨1, 0⟩ then .error .other
         else unmodelled)
      else unmodelled := by
  obtain ⟨htx, hnx, hbx⟩ := number_some hx
  obtain ⟨hty, hny, hby⟩ := number_some hy
  unfold binaryArith
  rw [hnx, hny, hbx, hby, htx, hty, if_neg nofun, if_neg nofun]

/-- numbers on both sides -/
theorem binary_num (k : String) (p q : PyNum) (x y : Val) (hx : number x = some p)
    (hy : number y = some q) (r : Val) (hs : numOp k p q = .ok r) :
    binaryArith k x y = .ok r := by
  unfold numOp at hs
  rw [binaryArith_num k hx hy]
  by_cases h1 : k = "$subtract"
  · have : pySubtract x y = (p.sub q).toVal := by
      cases x <;> simp [number] at hx <;> cases y <;> simp [number] at hy <;>
        simp [pySubtract, toPyNum, hx, hy]
    rw [if_pos h1] at hs ⊢
    rw [this, hs]
  rw [if_neg h1] at hs ⊢
  by_cases h2 : k = "$divide"
  · rw [if_pos h2] at hs ⊢
    split at hs
    · cases hs
    · exact hs
  rw [if_neg h2] at hs ⊢
  by_cases h3 : k = "$mod"
  · rw [if_pos h3] at hs ⊢
    split at hs
    · cases hs
    · rename_i hz
      rw [pyMod_eq p q (by simpa using hz)]; exact hs
  rw [if_neg h3] at hs ⊢
  by_cases h4 : k = "$pow"
  · rw [if_pos h4] at hs ⊢
    exact pyPowT_ok p q r hs
  · rw [if_neg h4] at hs
    cases hs

theorem dateMinus_pure (u : Int) (y : Val) (r : Val)
    (hs : dateMinus u y = .ok r) : pySubtract (.date u none) y = .ok r := by
  cases y with
  | date u' o' =>
    cases o' with
    | none => simpa [dateMinus, pySubtract] using hs
    | some off => simp [dateMinus] at hs
  | int n => simpa [dateMinus, pySubtract, toPyNum] using hs
  | dbl m e => simpa [dateMinus, pySubtract, toPyNum] using hs
  | _ => simp [dateMinus] at hs

/-- the binary arithmetic operators (a boolean operand is rejected by the rules as by the code) -/
theorem binary_pure (k : String) (a b : Option Val) (r : Val) (hs : arith2 k a b = .ok r) :
    binaryArith k (a.getD .null) (b.getD .null) = .ok r := by
  unfold arith2 at hs
  cases hn : (nullish a || nullish b) with
  | true =>
    simp only [hn, if_true] at hs
    split at hs
    · cases hs
      rw [binaryArith_null k (by rw [isNull_getD, isNull_getD, hn])]
    · simp [unmodelled] at hs
  | false =>
    simp only [hn, Bool.false_eq_true, if_false] at hs
    simp only [Bool.or_eq_false_iff] at hn
    rcases a with _ | x
    · simp [nullish] at hn
    rcases b with _ | y
    · simp [nullish] at hn
    simp only [nullish_some] at hn
    simp only [Option.getD_some]
    cases x with
    | date u o =>
      cases o with
      | none =>
        simp only at hs
        split at hs
        · rename_i hsub
          have hby : isBoolV y = false := by
            cases y <;> first | rfl | simp [dateMinus] at hs
          unfold binaryArith
          rw [hn.1, hn.2, hby, show isBoolV (.date u none) = false from rfl, if_neg nofun,
            if_neg nofun, if_pos hsub, dateMinus_pure u y r hs]
        · cases hs
      | some off => simp [number] at hs
    | int i | dbl m e =>
      cases hy : number y with
      | some q =>
        simp only [hy] at hs
        exact binary_num k _ q _ y rfl hy r (by simpa [number] using hs)
      | none => simp only [hy] at hs; simp [number] at hs
    | _ => all_goals (simp [number] at hs)

/-- `$abs $ceil $floor $trunc` (a boolean is rejected on both sides): the result keeps the operand's type -/
theorem unary_pure (k : String) (hk : k = "$abs" ∨ k = "$ceil" ∨ k = "$floor" ∨ k = "$trunc")
    (a : Option Val)
    (r : Val) (hs : arith1 k a = .ok r) : unaryArithOpt k a = .ok r := by
  unfold arith1 at hs
  cases a with
  | none => simpa [nullish, unaryArithOpt] using hs
  | some x =>
    cases x with
    | null => simpa [nullish, unaryArithOpt] using hs
    | int n =>
      simp only [nullish, Bool.false_eq_true, if_false] at hs
      rcases hk with rfl | rfl | rfl | rfl <;>
        simpa [unaryArithOpt, toPyNum, unaryArith] using hs
    | dbl m e =>
      simp only [nullish, Bool.false_eq_true, if_false] at hs
      rcases hk with rfl | rfl | rfl | rfl <;>
        simpa [unaryArithOpt, toPyNum, unaryArith] using hs
    | _ => simp [nullish] at hs

/-! ### comparisons -/

theorem append_nil_iff3 {α} (a b c : List α) : a ++ b ++ c = [] ↔ a = [] ∧ b = [] ∧ c = [] := by
  simp [List.append_eq_nil_iff, and_assoc]

theorem ite_nil {α} (c : Bool) (x : α) : (if c = true then [x] else []) = [] ↔ c = false := by
  cases c <;> simp

theorem ite_nil' {α} (c : Bool) (x : α) : (if c = true then [] else [x]) = [] ↔ c = true := by
  cases c <;> simp

/-- no reason against an ordering comparison: `bson_compare` is the BSON order -/
theorem ordReasons_nil (a b : Val) (h : ordReasons a b = []) : bsonCmp a b = .ok (ord a b) := by
  simp only [ordReasons, append_nil_iff3, ite_nil, ite_nil'] at h
  simp only [Bool.and_eq_true] at h
  refine flat_ord a b h.2.2.1 h.2.2.2 fun harr => ?_
  simpa [harr] using h.1

/-- no reason against an equality test: Python `==` is the "equal" outcome of the BSON order -/
theorem eqReasons_nil (a b : Val) (h : eqReasons a b = []) : pyEq a b = (ord a b == .eq) := by
  simp only [eqReasons, append_nil_iff3, ite_nil, ite_nil'] at h
  simp only [Bool.and_eq_true] at h
  obtain ⟨o, ho, he⟩ := flat_eq_cmp a b h.2.2.1 h.2.2.2 h.1
  rw [flat_ord a b h.2.2.1 h.2.2.2 (fun _ => h.1)] at ho
  cases ho; exact he

/-- the six comparison operators on two present operands inside D -/
theorem compare_pure (k : String) (hna : arithOps.contains k = false)
    (hk : ["$eq", "$ne", "$gt", "$gte", "$lt", "$lte"].contains k = true) (a b : Val)
    (hr : strictReasons k [some a, some b] = []) :
    compareOp k a b = cmpHoldsOrd k (ord a b) := by
  simp only [strictReasons, hna, hk, Bool.false_eq_true, if_false, if_true] at hr
  unfold compareOp cmpHoldsOrd
  by_cases h1 : k = "$eq"
  · simp only [h1, decide_true, Bool.true_or, if_true] at hr
    simp [h1, eqReasons_nil a b hr]
  by_cases h2 : k = "$ne"
  · simp only [h2, decide_true, Bool.or_true, if_true] at hr
    simp [h2, eqReasons_nil a b hr, bne]
  simp only [h1, h2, decide_false, Bool.or_self, Bool.false_eq_true, if_false] at hr ⊢
  have hord := ordReasons_nil a b hr
  have hk' : k = "$gt" ∨ k = "$gte" ∨ k = "$lt" ∨ k = "$lte" := by simpa [h1, h2] using hk
  rcases hk' with rfl | rfl | rfl | rfl <;> simp [bsonCompare_eq, hord, Except.map, CmpOp.holds]

/-- a comparison with a missing operand: missing sorts below everything, on both sides -/
theorem compare_missing (k : String) (hk : k ∈ ["$eq", "$ne", "$gt", "$gte", "$lt", "$lte"])
    (a b : Option Val) (hm : a = none ∨ b = none) :
    compareOpt k a b = cmpHoldsOrd k (ordOpt a b) := by
  simp only [List.mem_cons, List.not_mem_nil, or_false] at hk
  rcases hk with rfl | rfl | rfl | rfl | rfl | rfl <;>
    cases a <;> cases b <;> simp at hm <;> simp [compareOpt, cmpHoldsOrd, ordOpt]

/-! ### arrays, strings, date parts -/

theorem arrays_nulled (vs : List (Option Val)) (xss : List (List Val)) (h : arrays vs = some xss) :
    nulled vs = xss.map .arr := by
  induction vs generalizing xss with
  | nil => simp [arrays] at h; subst h; rfl
  | cons v r ih =>
    cases v with
    | none => simp [arrays] at h
    | some x =>
      cases x <;> simp [arrays] at h
      obtain ⟨ys, hy, rfl⟩ := h
      simp [nulled, ← ih ys hy]

theorem concatArrays_pure (vs : List (Option Val)) (r : Val) (hs : concatArraysS vs = .ok r) :
    concatArraysOp (nulled vs) = .ok r := by
  unfold concatArraysS at hs
  by_cases hn : vs.any nullish = true
  · simp only [hn, if_true] at hs
    split at hs
    · rename_i hall
      cases hs
      apply concatArrays_null
      · intro v hv
        simp only [nulled, List.mem_map] at hv
        obtain ⟨o, ho, rfl⟩ := hv
        have := List.all_eq_true.mp hall o ho
        cases o with
        | none => left; rfl
        | some x => cases x <;> simp [nullish] at this <;> simp [isNull, Val.isArr]
      · obtain ⟨o, ho, hnl⟩ := List.any_eq_true.mp hn
        simp only [nulled, List.mem_map]
        refine ⟨o, ho, ?_⟩
        cases o with
        | none => rfl
        | some x => cases x <;> simp [nullish] at hnl; rfl
    · simp [unmodelled] at hs
  · have hn' : vs.any nullish = false := by simpa using hn
    simp only [hn', Bool.false_eq_true, if_false] at hs
    cases ha : arrays vs with
    | none => simp [ha] at hs
    | some xss =>
      simp only [ha] at hs
      cases hs
      rw [arrays_nulled vs xss ha]
      exact concatArrays_append xss

theorem strings_nulled (vs : List (Option Val)) (ss : List String) (h : strings vs = some ss) :
    nulled vs = ss.map .str := by
  induction vs generalizing ss with
  | nil => simp [strings] at h; subst h; rfl
  | cons v r ih =>
    cases v with
    | none => simp [strings] at h
    | some x =>
      cases x <;> simp [strings] at h
      obtain ⟨ys, hy, rfl⟩ := h
      simp [nulled, ← ih ys hy]

theorem concat_pure (vs : List (Option Val)) (r : Val) (hs : concatS vs = .ok r) :
    concatOp (nulled vs) = .ok r := by
  unfold concatS at hs
  by_cases hn : vs.any nullish = true
  · simp only [hn, if_true] at hs
    split at hs
    · rename_i hall
      cases hs
      have h1 : (nulled vs).any isNull = true := by
        obtain ⟨o, ho, hnl⟩ := List.any_eq_true.mp hn
        apply List.any_eq_true.mpr
        refine ⟨o.getD .null, by simp only [nulled, List.mem_map]; exact ⟨o, ho, rfl⟩, ?_⟩
        cases o with
        | none => rfl
        | some x => cases x <;> simp [nullish] at hnl; rfl
      have h2 : (nulled vs).any (fun v => !isNull v && !isStr v) = false := by
        apply List.any_eq_false.mpr
        intro v hv
        simp only [nulled, List.mem_map] at hv
        obtain ⟨o, ho, rfl⟩ := hv
        have := List.all_eq_true.mp hall o ho
        cases o with
        | none => simp [isNull]
        | some x => cases x <;> simp [nullish] at this <;> simp [isNull, isStr]
      simp [concatOp, h1, h2]
    · simp [unmodelled] at hs
  · have hn' : vs.any nullish = false := by simpa using hn
    simp only [hn', Bool.false_eq_true, if_false] at hs
    cases ha : strings vs with
    | none => simp [ha] at hs
    | some ss =>
      simp only [ha] at hs
      cases hs
      rw [strings_nulled vs ss ha]
      exact concat_strings ss

/-- `$arrayElemAt`: a null or missing operand gives null -/
theorem elemAt_pure (a i : Option Val) (r : Option Val)
    (hs : elemAt a i = .ok r) : arrayElemAtOp (a.getD .null) (i.getD .null) = .ok r := by
  unfold elemAt at hs
  by_cases hn : (nullish a || nullish i) = true
  · simp only [hn, if_true] at hs
    simp [arrayElemAtOp, isNull_getD, hn, hs]
  · have hn' : (nullish a || nullish i) = false := by simpa using hn
    simp only [hn', Bool.false_eq_true, if_false] at hs
    have hn2 : (isNull (a.getD .null) || isNull (i.getD .null)) = false := by
      simpa [isNull_getD] using hn'
    simp only [arrayElemAtOp, hn2, Bool.false_eq_true, if_false]
    simp only [Bool.or_eq_false_iff] at hn'
    cases a with
    | none => simp [nullish] at hn'
    | some x =>
      cases i with
      | none => simp [nullish] at hn'
      | some y =>
        simp only [Option.getD_some]
        cases x with
        | arr xs =>
          cases y with
          | int n =>
            simp only at hs
            simp only [isBoolV, Bool.false_eq_true, if_false, intLike, pyIndex]
            split at hs
            · rename_i h; simpa [h] using hs
            · rename_i h
              split at hs
              · rename_i h'; simpa [h, h'] using hs
              · rename_i h'; simpa [h, h'] using hs
          | dbl m e => simp [unmodelled] at hs
          | _ => simp at hs
        | _ => simp at hs

theorem datePart_pure (k : String) (hk : datePartOps.contains k = true) (v : Val) (r : Val)
    (hs : datePartS k (some v) = .ok r) : dateOp k v = .ok r := by
  unfold datePartS at hs
  have hk' : k ∈ datePartOps := by simpa using hk
  cases v with
  | null => simpa [nullish, dateOp, hk'] using hs
  | date u o =>
    simp only [nullish, Bool.false_eq_true, if_false] at hs
    cases o with
    | none => simpa [dateOp, hk'] using hs
    | some off => simp [unmodelled] at hs
  | _ => simp [nullish] at hs

/-! ### `$strcasecmp`, `$toLower`, `$toUpper`, `$toString` -/

theorem cmp3 (x y : String) :
    (if x = y then (0 : Int) else if x < y then -1 else 1) =
      (match compare x y with | .lt => -1 | .eq => 0 | .gt => 1) := by
  have hc : compare x y = compareOfLessAndEq x y := rfl
  rw [hc]
  by_cases hxy : x = y
  · subst hxy
    simp [compareOfLessAndEq, String.lt_irrefl]
  · by_cases hlt : x < y <;> simp [compareOfLessAndEq, hxy, hlt]

/-- one operand of `$strcasecmp` as the rules read it -/
def upperS (v : Option Val) : R String :=
  if nullish v then .ok "" else match v with | some (.str s) => asciiUpper s | _ => unmodelled

theorem strcasecmpS_eq (a b : Option Val) :
    strcasecmpS a b = (upperS a).bind (fun x => (upperS b).bind (fun y =>
      .ok (.int (match compare x y with | .lt => -1 | .eq => 0 | .gt => 1)))) := rfl

theorem upperArg_pure (a : Option Val) (x : String) (h : upperS a = .ok x) :
    upperArg (a.getD .null) = .ok x := by
  unfold upperS at h
  cases a with
  | none => simpa [nullish, upperArg] using h
  | some v =>
    cases v <;> simp [nullish, unmodelled] at h <;>
      simp [upperArg, pyStr, h, bind, Except.bind]

theorem strcasecmp_pure (a b : Option Val) (r : Val) (hs : strcasecmpS a b = .ok r) :
    strcasecmpOp (a.getD .null) (b.getD .null) = .ok r := by
  rw [strcasecmpS_eq] at hs
  cases hx : upperS a with
  | error e => simp [hx, Except.bind] at hs
  | ok x =>
    cases hy : upperS b with
    | error e => simp [hx, hy, Except.bind] at hs
    | ok y =>
      simp only [hx, hy, Except.bind] at hs
      simp only [strcasecmpOp, upperArg_pure a x hx, upperArg_pure b y hy, bind, Except.bind, pure,
        Except.pure, cmp3]
      exact hs

/-- `$toLower` / `$toUpper` on the outcome of the parse (`none` = missing) -/
theorem case_pure (upper : Bool) (a : Option Val) (r : Val) (hs : caseS upper a = .ok r) :
    (match a with
     | none => (.ok (.str "") : R Val)
     | some v => caseOp upper v) = .ok r := by
  unfold caseS at hs
  cases a with
  | none => simpa [nullish] using hs
  | some v =>
    cases v <;> simp [nullish, unmodelled] at hs <;>
      simp [caseOp, pyStr, hs, bind, Except.bind]
    cases upper <;> simp only [Bool.false_eq_true, if_false, if_true] at hs ⊢
    · cases h : asciiLower _ <;> simp_all [Functor.map, Except.map, bind, Except.bind, pure, Except.pure]
    · cases h : asciiUpper _ <;> simp_all [Functor.map, Except.map, bind, Except.bind, pure, Except.pure]

/-- `$toString` on the outcome of the parse -/
theorem toString_pure (a : Option Val) (r : Val) (hs : toStringS a = .ok r) :
    (match a with
     | none => (.ok .null : R Val)
     | some v => toStringOp v) = .ok r := by
  unfold toStringS at hs
  cases a with
  | none => simpa [nullish] using hs
  | some v =>
    cases v with
    | date u o =>
      cases o with
      | none => simpa [nullish, toStringOp] using hs
      | some off => simp [nullish, unmodelled] at hs
    | _ =>
      all_goals
        simp [nullish, unmodelled] at hs <;>
          simp [toStringOp, pyStr, hs, bind, Except.bind, pure, Except.pure]

end MongoModel.Proofs.C04
