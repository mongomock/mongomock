/-
  Proofs.C06Check — decidable forms of the predicates of C06 (to discharge hypotheses on concrete
  states by evaluation) and the machine-checked counterexamples to the unrestricted statements.
-/
import Proofs.C06Extra

namespace MongoModel.Proofs.C06Lemmas
open MongoModel MongoModel.Spec

def pairwiseB {α : Type} (r : α → α → Bool) : List α → Bool
  | [] => true
  | a :: l => l.all (r a) && pairwiseB r l

theorem pairwiseB_iff {α : Type} (r : α → α → Bool) (l : List α) :
    pairwiseB r l = true ↔ l.Pairwise (fun a b => r a b = true) := by
  induction l with
  | nil => simp [pairwiseB]
  | cons a l ih => simp [pairwiseB, ih, List.pairwise_cons]

/-- `UniqInv`, evaluated -/
def uniqB (c : Coll) : Bool :=
  c.indexes.all (fun ix => !ix.unique ||
    pairwiseB (fun a b => !keyEq (keyVals ix a.2) (keyVals ix b.2))
      (c.docs.filter (fun p => covers ix p.2)))

theorem uniqB_iff (c : Coll) : uniqB c = true ↔ UniqInv c := by
  simp only [uniqB, UniqInv, List.all_eq_true, Bool.or_eq_true, Bool.not_eq_true', pairwiseB_iff,
    Bool.not_eq_true']
  constructor
  · intro h ix hix hu
    rcases h ix hix with h' | h'
    · rw [hu] at h'; cases h'
    · exact h'
  · intro h ix hix
    cases hu : ix.unique with
    | false => left; rfl
    | true => right; exact h ix hix hu

/-- `ValueInv`, evaluated -/
def valB (c : Coll) : Bool :=
  c.indexes.all (fun ix => !ix.unique ||
    (distinctFields ix && c.docs.all (fun p => valueKeys ix p.2)))

theorem valB_iff (c : Coll) : valB c = true ↔ ValueInv c := by
  simp only [valB, ValueInv, List.all_eq_true, Bool.or_eq_true, Bool.not_eq_true',
    Bool.and_eq_true]
  constructor
  · intro h ix hix hu
    rcases h ix hix with h' | h'
    · rw [hu] at h'; cases h'
    · exact h'
  · intro h ix hix
    cases hu : ix.unique with
    | false => left; rfl
    | true => right; exact h ix hix hu

/-! ### counterexample 1: an indexed path through an array (no multikey keys)

(The former witnesses were repaired in the library: a dotted index path that dead-ends in a scalar —
finding `deadend-null`, with the matcher — and a stored value that looks like a query operator —
finding `operator-like-value`: the look-up now compares values as data, `{key: {$eq: value}}`;
see `olv_after` below.) -/

/-- unique index on `a.b` -/
def cexIx : Index := Index.mk "a.b_1" [("a.b", Val.int 1)] true false none none

/-- `{_id: 1, a: [{b: 1}]}` -/
def cexColl : Coll :=
  { docs := [(.int 1, .doc [("_id", .int 1), ("a", .arr [.doc [("b", .int 1)]])])],
    indexes := [cexIx] }

/-- `insert_one({_id: 2, a: [{b: 1}]})`: the same key, however one reads it (MongoDB: the multikey
    key `1`, twice; `get_value_by_dot`: no `a.b`, i.e. null, twice) — but the look-up
    `{a.b: {$eq: null}}` of `_ensure_uniques` is answered by the matcher, which walks INTO the
    array, finds `b: 1` and matches nothing (known finding `multikey`) -/
def cexOp : Val :=
  .arr [.str "insert_one", .doc [("_id", .int 2), ("a", .arr [.doc [("b", .int 1)]])]]

theorem cex_before : uniqB cexColl = true ∧ valB cexColl = false := by decide +kernel

theorem cex_after : uniqB (stepColl {} 0 cexColl cexOp).1 = false ∧
    valB (stepColl {} 0 cexColl cexOp).1 = false := by
  decide +kernel

/-- "every operation preserves `UniqInv`" is false without a domain hypothesis (known finding
    `multikey`) -/
theorem step_uniq_false :
    ¬ (∀ (cfg : Cfg) (now : Int) (c : Coll) (op : Val), UniqInv c → UniqInv (stepColl cfg now c op).1) := by
  intro H
  have h1 := (uniqB_iff _).2 (H {} 0 cexColl cexOp ((uniqB_iff _).1 cex_before.1))
  rw [cex_after.1] at h1
  cases h1

/-! ### the repaired defect `operator-like-value` (library commit 9ef8b46)

The look-up used to be the query `{key: value}`: a stored value that is an embedded document with
`$`-prefixed keys was read as a query operator.  It is now `{key: {$eq: value}}`: such a value is
data, inside the domain of the theorems, and the duplicate is rejected. -/

/-- unique index on `a` -/
def olvIx : Index := Index.mk "a_1" [("a", Val.int 1)] true false none none

/-- `{_id: 1, a: {$size: "x"}}` -/
def olvColl : Coll :=
  { docs := [(.int 1, .doc [("_id", .int 1), ("a", .doc [("$size", .str "x")])])],
    indexes := [olvIx] }

/-- `insert_one({_id: 2, a: {$size: "x"}})` (the former witness), and `{$foo: 1}` (which used to
    raise OperationFailure: unknown operator) -/
def olvOp : Val :=
  .arr [.str "insert_one", .doc [("_id", .int 2), ("a", .doc [("$size", .str "x")])]]

def olvOp2 : Val :=
  .arr [.str "insert_one", .doc [("_id", .int 2), ("a", .doc [("$foo", .int 1)])]]

theorem olv_before : uniqB olvColl = true ∧ valB olvColl = true := by decide +kernel

/-- the duplicate is rejected with DuplicateKeyError and nothing is stored; the other value is
    accepted -/
theorem olv_after :
    (match (stepColl {} 0 olvColl olvOp).2 with | .err .dupKey => true | _ => false) = true ∧
    (stepColl {} 0 olvColl olvOp).1.docs.length = 1 ∧
    (stepColl {} 0 olvColl olvOp2).2.isErr = false ∧
    uniqB (stepColl {} 0 olvColl olvOp2).1 = true ∧ valB (stepColl {} 0 olvColl olvOp2).1 = true := by
  decide +kernel

/-! ### the repaired defect `partial-type-sensitive` (library commit d244509)

An update whose result is `==` to the old document (`1 → 1.0`) used to be stored WITHOUT
`_ensure_uniques`; with a partial filter that tells the two apart the statement restricted to the
value-key domain was false on this witness.  The check now runs on that branch as well: the
update is rejected and the collection is as before. -/

/-- unique index on `k`, restricted to the documents whose `t` is a double -/
def ptsIx : Index := Index.mk "k_1" [("k", Val.int 1)] true false none
  (some (Val.doc [("t", Val.doc [("$type", Val.str "double")])]))

/-- `{_id: 1, k: 5, t: 1.0}` is covered, `{_id: 2, k: 5, t: 1}` is not -/
def ptsColl : Coll :=
  { docs := [(.int 1, .doc [("_id", .int 1), ("k", .int 5), ("t", .dbl 1 0)]),
             (.int 2, .doc [("_id", .int 2), ("k", .int 5), ("t", .int 1)])],
    indexes := [ptsIx] }

/-- `update_one({_id: 2}, {$set: {t: 1.0}})`: the new document is `==` to the old one -/
def ptsOp : Val :=
  .arr [.str "update_one", .doc [("_id", .int 2)], .doc [("$set", .doc [("t", .dbl 1 0)])], .bool false]

theorem pts_before : uniqB ptsColl = true ∧ valB ptsColl = true := by decide +kernel

/-- the type of the field `t` of a document -/
def tKind : Val → String
  | .doc fs => (match dget "t" fs with
    | some (.int _) => "int"
    | some (.dbl _ _) => "double"
    | _ => "?")
  | _ => "?"

/-- rejected (DuplicateKeyError), nothing stored: `t` of the second document is still an int -/
theorem pts_after : (stepColl {} 0 ptsColl ptsOp).2.isErr = true ∧
    uniqB (stepColl {} 0 ptsColl ptsOp).1 = true ∧
    (stepColl {} 0 ptsColl ptsOp).1.docs.map (fun p => tKind p.2) = ["double", "int"] := by
  decide +kernel

/-! ### counterexample 2: a rejected duplicate insert need not raise a WriteError -/

def cexIxK : Index := Index.mk "k_1" [("k", Val.int 1)] true false none none

def cexCollK : Coll :=
  { docs := [(.int 1, .doc [("_id", .int 1), ("k", .int 5)])], indexes := [cexIxK] }

/-- `{_id: [], k: 5}`: the list `_id` is unhashable, TypeError comes first -/
def cexDoc : Val := .doc [("_id", .arr []), ("k", .int 5)]

/-- `some true`: rejected with a WriteError; `some false`: rejected with something else -/
def rejectedWith (r : R (Coll × Val)) : Option Bool :=
  match r with
  | .error e => some e.isWriteError
  | .ok _ => none

theorem cex_insert : rejectedWith (insertDoc 0 cexCollK cexDoc) = some false := by decide +kernel

theorem cex_insert_hyps : valB cexCollK = true ∧
    covers cexIxK (.doc [("_id", .int 1), ("k", .int 5)]) = true ∧
    covers cexIxK (patchDT cexDoc) = true ∧ valueKeys cexIxK (patchDT cexDoc) = true ∧
    keyEq (keyVals cexIxK (.doc [("_id", .int 1), ("k", .int 5)])) (keyVals cexIxK (patchDT cexDoc)) = true := by
  decide +kernel

end MongoModel.Proofs.C06Lemmas
