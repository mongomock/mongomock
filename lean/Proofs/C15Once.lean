/-
  Proofs.C15Once — the bulk builder is executed at most once, and never empty.
-/
import MongoModel.FindModify

namespace MongoModel.Proofs.C15Once
open MongoModel

theorem execute_empty (cfg : Cfg) (now : Int) (c : Coll) (b : Builder) (h : b.reqs = []) :
    b.execute cfg now c = (c, b, .err .invalidOp) := by
  unfold Builder.execute
  rw [h]; rfl

theorem execute_done (cfg : Cfg) (now : Int) (c : Coll) (b : Builder) (h : b.done = true) :
    b.execute cfg now c = (c, b, .err .invalidOp) := by
  unfold Builder.execute
  split
  · rfl
  · simp

theorem execute_fresh (cfg : Cfg) (now : Int) (c : Coll) (b : Builder) (hne : b.reqs ≠ [])
    (h : b.done = false) :
    b.execute cfg now c = ((bulkLoop cfg now b.ordered b.reqs 0 c {}).1, { b with done := true },
      (bulkLoop cfg now b.ordered b.reqs 0 c {}).2) := by
  unfold Builder.execute
  have : b.reqs.isEmpty = false := by
    cases hr : b.reqs with
    | nil => exact absurd hr hne
    | cons _ _ => rfl
  simp [this, h]

/-- after any `execute` of a non-empty builder the flag is set — whether the run succeeded,
    raised BulkWriteError or was aborted by another exception -/
theorem execute_sets_done (cfg : Cfg) (now : Int) (c : Coll) (b : Builder) (hne : b.reqs ≠ []) :
    (b.execute cfg now c).2.1.done = true := by
  cases hd : b.done with
  | true => rw [execute_done cfg now c b hd]; exact hd
  | false => rw [execute_fresh cfg now c b hne hd]

theorem execute_keeps_reqs (cfg : Cfg) (now : Int) (c : Coll) (b : Builder) :
    (b.execute cfg now c).2.1.reqs = b.reqs ∧ (b.execute cfg now c).2.1.ordered = b.ordered := by
  unfold Builder.execute
  split
  · exact ⟨rfl, rfl⟩
  · split <;> exact ⟨rfl, rfl⟩

/-- every `execute` after the first is refused and changes nothing -/
theorem second_execute (cfg : Cfg) (now now' : Int) (c : Coll) (b : Builder) :
    let r := b.execute cfg now c
    r.2.1.execute cfg now' r.1 = (r.1, r.2.1, .err .invalidOp) := by
  intro r
  cases hr : b.reqs with
  | nil =>
    have : r = (c, b, .err .invalidOp) := execute_empty cfg now c b hr
    rw [this]
    exact execute_empty cfg now' c b hr
  | cons x xs =>
    have hne : b.reqs ≠ [] := by rw [hr]; exact List.cons_ne_nil _ _
    exact execute_done cfg now' r.1 r.2.1 (execute_sets_done cfg now c b hne)

theorem executeTimes_succ (cfg : Cfg) (now : Int) (n : Nat) (c : Coll) (b : Builder) :
    executeTimes cfg now (n + 1) c b =
      ((executeTimes cfg now n (b.execute cfg now c).1 (b.execute cfg now c).2.1).1,
       (b.execute cfg now c).2.2 :: (executeTimes cfg now n (b.execute cfg now c).1 (b.execute cfg now c).2.1).2) :=
  rfl

/-- a builder that refuses once refuses for ever -/
theorem executeTimes_refused (cfg : Cfg) (now : Int) (n : Nat) (c : Coll) (b : Builder)
    (h : b.execute cfg now c = (c, b, .err .invalidOp)) :
    executeTimes cfg now n c b = (c, List.replicate n (.err .invalidOp)) := by
  induction n with
  | zero => rfl
  | succ n ih => rw [executeTimes_succ, h, ih]; rfl

/-- `n + 1` executes in a row: the first one is the bulk, all the others are refused and leave
    the collection as the first one left it -/
theorem executeTimes_spec (cfg : Cfg) (now : Int) (n : Nat) (c : Coll) (b : Builder) :
    executeTimes cfg now (n + 1) c b =
      ((b.execute cfg now c).1,
       (b.execute cfg now c).2.2 :: List.replicate n (.err .invalidOp)) := by
  rw [executeTimes_succ, executeTimes_refused cfg now n _ _ (second_execute cfg now now c b)]

end MongoModel.Proofs.C15Once
