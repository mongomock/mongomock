/-
  Proofs.C01Values — what the C01 proofs need of values.  The value conditions of D are hereditary
  (`Hered`, `Clean`): they pass to every value a path reaches, and on such values Python's `==` is
  BSON equality (`pyEq_bsonEq`).  Also here: the matcher's candidates are the values the rules say
  a path reaches (`cands_eq_reach`).
-/
import Spec.MatchDomain
import Proofs.Basics

namespace MongoModel.Proofs.C01Lemmas
open MongoModel MongoModel.Spec

theorem beqFields_eq (fs : Fields) (ih : ∀ k v, (k, v) ∈ fs → ∀ b, Val.beq v b = true → v = b) :
    ∀ gs, beqFields fs gs = true → fs = gs := by
  induction fs with
  | nil => intro gs h; cases gs <;> simp_all [beqFields]
  | cons kv fs ih2 =>
    intro gs h
    obtain ⟨k, v⟩ := kv
    cases gs with
    | nil => simp [beqFields] at h
    | cons kv' gs =>
      obtain ⟨k', v'⟩ := kv'
      simp only [beqFields, Bool.and_eq_true, beq_iff_eq] at h
      obtain ⟨⟨h1, h2⟩, h3⟩ := h
      rw [h1, ih k v (by simp) v' h2, ih2 (fun k v hm => ih k v (by simp [hm])) gs h3]

theorem beqList_eq (xs : List Val) (ih : ∀ x, x ∈ xs → ∀ b, Val.beq x b = true → x = b) :
    ∀ ys, beqList xs ys = true → xs = ys := by
  induction xs with
  | nil => intro ys h; cases ys <;> simp_all [beqList]
  | cons x xs ih2 =>
    intro ys h
    cases ys with
    | nil => simp [beqList] at h
    | cons y ys =>
      simp only [beqList, Bool.and_eq_true] at h
      rw [ih x (by simp) y h.1, ih2 (fun x hm => ih x (by simp [hm])) ys h.2]

theorem Val.eq_of_beq : ∀ a b : Val, Val.beq a b = true → a = b := by
  intro a
  induction a using Val.ind with
  | hdoc fs ih => intro b h; cases b <;> first | cases h | rw [beqFields_eq fs ih _ h]
  | harr xs ih => intro b h; cases b <;> first | cases h | rw [beqList_eq xs ih _ h]
  | _ => intro b h; cases b <;> first | cases h; done | simp_all [Val.beq]

theorem optBeq_eq (a b : Option Val) (h : (a == b) = true) : a = b := by
  cases a with
  | none => cases b with
    | none => rfl
    | some y => cases h
  | some x => cases b with
    | none => cases h
    | some y => rw [Val.eq_of_beq x y h]

theorem candsBeq_eq (as bs : List (Option Val)) (h : (as == bs) = true) : as = bs := by
  induction as generalizing bs with
  | nil => cases bs <;> simp_all
  | cons a as ih =>
    cases bs with
    | nil => simp at h
    | cons b bs =>
      simp only [List.cons_beq_cons, Bool.and_eq_true] at h
      rw [optBeq_eq a b h.1, ih bs h.2]

/-- a predicate on values inherited by the fields of a document and the items of an array -/
structure Hered (Q : Val → Prop) : Prop where
  doc : ∀ fs k v, Q (.doc fs) → (k, v) ∈ fs → Q v
  arr : ∀ xs x, Q (.arr xs) → x ∈ xs → Q x

/-- a predicate defined, like the value conditions of D, by recursion through the fields of a
    document (`QF`) and the items of an array (`QL`) is hereditary -/
theorem Hered.of_steps {Q : Val → Prop} {QF : Fields → Prop} {QL : List Val → Prop}
    (hd : ∀ fs, Q (.doc fs) → QF fs) (ha : ∀ xs, Q (.arr xs) → QL xs)
    (hF : ∀ k v r, QF ((k, v) :: r) → Q v ∧ QF r) (hL : ∀ x r, QL (x :: r) → Q x ∧ QL r) :
    Hered Q where
  doc := by
    intro fs k v h hm
    replace h := hd fs h
    induction fs with
    | nil => cases hm
    | cons kv fs ih =>
      rcases List.mem_cons.mp hm with e | hm
      · subst e; exact (hF _ _ _ h).1
      · exact ih hm (hF _ _ _ h).2
  arr := by
    intro xs x h hm
    replace h := ha xs h
    induction xs with
    | nil => cases hm
    | cons y xs ih =>
      rcases List.mem_cons.mp hm with e | hm
      · subst e; exact (hL _ _ h).1
      · exact ih hm (hL _ _ h).2

theorem hered_hasBool : Hered (fun v => hasBool v = false) :=
  .of_steps (QF := (hasBoolFields · = false)) (QL := (hasBoolList · = false))
    (fun _ h => h) (fun _ h => h) (fun _ _ _ h => Bool.or_eq_false_iff.mp h)
    (fun _ _ h => Bool.or_eq_false_iff.mp h)

theorem hered_has01 : Hered (fun v => has01 v = false) :=
  .of_steps (QF := (has01Fields · = false)) (QL := (has01List · = false))
    (fun _ h => h) (fun _ h => h) (fun _ _ _ h => Bool.or_eq_false_iff.mp h)
    (fun _ _ h => Bool.or_eq_false_iff.mp h)

theorem hered_hasAware : Hered (fun v => hasAware v = false) :=
  .of_steps (QF := (hasAwareFields · = false)) (QL := (hasAwareList · = false))
    (fun _ h => h) (fun _ h => h) (fun _ _ _ h => Bool.or_eq_false_iff.mp h)
    (fun _ _ h => Bool.or_eq_false_iff.mp h)

theorem hered_smallDocs : Hered (fun v => smallDocs v = true) :=
  .of_steps (QF := (smallDocsFields · = true)) (QL := (smallDocsList · = true))
    (fun _ h => (Bool.and_eq_true_iff.mp h).2) (fun _ h => h)
    (fun _ _ _ h => Bool.and_eq_true_iff.mp h) (fun _ _ h => Bool.and_eq_true_iff.mp h)

/-- the global value conditions of D, in hereditary form: `nb = true`: no boolean anywhere;
    `nb = false`: no number equal to 0 or 1 anywhere; and no aware datetime -/
def Clean (nb : Bool) (v : Val) : Prop :=
  (if nb then hasBool v = false else has01 v = false) ∧ hasAware v = false

theorem Hered.and {P Q : Val → Prop} (hp : Hered P) (hq : Hered Q) : Hered (fun v => P v ∧ Q v) :=
  ⟨fun fs k v h hm => ⟨hp.doc fs k v h.1 hm, hq.doc fs k v h.2 hm⟩,
   fun xs x h hm => ⟨hp.arr xs x h.1 hm, hq.arr xs x h.2 hm⟩⟩

theorem hered_clean : ∀ nb, Hered (Clean nb)
  | false => hered_has01.and hered_hasAware
  | true => hered_hasBool.and hered_hasAware

theorem Hered.dget {Q : Val → Prop} (hq : Hered Q) {fs : Fields} {k : String} {v : Val}
    (h : Q (.doc fs)) (hg : dget k fs = some v) : Q v :=
  hq.doc fs k v h (dget_mem hg)

/-- every value a path reaches inherits a hereditary predicate of the document -/
theorem reach_hered {Q : Val → Prop} (hq : Hered Q) :
    ∀ (ps : List String) (d : Val), Q d → ∀ v, some v ∈ reach ps d → Q v := by
  intro ps
  induction ps with
  | nil => intro d hd v hm; simp only [reach, List.mem_singleton, Option.some.injEq] at hm; rw [hm]; exact hd
  | cons p ps ih =>
    intro d hd v hm
    cases d with
    | doc fs =>
      simp only [reach] at hm
      split at hm
      · rename_i w hg; exact ih w (hq.dget hd hg) v hm
      · simp at hm
    | arr xs =>
      simp only [reach] at hm
      split at hm
      · split at hm
        · cases hm
        · split at hm
          · rename_i w hg
            exact ih w (hq.arr xs w hd (List.mem_of_getElem? hg)) v hm
          · cases hm
      · rw [List.mem_flatMap] at hm
        obtain ⟨x, hx, hm⟩ := hm
        split at hm
        · rename_i gs
          split at hm
          · rename_i w hg
            exact ih w (hq.dget (hq.arr xs _ hd hx) hg) v hm
          · simp at hm
        · cases hm
    | _ => simp [reach] at hm

theorem cands_foldl_eq_reach (p : String) (ps : List String) (hp : pyInt? p = none)
    (ih : ∀ d cs, cands ps d = .ok cs → cs = reach ps d) (xs : List Val) :
    ∀ (acc cs : List (Option Val)),
      xs.foldlM (fun acc x =>
        match x with
        | .doc fs =>
          match dget p fs with
          | some v => (cands ps v).map (acc ++ ·)
          | none => .ok (acc ++ [none])
        | _ => (.ok acc : R (List (Option Val)))) acc = .ok cs →
      cs = acc ++ reach (p :: ps) (.arr xs) := by
  induction xs with
  | nil =>
    intro acc cs h
    simp only [reach, hp, List.flatMap_nil, List.append_nil]
    exact (Except.ok.inj h).symm
  | cons x xs ihx =>
    intro acc cs h
    rw [List.foldlM_cons] at h
    -- what `x` contributes (`ys`) goes to the accumulator on one side, in front on the other
    have hcons : ∀ ys, reach (p :: ps) (.arr (x :: xs)) = ys ++ reach (p :: ps) (.arr xs) →
        cs = (acc ++ ys) ++ reach (p :: ps) (.arr xs) →
        cs = acc ++ reach (p :: ps) (.arr (x :: xs)) := by
      intro ys e1 e2; rw [e1, e2, List.append_assoc]
    cases x with
    | doc fs =>
      dsimp only at h
      cases hg : dget p fs with
      | none =>
        rw [hg] at h
        exact hcons [none] (by simp only [reach, hp, hg, List.flatMap_cons]) (ihx _ _ h)
      | some v =>
        rw [hg] at h
        dsimp only at h
        cases hc : cands ps v with
        | error e => rw [hc] at h; cases h
        | ok cv =>
          rw [hc] at h
          exact hcons cv (by simp only [reach, hp, hg, List.flatMap_cons, ih v cv hc]) (ihx _ _ h)
    | _ =>
      exact hcons [] (by simp only [reach, hp, List.flatMap_cons]) (by rw [List.append_nil]; exact ihx _ _ h)

/-- wherever the matcher follows a path (no negative index), it reaches exactly the values the
    rules say the path reaches (`reach`) -/
theorem cands_eq_reach : ∀ (ps : List String) (d : Val) (cs : List (Option Val)),
    cands ps d = .ok cs → cs = reach ps d := by
  intro ps
  induction ps with
  | nil => intro d cs h; simp [cands] at h; simp [reach, h]
  | cons p ps ih =>
    intro d cs h
    cases d with
    | doc fs =>
      cases ps with
      | nil =>
        simp only [cands, Except.ok.injEq] at h
        subst h
        cases hg : dget p fs <;> simp [reach, hg]
      | cons q qs =>
        simp only [cands] at h
        cases hg : dget p fs with
        | some v => simp only [hg, Option.getD_some] at h; simp only [reach, hg]; exact ih v cs h
        | none =>
          simp only [hg, Option.getD_none] at h
          have := ih (.doc []) cs h
          simp only [reach, hg]
          simpa [reach, dget] using this
    | arr xs =>
      simp only [cands] at h
      simp only [reach]
      cases hp : pyInt? p with
      | none =>
        simp only [hp] at h
        simpa [reach, hp] using cands_foldl_eq_reach p ps hp ih xs [] cs h
      | some i =>
        simp only [hp] at h
        by_cases hi : i < 0
        · simp [hi, unmodelled] at h
        · simp only [hi, ↓reduceIte] at h ⊢
          cases hx : xs[i.toNat]? with
          | none => simp only [hx, Except.ok.injEq] at h; exact h.symm
          | some v => simp only [hx] at h; exact ih v cs h
    | _ => exact (Except.ok.inj h).symm

theorem pyEq_doc_one (op op' : String) (sv sv' : Val) :
    pyEq (.doc [(op, sv)]) (.doc [(op', sv')]) = (decide (op = op') && pyEq sv sv') := by
  by_cases h : op' = op
  · subst h; simp [pyEq, pyEqFields, dget]
  · simp [pyEq, pyEqFields, dget, h, Ne.symm h]

theorem pyEqList_bsonEqList (nb : Bool) (xs : List Val)
    (ih : ∀ x, x ∈ xs → ∀ v, Clean nb x → Clean nb v →
      (smallDocs x = true ∨ smallDocs v = true) → pyEq x v = bsonEq x v) :
    ∀ ys, (∀ x, x ∈ xs → Clean nb x) → (∀ y, y ∈ ys → Clean nb y) →
      (smallDocsList xs = true ∨ smallDocsList ys = true) →
      pyEqList xs ys = bsonEqList xs ys := by
  induction xs with
  | nil => intro ys _ _ _; cases ys <;> simp [pyEqList, bsonEqList]
  | cons x xs ih2 =>
    intro ys hx hy hs
    cases ys with
    | nil => simp [pyEqList, bsonEqList]
    | cons y ys =>
      simp only [pyEqList, bsonEqList]
      simp only [smallDocsList, Bool.and_eq_true] at hs
      rw [ih x (by simp) y (hx x (by simp)) (hy y (by simp)) (hs.imp And.left And.left),
        ih2 (fun x hm => ih x (by simp [hm])) ys (fun x hm => hx x (by simp [hm]))
          (fun y hm => hy y (by simp [hm])) (hs.imp And.right And.right)]

theorem clean_bool_int {nb : Bool} {b : Bool} {i : Int}
    (h1 : Clean nb (.bool b)) (h2 : Clean nb (.int i)) : ((if b then 1 else 0) == i) = false := by
  cases nb
  · have := h2.1
    simp only [Bool.false_eq_true, ↓reduceIte, has01, Bool.or_eq_false_iff, beq_eq_false_iff_ne] at this
    cases b <;> simp <;> omega
  · cases h1.1

theorem clean_bool_dbl {nb : Bool} {b : Bool} {m : Int} {e : Nat}
    (h1 : Clean nb (.bool b)) (h2 : Clean nb (.dbl m e)) :
    Num.eq ⟨if b = true then 1 else 0, 0⟩ ⟨m, e⟩ = false := by
  cases nb
  · have := h2.1
    simp only [Bool.false_eq_true, ↓reduceIte, has01, is01, Bool.or_eq_false_iff] at this
    cases b
    · simpa [Num.eq_comm] using this.1
    · simpa [Num.eq_comm] using this.2
  · cases h1.1

/-- on clean values Python's `==` is BSON equality: booleans never meet the numbers 0 and 1,
    datetimes are naive, and of two documents one has at most one field (so that the order of the
    fields cannot matter) -/
theorem pyEq_bsonEq (nb : Bool) : ∀ x v : Val, Clean nb x → Clean nb v →
    (smallDocs x = true ∨ smallDocs v = true) → pyEq x v = bsonEq x v := by
  intro x
  induction x using Val.ind with
  | hbool b =>
    intro v hx hv _
    cases v <;> first | rfl | exact clean_bool_int hx hv | exact clean_bool_dbl hx hv
  | hint i => intro v hx hv _; cases v <;> first | rfl | exact clean_bool_int hv hx
  | hdbl m e => intro v hx hv _; cases v <;> first | rfl | exact clean_bool_dbl hv hx
  | hdate u o =>
    intro v hx hv _
    cases o with
    | some o => cases hx.2
    | none =>
      cases v with
      | date u' o' => cases o' with
        | some o' => cases hv.2
        | none => rfl
      | _ => rfl
  | hdoc fs ih =>
    intro v hx hv hs
    cases v with
    | doc gs =>
      show (fs.length == gs.length && pyEqFields fs gs) = bsonEqFields fs gs
      match fs, gs, ih, hx, hv, hs with
      | [], [], _, _, _, _ => rfl
      | [], _ :: _, _, _, _, _ => rfl
      | _ :: _, [], _, _, _, _ => rfl
      | [(k, a)], [(k', b)], ih, hx, hv, hs =>
        have := ih k a (by simp) b ((hered_clean nb).doc _ k a hx (by simp))
          ((hered_clean nb).doc _ k' b hv (by simp))
          (hs.imp (fun h => hered_smallDocs.doc _ k a h (by simp))
            (fun h => hered_smallDocs.doc _ k' b h (by simp)))
        by_cases hk : k = k'
        · subst hk; simp [pyEqFields, bsonEqFields, dget, this]
        · simp [pyEqFields, bsonEqFields, dget, hk, Ne.symm hk]
      | [_], _ :: _ :: _, _, _, _, _ => simp [bsonEqFields]
      | _ :: _ :: _, [_], _, _, _, _ => simp [bsonEqFields]
      | _ :: _ :: _, _ :: _ :: _, _, _, _, hs => simp [smallDocs] at hs
    | _ => rfl
  | harr xs ih =>
    intro v hx hv hs
    cases v with
    | arr ys =>
      exact pyEqList_bsonEqList nb xs ih ys (fun x hm => (hered_clean nb).arr xs x hx hm)
        (fun y hm => (hered_clean nb).arr ys y hv hm) hs
    | _ => rfl
  | _ => intro v _ _ _; cases v <;> rfl

theorem bsonEqFields_comm (fs : Fields) (ih : ∀ k v, (k, v) ∈ fs → ∀ w, bsonEq v w = bsonEq w v) :
    ∀ gs, bsonEqFields fs gs = bsonEqFields gs fs := by
  induction fs with
  | nil => intro gs; cases gs <;> rfl
  | cons kv fs ih2 =>
    intro gs
    obtain ⟨k, v⟩ := kv
    cases gs with
    | nil => rfl
    | cons kv' gs =>
      obtain ⟨k', v'⟩ := kv'
      show (k == k' && bsonEq v v' && bsonEqFields fs gs) = (k' == k && bsonEq v' v && bsonEqFields gs fs)
      rw [ih k v (by simp) v', ih2 (fun k v hm => ih k v (by simp [hm])) gs, BEq.comm]

theorem bsonEqList_comm (xs : List Val) (ih : ∀ x, x ∈ xs → ∀ w, bsonEq x w = bsonEq w x) :
    ∀ ys, bsonEqList xs ys = bsonEqList ys xs := by
  induction xs with
  | nil => intro ys; cases ys <;> rfl
  | cons x xs ih2 =>
    intro ys
    cases ys with
    | nil => rfl
    | cons y ys =>
      show (bsonEq x y && bsonEqList xs ys) = (bsonEq y x && bsonEqList ys xs)
      rw [ih x (by simp) y, ih2 (fun x hm => ih x (by simp [hm])) ys]

theorem bsonEq_comm : ∀ x v : Val, bsonEq x v = bsonEq v x := by
  intro x
  induction x using Val.ind with
  | hdoc fs ih => intro v; cases v <;> first | rfl | exact bsonEqFields_comm fs ih _
  | harr xs ih => intro v; cases v <;> first | rfl | exact bsonEqList_comm xs ih _
  | _ => intro v; cases v <;> first | rfl | exact BEq.comm | exact Num.eq_comm _ _

/-- `pyEq_bsonEq` with the arguments of Python's `==` swapped (BSON equality is symmetric) -/
theorem pyEq_bsonEq' (nb : Bool) (x v : Val) (hx : Clean nb x) (hv : Clean nb v)
    (hs : smallDocs v = true) : pyEq v x = bsonEq x v := by
  rw [pyEq_bsonEq nb v x hv hx (Or.inl hs), bsonEq_comm]

end MongoModel.Proofs.C01Lemmas
