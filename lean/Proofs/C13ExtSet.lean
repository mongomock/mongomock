/-
  Proofs.C13ExtSet — an operator update one of whose `$set` / `$setOnInsert` operators carries
  `_id: w` (and nothing else in the update addresses `_id`) leaves `_id = w` on the document.
-/
import Proofs.C02Frame
import Proofs.C02PosFrame
import Spec.UpsertExt

namespace MongoModel.Proofs.C13Ext
open MongoModel MongoModel.Spec MongoModel.Proofs.C02Lemmas

/-- the operators in front that do not address `key` can be skipped as far as `key` goes -/
theorem applyOps_skip (spec now : Val) (wi : Bool) (whole : Fields)
    (hw : whole.any (fun kv => kv.1.startsWith "$") = true) (key : String) (tail : Fields) :
    ∀ (pre : Fields) (first : Bool) (fs : Fields) (d' : Val),
      applyOps spec now wi whole (pre ++ tail) first (.doc fs) = .ok d' →
      key ∉ addressed pre →
      ∃ fs1 first', dget key fs1 = dget key fs ∧
        applyOps spec now wi whole tail first' (.doc fs1) = .ok d'
  | [], first, fs, d', h, _ => ⟨fs, first, rfl, h⟩
  | (k, v) :: rest, first, fs, d', h, hk => by
    rw [addressed_cons, List.mem_append, not_or] at hk
    rcases applyOps_step spec now wi whole k v _ first fs d' h with ⟨fs1, f1, ht, h1⟩ | hr
    · obtain ⟨fs2, f2, hg, h2⟩ := applyOps_skip spec now wi whole hw key tail rest f1 fs1 d' h1 hk.2
      exact ⟨fs2, f2, hg.trans (ht.frame key hk.1), h2⟩
    · rw [replaceWhole_dollar whole _ hw] at hr; cases hr

theorem applyOpsPos_skip (spec now : Val) (wi : Bool) (whole : Fields)
    (hw : whole.any (fun kv => kv.1.startsWith "$") = true) (key : String) (tail : Fields) :
    ∀ (pre : Fields) (first : Bool) (sub : SubRef) (fs : Fields) (d' : Val),
      applyOpsPos spec now wi whole (pre ++ tail) first sub (.doc fs) = .ok d' →
      key ∉ addressed pre →
      ∃ fs1 first' sub', dget key fs1 = dget key fs ∧
        applyOpsPos spec now wi whole tail first' sub' (.doc fs1) = .ok d'
  | [], first, sub, fs, d', h, _ => ⟨fs, first, sub, rfl, h⟩
  | (k, v) :: rest, first, sub, fs, d', h, hk => by
    rw [addressed_cons, List.mem_append, not_or] at hk
    rcases applyOpsPos_step spec now wi whole k v _ first sub fs d' h with
      ⟨fs1, f1, s1, ht, h1⟩ | hr
    · obtain ⟨fs2, f2, s2, hg, h2⟩ :=
        applyOpsPos_skip spec now wi whole hw key tail rest f1 s1 fs1 d' h1 hk.2
      exact ⟨fs2, f2, s2, hg.trans (ht.frame key hk.1), h2⟩
    · rw [replaceWhole_dollar whole _ hw] at hr; cases hr

theorem keyOk_id : keyOk "_id" = true := by decide +kernel
theorem headOf_id : headOf "_id" = "_id" := by decide +kernel
theorem hasDollarPart_id : hasDollarPart "_id" = false := by decide +kernel

/-- a fold over the body `{…, _id: w, …}` of a `$set`, no other key of which starts at `_id`: when
    the steps edit only the field their key starts with, and the step at the key `_id` stores the
    value there, it ends with `_id = w`: before the key `_id` is met the body still holds it,
    afterwards the document does and no later key starts at `_id` -/
theorem fold_sets_id {σ : Type} (docOf : σ → Val) (step : σ → String × Val → R σ) (w : Val)
    (htouch : ∀ s kv s' fs, docOf s = .doc fs → step s kv = .ok s' →
      ∃ fs', docOf s' = .doc fs' ∧ Touch (headOf kv.1) fs fs')
    (hid : ∀ s s' fs, docOf s = .doc fs → step s ("_id", w) = .ok s' →
      docOf s' = .doc (dset "_id" w fs)) :
    ∀ (body : Fields) (s s' : σ) (fs : Fields), docOf s = .doc fs → body.foldlM step s = .ok s' →
      (dget "_id" body = some w ∧ (dkeys body).filter (fun k => headOf k = "_id") = ["_id"]) ∨
        (dget "_id" fs = some w ∧ (dkeys body).filter (fun k => headOf k = "_id") = []) →
      ∃ fs', docOf s' = .doc fs' ∧ dget "_id" fs' = some w
  | [], s, s', fs, hd, h, hc => by
    cases h
    rcases hc with ⟨hw, _⟩ | ⟨hw, _⟩
    · cases hw
    · exact ⟨fs, hd, hw⟩
  | (k, v) :: body, s, s', fs, hd, h, hc => by
    rw [List.foldlM_cons] at h
    obtain ⟨s1, h1, h2⟩ := bind_ok h
    obtain ⟨fs1, hd1, ht⟩ := htouch s (k, v) s1 fs hd h1
    refine fold_sets_id docOf step w htouch hid body s1 s' fs1 hd1 h2 ?_
    rw [show dkeys ((k, v) :: body) = k :: dkeys body from rfl, List.filter_cons] at hc
    by_cases hh : headOf k = "_id"
    · rw [if_pos (decide_eq_true hh)] at hc
      rcases hc with ⟨hw, hf⟩ | ⟨_, hf⟩
      · obtain ⟨rfl, hf'⟩ := List.cons.inj hf
        rw [dget, if_pos rfl] at hw
        cases hw
        rw [hid s s1 fs hd h1] at hd1
        cases hd1
        exact .inr ⟨dget_dset_same .., hf'⟩
      · cases hf
    · have e : ¬ k = "_id" := by rintro rfl; exact hh headOf_id
      rw [decide_eq_false hh, if_neg Bool.false_ne_true] at hc
      rcases hc with ⟨hw, hf⟩ | ⟨hw, hf⟩
      · rw [dget, if_neg e] at hw
        exact .inl ⟨hw, hf⟩
      · exact .inr ⟨by rw [ht.dget (Ne.symm hh)]; exact hw, hf⟩

theorem updateFields_sets_id (now w : Val) (body fs : Fields) (d' : Val)
    (h : updateFields .set now (.doc body) (.doc fs) = .ok d')
    (hw : dget "_id" body = some w)
    (hf : (dkeys body).filter (fun k => headOf k = "_id") = ["_id"]) :
    ∃ fs', d' = .doc fs' ∧ dget "_id" fs' = some w := by
  rw [updateFields] at h
  split at h
  · cases h
  · refine fold_sets_id id _ w ?_ ?_ body _ d' fs rfl h (.inl ⟨hw, hf⟩)
    · rintro _ kv s' fs0 rfl h0
      exact fieldStep_touch .set now kv fs0 s' h0
    · rintro _ s' fs0 rfl h0
      simp only [keyOk_id, Bool.not_true, Bool.false_eq_true, if_false, splitDots_id,
        updateSingleField, runUpdater] at h0
      cases h0; rfl

theorem posFields_sets_id (now spec w : Val) (body fs : Fields) (sub : SubRef) (r : Val × SubRef)
    (h : posFields .set now spec (.doc body) (.doc fs) sub = .ok r)
    (hw : dget "_id" body = some w)
    (hf : (dkeys body).filter (fun k => headOf k = "_id") = ["_id"]) :
    ∃ fs', r.1 = .doc fs' ∧ dget "_id" fs' = some w := by
  rw [posFields] at h
  split at h
  · obtain ⟨st, hst, h4⟩ := bind_ok h
    cases h4
    refine fold_sets_id (fun (s : PosState) => s.d) _ w ?_ ?_ body _ st fs rfl hst (.inl ⟨hw, hf⟩)
    · exact fun s kv s' fs0 hd0 h0 => posUpdaterKey_touch .set now spec s s' kv.1 kv.2 fs0 hd0 h0
    · intro s s' fs0 hd0 h0
      rw [posUpdaterKey] at h0
      by_cases hl : s.docLost = true
      · rw [if_pos hl] at h0; cases h0
      rw [if_neg hl, keyOk_id, hasDollarPart_id, if_neg (by decide), if_pos (by decide),
        splitDots_id, hd0] at h0
      cases h0; rfl
  · obtain ⟨d2, h4, h5⟩ := bind_ok h
    cases h5
    exact updateFields_sets_id now w body fs d2 h4 hw hf

/-- `$set` (and `$setOnInsert` on an insert) runs `updateFields .set` and goes on -/
theorem applyOps_set_step (spec now : Val) (wi : Bool) (whole : Fields) (op : String) (v : Val)
    (post : Fields) (first : Bool) (d d' : Val)
    (hop : op = "$set" ∨ (op = "$setOnInsert" ∧ wi = true))
    (h : applyOps spec now wi whole ((op, v) :: post) first d = .ok d') :
    ∃ d1, updateFields .set now v d = .ok d1 ∧ applyOps spec now wi whole post false d1 = .ok d' := by
  rw [applyOps] at h
  rcases hop with rfl | ⟨rfl, rfl⟩
  · rw [show updaterOf "$set" = some .set by decide +kernel] at h
    exact bind_ok h
  · rw [show updaterOf "$setOnInsert" = none by decide +kernel] at h
    exact bind_ok h

/-- in the positional branch `$set` (and `$setOnInsert` on an insert) runs `posFields .set` and
    goes on -/
theorem applyOpsPos_set_step (spec now : Val) (wi : Bool) (whole : Fields) (op : String) (v : Val)
    (post : Fields) (first : Bool) (sub : SubRef) (d d' : Val)
    (hop : op = "$set" ∨ (op = "$setOnInsert" ∧ wi = true))
    (h : applyOpsPos spec now wi whole ((op, v) :: post) first sub d = .ok d') :
    ∃ r, posFields .set now spec v d sub = .ok r ∧
      applyOpsPos spec now wi whole post false r.2 r.1 = .ok d' := by
  rw [applyOpsPos] at h
  rcases hop with rfl | ⟨rfl, rfl⟩
  · rw [show updaterOf "$set" = some .set by decide +kernel] at h
    exact bind_ok h
  · rw [show updaterOf "$setOnInsert" = none by decide +kernel] at h
    exact bind_ok h

/-- `$set` (or, on an insert, `$setOnInsert`) of `_id: w` inside an operator update that addresses
    `_id` nowhere else leaves `_id = w` -/
theorem set_id_effect (spec now : Val) (wi : Bool) (pre post body : Fields) (op : String) (w : Val)
    (fs : Fields) (d' : Val)
    (hop : op = "$set" ∨ (op = "$setOnInsert" ∧ wi = true))
    (hall : (pre ++ (op, .doc body) :: post).all (fun kv => kv.1.startsWith "$") = true)
    (hpre : "_id" ∉ addressed pre) (hpost : "_id" ∉ addressed post)
    (hw : dget "_id" body = some w)
    (hf : (dkeys body).filter (fun k => headOf k = "_id") = ["_id"])
    (h : applyUpdate spec (.doc (pre ++ (op, .doc body) :: post)) now wi (.doc fs) = .ok d') :
    ∃ fs', d' = .doc fs' ∧ dget "_id" fs' = some w := by
  have hany : (pre ++ (op, Val.doc body) :: post).any (fun kv => kv.1.startsWith "$") = true :=
    List.any_eq_true.2 ⟨(op, .doc body), by simp, List.all_eq_true.1 hall _ (by simp)⟩
  generalize hu : pre ++ (op, Val.doc body) :: post = ufs at h hany
  cases ufs with
  | nil => simp at hu
  | cons a l =>
    simp only [applyUpdate] at h
    rw [← hu] at h
    split at h
    · obtain ⟨fs1, f1, s1, hg1, h1⟩ :=
        applyOpsPos_skip spec now wi _ (hu ▸ hany) "_id" _ pre true _ fs d' h hpre
      obtain ⟨r, h2, h3⟩ := applyOpsPos_set_step spec now wi _ op _ post f1 s1 _ d' hop h1
      obtain ⟨fs2, hd2, hg2⟩ := posFields_sets_id now spec w body fs1 s1 r h2 hw hf
      rw [hd2] at h3
      obtain ⟨fs3, rfl, hfr⟩ := applyOpsPos_frame spec now wi _ (hu ▸ hany) post false _ fs2 d' h3
      exact ⟨fs3, rfl, by rw [hfr "_id" hpost, hg2]⟩
    · obtain ⟨fs1, f1, hg1, h1⟩ :=
        applyOps_skip spec now wi _ (hu ▸ hany) "_id" _ pre true fs d' h hpre
      obtain ⟨d2, h2, h3⟩ := applyOps_set_step spec now wi _ op _ post f1 _ d' hop h1
      obtain ⟨fs2, rfl, hg2⟩ := updateFields_sets_id now w body fs1 d2 h2 hw hf
      obtain ⟨fs3, rfl, hfr⟩ := applyOps_frame spec now wi _ (hu ▸ hany) post false fs2 d' h3
      exact ⟨fs3, rfl, by rw [hfr "_id" hpost, hg2]⟩

end MongoModel.Proofs.C13Ext
