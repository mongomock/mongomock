/-
  Proofs.C04 — entry point of the C04 proofs (laws of the evaluator, comparison order, date
  arithmetic, and the correspondence with the oracle on the domain D).
-/
import Proofs.C04Basic
import Proofs.C04Cond
import Proofs.C04Arith
import Proofs.C04Bind
import Proofs.C04Cmp
import Proofs.C04Date
import Proofs.C04Parts
import Proofs.C04Spec
import Proofs.C04Order
