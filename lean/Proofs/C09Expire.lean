/-
  Proofs.C09Expire — `minDate` is the oracle's `earliestDate`, and the expiry pass is a fold in
  which each index, by `ixAction`, fails, does nothing, or filters the documents (`pass_cons`).
  Hence a pass only removes documents, leaves nothing for a second pass at the same clock
  (`expire_idem`), reads the TTL indexes and the documents only, and changes the documents only
  (`expire_eq_docs`).
-/
import Spec.Ttl

namespace MongoModel.Proofs.C09Lemmas
open MongoModel MongoModel.Spec

/-- the step function of the fold inside `minDate` -/
def minStep (acc : Option Int) (x : Val) : Option Int :=
  match x with
  | .date us none => (match acc with
    | none => some us
    | some a => some (if us < a then us else a))
  | _ => acc

def optMin (acc : Option Int) (m : Option Int) : Option Int :=
  match acc, m with
  | none, m => m
  | some a, none => some a
  | some a, some b => some (min a b)

theorem foldl_minStep (xs : List Val) (acc : Option Int) :
    xs.foldl minStep acc = optMin acc ((xs.filterMap naiveDate?).min?) := by
  induction xs generalizing acc with
  | nil => cases acc <;> simp [optMin]
  | cons x xs ih =>
    rw [List.foldl_cons, ih]
    cases hx : naiveDate? x with
    | none =>
      have : minStep acc x = acc := by
        unfold minStep
        split
        · simp [naiveDate?] at hx
        · rfl
      rw [this, List.filterMap_cons_none hx]
    | some us =>
      have hxe : x = .date us none := by
        unfold naiveDate? at hx
        split at hx
        · simp at hx; subst hx; rfl
        · simp at hx
      subst hxe
      rw [List.filterMap_cons_some hx, List.min?_cons]
      cases acc with
      | none =>
        cases hm : (List.filterMap naiveDate? xs).min? with
        | none => simp [minStep, optMin]
        | some m => simp [minStep, optMin]
      | some a =>
        cases hm : (List.filterMap naiveDate? xs).min? with
        | none =>
          simp only [minStep, optMin, Option.elim]
          congr 1
          omega
        | some m =>
          simp only [minStep, optMin, Option.elim]
          congr 1
          omega

theorem minDate_eq (o : Option Val) : minDate o = earliestDate o := by
  cases o with
  | none => rfl
  | some v =>
    cases v with
    | arr xs =>
      cases xs with
      | nil => simp [minDate, earliestDate, Val.truthy]
      | cons x xs =>
        have := foldl_minStep (x :: xs) none
        simp only [optMin] at this
        simp only [minDate, earliestDate, Val.truthy, List.isEmpty_cons, Bool.not_false,
          Bool.not_true, Bool.false_eq_true, if_false]
        exact this
    | date us off =>
      cases off <;> simp [minDate, earliestDate, Val.truthy]
    | _ => simp [minDate, earliestDate]

/-- what an index does in a pass: fail, nothing, or filter on `(field, secs)`; depends on the
    index only -/
def ixAction (ix : Index) : R (Option (String × Int)) :=
  match ix.ttl with
  | none => .ok none
  | some raw =>
    match ttlSeconds raw with
    | .error e => .error e
    | .ok none => .ok none
    | .ok (some secs) =>
      if ix.keys.length > 1 then .ok none
      else match ix.keys with
        | [] => .error .other
        | (field, _) :: _ => .ok (some (field, secs))

def filt (now : Int) (c : Coll) (field : String) (secs : Int) : Coll :=
  { c with docs := c.docs.filter (fun p => !meetsExpiry field secs now p.2) }

theorem expireIndex_eq (now : Int) (c : Coll) (ix : Index) :
    expireIndex now c ix =
      match ixAction ix with
      | .error e => .error e
      | .ok none => .ok c
      | .ok (some (f, s)) => .ok (filt now c f s) := by
  unfold expireIndex ixAction
  cases ix.ttl with
  | none => rfl
  | some raw =>
    simp only []
    cases ttlSeconds raw with
    | error e => rfl
    | ok o =>
      cases o with
      | none => rfl
      | some secs =>
        simp only [bind, Except.bind, pure, Except.pure]
        by_cases hl : ix.keys.length > 1
        · simp [hl]
        · simp only [hl, if_false]
          cases ix.keys with
          | nil => rfl
          | cons kv r => cases kv; rfl

theorem filt_of_clean (now : Int) (c : Coll) (f : String) (s : Int)
    (h : ∀ p ∈ c.docs, meetsExpiry f s now p.2 = false) : filt now c f s = c := by
  have h1 : c.docs.filter (fun p => !meetsExpiry f s now p.2) = c.docs := by
    rw [List.filter_eq_self]
    intro p hp
    simp [h p hp]
  unfold filt
  rw [h1]

theorem filt_clean (now : Int) (c : Coll) (f : String) (s : Int) :
    ∀ p ∈ (filt now c f s).docs, meetsExpiry f s now p.2 = false := by
  intro p hp
  simp only [filt, List.mem_filter] at hp
  simpa using hp.2

theorem filt_sublist (now : Int) (c : Coll) (f : String) (s : Int) :
    (filt now c f s).docs.Sublist c.docs := List.filter_sublist

theorem ixAction_some (ix : Index) (f : String) (s : Int) (h : ixAction ix = .ok (some (f, s))) :
    ∃ dir raw, ix.keys = [(f, dir)] ∧ ix.ttl = some raw ∧ ttlSeconds raw = .ok (some s) := by
  unfold ixAction at h
  cases ht : ix.ttl with
  | none => rw [ht] at h; cases h
  | some raw =>
    rw [ht] at h
    simp only [] at h
    cases hs : ttlSeconds raw with
    | error e => rw [hs] at h; cases h
    | ok o =>
      rw [hs] at h
      cases o with
      | none => cases h
      | some secs =>
        simp only [] at h
        by_cases hl : ix.keys.length > 1
        · simp [hl] at h
        · simp only [hl, if_false] at h
          cases hk : ix.keys with
          | nil => rw [hk] at h; cases h
          | cons kv r =>
            rw [hk] at h
            obtain ⟨k, d⟩ := kv
            simp only [Except.ok.injEq, Option.some.injEq, Prod.mk.injEq] at h
            obtain ⟨rfl, rfl⟩ := h
            cases r with
            | nil => exact ⟨d, raw, rfl, rfl, hs⟩
            | cons x r => rw [hk] at hl; simp at hl

theorem ixAction_single (ix : Index) (f : String) (dir raw : Val) (s : Int)
    (hk : ix.keys = [(f, dir)]) (hr : ix.ttl = some raw) (hs : ttlSeconds raw = .ok (some s)) :
    ixAction ix = .ok (some (f, s)) := by
  unfold ixAction
  rw [hr]
  simp only []
  rw [hs]
  simp [hk]

def pass (now : Int) (l : List Index) (c : Coll) : R Coll := l.foldlM (expireIndex now) c

theorem expire_eq_pass (now : Int) (c : Coll) : expire now c = pass now c.ttlIndexes c := rfl

theorem pass_nil (now : Int) (c : Coll) : pass now [] c = .ok c := rfl

theorem expire_nil (now : Int) (c : Coll) (hn : c.ttlIndexes = []) : expire now c = .ok c := by
  rw [expire_eq_pass, hn]; rfl

theorem pass_cons (now : Int) (ix : Index) (l : List Index) (c : Coll) :
    pass now (ix :: l) c =
      match ixAction ix with
      | .error e => .error e
      | .ok none => pass now l c
      | .ok (some (f, s)) => pass now l (filt now c f s) := by
  unfold pass
  rw [List.foldlM_cons, expireIndex_eq]
  cases ixAction ix with
  | error e => rfl
  | ok o =>
    cases o with
    | none => rfl
    | some fs => cases fs; rfl

def Clean (now : Int) (l : List Index) (c : Coll) : Prop :=
  ∀ ix ∈ l, ∀ f s, ixAction ix = .ok (some (f, s)) →
    ∀ p ∈ c.docs, meetsExpiry f s now p.2 = false

def NoFail (l : List Index) : Prop := ∀ ix ∈ l, ∀ e, ixAction ix ≠ .error e

def SameMeta (c c' : Coll) : Prop :=
  c'.indexes = c.indexes ∧ c'.ttlIndexes = c.ttlIndexes ∧ c'.forceCreated = c.forceCreated ∧
  c'.nextOid = c.nextOid

theorem pass_ok (now : Int) (l : List Index) (c c' : Coll) (h : pass now l c = .ok c') :
    c'.docs.Sublist c.docs ∧ SameMeta c c' ∧ NoFail l ∧ Clean now l c' := by
  induction l generalizing c with
  | nil =>
    rw [pass_nil] at h
    cases h
    refine ⟨List.Sublist.refl _, ⟨rfl, rfl, rfl, rfl⟩, ?_, ?_⟩
    · intro ix hix; cases hix
    · intro ix hix; cases hix
  | cons ix l ih =>
    rw [pass_cons] at h
    cases ha : ixAction ix with
    | error e => rw [ha] at h; cases h
    | ok o =>
      cases o with
      | none =>
        rw [ha] at h
        obtain ⟨h1, h2, h3, h4⟩ := ih c h
        refine ⟨h1, h2, ?_, ?_⟩
        · intro ix' hix' e
          rcases List.mem_cons.1 hix' with rfl | hm
          · rw [ha]; intro hh; cases hh
          · exact h3 ix' hm e
        · intro ix' hix' f s hfs
          rcases List.mem_cons.1 hix' with rfl | hm
          · rw [ha] at hfs; cases hfs
          · exact h4 ix' hm f s hfs
      | some fs =>
        obtain ⟨f, s⟩ := fs
        rw [ha] at h
        obtain ⟨h1, h2, h3, h4⟩ := ih _ h
        refine ⟨h1.trans (filt_sublist now c f s), h2, ?_, ?_⟩
        · intro ix' hix' e
          rcases List.mem_cons.1 hix' with rfl | hm
          · rw [ha]; intro hh; cases hh
          · exact h3 ix' hm e
        · intro ix' hix' f' s' hfs
          rcases List.mem_cons.1 hix' with rfl | hm
          · rw [ha] at hfs
            cases hfs
            intro p hp
            exact filt_clean now c f s p (h1.subset hp)
          · exact h4 ix' hm f' s' hfs

theorem pass_of_clean (now : Int) (l : List Index) (c : Coll) (hn : NoFail l)
    (hc : Clean now l c) : pass now l c = .ok c := by
  induction l with
  | nil => rfl
  | cons ix l ih =>
    have hn' : NoFail l := fun ix' h' => hn ix' (List.mem_cons_of_mem _ h')
    have hc' : Clean now l c := fun ix' h' => hc ix' (List.mem_cons_of_mem _ h')
    rw [pass_cons]
    cases ha : ixAction ix with
    | error e => exact absurd ha (hn ix (List.mem_cons_self ..) e)
    | ok o =>
      cases o with
      | none => exact ih hn' hc'
      | some fs =>
        obtain ⟨f, s⟩ := fs
        simp only []
        rw [filt_of_clean now c f s (hc ix (List.mem_cons_self ..) f s ha)]
        exact ih hn' hc'

theorem expire_ok (now : Int) (c c' : Coll) (h : expire now c = .ok c') :
    c'.docs.Sublist c.docs ∧ SameMeta c c' := by
  rw [expire_eq_pass] at h
  obtain ⟨h1, h2, _, _⟩ := pass_ok now _ c c' h
  exact ⟨h1, h2⟩

theorem expire_idem (now : Int) (c c' : Coll) (h : expire now c = .ok c') :
    expire now c' = .ok c' := by
  rw [expire_eq_pass] at h
  obtain ⟨_, h2, h3, h4⟩ := pass_ok now _ c c' h
  rw [expire_eq_pass, h2.2.1]
  exact pass_of_clean now _ c' h3 h4

/-- the documents a pass leaves -/
def passDocs (now : Int) : List Index → List (Val × Val) → R (List (Val × Val))
  | [], ds => .ok ds
  | ix :: l, ds =>
    match ixAction ix with
    | .error e => .error e
    | .ok none => passDocs now l ds
    | .ok (some (f, s)) => passDocs now l (ds.filter (fun p => !meetsExpiry f s now p.2))

theorem pass_eq_docs (now : Int) (l : List Index) (c : Coll) :
    pass now l c = (passDocs now l c.docs).map (fun ds => { c with docs := ds }) := by
  induction l generalizing c with
  | nil => rfl
  | cons ix l ih =>
    rw [pass_cons, passDocs]
    cases ixAction ix with
    | error e => rfl
    | ok o =>
      cases o with
      | none => exact ih c
      | some fs => exact ih _

/-- the pass is a function of the TTL indexes and the documents, and changes the documents only -/
theorem expire_eq_docs (now : Int) (c : Coll) :
    expire now c = (passDocs now c.ttlIndexes c.docs).map (fun ds => { c with docs := ds }) := by
  rw [expire_eq_pass, pass_eq_docs]

theorem expire_bump (now : Int) (c : Coll) (n : Nat) :
    expire now { c with nextOid := n } = (expire now c).map (fun x => { x with nextOid := n }) := by
  rw [expire_eq_docs, expire_eq_docs]
  show (passDocs now c.ttlIndexes c.docs).map _ = _
  cases passDocs now c.ttlIndexes c.docs <;> rfl

theorem expire_nextOid (now : Int) (c c' : Coll) (n : Nat) (h : expire now c = .ok c') :
    expire now { c with nextOid := n } = .ok { c' with nextOid := n } := by
  rw [expire_bump, h]; rfl

end MongoModel.Proofs.C09Lemmas
