/-
  Proofs.C14Id — the filter `{_id: tid}` for a scalar `tid` on a collection whose store keys are
  not arrays selects exactly the entry stored under (a key `==` to) `tid`.
-/
import Proofs.C14Find
import Proofs.C05

namespace MongoModel.Proofs.C14Lemmas
open MongoModel MongoModel.Spec
open MongoModel.Proofs.C10Lemmas MongoModel.Proofs.C09Lemmas

theorem candsKey_id (dfs : Fields) : candsKey "_id" (.doc dfs) = .ok [dget "_id" dfs] := by
  have h3 : splitDots "_id" = ["_id"] := by decide
  simp only [candsKey, h3, cands]

theorem plainMatch_nonarr (tid v : Val) (hv : v.isArr = false) :
    plainMatch tid (some v) = pyEq v tid := by
  cases v <;> first | rfl | cases hv

theorem match_id (tid : Val) (dfs : Fields) (v : Val) (hsc : isScalar tid = true)
    (hv : dget "_id" dfs = some v) (hna : v.isArr = false) :
    filterApplies (.doc [("_id", tid)]) (.doc dfs) = .ok (pyEq v tid) := by
  have hk : applyKey tid "_id" (.doc dfs) = .ok (pyEq v tid) := by
    rw [applyKey.eq_2 _ _ _ (by intro fs e; subst e; cases hsc)]
    simp only [candsKey_id, hv, bind, Except.bind, candLoop, pure, Except.pure,
      plainMatch_nonarr tid v hna]
    cases pyEq v tid <;> simp
  unfold filterApplies
  rw [applyVal, applyFields.eq_def]
  have e1 : ("_id" = "$comment") = False := by decide
  have e2 : logicalKeys.contains "_id" = false := by decide
  have e3 : ("_id" = "$expr") = False := by decide
  have e4 : topLevelOperators.contains "_id" = false := by decide
  have e5 : "_id".startsWith "$" = false := by decide +kernel
  simp only [e1, e2, e3, e4, e5, if_false, Bool.false_eq_true, hk, bind, Except.bind, applyFields,
    pure, Except.pure]
  cases pyEq v tid <;> rfl

theorem nonarr_of_pyEq (k v : Val) (h : pyEq k v = true) (hk : k.isArr = false) :
    v.isArr = false := by
  cases v with
  | arr xs =>
    rcases k with _|_|_|_|_|⟨_,_|_⟩|_|_|_ <;> simp [pyEq] at h
    cases hk
  | _ => rfl

theorem select_of_ok (f : Val) (g : Val × Val → Bool) (l : List (Val × Val))
    (h : ∀ p ∈ l, filterApplies f p.2 = .ok (g p)) : selectDocs f l = .ok (l.filter g) := by
  induction l with
  | nil => rfl
  | cons p l ih =>
    simp only [selectDocs, h p (List.mem_cons_self ..),
      ih (fun q hq => h q (List.mem_cons_of_mem _ hq)), bind, Except.bind, pure, Except.pure,
      List.filter_cons]

/-- distinct, well-behaved keys: a predicate that holds exactly on the entries whose key is `==`
    to the key of `a` selects `a` alone -/
theorem filter_unique (P : Val × Val → Bool) (a : Val × Val) :
    ∀ (l : List (Val × Val)), DK l → GK l → a ∈ l →
      (∀ p ∈ l, P p = true ↔ pyEq a.1 p.1 = true) → l.filter P = [a] := by
  intro l
  induction l with
  | nil => intro _ _ ha; cases ha
  | cons x l ih =>
    intro hd hg ha hP
    have hd' := List.pairwise_cons.1 hd
    have hg' : GK l := hg.subset (fun p hp => List.mem_cons_of_mem _ hp)
    rcases List.mem_cons.1 ha with rfl | ha'
    · have hx : P a = true := (hP a (List.mem_cons_self ..)).2 (hg a (List.mem_cons_self ..)).2
      rw [List.filter_cons, hx, if_pos rfl]
      congr 1
      rw [List.filter_eq_nil_iff]
      intro y hy hpy
      have := (hP y (List.mem_cons_of_mem _ hy)).1 hpy
      rw [hd'.1 y hy] at this
      cases this
    · have hx : P x = false := by
        cases hpx : P x with
        | false => rfl
        | true =>
          have h1 := (hP x (List.mem_cons_self ..)).1 hpx
          have h2 : pyEq x.1 a.1 = false := hd'.1 a ha'
          rw [(hg x (List.mem_cons_self ..)).1 a.1, h1] at h2
          cases h2
      rw [List.filter_cons, hx]
      simp only [Bool.false_eq_true, if_false]
      exact ih hd'.2 hg' ha' (fun p hp => hP p (List.mem_cons_of_mem _ hp))

theorem select_id (l : List (Val × Val)) (tid : Val) (pt : Val × Val)
    (hd : DK l) (hg : GK l) (hk : KI l) (hna : ∀ p ∈ l, p.1.isArr = false)
    (hsc : isScalar tid = true) (hpt : pt ∈ l) (hkt : pyEq pt.1 tid = true) :
    selectDocs (.doc [("_id", tid)]) l = .ok [pt] := by
  let g : Val × Val → Bool := fun p =>
    match idOf p.2 with
    | some v => pyEq v tid
    | none => false
  have hst : SymmVal tid := MongoModel.Proofs.C05.scalar_symm tid hsc
  have hok : ∀ p ∈ l, filterApplies (.doc [("_id", tid)]) p.2 = .ok (g p) := by
    intro p hp
    obtain ⟨id, hid, hpk⟩ := hk p hp
    obtain ⟨k, d⟩ := p
    cases d with
    | doc dfs =>
      have hid' : dget "_id" dfs = some id := hid
      rw [match_id tid dfs id hsc hid' (nonarr_of_pyEq k id hpk (hna _ hp))]
      show _ = Except.ok (match idOf (Val.doc dfs) with | some v => pyEq v tid | none => false)
      rw [hid]
    | _ => cases hid
  rw [select_of_ok _ g l hok]
  congr 1
  apply filter_unique g pt l hd hg hpt
  intro p hp
  obtain ⟨id, hid, hpk⟩ := hk p hp
  have hgp : g p = pyEq id tid := by
    show (match idOf p.2 with | some v => pyEq v tid | none => false) = _
    rw [hid]
  rw [hgp]
  constructor
  · intro h
    have h1 : pyEq p.1 tid = true := pyEq_trans _ _ _ hpk h
    have h2 : pyEq tid p.1 = true := by rw [hst p.1]; exact h1
    exact pyEq_trans _ _ _ hkt h2
  · intro h
    have : pt = p := mem_eq_of_pyEq hd hg hpt hp h
    subst this
    have h1 : pyEq id pt.1 = true := by rw [← (hg pt hpt).1 id]; exact hpk
    exact pyEq_trans _ _ _ h1 hkt

end MongoModel.Proofs.C14Lemmas
