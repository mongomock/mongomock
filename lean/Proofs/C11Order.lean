/-
  Proofs.C11Order — the oracle's key order `Spec.Order.keyLt` is a strict weak order on *all*
  sort keys (proved by an order embedding into the lexicographic product ℕ ×ₗ ℕ ×ₗ ℚ ×ₗ String:
  rank, BSON type, numeric payload, string payload; numbers compared by cross multiplication
  are compared as rationals m / 2^e).
-/
import Mathlib.Tactic.Linarith
import Mathlib.Tactic.Positivity
import Mathlib.Data.Prod.Lex
import Mathlib.Data.String.Basic
import Mathlib.Algebra.Order.Field.Basic
import Mathlib.Data.Rat.Defs
import Proofs.BsonClass
import Proofs.C11Sort
import Spec.Order

namespace MongoModel.Proofs.C11
open MongoModel MongoModel.Spec.Order MongoModel.Proofs.Bson

/-- a comparison that is the pull-back of `<` on a linear order is a strict weak order -/
theorem strictWeak_of_embedding {α β : Type} [LinearOrder β] (lt : α → α → Bool) (f : α → β)
    (h : ∀ a b, lt a b = true ↔ f a < f b) : StrictWeak lt := by
  have hf : ∀ a b, lt a b = false ↔ f b ≤ f a := by
    intro a b
    rw [← not_lt, ← h]; simp
  constructor
  · intro a b hab
    rw [hf]; exact le_of_lt ((h a b).mp hab)
  · intro a b c h1 h2
    rw [hf] at h1 h2 ⊢
    exact le_trans h1 h2

theorem numLt_iff (a b : Num) :
    Num.lt a b = true ↔ (a.m : ℚ) / 2 ^ a.e < (b.m : ℚ) / 2 ^ b.e := by
  rw [div_lt_div_iff₀ (by positivity) (by positivity)]
  simp only [Num.lt, decide_eq_true_eq]
  exact_mod_cast Iff.rfl

def payloadQ : Val → ℚ
  | .bool b => if b then 1 else 0
  | .int i => i
  | .dbl m e => (m : ℚ) / 2 ^ e
  | .date u o => (dateUtc u o : ℤ)
  | .oid n => n
  | _ => 0

def payloadS : Val → String
  | .str s => s
  | _ => ""

def embV (v : Val) : ℕ ×ₗ ℚ ×ₗ String := toLex (typeOrder v, toLex (payloadQ v, payloadS v))

def emb (k : SortKey) : ℕ ×ₗ ℕ ×ₗ ℚ ×ₗ String := toLex (k.rank, embV k.val)

/-- the oracle's order of the BSON types is the order of the model's comparison classes -/
theorem tc_typeOrder (v : Val) : v.tc + 5 = 5 * typeOrder v := by
  cases v <;> rfl

theorem typeOrder_eq_iff (a b : Val) : typeOrder a = typeOrder b ↔ a.tc = b.tc := by
  have := tc_typeOrder a; have := tc_typeOrder b; omega

theorem typeOrder_lt_iff (a b : Val) : typeOrder a < typeOrder b ↔ a.tc < b.tc := by
  have := tc_typeOrder a; have := tc_typeOrder b; omega

theorem valLt_iff (a b : Val) : valLt a b = true ↔ embV a < embV b := by
  unfold valLt embV
  rw [Prod.Lex.toLex_lt_toLex]
  by_cases ht : typeOrder a = typeOrder b
  · simp only [ht, ne_eq, not_true_eq_false, if_false, lt_self_iff_false, false_or, true_and]
    rw [Prod.Lex.toLex_lt_toLex]
    have h : b.tc = a.tc := ((typeOrder_eq_iff a b).mp ht).symm
    -- `b` has the shape of `a`; within a class one of the two payloads decides
    cases a with
    | null =>
      cases tc_null h
      simp only [Bool.false_eq_true, payloadQ, lt_self_iff_false, payloadS, and_false, or_self]
    | bool x =>
      obtain ⟨y, rfl⟩ := tc_bool h
      cases x <;> cases y <;>
        simp only [Bool.not_false, Bool.not_true, Bool.and_false, Bool.and_true, Bool.and_self,
          Bool.false_eq_true, payloadQ, payloadS, ↓reduceIte, lt_self_iff_false, zero_lt_one,
          zero_ne_one, one_ne_zero, and_false, and_self, or_self, or_false, false_iff, not_lt,
          zero_le_one]
    | int i =>
      rcases tc_num h with ⟨j, rfl⟩ | ⟨m, e, rfl⟩ <;>
        simp only [decide_eq_true_eq, numLt_iff, pow_zero, div_one, payloadQ, payloadS, Int.cast_lt,
          Int.cast_inj, lt_self_iff_false, and_false, or_false]
    | dbl m e =>
      rcases tc_num h with ⟨j, rfl⟩ | ⟨m', e', rfl⟩ <;>
        simp only [numLt_iff, pow_zero, div_one, payloadQ, payloadS, lt_self_iff_false, and_false,
          or_false]
    | str s =>
      obtain ⟨t, rfl⟩ := tc_str h
      simp only [decide_eq_true_eq, payloadQ, lt_self_iff_false, payloadS, true_and, false_or]
    | date u o =>
      obtain ⟨u', o', rfl⟩ := tc_date h
      simp only [decide_eq_true_eq, payloadQ, Int.cast_lt, Int.cast_inj, payloadS,
        lt_self_iff_false, and_false, or_false]
    | oid n =>
      obtain ⟨n', rfl⟩ := tc_oid h
      simp only [decide_eq_true_eq, payloadQ, Nat.cast_lt, Nat.cast_inj, payloadS,
        lt_self_iff_false, and_false, or_false]
    | doc fs =>
      obtain ⟨gs, rfl⟩ := tc_doc h
      simp only [Bool.false_eq_true, payloadQ, lt_self_iff_false, payloadS, and_false, or_self]
    | arr xs =>
      obtain ⟨ys, rfl⟩ := tc_arr h
      simp only [Bool.false_eq_true, payloadQ, lt_self_iff_false, payloadS, and_false, or_self]
  · simp [ht]

theorem keyLt_iff (a b : SortKey) : Spec.Order.keyLt a b = true ↔ emb a < emb b := by
  unfold Spec.Order.keyLt emb
  rw [Prod.Lex.toLex_lt_toLex]
  by_cases hr : a.rank = b.rank
  · simp [hr, valLt_iff]
  · simp [hr]

/-- the oracle's key order is a strict weak order (on every pair of keys, no domain needed) -/
theorem strictWeak_keyLt : StrictWeak Spec.Order.keyLt :=
  strictWeak_of_embedding Spec.Order.keyLt emb keyLt_iff

/-- hence so is the order of two documents under one `(key, direction)` -/
theorem strictWeak_docLt1 (kd : String × Int) : StrictWeak (docLt1 kd) := by
  by_cases h : kd.2 < 0
  · have : docLt1 kd = fun a b => Spec.Order.keyLt (docKey kd.1 true b) (docKey kd.1 true a) := by
      funext a b; simp [docLt1, h]
    rw [this]
    exact strictWeak_of_embedding _ (fun d => OrderDual.toDual (emb (docKey kd.1 true d)))
      (fun a b => by rw [keyLt_iff]; rfl)
  · have : docLt1 kd = fun a b => Spec.Order.keyLt (docKey kd.1 false a) (docKey kd.1 false b) := by
      funext a b; simp [docLt1, h]
    rw [this]
    exact strictWeak_of_embedding _ (fun d => emb (docKey kd.1 false d)) (fun a b => keyLt_iff _ _)

end MongoModel.Proofs.C11
