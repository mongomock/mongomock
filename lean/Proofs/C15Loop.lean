/-
  Proofs.C15Loop — `bulkLoop` against the one-at-a-time run, failures included: which requests
  fail, where the ordered loop stops, which positions the error reports.  Props/C15 uses the
  final state only; the bookkeeping of failures (`seqFailures` in `loop_unordered`, the executor
  of the failing request in `loop_ordered`) is there for the bulk statements of Props/C08.
-/
import Proofs.C15Step

namespace MongoModel.Proofs.C08Lemmas
open MongoModel MongoModel.Spec MongoModel.Proofs.C15Lemmas

theorem errorIndex_entry (idx : Nat) (e : Err) : errorIndex (errEntry idx e) = .int idx := rfl

end MongoModel.Proofs.C08Lemmas

namespace MongoModel.Proofs.C15Lemmas
open MongoModel MongoModel.Spec MongoModel.Proofs.C08Lemmas

theorem seqOps_cons (cfg : Cfg) (now : Int) (op : Val) (ops : List Val) (c : Coll) :
    seqOps cfg now (op :: ops) c = seqOps cfg now ops (stepColl cfg now c op).1 := rfl

theorem seqOps_append (cfg : Cfg) (now : Int) (ops ops' : List Val) (c : Coll) :
    seqOps cfg now (ops ++ ops') c = seqOps cfg now ops' (seqOps cfg now ops c) :=
  List.foldl_append

/-- unordered, nothing aborts: the one-at-a-time state, and the error lists exactly the positions
    of the operations that fail in the one-at-a-time run -/
theorem loop_unordered (cfg : Cfg) (now : Int) (reqs : List Val)
    (hp : reqs.all plainRequest = true) (hv : bulkPrecheck reqs = .ok ()) :
    ∀ (idx : Nat) (c : Coll) (t : BulkTotals),
      (∀ e, (bulkLoop cfg now false reqs idx c t).2 ≠ .err e) →
      ∃ t' : BulkTotals, bulkLoop cfg now false reqs idx c t =
          (seqOps cfg now (reqs.map asSingle) c,
           if t'.errors.isEmpty then .val t'.toVal else .bulkErr t'.toVal) ∧
        t'.errors.map errorIndex = t.errors.map errorIndex ++
          (seqFailures cfg now (reqs.map asSingle) c idx).map (fun i : Nat => Val.int i) := by
  induction reqs with
  | nil =>
    intro idx c t _
    exact ⟨t, loop_nil cfg now false idx c t, by simp [seqFailures]⟩
  | cons r rest ih =>
    obtain ⟨hp1, hpr⟩ := plain_cons hp
    obtain ⟨hv1, hvr⟩ := precheck_cons hv
    intro idx c t hw
    obtain ⟨h1, hf⟩ := one_single cfg now c idx hp1 hv1
    rw [loop_cons] at hw ⊢
    simp only [List.map_cons, seqOps_cons, seqFailures]
    cases hb : bulkOne cfg now c idx r with
    | mk c' o =>
      rw [hb] at hw h1 hf
      simp only at h1
      subst h1
      cases o with
      | ok f =>
        obtain ⟨t', h1, h2⟩ := ih hpr hvr (idx + 1) _ (f t) hw
        refine ⟨t', h1, ?_⟩
        rw [h2, ok_errors (one_ok cfg now c _ idx r f hb) t, ← hf]
        rfl
      | writeErr e =>
        simp only [Bool.false_eq_true, if_false] at hw ⊢
        obtain ⟨t', h1, h2⟩ := ih hpr hvr (idx + 1) _ _ hw
        refine ⟨t', h1, ?_⟩
        rw [h2, ← hf]
        simp [errorIndex_entry, requestFailed]
      | abort e => exact absurd rfl (hw e)

/-- ordered: either everything succeeded, or the loop stopped at the first request that fails in
    the one-at-a-time run, in the state that request's executor left -/
theorem loop_ordered (cfg : Cfg) (now : Int) (reqs : List Val)
    (hp : reqs.all plainRequest = true) (hv : bulkPrecheck reqs = .ok ()) :
    ∀ (idx : Nat) (c : Coll) (t : BulkTotals), t.errors = [] →
      (∃ t' : BulkTotals, bulkLoop cfg now true reqs idx c t =
          (seqOps cfg now (reqs.map asSingle) c, .val t'.toVal) ∧
        seqAllOk cfg now (reqs.map asSingle) c = true) ∨
      (∃ pre r post, reqs = pre ++ r :: post ∧ seqAllOk cfg now (pre.map asSingle) c = true ∧
        (stepColl cfg now (seqOps cfg now (pre.map asSingle) c) (asSingle r)).2.isErr = true ∧
        (bulkLoop cfg now true reqs idx c t).1 =
          (stepColl cfg now (seqOps cfg now (pre.map asSingle) c) (asSingle r)).1 ∧
        (∃ o, bulkOne cfg now (seqOps cfg now (pre.map asSingle) c) (idx + pre.length) r =
            ((bulkLoop cfg now true reqs idx c t).1, o) ∧ requestFailed o = true) ∧
        ((∃ e, (bulkLoop cfg now true reqs idx c t).2 = .err e) ∨
         ∃ t' : BulkTotals, (bulkLoop cfg now true reqs idx c t).2 = .bulkErr t'.toVal ∧
           t'.errors.map errorIndex = [Val.int ((idx + pre.length : Nat) : Int)])) := by
  induction reqs with
  | nil =>
    intro idx c t ht
    left
    refine ⟨t, ?_, rfl⟩
    rw [loop_nil, ht]; rfl
  | cons r rest ih =>
    obtain ⟨hp1, hpr⟩ := plain_cons hp
    obtain ⟨hv1, hvr⟩ := precheck_cons hv
    intro idx c t ht
    obtain ⟨h1, hf⟩ := one_single cfg now c idx hp1 hv1
    rw [loop_cons]
    cases hb : bulkOne cfg now c idx r with
    | mk c' o =>
      rw [hb] at h1 hf
      simp only at h1
      cases o with
      | ok f =>
        have hf' : (stepColl cfg now c (asSingle r)).2.isErr = false := hf.symm
        have hft : (f t).errors = [] := by
          rw [ok_errors (one_ok cfg now c c' idx r f hb) t]; exact ht
        simp only
        rcases ih hpr hvr (idx + 1) c' (f t) hft with ⟨t', h2, h3⟩ | ⟨pre, r', post, h2, h3, h4, h5, h6, h7⟩
        · left
          refine ⟨t', ?_, ?_⟩
          · rw [h2, List.map_cons, seqOps_cons, ← h1]
          · rw [List.map_cons, seqAllOk, hf', ← h1, h3]; rfl
        · right
          refine ⟨r :: pre, r', post, by rw [h2]; rfl, ?_, ?_, ?_, ?_, ?_⟩
          · rw [List.map_cons, seqAllOk, hf', ← h1, h3]; rfl
          · rw [List.map_cons, seqOps_cons, ← h1]; exact h4
          · rw [List.map_cons, seqOps_cons, ← h1]; exact h5
          · rw [List.map_cons, seqOps_cons, ← h1, List.length_cons,
              show idx + (pre.length + 1) = idx + 1 + pre.length by omega]
            exact h6
          · rw [List.length_cons, show idx + (pre.length + 1) = idx + 1 + pre.length by omega]
            exact h7
      | writeErr e =>
        right
        refine ⟨[], r, rest, rfl, rfl, hf.symm, h1, ⟨_, hb, rfl⟩, .inr ⟨_, rfl, ?_⟩⟩
        simp [ht, errorIndex_entry]
      | abort e =>
        right
        exact ⟨[], r, rest, rfl, rfl, hf.symm, h1, ⟨_, hb, rfl⟩, .inl ⟨e, rfl⟩⟩

/-- an ordered loop started without errors reports exactly the error it stopped at -/
theorem loop_details (cfg : Cfg) (now : Int) (reqs : List Val) :
    ∀ (idx : Nat) (c : Coll) (t : BulkTotals) (details : Val), t.errors = [] →
      (bulkLoop cfg now true reqs idx c t).2 = .bulkErr details →
      ∃ (k : Nat) (code : Val) (t' : BulkTotals), idx ≤ k ∧ k < idx + reqs.length ∧
        t'.errors = [.doc [("index", .int k), ("code", code)]] ∧ details = t'.toVal := by
  induction reqs with
  | nil =>
    intro idx c t details ht h
    rw [loop_nil, ht] at h; cases h
  | cons r rest ih =>
    intro idx c t details ht h
    rw [loop_cons] at h
    cases hb : bulkOne cfg now c idx r with
    | mk c' o =>
      rw [hb] at h
      cases o with
      | ok f =>
        have hf : (f t).errors = [] := by
          rw [ok_errors (one_ok cfg now c c' idx r f hb) t]; exact ht
        obtain ⟨k, code, t', h1, h2, h3, h4⟩ := ih (idx + 1) c' (f t) details hf h
        exact ⟨k, code, t', by omega, by simp only [List.length_cons]; omega, h3, h4⟩
      | writeErr e =>
        simp only [if_true, Out.bulkErr.injEq] at h
        refine ⟨idx, errCode e, _, Nat.le_refl _, by simp, ?_, h.symm⟩
        simp [ht, errEntry]
      | abort e => cases h

theorem bulkWrite_loop (cfg : Cfg) (now : Int) (c : Coll) (reqs : List Val) (ordered : Bool)
    (hv : bulkPrecheck reqs = .ok ()) (hne : reqs ≠ []) :
    bulkWrite cfg now c reqs ordered = bulkLoop cfg now ordered reqs 0 c {} := by
  unfold bulkWrite
  rw [hv]
  cases reqs with
  | nil => exact absurd rfl hne
  | cons r rest => rfl

end MongoModel.Proofs.C15Lemmas

namespace MongoModel.Proofs.C15
open MongoModel MongoModel.Spec MongoModel.Proofs.C15Lemmas

theorem never_empty (cfg : Cfg) (now : Int) (c : Coll) (ordered : Bool) :
    bulkWrite cfg now c [] ordered = (c, .err .invalidOp) := by rfl

theorem unordered_eq_seq (cfg : Cfg) (now : Int) (c : Coll) (reqs : List Val)
    (hp : reqs.all plainRequest = true) (hv : bulkPrecheck reqs = .ok ())
    (hne : reqs ≠ [])
    (hw : ∀ e, (bulkWrite cfg now c reqs false).2 ≠ .err e) :
    (bulkWrite cfg now c reqs false).1 = seqOps cfg now (reqs.map asSingle) c := by
  rw [bulkWrite_loop cfg now c reqs false hv hne] at hw ⊢
  obtain ⟨t', h, _⟩ := loop_unordered cfg now reqs hp hv 0 c {} hw
  rw [h]

theorem ordered_eq_seq_prefix (cfg : Cfg) (now : Int) (c : Coll) (reqs : List Val)
    (hp : reqs.all plainRequest = true) (hv : bulkPrecheck reqs = .ok ()) (hne : reqs ≠ []) :
    ∃ k, k ≤ reqs.length ∧
      (bulkWrite cfg now c reqs true).1 = seqOps cfg now ((reqs.take k).map asSingle) c ∧
      ((bulkWrite cfg now c reqs true).2.isErr = false → k = reqs.length) := by
  rw [bulkWrite_loop cfg now c reqs true hv hne]
  rcases loop_ordered cfg now reqs hp hv 0 c {} rfl with
    ⟨t', h1, _⟩ | ⟨pre, r, post, rfl, _, _, h4, _, h7⟩
  · exact ⟨reqs.length, Nat.le_refl _, by rw [h1, List.take_length], fun _ => rfl⟩
  · -- stopped at `r`: the prefix is `pre ++ [r]`
    refine ⟨pre.length + 1, by simp, ?_, ?_⟩
    · rw [h4, List.take_length_add_append, List.map_append, seqOps_append]
      rfl
    · intro h
      rcases h7 with ⟨e, h7⟩ | ⟨t', h7, _⟩ <;> rw [h7] at h <;> cases h

theorem ordered_error_details (cfg : Cfg) (now : Int) (c : Coll) (reqs : List Val) (details : Val)
    (h : (bulkWrite cfg now c reqs true).2 = .bulkErr details) :
    ∃ k code rest, k < reqs.length ∧
      dget "writeErrors" (match details with | .doc fs => fs | _ => []) =
        some (.arr [.doc [("index", .int k), ("code", code)]]) ∧ details = .doc rest := by
  unfold bulkWrite at h
  split at h
  · cases h
  · split at h
    · cases h
    · obtain ⟨k, code, t', _, h2, h3, h4⟩ := loop_details cfg now reqs 0 c {} details rfl h
      refine ⟨k, code, _, by omega, ?_, h4⟩
      subst h4
      simp [BulkTotals.toVal, dget, h3]

theorem counts_are_sums (cfg : Cfg) (now : Int) (ordered : Bool) (reqs : List Val) (idx : Nat)
    (c : Coll) (t : BulkTotals) (r : Val) (c' : Coll) (f : BulkTotals → BulkTotals)
    (h1 : bulkOne cfg now c idx r = (c', .ok f)) :
    bulkLoop cfg now ordered (r :: reqs) idx c t = bulkLoop cfg now ordered reqs (idx + 1) c' (f t) ∧
    (f t).nInserted + (f t).nMatched + (f t).nRemoved + (f t).nUpserted
      ≥ t.nInserted + t.nMatched + t.nRemoved + t.nUpserted ∧
    (f t).errors = t.errors := by
  have hk := one_ok cfg now c c' idx r f h1
  refine ⟨?_, ok_counts hk t, ok_errors hk t⟩
  rw [loop_cons, h1]

theorem upserted_ids_by_op_index (cfg : Cfg) (now : Int) (c c' : Coll) (idx : Nat) (r : Val)
    (f : BulkTotals → BulkTotals) (t : BulkTotals)
    (h : bulkOne cfg now c idx r = (c', .ok f)) :
    (f t).upserted = t.upserted ∨
    ∃ id, (f t).upserted = t.upserted ++ [.doc [("index", .int idx), ("_id", id)]] :=
  ok_upserted (one_ok cfg now c c' idx r f h) t

end MongoModel.Proofs.C15
