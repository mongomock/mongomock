/-
  Proofs.C02Validate — `_validate_update_operators` (`MongoModel.validateOps`): its verdict as a
  function of the keys of the update document, which the datetime normalisation of the update
  (made before the precheck) leaves alone.
-/
import MongoModel.Store
import Proofs.C18

namespace MongoModel.Proofs.C02Lemmas
open MongoModel

/-- behind the first position the walk passes exactly the lists of known operators -/
theorem validateOpsFrom_false (whole : Fields) : ∀ u : Fields,
    validateOpsFrom whole u false =
      if (dkeys u).all knownOperator then .ok () else .error .valueErr
  | [] => rfl
  | (k, v) :: r => by
    unfold validateOpsFrom
    rw [validateOpsFrom_false whole r]
    show _ = if (knownOperator k && (dkeys r).all knownOperator) = true then _ else _
    cases knownOperator k <;> rfl

/-- **the verdict of `_validate_update_operators`**: with a known operator first, every key must
    be one; with another key first, no key may start with `$` (a replacement document) -/
theorem validateOps_cons (k : String) (v : Val) (r : Fields) :
    validateOps ((k, v) :: r) =
      if knownOperator k then
        (if r.all (fun kv => knownOperator kv.1) then .ok () else .error .valueErr)
      else if ((k, v) :: r).any (fun kv => kv.1.startsWith "$") then .error .valueErr
      else .ok () := by
  unfold validateOps validateOpsFrom
  rw [validateOpsFrom_false, dkeys, List.all_map]
  rfl

/-- the walk only looks at keys -/
theorem validateOps_keys : ∀ (u u' : Fields), dkeys u = dkeys u' → validateOps u = validateOps u'
  | [], [], _ => rfl
  | (k, v) :: r, (k', v') :: r', h => by
    have e1 : ∀ l : Fields, l.all (fun kv => knownOperator kv.1) = (dkeys l).all knownOperator :=
      fun l => (List.all_map (f := Prod.fst) (p := knownOperator) (l := l)).symm
    have e2 : ∀ l : Fields, l.any (fun kv => kv.1.startsWith "$") =
        (dkeys l).any (·.startsWith "$") :=
      fun l => (List.any_map (f := Prod.fst) (p := (·.startsWith "$")) (l := l)).symm
    obtain ⟨hk, hr⟩ : k = k' ∧ dkeys r = dkeys r' := List.cons.inj h
    rw [validateOps_cons, validateOps_cons, e1, e1, e2, e2, h, hk, hr]

theorem validateOps_patch (u : Fields) : validateOps (patchFields u) = validateOps u :=
  validateOps_keys _ _ (MongoModel.Proofs.C18.dkeys_patchFields u)

end MongoModel.Proofs.C02Lemmas
