/-
  Proofs.C09Ops — every data operation starts by expiring: running it on `c` or on
  `expire now c` gives the same outcome and the same collection up to a further expiry pass.
-/
import Proofs.C09Expire
import Proofs.StepShape

namespace MongoModel.Proofs.C09Lemmas
open MongoModel MongoModel.Spec MongoModel.Proofs.Shape

/-- same outcome, same collection as far as a later pass at that clock can tell -/
def Rel (now : Int) (x y : Coll × Out) : Prop :=
  x.2 = y.2 ∧ expire now x.1 = expire now y.1

/-- results of the store entry points: identical, or the same early error with the input
    collection returned untouched -/
def Agree {α : Type} (c c' : Coll) (x y : Coll × R α) : Prop :=
  x = y ∨ ∃ e, x = (c, .error e) ∧ y = (c', .error e)

section
variable {now : Int} {c c' : Coll}

theorem rel_base (h : expire now c = .ok c') (o : Out) : Rel now (c, o) (c', o) :=
  ⟨rfl, by rw [h, expire_idem now c c' h]⟩

theorem rel_of_agree {α : Type} (h : expire now c = .ok c') (g : R α → Out) {x y : Coll × R α}
    (hA : Agree c c' x y) : Rel now (x.1, g x.2) (y.1, g y.2) := by
  rcases hA with rfl | ⟨e, rfl, rfl⟩
  · exact ⟨rfl, rfl⟩
  · exact rel_base h _

theorem iter_eq (h : expire now c = .ok c') (f : Val) :
    iterDocuments now c f = iterDocuments now c' f := by
  unfold iterDocuments
  rw [h, expire_idem now c c' h]

theorem iter_fst {c1 : Coll} {f : Val} {ms : List Val}
    (h : iterDocuments now c f = .ok (c1, ms)) : expire now c = .ok c1 := by
  unfold iterDocuments at h
  cases h1 : expire now c with
  | error e => rw [h1] at h; cases h
  | ok ca =>
    simp only [h1, expire_idem now c ca h1, bind, Except.bind, pure, Except.pure] at h
    split at h
    · split at h
      · cases h
      · split at h <;> cases h; rfl
    · split at h <;> cases h; rfl

theorem find_agree (h : expire now c = .ok c') (f : Val) :
    Agree c c' (findColl now c f) (findColl now c' f) := by
  unfold findColl
  split
  · rw [iter_eq h]
    generalize iterDocuments now c' _ = r
    cases r with
    | error e => exact .inr ⟨e, rfl, rfl⟩
    | ok r => exact .inl rfl
  · exact .inr ⟨_, rfl, rfl⟩

theorem delete_agree (h : expire now c = .ok c') (f : Val) (multi : Bool) :
    Agree c c' (deleteColl now c f multi) (deleteColl now c' f multi) := by
  unfold deleteColl
  simp only []
  split
  · rw [iter_eq h]
    generalize iterDocuments now c' _ = r
    cases r with
    | error e => exact .inr ⟨e, rfl, rfl⟩
    | ok r => exact .inl rfl
  · exact .inr ⟨_, rfl, rfl⟩

theorem count_agree (h : expire now c = .ok c') (f : Val) (skip : Int) (limit : Option Val) :
    Agree c c' (countColl now c f skip limit) (countColl now c' f skip limit) := by
  unfold countColl
  simp only []
  split
  · exact .inr ⟨_, rfl, rfl⟩
  · rw [iter_eq h]
    generalize iterDocuments now c' _ = r
    cases r with
    | error e => exact .inr ⟨e, rfl, rfl⟩
    | ok r => exact .inl rfl

theorem distinct_agree (h : expire now c = .ok c') (key : String) (f : Val) :
    Agree c c' (distinctColl now c key f) (distinctColl now c' key f) := by
  unfold distinctColl
  rcases find_agree h f with he | ⟨e, h1, h2⟩
  · rw [he]; exact .inl rfl
  · rw [h1, h2]; exact .inr ⟨e, rfl, rfl⟩

-- An insert reads the collection only through `expire`, after bumping `nextOid` when it generates
-- the `_id`; `expire_nextOid` carries the bump through the pass.  This is the whole proof of
-- `insertDoc_eq`, `insertStored_eq` and `insErrState_eq`.
theorem insertDoc_eq (h : expire now c = .ok c') (d : Val) :
    insertDoc now c d = insertDoc now c' d := by
  have hi := expire_idem now c c' h
  have hn : c'.nextOid = c.nextOid := (expire_ok now c c' h).2.2.2.2
  cases d with
  | doc fs =>
    unfold insertDoc
    cases hid : dhas "_id" fs
    · simp only [hid, Bool.false_eq_true, if_false]
      rw [hn, expire_nextOid now c c' _ h, expire_nextOid now c' c' _ hi]
    · simp only [hid, if_true]
      rw [h, hi]
  | _ => rfl

theorem insertStored_eq (h : expire now c = .ok c') (d : Val) :
    insertStored now c d = insertStored now c' d := by
  have hi := expire_idem now c c' h
  have hn : c'.nextOid = c.nextOid := (expire_ok now c c' h).2.2.2.2
  cases d with
  | doc fs =>
    unfold insertStored
    cases hid : dhas "_id" fs
    · simp only [hid, Bool.false_eq_true, if_false]
      rw [hn, expire_nextOid now c c' _ h, expire_nextOid now c' c' _ hi]
    · simp only [hid, if_true]
      rw [h, hi]
  | _ => rfl

theorem insErrState_eq (h : expire now c = .ok c') (d : Val) :
    insErrState now c d = insErrState now c' d := by
  have hi := expire_idem now c c' h
  have hn : c'.nextOid = c.nextOid := (expire_ok now c c' h).2.2.2.2
  unfold insErrState insertRejected
  rw [insertStored_eq h d]
  congr 1
  cases d with
  | doc fs =>
    cases hid : dhas "_id" fs
    · simp only [hid, Bool.false_eq_true, if_false]
      rw [hn, expire_nextOid now c c' _ h, expire_nextOid now c' c' _ hi]
    · simp only [hid, if_true]
      rw [h, hi]
  | _ =>
    simp only []
    rw [h, hi]

theorem insertManyLoop_eq (h : expire now c = .ok c') (ordered : Bool) (d : Val)
    (rest : List Val) (idx : Nat) (ids errs : List Val) (n : Nat) :
    insertManyLoop now ordered (d :: rest) idx c ids errs n =
      insertManyLoop now ordered (d :: rest) idx c' ids errs n := by
  rw [insertManyLoop_cons, insertManyLoop_cons, insertDoc_eq h, insErrState_eq h]

theorem update_agree (h : expire now c = .ok c') (cfg : Cfg) (f u : Val) (upsert multi : Bool) :
    Agree c c' (applyUpdateColl cfg now c f u upsert multi)
      (applyUpdateColl cfg now c' f u upsert multi) := by
  unfold applyUpdateColl
  simp only []
  split
  · split
    · exact .inr ⟨_, rfl, rfl⟩
    · rw [h, expire_idem now c c' h]
      split
      · exact .inr ⟨_, rfl, rfl⟩
      · exact .inl rfl
  · exact .inr ⟨_, rfl, rfl⟩

theorem data_rel (h : expire now c = .ok c') (cfg : Cfg) {op : Val} (hs : DataShape op) :
    Rel now (stepColl cfg now c op) (stepColl cfg now c' op) := by
  cases hs with
  | insertOne d =>
    simp only [step_insert_one]
    cases d with
    | doc fs =>
      simp only []
      rw [insertDoc_eq h, insErrState_eq h]
      exact ⟨rfl, rfl⟩
    | _ => exact rel_base h _
  | insertMany ds ordered =>
    simp only [step_insert_many]
    cases ds with
    | nil => exact rel_base h _
    | cons d rest =>
      simp only [List.isEmpty_cons, Bool.false_eq_true, if_false]
      split
      · exact rel_base h _
      · rw [insertManyLoop_eq h]
        exact ⟨rfl, rfl⟩
  | updateOne f u up =>
    simp only [step_update_one]
    split
    · exact rel_base h _
    · exact rel_of_agree h outUpd (update_agree h cfg f u _ _)
  | updateMany f u up =>
    simp only [step_update_many]
    split
    · exact rel_base h _
    · exact rel_of_agree h outUpd (update_agree h cfg f u _ _)
  | replaceOne f u up =>
    simp only [step_replace_one]
    split
    · exact rel_base h _
    · exact rel_of_agree h outUpd (update_agree h cfg f u _ _)
  | deleteOne f => simp only [step_delete_one]; exact rel_of_agree h outNat (delete_agree h f _)
  | deleteMany f => simp only [step_delete_many]; exact rel_of_agree h outNat (delete_agree h f _)
  | find f => simp only [step_find]; exact rel_of_agree h outArr (find_agree h f)
  | count f skip limit =>
    simp only [step_count]; exact rel_of_agree h outInt (count_agree h f skip _)
  | distinct key f =>
    simp only [step_distinct]; exact rel_of_agree h outArr (distinct_agree h key f)

theorem step_rel (h : expire now c = .ok c') (cfg : Cfg) (op : Val) (hop : dataOp op = true) :
    Rel now (stepColl cfg now c op) (stepColl cfg now c' op) := by
  rcases stepColl_cases op with hs | hs | hu
  · exact data_rel h cfg hs
  · cases hs <;> cases hop
  · rw [hu, hu]; exact rel_base h _

end

end MongoModel.Proofs.C09Lemmas
