/-
  Proofs.C12Exact — the two walks are the rule: for a tree that represents the paths `ps`, the
  aggregate-path functions compute `inclFields` / `exclFields` of `ps`, and the find-path
  functions, once no path has a `$` component, answer what the aggregate-path functions compute.
-/
import Proofs.C12Combine

namespace MongoModel.Proofs.C12
open MongoModel MongoModel.Spec.Proj

/-- no path uses the positional component `$` -/
def NoDollar (ps : List Path) : Prop := ∀ p ∈ ps, "$" ∉ p

theorem mem_tailsOf {k : String} {t : List String} {ps : List Path} :
    t ∈ tailsOf k ps ↔ k :: t ∈ ps := by
  simp only [tailsOf, List.mem_filterMap]
  constructor
  · rintro ⟨p, hm, h⟩
    cases p with
    | nil => simp at h
    | cons h' t' =>
      simp only at h
      split at h
      · next e => cases h; subst e; exact hm
      · cases h
  · intro hm
    exact ⟨k :: t, hm, by simp⟩

theorem noDollar_tailsOf {ps : List Path} (k : String) (h : NoDollar ps) :
    NoDollar (tailsOf k ps) := by
  intro t ht hd
  exact h _ (mem_tailsOf.mp ht) (List.mem_cons_of_mem _ hd)

theorem guard_ok {cs : PSpec} {ps : List Path} (hr : Rep cs ps) (hd : NoDollar ps) (incl : Bool) :
    positionalGuard cs incl = .ok () := by
  have hno : ∀ t, t ∉ tailsOf "$" ps := fun t ht => hd _ (mem_tailsOf.mp ht) (by simp)
  have h := hr.at "$"
  rcases ht : tget "$" cs with _ | ⟨_ | _⟩ <;> rw [ht] at h
  · simp [positionalGuard, thas, ht]
  · exact absurd h (hno _)
  · obtain ⟨t, ht⟩ := List.exists_mem_of_ne_nil _ h.2.1
    exact absurd ht (hno t)

/-- **the aggregate-path walk is the rule**, inclusion and exclusion at once -/
theorem ap_rule :
    (∀ v cs ps, Rep cs ps →
      apVal v cs true = inclVal v ps ∧ apVal v cs false = some (exclVal v ps)) ∧
    (∀ fs cs ps, Rep cs ps →
      apFields fs cs true = inclFields fs ps ∧ apFields fs cs false = exclFields fs ps) ∧
    ∀ xs cs ps, Rep cs ps →
      apList xs cs true = inclList xs ps ∧ apList xs cs false = exclList xs ps := by
  refine walk_ind ?_ ?_ ?_ ?_ ?_ ?_ ?_
  · intro fs ih cs ps hr
    simp only [apVal, inclVal, exclVal, ih cs ps hr, and_self]
  · intro xs ih cs ps hr
    simp only [apVal, inclVal, exclVal, ih cs ps hr, and_self]
  · intro v hd ha cs ps hr
    cases v <;> first | contradiction | exact ⟨rfl, rfl⟩
  · exact fun _ _ _ => ⟨rfl, rfl⟩
  · intro k v rest hv hrest cs ps hr
    have h := hr.at k
    simp only [apFields_cons, inclFields, exclFields, hrest cs ps hr]
    rcases ht : tget k cs with _ | ⟨_ | sub⟩ <;> rw [ht] at h
    · simp [apField, keepField, h]
    · have hne : tailsOf k ps ≠ [] := List.ne_nil_of_mem h
      simp [apField, keepField, h, hne]
    · obtain ⟨h1, h2, h3⟩ := h
      simp only [apField, hv sub _ h3, List.isEmpty_iff, h2, List.contains_iff_mem, h1, if_false]
      exact ⟨by cases inclVal v (tailsOf k ps) <;> rfl, rfl⟩
  · exact fun _ _ _ => ⟨rfl, rfl⟩
  · intro x xs hx hxs cs ps hr
    simp only [apList, inclList, exclList, hx cs ps hr, hxs cs ps hr]
    exact ⟨rfl, trivial⟩

theorem apList_incl : ∀ (xs : List Val) (cs : PSpec) (ps : List Path), Rep cs ps →
    apList xs cs true = inclList xs ps :=
  fun xs cs ps hr => (ap_rule.2.2 xs cs ps hr).1

theorem apList_excl : ∀ (xs : List Val) (cs : PSpec) (ps : List Path), Rep cs ps →
    apList xs cs false = exclList xs ps :=
  fun xs cs ps hr => (ap_rule.2.2 xs cs ps hr).2

/-- **the find-path walk is the aggregate-path walk** wherever the positional guard passes -/
theorem fp_eq_ap (incl : Bool) :
    (∀ v cs ps, Rep cs ps → NoDollar ps → fpVal v cs incl = .ok (apVal v cs incl)) ∧
    (∀ fs cs ps, Rep cs ps → NoDollar ps → fpFields fs cs incl = .ok (apFields fs cs incl)) ∧
    ∀ xs cs ps, Rep cs ps → NoDollar ps → fpList xs cs incl = .ok (apList xs cs incl) := by
  refine walk_ind ?_ ?_ ?_ ?_ ?_ ?_ ?_
  · intro fs ih cs ps hr hd
    simp only [fpVal, ih cs ps hr hd]; rfl
  · intro xs ih cs ps hr hd
    simp only [fpVal, ih cs ps hr hd]; rfl
  · intro v hd ha cs ps _ _
    rw [fpVal_leaf hd ha, apVal_leaf hd ha]
  · exact fun _ _ _ _ => rfl
  · intro k v rest hv hrest cs ps hr hd
    have h := hr.at k
    have hf : fpField incl v (tget k cs) = .ok (apField incl v (tget k cs)) := by
      rcases ht : tget k cs with _ | ⟨_ | sub⟩ <;> rw [ht] at h
      · rfl
      · rfl
      · have hd' := noDollar_tailsOf k hd
        simp only [fpField, guard_ok h.2.2 hd', hv sub _ h.2.2 hd']
        split <;> rfl
    rw [fpFields_cons, hf, hrest cs ps hr hd, apFields_cons]; rfl
  · exact fun _ _ _ _ => rfl
  · intro x xs hx hxs cs ps hr hd
    simp only [fpList, hx cs ps hr hd, hxs cs ps hr hd, apList]
    cases apVal x cs incl <;> rfl

theorem fpFields_incl (fs : Fields) (cs : PSpec) (ps : List Path) (hr : Rep cs ps)
    (hd : NoDollar ps) : fpFields fs cs true = .ok (inclFields fs ps) := by
  rw [(fp_eq_ap true).2.1 fs cs ps hr hd, (ap_rule.2.1 fs cs ps hr).1]

theorem fpFields_excl (fs : Fields) (cs : PSpec) (ps : List Path) (hr : Rep cs ps)
    (hd : NoDollar ps) : fpFields fs cs false = .ok (exclFields fs ps) := by
  rw [(fp_eq_ap false).2.1 fs cs ps hr hd, (ap_rule.2.1 fs cs ps hr).2]

theorem fpList_incl : ∀ (xs : List Val) (cs : PSpec) (ps : List Path), Rep cs ps → NoDollar ps →
    fpList xs cs true = .ok (inclList xs ps) := by
  intro xs cs ps hr hd
  rw [(fp_eq_ap true).2.2 xs cs ps hr hd, apList_incl xs cs ps hr]

theorem fpList_excl : ∀ (xs : List Val) (cs : PSpec) (ps : List Path), Rep cs ps → NoDollar ps →
    fpList xs cs false = .ok (exclList xs ps) := by
  intro xs cs ps hr hd
  rw [(fp_eq_ap false).2.2 xs cs ps hr hd, apList_excl xs cs ps hr]

end MongoModel.Proofs.C12
