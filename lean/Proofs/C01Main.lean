/-
  Proofs.C01Main — the main theorem of C01: on D the matcher and the oracle agree.
-/
import Proofs.C01Cond

namespace MongoModel.Proofs.C01Lemmas
open MongoModel MongoModel.Spec

theorem allMatch_conj (qs : List Val) (d : Val) (bs : List Bool)
    (h : qs.map (matchVal · d) = bs.map .ok) : allMatch qs d = .ok (bs.all id) := by
  induction qs generalizing bs with
  | nil => cases bs <;> simp_all [allMatch]
  | cons q qs ih =>
    obtain ⟨b, bs, rfl, h1, h2⟩ := map_ok_cons h
    rw [allMatch, h1, ih bs h2]
    rfl

theorem anyMatch_disj (qs : List Val) (d : Val) (bs : List Bool)
    (h : qs.map (matchVal · d) = bs.map .ok) : anyMatch qs d = .ok (bs.any id) := by
  induction qs generalizing bs with
  | nil => cases bs <;> simp_all [anyMatch]
  | cons q qs ih =>
    obtain ⟨b, bs, rfl, h1, h2⟩ := map_ok_cons h
    rw [anyMatch, h1, ih bs h2]
    rfl

/-- the statement proved by induction on the filter -/
def Agree (nb : Bool) (d : Val) (f : Val) : Prop :=
  Clean nb f → valReasons f d = [] → ∃ b, applyVal f d = .ok b ∧ matchVal f d = .ok b

theorem list_agree (nb : Bool) (d : Val) (qs : List Val) (ih : ∀ q, q ∈ qs → Agree nb d q)
    (hc : ∀ q, q ∈ qs → Clean nb q) (hr : listReasons qs d = []) :
    ∃ bs : List Bool, qs.map (applyVal · d) = bs.map .ok ∧ qs.map (matchVal · d) = bs.map .ok := by
  induction qs with
  | nil => exact ⟨[], rfl, rfl⟩
  | cons q qs ih2 =>
    simp only [listReasons, List.append_eq_nil_iff] at hr
    obtain ⟨b, h1, h2⟩ := ih q (by simp) (hc q (by simp)) hr.1
    obtain ⟨bs, h3, h4⟩ := ih2 (fun q hm => ih q (by simp [hm])) (fun q hm => hc q (by simp [hm])) hr.2
    exact ⟨b :: bs, by simp [h1, h3], by simp [h2, h4]⟩

theorem keyOk_ne_empty {key : String} (h : keyOk key = true) : key ≠ "" := by
  intro e; subst e; revert h; decide

/-! The head item of a filter, as non-recursive functions: `headReasons`, `matchHead` and
`applyHead` are what `fieldsReasons` (Spec/MatchDomain.lean), `matchFields` (Spec/Match.lean) and
`applyFields` (MongoModel/Filter.lean) do with the first field of a filter; the `_cons` lemmas say
so. -/

def headReasons (key : String) (c : Val) (d : Val) : List String :=
  if key = "$comment" then []
  else if key = "$and" || key = "$or" || key = "$nor" then
    (match c with
    | .arr (q :: qs) => listReasons (q :: qs) d
    | _ => ["malformed"])
  else if key.startsWith "$" then ["malformed"]
  else
    (match cands (splitDots key) d with
    | .ok _ => []
    | .error _ => ["badkey"]) ++ condReasons c (reach (splitDots key) d)

theorem fieldsReasons_cons (key : String) (c : Val) (rest : Fields) (d : Val) :
    fieldsReasons ((key, c) :: rest) d = headReasons key c d ++ fieldsReasons rest d := by
  unfold headReasons
  conv => lhs; unfold fieldsReasons
  congr 1

def matchHead (key : String) (c : Val) (d : Val) : R Bool :=
  if key = "$comment" then pure true
  else if key = "$and" then (match c with
    | .arr (q :: qs) => allMatch (q :: qs) d
    | _ => .error .opFail)
  else if key = "$or" then (match c with
    | .arr (q :: qs) => anyMatch (q :: qs) d
    | _ => .error .opFail)
  else if key = "$nor" then (match c with
    | .arr (q :: qs) => (anyMatch (q :: qs) d).map (!·)
    | _ => .error .opFail)
  else if key = "$expr" then unmodelled
  else if key.startsWith "$" then .error .opFail
  else condHolds c (reach (splitDots key) d)

theorem matchFields_cons (key : String) (c : Val) (rest : Fields) (d : Val) :
    matchFields ((key, c) :: rest) d = (do
      let here ← matchHead key c d
      let more ← matchFields rest d
      pure (here && more)) := by
  cases c with
  | arr xs => cases xs <;> rfl
  | _ => rfl

def applyHead (key : String) (search : Val) (d : Val) : R Bool :=
  if key = "$comment" then .ok true
  else if logicalKeys.contains key && key != "$not" then
    if !search.truthy then .error .opFail
    else (match search with
      | .arr qs =>
        if key = "$or" then anyApply qs d
        else if key = "$and" then allApply qs d
        else norApply qs d
      | .doc _ | .str _ => .error .opFail
      | _ => .error .typeErr)
  else if key = "$expr" then Expr.exprFilter search d
  else if topLevelOperators.contains key then .error .notImpl
  else if key.startsWith "$" then .error .opFail
  else applyKey search key d

theorem ite_bind {α β} (c : Prop) [Decidable c] (a b : R α) (k : α → R β) :
    (if c then a else b) >>= k = if c then a >>= k else b >>= k := by
  split <;> rfl

theorem applyFields_cons (key : String) (c : Val) (rest : Fields) (d : Val) :
    applyFields ((key, c) :: rest) d = (do
      let ok ← applyHead key c d
      if ok then applyFields rest d else pure false) := by
  unfold applyHead
  simp only [ite_bind]
  cases c <;> exact rfl

/-- a key without `$` is none of the keys `apply` treats specially -/
theorem plain_key {key : String} (hk : key.startsWith "$" = false) :
    key ≠ "$comment" ∧ key ≠ "$and" ∧ key ≠ "$or" ∧ key ≠ "$nor" ∧ key ≠ "$not" ∧
      key ≠ "$expr" ∧ key ∉ topLevelOperators := by
  have n (lit : String) (hl : lit.startsWith "$" = true) : key ≠ lit := ne_of_not_dollar hk hl
  refine ⟨n _ (by decide +kernel), n _ (by decide +kernel), n _ (by decide +kernel),
    n _ (by decide +kernel), n _ (by decide +kernel), n _ (by decide +kernel), ?_⟩
  simp [topLevelOperators, n _ (show "$text".startsWith "$" = true by decide +kernel),
    n _ (show "$where".startsWith "$" = true by decide +kernel),
    n _ (show "$jsonSchema".startsWith "$" = true by decide +kernel), n "$expr" (by decide +kernel)]

theorem applyHead_plain {key : String} (hk : key.startsWith "$" = false) (c d : Val) :
    applyHead key c d = applyKey c key d := by
  obtain ⟨n0, n1, n2, n3, n4, n5, ht⟩ := plain_key hk
  simp [applyHead, logicalKeys, n0, n1, n2, n3, n4, n5, ht, hk]

theorem matchHead_plain {key : String} (hk : key.startsWith "$" = false) (c d : Val) :
    matchHead key c d = condHolds c (reach (splitDots key) d) := by
  obtain ⟨n0, n1, n2, n3, _, n5, _⟩ := plain_key hk
  simp only [matchHead, n0, n1, n2, n3, n5, hk, ↓reduceIte, Bool.false_eq_true]

theorem logical_agree (nb : Bool) (d : Val) (key : String) (c : Val)
    (hk : key = "$and" ∨ key = "$or" ∨ key = "$nor")
    (ih : ∀ xs, c = .arr xs → ∀ q, q ∈ xs → Agree nb d q) (hcc : Clean nb c)
    (hr : (match c with
      | .arr (q :: qs) => listReasons (q :: qs) d
      | _ => ["malformed"]) = []) :
    ∃ b, applyHead key c d = .ok b ∧ matchHead key c d = .ok b := by
  match c, ih, hcc, hr with
  | .arr (q :: qs), ih, hcc, hr =>
    obtain ⟨bs, h1, h2⟩ := list_agree nb d (q :: qs) (ih _ rfl)
      (fun x hm => (hered_clean nb).arr _ x hcc hm) hr
    unfold applyHead matchHead
    rcases hk with rfl | rfl | rfl <;>
      simp only [String.reduceEq, ↓reduceIte, logicalKeys, List.contains_eq_mem, List.mem_cons,
        List.not_mem_nil, or_self, or_false, or_true, decide_true, String.reduceBNe, Bool.and_self,
        Val.truthy, List.isEmpty_cons, Bool.not_false, Bool.not_true, Bool.false_eq_true]
    · exact ⟨_, and_is_conj _ d bs h1, allMatch_conj _ d bs h2⟩
    · exact ⟨_, or_is_disj _ d bs h1, anyMatch_disj _ d bs h2⟩
    · exact ⟨_, nor_is_neg_disj _ d bs h1, by rw [anyMatch_disj _ d bs h2]; rfl⟩

theorem candsKey_of_keyOk {key : String} (d : Val) (_h : keyOk key = true) :
    candsKey key d = cands (splitDots key) d := rfl

theorem head_agree (nb : Bool) (d : Val) (hd : Clean nb d) (key : String) (c : Val)
    (ih : ∀ xs, c = .arr xs → ∀ q, q ∈ xs → Agree nb d q) (hcc : Clean nb c)
    (hr : headReasons key c d = []) :
    ∃ b, applyHead key c d = .ok b ∧ matchHead key c d = .ok b := by
  unfold headReasons at hr
  by_cases hcm : key = "$comment"
  · subst hcm; exact ⟨true, rfl, rfl⟩
  rw [if_neg hcm] at hr
  by_cases hl : (key = "$and" || key = "$or" || key = "$nor") = true
  · rw [if_pos hl] at hr
    exact logical_agree nb d key c (by simpa [or_assoc] using hl) ih hcc hr
  rw [if_neg hl] at hr
  by_cases hs : key.startsWith "$" = true
  · rw [if_pos hs] at hr; cases hr
  rw [if_neg hs] at hr
  have hs' : key.startsWith "$" = false := by simpa using hs
  obtain ⟨hr1, hr2⟩ := List.append_eq_nil_iff.mp hr
  have hck : candsKey key d = .ok (reach (splitDots key) d) := by
    cases hcd : cands (splitDots key) d with
    | error e => rw [hcd] at hr1; cases hr1
    | ok cs' => rw [← cands_eq_reach _ _ _ hcd]; exact hcd
  rw [applyHead_plain hs', matchHead_plain hs']
  exact cond_spec nb c key d _ hck hr2 hcc fun cnd hm v hv =>
    reach_hered (hered_clean nb) _ d hd v (hv ▸ hm)

theorem fields_agree (nb : Bool) (d : Val) (hd : Clean nb d) (fs : Fields)
    (ih : ∀ k v, (k, v) ∈ fs → ∀ xs, v = .arr xs → ∀ q, q ∈ xs → Agree nb d q)
    (hc : ∀ k v, (k, v) ∈ fs → Clean nb v)
    (hr : fieldsReasons fs d = []) :
    ∃ b, applyFields fs d = .ok b ∧ matchFields fs d = .ok b := by
  induction fs with
  | nil => exact ⟨true, by simp [applyFields], by simp [matchFields]⟩
  | cons kv rest ih2 =>
    obtain ⟨key, c⟩ := kv
    rw [fieldsReasons_cons] at hr
    simp only [List.append_eq_nil_iff] at hr
    obtain ⟨hr1, hr2⟩ := hr
    obtain ⟨br, hb1, hb2⟩ := ih2 (fun k v hm => ih k v (by simp [hm]))
      (fun k v hm => hc k v (by simp [hm])) hr2
    obtain ⟨b, hh1, hh2⟩ := head_agree nb d hd key c (ih key c (by simp)) (hc key c (by simp)) hr1
    refine ⟨b && br, ?_, ?_⟩
    · rw [applyFields_cons, hh1]
      cases b <;> simp [bind, Except.bind, hb1, pure, Except.pure]
    · rw [matchFields_cons, hh2, hb2]; rfl

theorem agree_all (nb : Bool) (d : Val) (hd : Clean nb d) : ∀ f, Agree nb d f := by
  have key : ∀ f, Agree nb d f ∧ (∀ xs, f = .arr xs → ∀ q, q ∈ xs → Agree nb d q) := by
    intro f
    induction f using Val.ind with
    | hdoc fs ih =>
      refine ⟨?_, by intro xs e; cases e⟩
      intro hc hr
      simp only [valReasons] at hr
      simp only [applyVal, matchVal]
      exact fields_agree nb d hd fs (fun k v hm => (ih k v hm).2)
        (fun k v hm => (hered_clean nb).doc fs k v hc hm) hr
    | harr xs ih =>
      refine ⟨by intro _ hr; simp [valReasons] at hr, ?_⟩
      intro ys e q hm
      cases e
      exact (ih q hm).1
    | _ => exact ⟨by intro _ hr; simp [valReasons] at hr, by intro xs e; cases e⟩
  exact fun f => (key f).1

theorem matches_eq_spec (f d : Val) (h : inD f d = true) :
    filterApplies f d = specMatches f d := by
  simp only [inD, reasons, List.isEmpty_iff, List.append_eq_nil_iff] at h
  obtain ⟨⟨hA, hB⟩, hV⟩ := h
  obtain ⟨hf, hd⟩ : hasAware f = false ∧ hasAware d = false := by
    simpa using not_of_ite_nil hB
  -- no boolean on either side, or no number equal to 0 or 1 on either side
  have main : ∃ b, applyVal f d = .ok b ∧ matchVal f d = .ok b := by
    have hA := not_of_ite_nil hA
    by_cases hb : (hasBool f || hasBool d) = true
    · obtain ⟨h1, h2⟩ : has01 f = false ∧ has01 d = false := by simpa [hb] using hA
      exact agree_all false d ⟨h2, hd⟩ f ⟨h1, hf⟩ hV
    · obtain ⟨h1, h2⟩ : hasBool f = false ∧ hasBool d = false := by simpa using hb
      exact agree_all true d ⟨h2, hd⟩ f ⟨h1, hf⟩ hV
  obtain ⟨b, h1, h2⟩ := main
  rw [filterApplies, specMatches, h1, h2]

theorem opsHold_unknown (op : String) (sv : Val) (cs : List (Option Val))
    (hunk : operatorMapKeys.contains op = false) (hnot : op ≠ "$not") :
    opsHold [(op, sv)] cs =
      .error (if notImplementedOperators.contains op then .notImpl else .opFail) := by
  simp only [operatorMapKeys, List.contains_cons, List.contains_nil, Bool.or_false,
    Bool.or_eq_false_iff, beq_eq_false_iff_ne, ne_eq] at hunk
  -- `h1 … h14`: `op` is none of the entries of `operatorMapKeys`, in the order of that list
  -- (`h3` is `$all`, `h8` `$elemMatch`, `h11 … h14` the ordering operators); the `if_neg`s below
  -- follow the order of the tests in `leafHolds`
  obtain ⟨h1, h2, h3, h4, h5, h6, h7, h8, h9, h10, h11, h12, h13, h14⟩ := hunk
  have hl : leafHolds op sv cs =
      .error (if notImplementedOperators.contains op then .notImpl else .opFail) := by
    unfold leafHolds
    rw [if_neg h1, if_neg h2, if_neg h11, if_neg h12, if_neg h13, if_neg h14, if_neg h4, if_neg h5,
      if_neg h6, if_neg h10, if_neg h9, if_neg h7]
    split <;> rfl
  cases sv <;> simp only [opsHold, h3, h8, hnot, decide_false, Bool.or_false, Bool.false_eq_true,
    ↓reduceIte, hl] <;> rfl

theorem unknown_single_eq_spec (key op : String) (sv d : Val)
    (hk : key.startsWith "$" = false) (hop : op.startsWith "$" = true)
    (hunk : unknownOp op = true) :
    ∃ e, (e = .opFail ∨ e = .notImpl) ∧
      filterApplies (.doc [(key, .doc [(op, sv)])]) d = .error e ∧
      specMatches (.doc [(key, .doc [(op, sv)])]) d = .error e := by
  simp only [unknownOp, Bool.and_eq_true, Bool.not_eq_true', bne_iff_ne, ne_eq] at hunk
  obtain ⟨hmap, hnot⟩ := hunk
  have hops : isOpsFilter (.doc [(op, sv)]) = true := by simp [isOpsFilter, hop]
  have hopt : ((dkeys [(op, sv)]).contains "$options" && (dkeys [(op, sv)]).contains "$regex") = false := by
    by_cases h : op = "$options"
    · subst h; simp [dkeys]
    · simp [dkeys, Ne.symm h]
  have hchk : checkUnknownOps (dkeys [(op, sv)]) =
      .error (if notImplementedOperators.contains op then .notImpl else .opFail) := by
    simp only [checkUnknownOps, dkeys, List.map_cons, List.map_nil, List.filter_cons, hmap,
      bne_iff_ne.mpr hnot, Bool.not_false, Bool.and_self, ↓reduceIte, List.filter_nil,
      List.isEmpty_cons, Bool.false_eq_true, List.any_cons, List.any_nil, Bool.or_false]
    split <;> rfl
  refine ⟨if notImplementedOperators.contains op then .notImpl else .opFail, ?_, ?_, ?_⟩
  · split <;> simp
  · rw [filterApplies, applyVal, applyFields_cons, applyHead_plain hk,
      applyKey_check_err [(op, sv)] key d _ hops hopt hchk]
    rfl
  · rw [specMatches, matchVal, matchFields_cons, matchHead_plain hk, condHolds,
      if_pos (by simp [isOps, hop]), opsHold_unknown op sv _ hmap hnot]
    rfl

end MongoModel.Proofs.C01Lemmas
