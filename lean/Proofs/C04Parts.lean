/-
  Proofs.C04Parts — `$dateFromParts`: `civilFromDays` inverts `daysFromCivil` on every valid
  calendar date (the other direction of `civil_roundtrip`), the parts of a date built from
  in-range parts are those parts, the model agrees with the rule on in-range parts, and the
  milliseconds are carried.
-/
import Proofs.C04Date
import Proofs.ValDecEq
import Mathlib.Tactic.IntervalCases

namespace MongoModel.Proofs.C04
open MongoModel MongoModel.Expr MongoModel.Spec

/-- `civilFromDays` on the day number that `daysFromCivil` forms from the March-based year `Y`
    and month `mp` (0 = March … 11 = February): the date it gives back -/
theorem civil_core (Y mp d : Int) (hmp0 : 0 ≤ mp) (hd : 1 ≤ d)
    (hdim : d ≤ (153 * (mp + 1) + 2) / 5 - (153 * mp + 2) / 5)
    (hleap : (153 * mp + 2) / 5 + d - 1 ≤ 364 ∨ ((153 * mp + 2) / 5 + d - 1 = 365 ∧
      Y % 400 % 4 = 3 ∧ (Y % 400 % 100 ≠ 99 ∨ Y % 400 = 399))) :
    civilFromDays (Y / 400 * 146097 + (Y % 400 * 365 + Y % 400 / 4 - Y % 400 / 100 +
        ((153 * mp + 2) / 5 + d - 1)) - 719468) =
      (Y % 400 + Y / 400 * 400 + (if (if mp < 10 then mp + 3 else mp - 9) ≤ 2 then 1 else 0),
       (if mp < 10 then mp + 3 else mp - 9), d) := by
  generalize hdoy : (153 * mp + 2) / 5 + d - 1 = doy at hleap ⊢
  generalize hdoe : Y % 400 * 365 + Y % 400 / 4 - Y % 400 / 100 + doy = doe
  obtain ⟨hdoe1, e3⟩ := yoe_of_doe (Y % 400) doy doe (by omega) (by omega) (by omega) hleap hdoe.symm
  obtain ⟨e1, e2⟩ := ediv_emod_of_eq (n := Y / 400 * 146097 + doe - 719468 + 719468)
    (Int.sub_add_cancel ..) (by omega) (Int.lt_add_one_iff.2 hdoe1)
  simp only [civilFromDays, e1, e2, e3,
    show doe - (365 * (Y % 400) + Y % 400 / 4 - Y % 400 / 100) = doy by omega,
    show (5 * doy + 2) / 153 = mp by omega, show doy - (153 * mp + 2) / 5 + 1 = d by omega]
/-- the month lengths against the differences of `(153 * mp + 2) / 5`, month by month
    (February counted as 30 there) -/
theorem daysInMonth_le_formula (y m mp : Int) (hm1 : 1 ≤ m) (hm2 : m ≤ 12)
    (hmp : mp = if m > 2 then m - 3 else m + 9) :
    daysInMonth y m ≤ (153 * (mp + 1) + 2) / 5 - (153 * mp + 2) / 5 := by
  subst hmp
  unfold daysInMonth
  interval_cases m <;> simp
  omega

/-- **civil_of_days**: the day number of a valid calendar date (month 1 … 12, day 1 … the days
    of that month) gives that date back -/
theorem civil_of_days (y m d : Int) (hm1 : 1 ≤ m) (hm2 : m ≤ 12) (hd1 : 1 ≤ d)
    (hd2 : d ≤ daysInMonth y m) :
    civilFromDays (daysFromCivil y m d) = (y, m, d) := by
  by_cases hm : m ≤ 2
  · -- January, February: the March-based year is the one before
    have hdim := daysInMonth_le_formula y m (m + 9) hm1 hm2 (by rw [if_neg (by omega)])
    have hleap : (153 * (m + 9) + 2) / 5 + d - 1 ≤ 364 ∨
        ((153 * (m + 9) + 2) / 5 + d - 1 = 365 ∧ ((y - 1) % 400) % 4 = 3 ∧
          (((y - 1) % 400) % 100 ≠ 99 ∨ (y - 1) % 400 = 399)) := by
      simp only [daysInMonth, isLeap, Bool.and_eq_true, Bool.or_eq_true, beq_iff_eq, bne_iff_ne,
        ne_eq] at hd2
      split at hd2 <;> [split at hd2; skip] <;> omega
    simp only [daysFromCivil, if_pos hm, if_neg (by omega : ¬ m > 2)]
    rw [civil_core (y - 1) (m + 9) d (by omega) hd1 (by omega) hleap,
      if_neg (by omega : ¬ m + 9 < 10), if_pos (by omega : m + 9 - 9 ≤ 2)]
    refine Prod.ext (by simp only; omega) (Prod.ext (by simp only; omega) rfl)
  · -- March … December
    have hdim := daysInMonth_le_formula y m (m - 3) hm1 hm2 (by rw [if_pos (by omega)])
    simp only [daysFromCivil, if_neg hm, if_pos (by omega : m > 2)]
    rw [civil_core y (m - 3) d (by omega) hd1 (by omega) (.inl (by omega)),
      if_pos (by omega : m - 3 < 10), if_neg (by omega : ¬ m - 3 + 3 ≤ 2)]
    refine Prod.ext (by simp only; omega) (Prod.ext (by simp only; omega) rfl)

/-! ### `$dateFromParts` on parts that are all given as integers -/

/-- the evaluated argument `{year, month, day, hour, minute, second, millisecond}` -/
def partsDoc (y mo d h mi s ms : Int) : Val :=
  .doc [("year", .int y), ("month", .int mo), ("day", .int d), ("hour", .int h),
        ("minute", .int mi), ("second", .int s), ("millisecond", .int ms)]

/-- the same named arguments as the rule sees them -/
def partsArgs (y mo d h mi s ms : Int) : Env :=
  [("year", some (.int y)), ("month", some (.int mo)), ("day", some (.int d)),
   ("hour", some (.int h)), ("minute", some (.int mi)), ("second", some (.int s)),
   ("millisecond", some (.int ms))]

/-- every part inside its calendar range (the milliseconds apart) -/
def PartsInRange (y mo d h mi s : Int) : Prop :=
  1 ≤ y ∧ y ≤ 9999 ∧ 1 ≤ mo ∧ mo ≤ 12 ∧ 1 ≤ d ∧ d ≤ daysInMonth y mo ∧
  0 ≤ h ∧ h ≤ 23 ∧ 0 ≤ mi ∧ mi ≤ 59 ∧ 0 ≤ s ∧ s ≤ 59

instance (y mo d h mi s : Int) : Decidable (PartsInRange y mo d h mi s) := by
  unfold PartsInRange; exact inferInstance

/-- the instant of in-range parts, µs since the epoch -/
def partsUs (y mo d h mi s ms : Int) : Int :=
  daysFromCivil y mo d * usPerDay + h * 3600000000 + mi * 60000000 + s * 1000000 + ms * 1000

theorem daysInMonth_le (y m : Int) : daysInMonth y m ≤ 31 := by
  unfold daysInMonth; split <;> (try split) <;> omega

theorem cInt_small (n : Int) (h0 : -2147483648 ≤ n) (h1 : n ≤ 2147483647) :
    cInt (.int n) = .ok n := by
  simp [cInt, h0, h1]

/-- a part given as an integer is that integer: the default stands in for 0 only -/
theorem partOr_int (key : String) (dflt n : Int) (fs : Fields)
    (hg : dget key fs = some (.int n)) (h : n = 0 → dflt = 0) : partOr key dflt fs = .int n := by
  by_cases hn : n = 0
  · simp [partOr, hg, pyFalsy, hn, h hn]
  · simp [partOr, hg, pyFalsy, hn]

theorem range_ok {n lo hi : Int} (h0 : lo ≤ n) (h1 : n ≤ hi) :
    (decide (n < lo) || decide (n > hi)) = false := by
  simp; omega

theorem pyDatetime_inrange (y mo d h mi s : Int) (hr : PartsInRange y mo d h mi s) :
    pyDatetime (.int y) (.int mo) (.int d) (.int h) (.int mi) (.int s) =
      .ok (daysFromCivil y mo d * usPerDay + h * 3600000000 + mi * 60000000 + s * 1000000) := by
  obtain ⟨y0, y1, m0, m1, d0, d1, h0, h1, i0, i1, s0, s1⟩ := hr
  have hd31 := daysInMonth_le y mo
  simp only [pyDatetime, cInt_small y (by omega) (by omega), cInt_small mo (by omega) (by omega),
    cInt_small d (by omega) (by omega), cInt_small h (by omega) (by omega),
    cInt_small mi (by omega) (by omega), cInt_small s (by omega) (by omega),
    bind, Except.bind, range_ok y0 y1, range_ok m0 m1, range_ok d0 d1, range_ok h0 h1,
    range_ok i0 i1, range_ok s0 s1, Bool.false_eq_true, if_false]

/-- the model on in-range parts: the instant of those parts, the milliseconds (any integer)
    added to it, inside the years 1 … 9999 -/
theorem dateFromPartsOp_inrange (y mo d h mi s ms : Int) (hr : PartsInRange y mo d h mi s) :
    dateFromPartsOp (partsDoc y mo d h mi s ms) = mkDate (partsUs y mo d h mi s ms) := by
  have hmo := hr.2.2.1
  have hd := hr.2.2.2.2.1
  have g (key : String) (dflt n : Int) := partOr_int key dflt n
    [("year", .int y), ("month", .int mo), ("day", .int d), ("hour", .int h), ("minute", .int mi),
      ("second", .int s), ("millisecond", .int ms)]
  simp only [dateFromPartsOp, partsDoc, g "month" 1 mo (by simp [dget]) (by omega),
    g "day" 1 d (by simp [dget]) (by omega), g "hour" 0 h (by simp [dget]) (fun _ => rfl),
    g "minute" 0 mi (by simp [dget]) (fun _ => rfl), g "second" 0 s (by simp [dget]) (fun _ => rfl),
    g "millisecond" 0 ms (by simp [dget]) (fun _ => rfl)]
  -- `List.any` is unfolded by name: `simp` is many times slower on the list of refused keys
  -- without it
  simp [List.any, dhas, dget, pyDatetime_inrange y mo d h mi s hr, bind, Except.bind, toPyNum,
    datePlus, partsUs]

theorem daysFromCivil_day (y m d : Int) : daysFromCivil y m d = daysFromCivil y m 1 + (d - 1) := by
  simp only [daysFromCivil]; omega

/-- the carried instant is the plain one when month and day need no carrying -/
theorem carryUs_inrange (y mo d h mi s ms : Int) (m0 : 1 ≤ mo) (m1 : mo ≤ 12) :
    carryUs y mo d h mi s ms = partsUs y mo d h mi s ms := by
  rw [carryUs, partsUs, daysFromCivil_day y mo d, show (mo - 1) / 12 = 0 by omega,
    show (mo - 1) % 12 + 1 = mo by omega, Int.add_zero]

/-- the rule on integer parts: the year in 1 … 9999, the other parts carried -/
theorem dateFromPartsS_ints (y mo d h mi s ms : Int) (y0 : 1 ≤ y) (y1 : y ≤ 9999)
    (hs : (smallPart mo && smallPart d && smallPart h && smallPart mi) = true) :
    dateFromPartsS (partsArgs y mo d h mi s ms) = mkDate (carryUs y mo d h mi s ms) := by
  simp [dateFromPartsS, partsArgs, partKeys, isoPartKeys, partArg, List.lookup, PartArg.getD,
    range_ok y0 y1, hs]

/-- the day numbers of the years 1 … 9999 -/
theorem daysFromCivil_bounds (y m d : Int) (y0 : 1 ≤ y) (y1 : y ≤ 9999) (m0 : 1 ≤ m) (m1 : m ≤ 12)
    (d0 : 1 ≤ d) (d1 : d ≤ 31) :
    -719162 ≤ daysFromCivil y m d ∧ daysFromCivil y m d ≤ 2932896 := by
  simp only [daysFromCivil]
  split <;> split <;> omega

theorem mkDate_inrange (y mo d h mi s ms : Int) (hr : PartsInRange y mo d h mi s)
    (ms0 : 0 ≤ ms) (ms1 : ms ≤ 999) :
    mkDate (partsUs y mo d h mi s ms) = .ok (.date (partsUs y mo d h mi s ms) none) := by
  obtain ⟨y0, y1, m0, m1, d0, d1, h0, h1, i0, i1, s0, s1⟩ := hr
  have hd31 := daysInMonth_le y mo
  obtain ⟨b0, b1⟩ := daysFromCivil_bounds y mo d y0 y1 m0 m1 d0 (by omega)
  have l : dateMinUs ≤ partsUs y mo d h mi s ms := by
    simp only [dateMinUs, partsUs, usPerDay]; omega
  have u : partsUs y mo d h mi s ms ≤ dateMaxUs := by
    simp only [dateMaxUs, partsUs, usPerDay]; omega
  simp [mkDate, l, u]

theorem time_digits (h mi s ms rem : Int) (i0 : 0 ≤ mi) (i1 : mi ≤ 59) (s0 : 0 ≤ s) (s1 : s ≤ 59)
    (ms0 : 0 ≤ ms) (ms1 : ms ≤ 999)
    (hrem : rem = h * 3600000000 + mi * 60000000 + s * 1000000 + ms * 1000) :
    rem / 3600000000 = h ∧ rem / 60000000 % 60 = mi ∧ rem / 1000000 % 60 = s ∧
      rem % 1000000 / 1000 = ms := by
  omega

/-- the parts of the instant of in-range parts are those parts -/
theorem parts_of_partsUs (y mo d h mi s ms : Int) (hr : PartsInRange y mo d h mi s)
    (ms0 : 0 ≤ ms) (ms1 : ms ≤ 999) :
    datePart "$year" (partsUs y mo d h mi s ms) = .ok (.int y) ∧
    datePart "$month" (partsUs y mo d h mi s ms) = .ok (.int mo) ∧
    datePart "$dayOfMonth" (partsUs y mo d h mi s ms) = .ok (.int d) ∧
    datePart "$hour" (partsUs y mo d h mi s ms) = .ok (.int h) ∧
    datePart "$minute" (partsUs y mo d h mi s ms) = .ok (.int mi) ∧
    datePart "$second" (partsUs y mo d h mi s ms) = .ok (.int s) ∧
    datePart "$millisecond" (partsUs y mo d h mi s ms) = .ok (.int ms) := by
  obtain ⟨y0, y1, m0, m1, d0, d1, h0, h1, i0, i1, s0, s1⟩ := hr
  obtain ⟨hday, hrem⟩ := ediv_emod_of_eq (n := partsUs y mo d h mi s ms) (b := usPerDay)
    (q := daysFromCivil y mo d) (r := h * 3600000000 + mi * 60000000 + s * 1000000 + ms * 1000)
    (by simp only [partsUs]; omega) (by omega) (by simp only [usPerDay]; omega)
  obtain ⟨e1, e2, e3, e4⟩ := time_digits h mi s ms _ i0 i1 s0 s1 ms0 ms1 rfl
  simp [datePart, dayOf, usOfDay, hday, hrem, civil_of_days y mo d m0 m1 d0 d1, e1, e2, e3, e4]

theorem dateOp_fromParts (v : Val) : dateOp "$dateFromParts" v = dateFromPartsOp v := by
  simp [dateOp, datePartOps]

theorem dateOp_part (op : String) (h : datePartOps.contains op = true) (u : Int) :
    dateOp op (.date u none) = datePart op u := by
  unfold dateOp
  rw [if_pos h]

end MongoModel.Proofs.C04
