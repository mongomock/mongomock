/-
  Proofs.C04SpecWalk — `eval_eq_spec`: the walkers of the model (operand lists, document literals,
  named arguments, `$let` variables, `$switch` branches, `$map` / `$filter` item loops) against
  those of the oracle, given agreement on the sub-expressions.
-/
import Proofs.C04SpecEnv

set_option linter.unusedSimpArgs false

namespace MongoModel.Proofs.C04
open MongoModel MongoModel.Expr MongoModel.Spec

/-- the statement proved for every expression: inside D the model computes the oracle's value -/
def Agrees (e : Val) : Prop :=
  ∀ (c : Ctx) (root : Val) (env : Env), EnvRel c root env → rExpr root env e = [] →
    okReasons (sEval root env e) = [] → eval c e = sEval root env e

theorem rList_nil (root : Val) (env : Env) (xs : List Val) (h : rList root env xs = []) :
    ∀ x ∈ xs, okReasons (sEval root env x) = [] ∧ rExpr root env x = [] := by
  induction xs with
  | nil => intro x hx; cases hx
  | cons y r ih =>
    simp only [rList, List.append_eq_nil_iff] at h
    intro x hx
    rcases List.mem_cons.mp hx with e | hr
    · subst e; exact ⟨h.1.1, h.1.2⟩
    · exact ih h.2 x hr

/-- items in D: one list of values serves both sides -/
theorem list_agree (c : Ctx) (root : Val) (env : Env) (hr : EnvRel c root env) (xs : List Val)
    (hsub : AllSubList Agrees xs) (h : rList root env xs = []) :
    ∃ vs : List (Option Val),
      xs.map (sEval root env) = vs.map .ok ∧ xs.map (eval c) = vs.map .ok := by
  induction xs with
  | nil => exact ⟨[], rfl, rfl⟩
  | cons x r ih =>
    simp only [AllSubList] at hsub
    have hx := rList_nil root env (x :: r) h x (by simp)
    have hrest : rList root env r = [] := by
      simp only [rList, List.append_eq_nil_iff] at h; exact h.2
    obtain ⟨vs, h1, h2⟩ := ih hsub.2 hrest
    obtain ⟨v, hv⟩ := okReasons_nil _ hx.1
    have he := hsub.1.self c root env hr hx.2 hx.1
    exact ⟨v :: vs, by simp [hv, h1], by simp [he, hv, h2]⟩

theorem sList_ok (root : Val) (env : Env) (xs : List Val) (vs : List (Option Val))
    (h : xs.map (sEval root env) = vs.map .ok) : sList root env xs = .ok vs := by
  induction xs generalizing vs with
  | nil => cases vs <;> simp_all [sList]
  | cons x r ih =>
    cases vs with
    | nil => simp at h
    | cons v vs =>
      simp only [List.map_cons, List.cons.injEq] at h
      simp [sList, h.1, ih vs h.2, bind, Except.bind, pure, Except.pure]

theorem sAnd_ok (root : Val) (env : Env) (xs : List Val) (vs : List (Option Val))
    (h : xs.map (sEval root env) = vs.map .ok) : sAnd root env xs = .ok (vs.all Spec.toBool) := by
  induction xs generalizing vs with
  | nil => cases vs <;> simp_all [sAnd]
  | cons x r ih =>
    cases vs with
    | nil => simp at h
    | cons v vs =>
      simp only [List.map_cons, List.cons.injEq] at h
      simp only [sAnd, h.1, List.all_cons]
      cases hb : Spec.toBool v <;> simp [hb, bind, Except.bind, pure, Except.pure, ih vs h.2]

theorem sOr_ok (root : Val) (env : Env) (xs : List Val) (vs : List (Option Val))
    (h : xs.map (sEval root env) = vs.map .ok) : sOr root env xs = .ok (vs.any Spec.toBool) := by
  induction xs generalizing vs with
  | nil => cases vs <;> simp_all [sOr]
  | cons x r ih =>
    cases vs with
    | nil => simp at h
    | cons v vs =>
      simp only [List.map_cons, List.cons.injEq] at h
      simp only [sOr, h.1, List.any_cons]
      cases hb : Spec.toBool v <;> simp [hb, bind, Except.bind, pure, Except.pure, ih vs h.2]

theorem ifNull_agree (c : Ctx) (root : Val) (env : Env) (xs : List Val) (vs : List (Option Val))
    (h1 : xs.map (sEval root env) = vs.map .ok) (h2 : xs.map (eval c) = vs.map .ok)
    (hne : xs ≠ []) :
    evalIfNull c xs = sIfNull root env xs := by
  induction xs generalizing vs with
  | nil => exact absurd rfl hne
  | cons x r ih =>
    cases vs with
    | nil => simp at h1
    | cons v vs =>
      simp only [List.map_cons, List.cons.injEq] at h1 h2
      cases r with
      | nil => simp [evalIfNull, sIfNull, h1.1, h2.1]
      | cons y r' =>
        have := ih vs h1.2 h2.2 (by simp)
        simp only [evalIfNull, sIfNull, h1.1, h2.1, bind, Except.bind, pure, Except.pure]
        cases v with
        | none => simpa [Spec.nullish] using this
        | some w => cases w <;> simp [isNull, Spec.nullish, this]

/-! ### document literals -/

theorem dhas_false {k : String} {fs : Fields} (h : dhas k fs = false) : k ∉ dkeys fs :=
  dget_none_iff.mp (by simpa [dhas] using h)

theorem mem_dhas {a : String} {b : Val} {r : Fields} (h : (a, b) ∈ r) : dhas a r = true := by
  obtain ⟨v, hv⟩ := dget_of_mem_dkeys (List.mem_map_of_mem (f := (·.1)) h)
  rw [dhas, hv]; rfl

theorem dhas_append (k : String) (a b : Fields) : dhas k (a ++ b) = (dhas k a || dhas k b) := by
  rw [dhas, dhas, dhas, dget_append]
  cases dget k a <;> rfl

theorem rFields_nil (root : Val) (env : Env) (fs : Fields) (h : rFields root env fs = []) :
    ∀ k v, (k, v) ∈ fs → okReasons (sEval root env v) = [] ∧ rExpr root env v = [] := by
  induction fs with
  | nil => intro k v hx; cases hx
  | cons kv r ih =>
    obtain ⟨a, b⟩ := kv
    simp only [rFields, List.append_eq_nil_iff] at h
    intro k v hx
    rcases List.mem_cons.mp hx with e | hr
    · cases e; exact ⟨h.1.1, h.1.2⟩
    · exact ih h.2 k v hr

/-- a document literal without `$` keys and without duplicate keys -/
theorem fields_agree (c : Ctx) (root : Val) (env : Env) (hr : EnvRel c root env) (fs : Fields)
    (hsub : AllSubFields Agrees fs) (h : rFields root env fs = [])
    (hd : hasDollarKey' fs = false) (hn : nodupKeys fs = true) (acc : Fields)
    (hacc : ∀ k v, (k, v) ∈ fs → dhas k acc = false) :
    ∃ gs, sFields root env fs = .ok (some (.doc gs)) ∧
      evalDoc c fs acc = .ok (some (.doc (acc ++ gs))) ∧
      (∀ k, dhas k gs = true → dhas k fs = true) := by
  induction fs generalizing acc with
  | nil => exact ⟨[], rfl, by simp [evalDoc], by simp⟩
  | cons kv r ih =>
    obtain ⟨k, v⟩ := kv
    simp only [AllSubFields] at hsub
    have hkv := rFields_nil root env ((k, v) :: r) h k v (by simp)
    have hrest : rFields root env r = [] := by
      simp only [rFields, List.append_eq_nil_iff] at h; exact h.2
    simp only [hasDollarKey', List.any_cons, Bool.or_eq_false_iff] at hd
    simp only [nodupKeys, Bool.and_eq_true, Bool.not_eq_true'] at hn
    obtain ⟨x, hx⟩ := okReasons_nil _ hkv.1
    have he := hsub.1.self c root env hr hkv.2 hkv.1
    have hcl := classify_plain k hd.1
    cases x with
    | none =>
      obtain ⟨gs, g1, g2, g3⟩ := ih hsub.2 hrest (by simpa [hasDollarKey'] using hd.2) hn.2 acc
        (fun a b hab => hacc a b (by simp [hab]))
      refine ⟨gs, ?_, ?_, ?_⟩
      · simp [sFields, hx, g1, bind, Except.bind, pure, Except.pure]
      · rw [evalDoc_plain c k v r acc hcl, he, hx]
        simp [Except.bind, hr.hign, g2]
      · intro a ha
        have := g3 a ha
        by_cases hak : k = a
        · simp [dhas, dget, hak]
        · simpa [dhas, dget, hak] using this
    | some y =>
      have hk_acc : dhas k acc = false := hacc k v (by simp)
      obtain ⟨gs, g1, g2, g3⟩ := ih hsub.2 hrest (by simpa [hasDollarKey'] using hd.2) hn.2
        (acc ++ [(k, y)]) (by
          intro a b hab
          rw [dhas_append, hacc a b (by simp [hab])]
          have : a ≠ k := by
            intro e; subst e
            have := mem_dhas hab
            rw [hn.1] at this; cases this
          have hne : ¬ k = a := fun e => this e.symm
          simp [dhas, dget, hne])
      refine ⟨(k, y) :: gs, ?_, ?_, ?_⟩
      · simp [sFields, hx, g1, bind, Except.bind, pure, Except.pure]
      · rw [evalDoc_plain c k v r acc hcl, he, hx]
        simp [Except.bind, dset_absent (dhas_false hk_acc), g2]
      · intro a ha
        by_cases hak : k = a
        · simp [dhas, dget, hak]
        · have : dhas a gs = true := by simpa [dhas, dget, hak] using ha
          simpa [dhas, dget, hak] using g3 a this

/-! ### named arguments -/

theorem sAt_eq (root : Val) (env : Env) (key : String) (gs : Fields) (v : Val)
    (h : dget key gs = some v) : sAt root env key gs = sEval root env v :=
  walkAt_eq (sh := id) (fun _ _ _ => rfl) (fun _ v _ hv => absurd rfl (hv v)) h

theorem rAt_eq (root : Val) (env : Env) (key : String) (gs : Fields) (v : Val)
    (h : dget key gs = some v) :
    rAt root env key gs = okReasons (sEval root env v) ++ rExpr root env v :=
  walkAt_eq (sh := id) (g := fun v => okReasons (sEval root env v) ++ rExpr root env v)
    (fun _ _ _ => rfl) (fun _ v _ hv => absurd rfl (hv v)) h

/-- the sub-expression under `key`: both sides evaluate it, and agree inside D -/
theorem at_agree (c : Ctx) (root : Val) (env : Env) (hr : EnvRel c root env) (key : String)
    (gs : Fields) (v : Val) (hg : dget key gs = some v) (hsub : AllSubFields Agrees gs)
    (h : rAt root env key gs = []) : evalAt c key gs = sAt root env key gs := by
  rw [evalAt_eq, hg, sAt_eq root env key gs v hg]
  rw [rAt_eq root env key gs v hg, List.append_eq_nil_iff] at h
  exact (hsub.mem (dget_mem hg)).self c root env hr h.2 h.1

theorem at_ok (root : Val) (env : Env) (key : String) (gs : Fields) (v : Val)
    (hg : dget key gs = some v) (h : rAt root env key gs = []) :
    ∃ r, sAt root env key gs = .ok r := by
  rw [rAt_eq root env key gs v hg, List.append_eq_nil_iff] at h
  rw [sAt_eq root env key gs v hg]
  exact okReasons_nil _ h.1

theorem dhas_dget {k : String} {gs : Fields} (h : dhas k gs = true) : ∃ v, dget k gs = some v := by
  simp only [dhas] at h
  cases hd : dget k gs with
  | none => simp [hd] at h
  | some v => exact ⟨v, rfl⟩

/-! ### `$let` -/

theorem evalVarsAt_eq (c : Ctx) (gs vs : Fields) (h : dget "vars" gs = some (.doc vs)) :
    evalVarsAt c gs = evalVars c vs :=
  walkAt_eq (sh := .doc) (fun _ _ _ => rfl)
    (fun _ v _ hv => by cases v <;> first | rfl | exact absurd rfl (hv _)) h

theorem sVarsAt_eq (root : Val) (env : Env) (gs vs : Fields) (h : dget "vars" gs = some (.doc vs)) :
    sVarsAt root env gs = sVars root env vs :=
  walkAt_eq (sh := .doc) (fun _ _ _ => rfl)
    (fun _ v _ hv => by cases v <;> first | rfl | exact absurd rfl (hv _)) h

theorem rVarsAt_eq (root : Val) (env : Env) (gs vs : Fields) (h : dget "vars" gs = some (.doc vs)) :
    rVarsAt root env gs = rFields root env vs :=
  walkAt_eq (sh := .doc) (fun _ _ _ => rfl)
    (fun _ v _ hv => by cases v <;> first | rfl | exact absurd rfl (hv _)) h

/-- the variables of a `$let`: the same bindings on both sides, missing values included -/
theorem vars_agree (c : Ctx) (root : Val) (env : Env) (hr : EnvRel c root env) (vs : Fields)
    (hsub : AllSubFields Agrees vs) (h : rFields root env vs = []) :
    ∃ bs : Env, sVars root env vs = .ok bs ∧ evalVars c vs = .ok bs := by
  induction vs with
  | nil => exact ⟨[], rfl, rfl⟩
  | cons kv r ih =>
    obtain ⟨k, v⟩ := kv
    simp only [AllSubFields] at hsub
    have hkv := rFields_nil root env ((k, v) :: r) h k v (by simp)
    have hrest : rFields root env r = [] := by
      simp only [rFields, List.append_eq_nil_iff] at h; exact h.2
    obtain ⟨x, hx⟩ := okReasons_nil _ hkv.1
    have he := hsub.1.self c root env hr hkv.2 hkv.1
    obtain ⟨bs, hb, hb'⟩ := ih hsub.2 hrest
    exact ⟨(k, x) :: bs, by simp [sVars, hx, hb, bind, Except.bind, pure, Except.pure],
      by simp [evalVars, he, hx, hb', bind, Except.bind, pure, Except.pure]⟩

/-! ### `$switch` -/

theorem sBranchesAt_eq (root : Val) (env : Env) (gs : Fields) (bs : List Val)
    (h : dget "branches" gs = some (.arr bs)) : sBranchesAt root env gs = sBranches root env bs :=
  walkAt_eq (sh := .arr) (fun _ _ _ => rfl)
    (fun _ v _ hv => by cases v <;> first | rfl | exact absurd rfl (hv _)) h

theorem rBranchesAt_eq (root : Val) (env : Env) (gs : Fields) (bs : List Val)
    (h : dget "branches" gs = some (.arr bs)) : rBranchesAt root env gs = rBranches root env bs :=
  walkAt_eq (sh := .arr) (fun _ _ _ => rfl)
    (fun _ v _ hv => by cases v <;> first | rfl | exact absurd rfl (hv _)) h

theorem branches_agree (c : Ctx) (root : Val) (env : Env) (hr : EnvRel c root env) (bs : List Val)
    (hsub : AllSubList Agrees bs) (hre : rBranches root env bs = [])
    (hwf : branchesOk bs = true) :
    evalBranches c bs = sBranches root env bs := by
  induction bs with
  | nil => rfl
  | cons b r ih =>
    simp only [AllSubList] at hsub
    simp only [branchesOk, List.all_cons, Bool.and_eq_true] at hwf ih
    cases b with
    | doc f =>
      simp only [rBranches, List.append_eq_nil_iff] at hre
      have hf := hsub.1.fields
      obtain ⟨hcase, hthen⟩ : dhas "case" f = true ∧ dhas "then" f = true := by
        simpa using hwf.1
      obtain ⟨vc, hvc⟩ := dhas_dget hcase
      obtain ⟨vt, hvt⟩ := dhas_dget hthen
      have e1 := at_agree c root env hr "case" f vc hvc hf hre.1.1
      have e2 := at_agree c root env hr "then" f vt hvt hf hre.1.2
      simp only [evalBranches, sBranches, e1, e2, toBoolOpt_eq, ih hsub.2 hre.2 hwf.2]
    | _ => simp at hwf

/-! ### `$map` / `$filter` item loops -/

theorem map_loop (f g : Val → R (Option Val)) (items : List Val)
    (h : ∀ x ∈ items, ∃ y, g x = .ok y ∧ f x = .ok y) :
    ∃ (ys : List Val) (rs : List (Val × Option Val)),
      mapItems f items = .ok ys ∧ overItems g items = .ok rs ∧
      rs.map (fun r => r.2.getD .null) = ys := by
  induction items with
  | nil => exact ⟨[], [], rfl, rfl, rfl⟩
  | cons x r ih =>
    obtain ⟨y, hg, hf⟩ := h x (by simp)
    obtain ⟨ys, rs, h1, h2, h3⟩ := ih (fun z hz => h z (by simp [hz]))
    exact ⟨y.getD .null :: ys, (x, y) :: rs,
      by simp [mapItems, hf, h1, bind, Except.bind, pure, Except.pure],
      by simp [overItems, hg, h2, bind, Except.bind, pure, Except.pure],
      by simp [h3]⟩

theorem filter_loop (f g : Val → R (Option Val)) (items : List Val)
    (h : ∀ x ∈ items, ∃ y, g x = .ok y ∧ f x = .ok y) :
    ∃ (zs : List Val) (rs : List (Val × Option Val)),
      filterItems f items = .ok zs ∧ overItems g items = .ok rs ∧
      (rs.filter (fun r => Spec.toBool r.2)).map (·.1) = zs := by
  induction items with
  | nil => exact ⟨[], [], rfl, rfl, rfl⟩
  | cons x r ih =>
    obtain ⟨y, hg, hf⟩ := h x (by simp)
    obtain ⟨zs, rs, h1, h2, h3⟩ := ih (fun z hz => h z (by simp [hz]))
    refine ⟨if toBoolOpt y then x :: zs else zs, (x, y) :: rs,
      by simp [filterItems, hf, h1, bind, Except.bind, pure, Except.pure],
      by simp [overItems, hg, h2, bind, Except.bind, pure, Except.pure], ?_⟩
    simp only [List.filter_cons, toBoolOpt_eq]
    cases Spec.toBool y <;> simp [h3]

theorem flatten_nil {α} (xss : List (List α)) (h : xss.flatten = []) : ∀ xs ∈ xss, xs = [] := by
  induction xss with
  | nil => intro xs hx; cases hx
  | cons a r ih =>
    simp only [List.flatten_cons, List.append_eq_nil_iff] at h
    intro xs hx
    rcases List.mem_cons.mp hx with e | e
    · subst e; exact h.1
    · exact ih h.2 xs e

end MongoModel.Proofs.C04
