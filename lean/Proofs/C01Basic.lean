/-
  Proofs.C01Basic — `applyKey` on a one-operator condition is `oneOp` / `singleOp` over the values
  the key reaches: the candidate loop run on the operator's test, read off by `verdict`.  The laws
  of C01 that need no domain hypothesis follow from this form.
-/
import Proofs.C01Values

namespace MongoModel.Proofs.C01Lemmas
open MongoModel MongoModel.Spec

theorem map_ok_cons {α} {f : α → R Bool} {q : α} {qs : List α} {bs : List Bool}
    (h : (q :: qs).map f = bs.map .ok) :
    ∃ b bs', bs = b :: bs' ∧ f q = .ok b ∧ qs.map f = bs'.map .ok := by
  cases bs with
  | nil => cases h
  | cons b bs => exact ⟨b, bs, rfl, List.cons.inj h⟩

theorem and_is_conj (qs : List Val) (d : Val) (bs : List Bool)
    (h : qs.map (applyVal · d) = bs.map .ok) : allApply qs d = .ok (bs.all id) := by
  induction qs generalizing bs with
  | nil => cases bs <;> simp_all [allApply]
  | cons q qs ih =>
    obtain ⟨b, bs, rfl, h1, h2⟩ := map_ok_cons h
    rw [allApply, h1]
    cases b <;> simp [bind, Except.bind, pure, Except.pure, ih bs h2]

theorem or_is_disj (qs : List Val) (d : Val) (bs : List Bool)
    (h : qs.map (applyVal · d) = bs.map .ok) : anyApply qs d = .ok (bs.any id) := by
  induction qs generalizing bs with
  | nil => cases bs <;> simp_all [anyApply]
  | cons q qs ih =>
    obtain ⟨b, bs, rfl, h1, h2⟩ := map_ok_cons h
    rw [anyApply, h1]
    cases b <;> simp [bind, Except.bind, pure, Except.pure, ih bs h2]

theorem nor_is_neg_disj (qs : List Val) (d : Val) (bs : List Bool)
    (h : qs.map (applyVal · d) = bs.map .ok) : norApply qs d = .ok (!(bs.any id)) := by
  induction qs generalizing bs with
  | nil => cases bs <;> simp_all [norApply]
  | cons q qs ih =>
    obtain ⟨b, bs, rfl, h1, h2⟩ := map_ok_cons h
    rw [norApply, h1]
    cases b <;> simp [bind, Except.bind, pure, Except.pure, ih bs h2]

/-- what `applyKey` answers from the final state of the candidate loop (`pos`: some operator of
    the condition is not a negated one) -/
def verdict (pos : Bool) : Option (Bool × Bool) → Bool
  | none => false
  | some (m, h) => !(!m && (h || pos))

theorem candLoop_cons (f : Option Val → R Bool) (neg : Bool) (c : Option Val)
    (cs : List (Option Val)) (m h : Bool) :
    candLoop f neg (c :: cs) m h = (f c).bind fun m' =>
      if neg && !m' then .ok none
      else if m' && !neg then .ok (some (true, h || c.isSome))
      else candLoop f neg cs m' (h || c.isSome) := rfl

/-- positive loop over a test that is total on the candidates: "some candidate matched" -/
theorem candLoop_pos (f : Option Val → R Bool) (g : Option Val → Bool) (cs : List (Option Val))
    (hg : ∀ c ∈ cs, f c = .ok (g c)) (h : Bool) :
    ∃ h', candLoop f false cs false h = .ok (some (cs.any g, h')) := by
  induction cs generalizing h with
  | nil => exact ⟨h, rfl⟩
  | cons c cs ih =>
    rw [candLoop_cons, hg c (by simp), List.any_cons]
    cases g c
    · exact ih (fun c hc => hg c (by simp [hc])) _
    · exact ⟨_, rfl⟩

/-- the negated test in the negative loop answers the opposite of the test in the positive loop,
    errors included: both loops stop at the first candidate on which the test holds or raises -/
theorem candLoop_not (f : Option Val → R Bool) (cs : List (Option Val)) (m m' h : Bool)
    (hm : (m' || !h) = !m) :
    (candLoop (fun c => (f c).map (!·)) true cs m' h).map (verdict false) =
      ((candLoop f false cs m h).map (verdict true)).map (!·) := by
  induction cs generalizing m m' h with
  | nil => simp [candLoop, Except.map, verdict, ← hm]
  | cons c cs ih =>
    rw [candLoop_cons, candLoop_cons]
    rcases f c with e | b
    · rfl
    · cases b
      · exact ih false true _ rfl
      · rfl

/-- what `applyKey` computes for a one-operator condition whose test on a candidate is `test`,
    given the candidates -/
def oneOp (test : Option Val → R Bool) (op : String) (sv : Val) (cs : List (Option Val)) :
    R Bool :=
  if (op = "$exists" && pyEq sv (.bool false)) && cs.isEmpty then .ok true
  else (candLoop test (op = "$ne" || op = "$nin") cs false false).map
    (verdict !(op = "$ne" || op = "$nin"))

theorem applyKey_one (op : String) (sv : Val) (key : String) (d : Val)
    (hd : op.startsWith "$" = true) (hall : op ≠ "$all") :
    applyKey (.doc [(op, sv)]) key d =
      (checkUnknownOps [op]).bind fun _ =>
        (candsKey key d).bind (oneOp (opsAll [(op, sv)] key d) op sv) := by
  have hopt : (("$options" == op) && ("$regex" == op)) = false := by
    by_cases h : "$options" = op
    · subst h; decide
    · simp [h]
  have e1 : ("$ne" == op) = decide (op = "$ne") := by rw [BEq.comm]; rfl
  have e2 : ("$nin" == op) = decide (op = "$nin") := by rw [BEq.comm]; rfl
  rw [applyKey]
  simp only [isOpsFilter, dkeys, List.map_cons, List.map_nil, List.all_cons, List.all_nil, hd,
    List.isEmpty_cons, Bool.not_false, Bool.and_true, Bool.true_and, List.contains_cons,
    List.contains_nil, Bool.or_false, hopt, Bool.false_eq_true, ↓reduceIte, pyEq_doc_one,
    beq_eq_false_iff_ne.mpr hall.symm, List.any_cons, List.any_nil, e1, e2, Bool.false_and,
    Bool.false_or]
  cases checkUnknownOps [op] with
  | error e => rfl
  | ok _ =>
    cases candsKey key d with
    | error e => rfl
    | ok cs =>
      simp only [oneOp, bind, Except.bind, pure, Except.pure, Bool.not_true, Bool.false_eq_true,
        ↓reduceIte]
      split
      · rfl
      · rw [show (op != "$ne" && op != "$nin") = !(decide (op = "$ne") || decide (op = "$nin"))
          from (Bool.not_or _ _).symm]
        rcases candLoop _ _ cs false false with e | (_ | ⟨m, h⟩) <;> rfl

/-- an operator that runs the positive loop and has no shortcut -/
def PositiveOp (op : String) : Prop := op ≠ "$ne" ∧ op ≠ "$nin" ∧ op ≠ "$exists"

theorem oneOp_pos (test : Option Val → R Bool) (g : Option Val → Bool) (op : String) (sv : Val)
    (cs : List (Option Val)) (hp : PositiveOp op) (hg : ∀ c ∈ cs, test c = .ok (g c)) :
    oneOp test op sv cs = .ok (cs.any g) := by
  obtain ⟨h', e⟩ := candLoop_pos test g cs hg false
  simp only [oneOp, hp.1, hp.2.1, hp.2.2, decide_false, Bool.false_and, Bool.or_false, Bool.false_eq_true,
    ↓reduceIte, e, Except.map, verdict, Bool.not_false, Bool.or_true, Bool.and_true, Bool.not_not]

/-- the negated operators: `$ne` (`$nin`) with the negated test answers the opposite of a
    positive operator with the test, and raises when it raises -/
theorem oneOp_not (test : Option Val → R Bool) (nop pop : String) (sv : Val)
    (cs : List (Option Val)) (hn : nop = "$ne" ∨ nop = "$nin") (hp : PositiveOp pop) :
    oneOp (fun c => (test c).map (!·)) nop sv cs = (oneOp test pop sv cs).map (!·) := by
  have h3' : nop ≠ "$exists" := by rcases hn with h | h <;> subst h <;> simp
  have hn' : (decide (nop = "$ne") || decide (nop = "$nin")) = true := by
    rcases hn with h | h <;> subst h <;> simp
  simp only [oneOp, hp.1, hp.2.1, hp.2.2, h3', hn', decide_false, Bool.false_and, Bool.or_false,
    Bool.false_eq_true, ↓reduceIte, Bool.not_false, Bool.not_true]
  exact candLoop_not test cs false false false rfl

/-- a test that does not look at the candidate, on a path that reaches something -/
theorem oneOp_const (r : R Bool) (op : String) (sv : Val) (c : Option Val)
    (cs : List (Option Val)) (hp : PositiveOp op) : oneOp (fun _ => r) op sv (c :: cs) = r := by
  rcases r with e | b
  · simp [oneOp, hp.1, hp.2.1, hp.2.2, candLoop_cons, Except.bind, Except.map]
  · rw [oneOp_pos _ (fun _ => b) op sv _ hp (fun _ _ => rfl)]
    cases b <;> simp

def leafOps : List String :=
  ["$eq", "$ne", "$gt", "$gte", "$lt", "$lte", "$in", "$nin", "$exists", "$size"]

/-- what the matcher's tables say of a leaf operator: it is a known operator, and none of the
    three that re-enter the matcher -/
theorem leafOps_spec {op : String} (hop : op ∈ leafOps) :
    op.startsWith "$" = true ∧ operatorMapKeys.contains op = true ∧ op ≠ "$all" ∧
      op ≠ "$elemMatch" ∧ op ≠ "$not" := by
  have : leafOps.all (fun op => op.startsWith "$" && operatorMapKeys.contains op &&
      op != "$all" && op != "$elemMatch" && op != "$not") = true := by decide +kernel
  simpa [and_assoc] using List.all_eq_true.mp this op hop

theorem checkUnknownOps_known {op : String} (h : operatorMapKeys.contains op = true) :
    checkUnknownOps [op] = .ok () := by
  simp only [checkUnknownOps, List.filter_cons, h, Bool.not_true, Bool.false_and,
    Bool.false_eq_true, ↓reduceIte, List.filter_nil, List.isEmpty_nil]

theorem bind_ite_id (r : R Bool) :
    (do let b ← r; if b = true then (Except.ok true : R Bool) else pure false) = r := by
  rcases r with _ | b
  · rfl
  · cases b <;> rfl

theorem opsAll_single (op : String) (sv : Val) (key : String) (d : Val) (dv : Option Val)
    (h1 : op ≠ "$all") (h2 : op ≠ "$elemMatch") (h3 : op ≠ "$not") :
    opsAll [(op, sv)] key d dv = leafOp op sv dv := by
  cases sv <;> simp [opsAll, h1, h2, h3, bind_ite_id]

def singleOp (op : String) (sv : Val) (cs : List (Option Val)) : R Bool :=
  oneOp (leafOp op sv) op sv cs

theorem applyKey_single (op : String) (sv : Val) (key : String) (d : Val)
    (hop : op ∈ leafOps) :
    applyKey (.doc [(op, sv)]) key d = (candsKey key d).bind (singleOp op sv) := by
  obtain ⟨hd, hm, h1, h2, h3⟩ := leafOps_spec hop
  rw [applyKey_one op sv key d hd h1, checkUnknownOps_known hm]
  exact congrArg _ (funext fun cs => congrArg (oneOp · op sv cs)
    (funext fun dv => opsAll_single op sv key d dv h1 h2 h3))

theorem singleOp_pos (op : String) (sv : Val) (cs : List (Option Val)) (g : Option Val → Bool)
    (h1 : op ≠ "$ne") (h2 : op ≠ "$nin") (h3 : op ≠ "$exists")
    (hg : leafOp op sv = fun dv => Except.ok (g dv)) :
    singleOp op sv cs = .ok (cs.any g) :=
  oneOp_pos _ g op sv cs ⟨h1, h2, h3⟩ (fun c _ => congrFun hg c)

theorem leafOp_eq (sv : Val) : leafOp "$eq" sv = fun dv => Except.ok (opEq dv sv) := by
  funext dv; unfold leafOp; simp only [↓reduceIte]; rfl
theorem leafOp_ne (sv : Val) : leafOp "$ne" sv = fun dv => Except.ok (opNe dv sv) := by
  funext dv; unfold leafOp; simp only [String.reduceEq, ↓reduceIte]; rfl
theorem leafOp_in (sv : Val) : leafOp "$in" sv = fun dv => opIn dv sv := by
  funext dv; unfold leafOp; simp only [String.reduceEq, ↓reduceIte]
theorem leafOp_nin (sv : Val) : leafOp "$nin" sv = fun dv => (opIn dv sv).map (!·) := by
  funext dv; unfold leafOp; simp only [String.reduceEq, ↓reduceIte]
theorem leafOp_exists (sv : Val) :
    leafOp "$exists" sv = fun dv => Except.ok (sv.truthy == dv.isSome) := by
  funext dv; unfold leafOp; simp only [String.reduceEq, ↓reduceIte]; rfl
theorem leafOp_size (sv : Val) : leafOp "$size" sv = fun dv => Except.ok (opSize dv sv) := by
  funext dv; unfold leafOp; simp only [String.reduceEq, ↓reduceIte]; rfl

def cmpName : CmpOp → String
  | .gt => "$gt" | .gte => "$gte" | .lt => "$lt" | .lte => "$lte"

theorem leafOp_cmp (o : CmpOp) (sv : Val) : leafOp (cmpName o) sv = fun dv => opCmp o dv sv := by
  funext dv; unfold leafOp
  cases o <;> simp only [cmpName, String.reduceEq, ↓reduceIte]

theorem opNe_eq_not_opEq (dv : Option Val) (sv : Val) : opNe dv sv = !opEq dv sv := by
  unfold opNe opEq
  split
  · split
    · rfl
    · simp [List.all_eq_not_any_not]
  · rfl

theorem singleOp_ne (v : Val) (cs : List (Option Val)) :
    singleOp "$ne" v cs = (singleOp "$eq" v cs).map (!·) := by
  have : leafOp "$ne" v = fun c => (leafOp "$eq" v c).map (!·) := by
    rw [leafOp_ne, leafOp_eq]; funext c; rw [opNe_eq_not_opEq]; rfl
  exact (congrArg (oneOp · "$ne" v cs) this).trans
    (oneOp_not _ "$ne" "$eq" v cs (.inl rfl) (by simp [PositiveOp]))

theorem singleOp_nin (v : Val) (cs : List (Option Val)) :
    singleOp "$nin" v cs = (singleOp "$in" v cs).map (!·) := by
  have : leafOp "$nin" v = fun c => (leafOp "$in" v c).map (!·) := by
    rw [leafOp_nin, leafOp_in]
  exact (congrArg (oneOp · "$nin" v cs) this).trans
    (oneOp_not _ "$nin" "$in" v cs (.inr rfl) (by simp [PositiveOp]))

theorem ne_eq_not_eq (key : String) (v d : Val) :
    applyKey (.doc [("$ne", v)]) key d = (applyKey (.doc [("$eq", v)]) key d).map (!·) := by
  rw [applyKey_single _ _ _ _ (by simp [leafOps]), applyKey_single _ _ _ _ (by simp [leafOps])]
  rcases candsKey key d with e | cs
  · rfl
  · exact singleOp_ne v cs

theorem nin_eq_not_in (key : String) (v d : Val) :
    applyKey (.doc [("$nin", v)]) key d = (applyKey (.doc [("$in", v)]) key d).map (!·) := by
  rw [applyKey_single _ _ _ _ (by simp [leafOps]), applyKey_single _ _ _ _ (by simp [leafOps])]
  rcases candsKey key d with e | cs
  · rfl
  · exact singleOp_nin v cs

theorem not_eq_neg (key : String) (gs : Fields) (d : Val) (cs : List (Option Val))
    (hc : candsKey key d = .ok cs) (hne : cs ≠ [])
    (hk : gs.all (fun kv => operatorMapKeys.contains kv.1 || logicalKeys.contains kv.1) = true) :
    applyKey (.doc [("$not", .doc gs)]) key d = (applyKey (.doc gs) key d).map (!·) := by
  obtain ⟨c, cs', rfl⟩ := List.exists_cons_of_ne_nil hne
  have ht : opsAll [("$not", .doc gs)] key d = fun _ => (applyKey (.doc gs) key d).map (!·) := by
    funext dv; simp only [opsAll, String.reduceEq, ↓reduceIte, hk, bind_ite_id]
  rw [applyKey_one _ _ _ _ (by decide +kernel) (by simp), hc, ht,
    show checkUnknownOps ["$not"] = .ok () by simp [checkUnknownOps]]
  exact oneOp_const _ "$not" (.doc gs) c cs' (by simp [PositiveOp])

theorem null_eq_missing (key : String) (d : Val) (h : candsKey key d = .ok [none]) :
    applyKey .null key d = .ok true := by
  rw [applyKey.eq_2 _ _ _ (by intro fs e; cases e)]
  simp [h, bind, Except.bind, candLoop, plainMatch, pure, Except.pure]

/-! ### the operators of a condition are checked before the candidates are looked at -/

/-- a name that is neither in the operator table nor `$not` -/
def unknownOp (k : String) : Bool := !(operatorMapKeys.contains k) && k != "$not"

theorem checkUnknownOps_err (keys : List String) (h : keys.any unknownOp = true) :
    checkUnknownOps keys = .error .opFail ∨ checkUnknownOps keys = .error .notImpl := by
  have hne : (keys.filter unknownOp).isEmpty = false := by
    cases hf : keys.filter unknownOp with
    | nil =>
      rw [List.filter_eq_nil_iff] at hf
      obtain ⟨k, hk, hp⟩ := List.any_eq_true.mp h
      exact absurd hp (hf k hk)
    | cons _ _ => rfl
  have hne' : (keys.filter (fun k => !(operatorMapKeys.contains k) && k != "$not")).isEmpty = false := hne
  simp only [checkUnknownOps, hne', Bool.false_eq_true, ↓reduceIte]
  split <;> simp

/-- an operator condition whose check fails is rejected whatever the key reaches -/
theorem applyKey_check_err (fs : Fields) (key : String) (d : Val) (e : Err)
    (hops : isOpsFilter (.doc fs) = true)
    (hopt : ((dkeys fs).contains "$options" && (dkeys fs).contains "$regex") = false)
    (he : checkUnknownOps (dkeys fs) = .error e) :
    applyKey (.doc fs) key d = .error e := by
  rw [applyKey.eq_1]
  simp only [hops, hopt, Bool.and_false, Bool.false_eq_true, ↓reduceIte, he, bind, Except.bind]

theorem applyKey_unknown_op (fs : Fields) (key : String) (d : Val)
    (hops : isOpsFilter (.doc fs) = true)
    (hopt : ((dkeys fs).contains "$options" && (dkeys fs).contains "$regex") = false)
    (hunk : (dkeys fs).any unknownOp = true) :
    applyKey (.doc fs) key d = .error .opFail ∨ applyKey (.doc fs) key d = .error .notImpl := by
  rcases checkUnknownOps_err _ hunk with h | h
  · exact Or.inl (applyKey_check_err fs key d _ hops hopt h)
  · exact Or.inr (applyKey_check_err fs key d _ hops hopt h)

end MongoModel.Proofs.C01Lemmas
