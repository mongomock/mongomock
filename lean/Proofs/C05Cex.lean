/-
  Proofs.C05Cex — the witnesses that refute `step_inv_full`, `reachable_inv_full`,
  `id_immutable_full` of Props/C05.lean (`*_full_fails`).  All of them use a document with a
  duplicate key, a value no Python `dict` can be.
-/
import Spec.StoreInv

namespace MongoModel.Proofs.C05Cex
open MongoModel MongoModel.Spec

/-- `KeyIsId` as a list of booleans, one per entry -/
def chk (c : Coll) : List Bool := c.docs.map (fun p => pyEq p.1 ((idOf p.2).getD .null))

theorem keyIsId_chk (c : Coll) (h : KeyIsId c) : ∀ b ∈ chk c, b = true := by
  intro b hb
  simp only [chk, List.mem_map] at hb
  obtain ⟨p, hp, rfl⟩ := hb
  obtain ⟨id, h1, h2⟩ := h p hp
  simp [h1, h2]

/-! #### 1. a key that is not `==` to itself -/

def badId : Val := .doc [("a", .int 1), ("a", .int 2)]
def opBad : Val := .arr [.str "insert_one", .doc [("_id", badId)]]

example : pyEq badId badId = false := by decide +kernel

theorem chk_bad : chk (step {} {} opBad).1.c = [false] := by decide +kernel

theorem chk_bad_run : chk (run {} [opBad]).2.c = [false] := by decide +kernel

/-! #### 2. reflexive keys are not enough: `==` is not symmetric -/

def idF : Val := .doc [("a", .int 1), ("b", .int 2)]
def idG : Val := .doc [("a", .int 1), ("a", .int 1)]
def ops2 : List Val := [
  .arr [.str "insert_one", .doc [("_id", idF)]],
  .arr [.str "update_one", .doc [], .doc [("$set", .doc [("_id", idG)])], .bool false]]

example : pyEq idF idF = true ∧ pyEq idG idG = true ∧ pyEq idG idF = true ∧ pyEq idF idG = false := by
  decide +kernel
theorem ops2_facts : ((run {} (ops2.take 1)).2.c.docs.map (fun p => pyEq p.1 p.1) = [true] ∧
    (run {} ops2).2.c.docs.map (fun p => pyEq p.1 p.1) = [true]) ∧
    chk (run {} (ops2.take 1)).2.c = [true] ∧ chk (run {} ops2).2.c = [false] := by decide +kernel

/-- every key of every state is `==` to itself … -/
example : (run {} (ops2.take 1)).2.c.docs.map (fun p => pyEq p.1 p.1) = [true] ∧
    (run {} ops2).2.c.docs.map (fun p => pyEq p.1 p.1) = [true] := ops2_facts.1
/-- … the first state satisfies `KeyIsId`, the second does not: the document stored under `idF`
    now has the `_id` `idG` (`new == old`, so the update took the "not modified" path, which
    skips the `_id` check) -/
example : chk (run {} (ops2.take 1)).2.c = [true] ∧ chk (run {} ops2).2.c = [false] :=
  ops2_facts.2

/-! #### 3. a reachable state with two documents holding the same `_id` -/

def kap : Val := .doc [("a", .int 1), ("b", .int 2), ("b", .int 3)]
def k1 : Val := .doc [("a", .int 1), ("a", .int 1), ("a", .int 1)]
def k2 : Val := .doc [("b", .int 2), ("b", .int 2), ("b", .int 2)]
def ops3 : List Val := [
  .arr [.str "insert_one", .doc [("_id", kap)]],
  .arr [.str "insert_one", .doc [("_id", k1)]],
  .arr [.str "insert_one", .doc [("_id", k2)]],
  .arr [.str "update_many", .doc [], .doc [("$set", .doc [("x", .int 1)])], .bool false]]

theorem ops3_facts :
    (run {} ops3).2.c.docs.map (fun p => ((idOf p.2).getD .null) == k1) = [false, true, true] ∧
    (run {} ops3).2.c.docs.map (fun p => p.1 == k1) = [false, true, false] := by decide +kernel

/-- the `_id`s of the three documents after the history: the second and third are both `k1` -/
example : (run {} ops3).2.c.docs.map (fun p => ((idOf p.2).getD .null) == k1) = [false, true, true] :=
  ops3_facts.1
example : (run {} ops3).2.c.docs.map (fun p => p.1 == k1) = [false, true, false] :=
  ops3_facts.2

/-! #### 4. `id_immutable_full`: an untouched document whose `_id` is not `==` to itself -/

def cBad : Coll := { docs := [(.int 1, .doc [("_id", badId)])] }

/-- the conclusion of `id_immutable_full` as a Boolean -/
def immChk (c : Coll) (x : Coll × R UpdateResult) : Bool :=
  x.1.docs.all (fun p' => c.docs.any (fun p => pyEqOpt (idOf p.2) (idOf p'.2)) ||
    (match x.2 with | .ok res => res.upserted.isSome | .error _ => false))

theorem immChk_bad : immChk cBad (applyUpdateColl {} 0 cBad (.doc [("zz", .int 1)])
    (.doc [("$set", .doc [("x", .int 1)])]) false false) = false := by decide +kernel

end MongoModel.Proofs.C05Cex
