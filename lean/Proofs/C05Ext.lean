/-
  Proofs.C05Ext — the `_id` invariant (`IdInv`) through the EXTENDED step (`stepX` / `stepXS`:
  find_one, find_one_and_update / _replace / _delete, bulk_write, the bulk builder, and every
  operation of `stepColl`) and through every history over all modelled operations (`Spec.runX`).

  Instance of the generic preservation of Proofs/C05ExtStep.lean with
    P c := IdInv c ∧ UpdOK c   (what `_apply_update` needs of the collection it starts from)
    Q c := WInv c              (the weak invariant every operation leaves)
    G c := GoodColl c          (asked of the collections between the requests of a bulk).
-/
import Proofs.C05
import Proofs.C05Cex
import Proofs.C05ExtStep

namespace MongoModel.Proofs.C05Ext
open MongoModel MongoModel.Spec MongoModel.Proofs.C05Lemmas MongoModel.Proofs.ExtGen

theorem stepX_winv (cfg : Cfg) (now : Int) (c : Coll) (op : Val) (h : IdInv c) (hg : GoodColl c)
    (hm : ∀ m ∈ midColls cfg now c op, GoodColl m) : WInv (stepX cfg now c op).1 :=
  stepX_pres carriedId GoodColl bridge now c op ⟨h, updOK_of_good hg⟩ hm

theorem reachableX_inv_alt (cfg : Cfg) (ops : List Val)
    (hg : ∀ m ∈ traceX cfg ops, GoodColl m) : IdInv (runX cfg ops).2.c := by
  rw [runX_snd]
  exact (history_pres carriedId GoodColl bridge ops {}
    ⟨C05.init_inv, fun p hp => by cases hp⟩ hg).1

theorem reachableX_inv_check (cfg : Cfg) (ops : List Val)
    (h : (traceX cfg ops).all (fun m => m.docs.all goodB) = true) : IdInv (runX cfg ops).2.c := by
  refine reachableX_inv_alt cfg ops (fun m hm p hp => ?_)
  simp only [List.all_eq_true] at h
  exact C05.goodEntry_of_goodB p (h m hm p hp)

/-- `InsertOne` of a document whose `_id` is already a key: the executor reports
    DuplicateKeyError as a write error and leaves what the expiry pass alone leaves -/
theorem bulkOne_dup (cfg : Cfg) (now : Int) (c c1 : Coll) (idx : Nat) (fs : Fields) (id : Val)
    (hid : dget "_id" (patchFields fs) = some id) (hk : storeKey id = .ok id)
    (he : expire now c = .ok c1) (hd : c1.hasKey id = true) :
    bulkOne cfg now c idx (.arr [.str "InsertOne", .doc fs]) = (c1, .writeErr .dupKey) := by
  have := C05.dup_rejected cfg now c c1 fs id hid hk he hd
  rw [Shape.bulkOne_InsertOne, Shape.bulkIns, this]
  rfl

theorem bulk_dup_rejected (cfg : Cfg) (now : Int) (ordered : Bool) (c c1 : Coll) (idx : Nat)
    (fs : Fields) (id : Val) (rest : List Val) (t : BulkTotals)
    (hid : dget "_id" (patchFields fs) = some id) (hk : storeKey id = .ok id)
    (he : expire now c = .ok c1) (hd : c1.hasKey id = true) :
    bulkLoop cfg now ordered (.arr [.str "InsertOne", .doc fs] :: rest) idx c t =
      if ordered then
        (c1, .bulkErr ({ t with errors := t.errors ++
          [Val.doc [("index", .int idx), ("code", .int 11000)]] }).toVal)
      else
        bulkLoop cfg now ordered rest (idx + 1) c1 { t with errors := t.errors ++
          [Val.doc [("index", .int idx), ("code", .int 11000)]] } := by
  rw [C15Lemmas.loop_cons, bulkOne_dup cfg now c c1 idx fs id hid hk he hd]
  rfl

def pairwiseB {α : Type} (r : α → α → Bool) : List α → Bool
  | [] => true
  | a :: l => l.all (r a) && pairwiseB r l

theorem pairwiseB_iff {α : Type} (r : α → α → Bool) (l : List α) :
    pairwiseB r l = true ↔ l.Pairwise (fun a b => r a b = true) := by
  induction l with
  | nil => simp [pairwiseB]
  | cons a l ih => simp [pairwiseB, ih, List.pairwise_cons]

/-- `IdInv`, evaluated -/
def idInvB (c : Coll) : Bool :=
  pairwiseB (fun a b => !pyEq a.1 b.1) c.docs &&
  c.docs.all (fun p => match idOf p.2 with
    | some id => pyEq p.1 id
    | none => false)

theorem idInvB_iff (c : Coll) : idInvB c = true ↔ IdInv c := by
  simp only [idInvB, IdInv, KeysDistinct, KeyIsId, Bool.and_eq_true, pairwiseB_iff,
    Bool.not_eq_true', List.all_eq_true]
  refine and_congr Iff.rfl (forall_congr' fun p => forall_congr' fun _ => ?_)
  cases idOf p.2 with
  | none => simp
  | some id => simp

/-- "scalar store keys, dict-shaped documents" for a whole collection -/
def goodCollB (c : Coll) : Bool := c.docs.all goodB

theorem goodColl_of_B (c : Coll) (h : goodCollB c = true) : GoodColl c := by
  intro p hp
  simp only [goodCollB, List.all_eq_true] at h
  exact C05.goodEntry_of_goodB p (h p hp)

/-- the hypotheses of `stepX_winv` and of the `bridge`, checked by evaluation -/
theorem stepX_inv_check (cfg : Cfg) (now : Int) (c : Coll) (op : Val)
    (h : (idInvB c && goodCollB c && (midColls cfg now c op).all goodCollB &&
      goodCollB (stepX cfg now c op).1) = true) : IdInv (stepX cfg now c op).1 := by
  simp only [Bool.and_eq_true, List.all_eq_true] at h
  obtain ⟨⟨⟨h1, h2⟩, h3⟩, h4⟩ := h
  exact (bridge _ (stepX_winv cfg now c op ((idInvB_iff c).1 h1) (goodColl_of_B c h2)
    (fun m hm => goodColl_of_B m (h3 m hm))) (goodColl_of_B _ h4)).1

/-! ### the unrestricted statement fails (duplicate-key association list inside a bulk) -/

def bulkBad : Val :=
  .arr [.str "bulk_write", .arr [.arr [.str "InsertOne", .doc [("_id", C05Cex.badId)]]], .bool true]

theorem chk_bulkBad : C05Cex.chk (stepX {} 0 {} bulkBad).1 = [false] := by decide +kernel

theorem runStX_mem_trace (cfg : Cfg) : ∀ (ops : List Val) (n : Nat) (s : St),
    (runStX cfg (ops.take n) s).c ∈ traceXFrom cfg ops s := by
  intro ops
  induction ops with
  | nil => intro n s; simp [runStX, traceXFrom]
  | cons op ops ih =>
    intro n s
    cases n with
    | zero => exact trace_head cfg _ s
    | succ n =>
      have := ih n (observe (stepXS cfg s op).1).1
      simp only [List.take_succ_cons, traceXFrom, List.mem_cons, List.mem_append]
      exact Or.inr (by simpa [runStX] using this)

/-- every state along the history is listed by `traceX` -/
theorem traceX_states (cfg : Cfg) (ops : List Val) (n : Nat) :
    (runX cfg (ops.take n)).2.c ∈ traceX cfg ops := by
  rw [runX_snd]; exact runStX_mem_trace cfg ops n {}

/-- the collections between the requests of a `bulk_write`, in terms of the executor loop -/
theorem midColls_bulk (cfg : Cfg) (now : Int) (c : Coll) (reqs : List Val) (ordered : Val)
    (hp : bulkPrecheck reqs = .ok ()) :
    midColls cfg now c (.arr [.str "bulk_write", .arr reqs, ordered]) =
      (List.range (reqs.length + 1)).map (fun n =>
        (bulkLoop cfg now (boolOf ordered) (reqs.take n) 0 c {}).1) := by
  unfold midColls
  rw [show bulkReqs (.arr [.str "bulk_write", .arr reqs, ordered]) = some (reqs, ordered) from rfl]
  apply List.map_congr_left
  intro n _
  rw [stepX_bulk_write, bulkWrite_take_fst cfg now c reqs (boolOf ordered) n hp]

end MongoModel.Proofs.C05Ext
