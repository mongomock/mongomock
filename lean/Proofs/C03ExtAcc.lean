/-
  Proofs.C03ExtAcc — the accumulators of `$group` against the oracle of Spec/PipelineExt.lean.
  The code's accumulator sees the present values `specPush vals` of its expression; every lemma
  `acc_*_push` says what it answers on them, and `accApply_eq_spec` puts the eight together.
  `$avg`: `sum(values_list) / float(len(list(values_list)))` (aggregate.py:193) is the exact
  average written as a binary fraction in lowest terms, whenever that fraction exists and fits a
  double.
-/
import Proofs.C03Acc
import Proofs.C03ExtKeys

namespace MongoModel.Pipe.Proofs
open MongoModel MongoModel.Pipe MongoModel.Spec.Pipe MongoModel.Spec.Order MongoModel.Proofs.C11
  MongoModel.Expr

theorem specPush_map_some (vs : List Val) : specPush (vs.map some) = vs := by
  simp only [specPush, List.filterMap_map, Function.id_comp, List.filterMap_some]

/-- one step of the oracle's fold -/
def pick (isMax : Bool) (best v : Val) : Val :=
  if (if isMax then valLt best v else valLt v best) then v else best

/-- on the values the BSON order places, `BsonComparable.__lt__` (filtering.py:583) is that
    order -/
theorem bsonLt_scalar (a b : Val) (ha : orderScalar a = true) (hb : orderScalar b = true) :
    bsonCompare .lt a b true = .ok (valLt a b) := by
  have := keyLt_eq_spec ⟨1, a⟩ ⟨1, b⟩ (List.isEmpty_iff.mp ha) (List.isEmpty_iff.mp hb)
  simpa [MongoModel.keyLt, Spec.Order.keyLt] using this

theorem accMinMaxGo_eq (isMax : Bool) : ∀ (r : List Val) (best : Val),
    (∀ v ∈ best :: r, orderScalar v = true) →
    accMinMaxGo isMax r best = .ok (r.foldl (pick isMax) best)
  | [], _, _ => rfl
  | v :: r, best, h => by
    have hb := h best List.mem_cons_self
    have hv := h v (List.mem_cons_of_mem _ List.mem_cons_self)
    have hr : ∀ x ∈ r, orderScalar x = true :=
      fun x hx => h x (List.mem_cons_of_mem _ (List.mem_cons_of_mem _ hx))
    have ih := accMinMaxGo_eq isMax r (pick isMax best v) (fun x hx => by
      rcases List.mem_cons.mp hx with rfl | hx
      · unfold pick
        by_cases hc : (if isMax then valLt best v else valLt v best) = true
        · rw [if_pos hc]; exact hv
        · rw [if_neg hc]; exact hb
      · exact hr x hx)
    cases isMax with
    | true =>
      simp only [accMinMaxGo, if_true, bsonLt_scalar best v hb hv, List.foldl_cons]
      exact ih
    | false =>
      simp only [accMinMaxGo, Bool.false_eq_true, if_false, bsonLt_scalar v best hv hb,
        List.foldl_cons]
      exact ih

/-- `$min` / `$max` over scalar values of ANY types (nulls are skipped): the smallest / largest
    value in the BSON order, the earliest among equals -/
theorem acc_minmax_push (isMax : Bool) (vals : List (Option Val))
    (h : (specPush vals).all orderScalar = true) :
    accMinMax isMax (specPush vals) = .ok (specExtremum isMax vals) := by
  have e : (fun v => !Expr.isNull v) = notNull := by funext v; cases v <;> rfl
  have hf : ∀ v ∈ (specPush vals).filter notNull, orderScalar v = true := fun v hv =>
    List.all_eq_true.mp h v (List.mem_filter.mp hv).1
  unfold accMinMax specExtremum
  rw [e]
  generalize (specPush vals).filter notNull = ys at hf
  match ys, hf with
  | [], _ => rfl
  | y :: r, hf => exact accMinMaxGo_eq isMax r y hf

theorem pyIn_eq_any_keyEq (v : Val) (acc : List Val) (hv : groupKeyOk v = true)
    (hacc : ∀ a ∈ acc, groupKeyOk a = true) : pyIn v acc = acc.any (fun a => keyEq a v) := by
  unfold pyIn
  induction acc with
  | nil => rfl
  | cons a r ih =>
    rw [List.any_cons, List.any_cons, ih (fun x hx => hacc x (List.mem_cons_of_mem _ hx)),
      pyEq_eq_tie a v (hacc a List.mem_cons_self) hv]
    rfl

theorem addToSetLoop_eq : ∀ (vs acc : List Val), (∀ v ∈ vs, setOk v = true) →
    (∀ a ∈ acc, groupKeyOk a = true) →
    addToSetLoop vs acc =
      acc ++ (distinctKeys vs).filter (fun x => !acc.any (fun a => keyEq a x))
  | [], acc, _, _ => by simp [addToSetLoop, distinctKeys]
  | v :: r, acc, hvs, hacc => by
    obtain ⟨hv, hr⟩ := List.forall_mem_cons.mp hvs
    change groupKeyOk v = true at hv  -- `setOk` is `groupKeyOk` by definition
    simp only [addToSetLoop, pyIn_eq_any_keyEq v acc hv hacc, distinctKeys,
      List.filter_cons]
    cases hin : acc.any (fun a => keyEq a v) with
    | true =>
      simp only [if_true, Bool.not_true, Bool.false_eq_true, if_false]
      rw [addToSetLoop_eq r acc hr hacc, List.filter_filter]
      congr 1
      apply List.filter_congr
      intro x _
      cases hax : acc.any (fun a => keyEq a x) with
      | true => rfl
      | false =>
        -- some `a` of `acc` is equal to `v`; `x` is equal to no `a`; so `x` differs from `v`
        obtain ⟨a, ha, hav⟩ := List.any_eq_true.mp hin
        have hax' : keyEq a x = false := by
          simpa using List.any_eq_false.mp hax a ha
        have : keyEq v x = false := by rw [← keyEq_congr_left hav x]; exact hax'
        simp [this]
    | false =>
      simp only [Bool.false_eq_true, if_false, Bool.not_false, if_true]
      rw [addToSetLoop_eq r (acc ++ [v]) hr (by
        intro a ha
        rcases List.mem_append.mp ha with h | h
        · exact hacc a h
        · rw [List.mem_singleton.mp h]; exact hv), List.filter_filter, List.append_assoc]
      congr 1
      rw [List.singleton_append]
      congr 1
      apply List.filter_congr
      intro x _
      simp only [List.any_append, List.any_cons, List.any_nil, Bool.or_false, Bool.not_or]

/-- **`$addToSet`** over scalar values (no boolean): each distinct value once, as it is — 0, ""
    and null included —, by first appearance -/
theorem acc_addToSet (values : List Val) (h : ∀ v ∈ values, setOk v = true) :
    accApply "$addToSet" values = .ok (.arr (specAddToSet values)) := by
  have := addToSetLoop_eq values [] h (by simp)
  simp only [List.any_nil, Bool.not_false, List.filter_true, List.nil_append] at this
  simp [accApply, this, specAddToSet]

/-! ### `$sum` over integers mixed with non-numbers -/

/-- the numbers the code adds are the oracle's integers when no value is a double -/
theorem accNums_push : ∀ (vals : List (Option Val)), (∀ v ∈ specPush vals, sumOk v = true) →
    accNums (specPush vals) = (specInts vals).map PyNum.i
  | [], _ => rfl
  | none :: r, h => accNums_push r h
  | some v :: r, h => by
    have ih := accNums_push r (fun x hx => h x (List.mem_cons_of_mem _ hx))
    cases v with
    | int i => exact congrArg (PyNum.i i :: ·) ih
    | dbl m e => exact absurd (h _ List.mem_cons_self) Bool.false_ne_true
    | _ => exact ih

theorem specSumInt_eq (vals : List (Option Val)) :
    specSumInt vals = (specInts vals).foldl (· + ·) 0 := rfl

/-- **`$sum`**: the integers are added, values that are not numbers — booleans included — are
    ignored -/
theorem acc_sum_push (vals : List (Option Val)) (h : ∀ v ∈ specPush vals, sumOk v = true) :
    accApply "$sum" (specPush vals) = .ok (.int (specSumInt vals)) := by
  simp only [accApply, accSum, if_true, accNums_push vals h, sumNums_ints, PyNum.toVal,
    specSumInt_eq]

/-! ### `$avg`: the odd part and the number of factors two -/

theorem oddPart_twoAdic_aux : ∀ (fuel n : Nat), 0 < n → n ≤ fuel →
    n = oddPartAux fuel n * 2 ^ twoAdicAux fuel n ∧ oddPartAux fuel n % 2 = 1
  | 0, n, h0, h1 => absurd h0 (Nat.not_lt.mpr h1)
  | fuel + 1, n, h0, h1 => by
    rw [oddPartAux, twoAdicAux]
    by_cases he : n % 2 = 0
    · have hc : (n % 2 == 0 && n != 0) = true := by simp [he, Nat.ne_of_gt h0]
      have h2 : 0 < n / 2 ∧ n / 2 ≤ fuel ∧ n / 2 * 2 = n := by omega
      obtain ⟨i1, i2⟩ := oddPart_twoAdic_aux fuel (n / 2) h2.1 h2.2.1
      rw [if_pos hc, if_pos hc, Nat.pow_succ, ← Nat.mul_assoc, ← i1]
      exact ⟨h2.2.2.symm, i2⟩
    · have hc : ¬ (n % 2 == 0 && n != 0) = true := by simp [he]
      rw [if_neg hc, if_neg hc]
      exact ⟨(Nat.mul_one n).symm, Nat.mod_two_ne_zero.mp he⟩

theorem oddPart_twoAdic (n : Nat) (h : 0 < n) :
    n = oddPart n * 2 ^ twoAdic n ∧ oddPart n % 2 = 1 :=
  oddPart_twoAdic_aux n n h (Nat.le_refl _)

/-- `normDy` strips common factors two: lowest terms -/
theorem normDy_spec : ∀ (e : Nat) (m : Int),
    (normDy m e).2 ≤ e ∧ m = (normDy m e).1 * 2 ^ (e - (normDy m e).2) ∧
      ((normDy m e).2 = 0 ∨ (normDy m e).1 % 2 ≠ 0)
  | 0, m => ⟨Nat.le_refl _, (Int.mul_one m).symm, Or.inl rfl⟩
  | e + 1, m => by
    rw [normDy]
    by_cases he : m % 2 = 0
    · obtain ⟨i1, i2, i3⟩ := normDy_spec e (m / 2)
      rw [if_pos (beq_iff_eq.mpr he)]
      refine ⟨Nat.le_succ_of_le i1, ?_, i3⟩
      rw [Nat.succ_sub i1, Int.pow_succ, ← Int.mul_assoc, ← i2]
      omega
    · rw [if_neg (mt beq_iff_eq.mp he)]
      exact ⟨Nat.le_refl _, by rw [Nat.sub_self]; exact (Int.mul_one m).symm, Or.inr he⟩

theorem findSome_range {β} (f : Nat → Option β) (b : β) : ∀ (N : Nat),
    (List.range N).findSome? f = some b → ∃ e, e < N ∧ f e = some b ∧ ∀ e' < e, f e' = none
  | 0, h => by cases h
  | N + 1, h => by
    rw [List.range_succ, List.findSome?_append] at h
    cases hN : (List.range N).findSome? f with
    | some b' =>
      rw [hN] at h
      cases h
      obtain ⟨e, h1, h2, h3⟩ := findSome_range f b N hN
      exact ⟨e, Nat.lt_succ_of_lt h1, h2, h3⟩
    | none =>
      rw [hN, Option.none_or, List.findSome?_cons, List.findSome?_nil] at h
      refine ⟨N, Nat.lt_succ_self N, ?_,
        fun e' he' => List.findSome?_eq_none_iff.mp hN e' (List.mem_range.mpr he')⟩
      cases hf : f N with
      | none => rw [hf] at h; cases h
      | some c => rw [hf] at h; exact h

theorem binFraction_spec (s : Int) (n : Nat) (m : Int) (e : Nat)
    (h : binFraction s n = some (m, e)) :
    m * (n : Int) = s * 2 ^ e ∧ ∀ e' < e, ¬ ((n : Int) ∣ s * 2 ^ e') := by
  unfold binFraction at h
  obtain ⟨e0, _, h2, h3⟩ := findSome_range _ _ _ h
  split at h2
  · rename_i hd
    cases h2
    refine ⟨Int.ediv_mul_cancel (Int.dvd_of_emod_eq_zero hd), ?_⟩
    intro e' he' hdvd
    have := h3 e' he'
    rw [if_pos (Int.emod_eq_zero_of_dvd hdvd)] at this
    cases this
  · cases h2

/-- the lowest-terms pair `normDy` computes from `q = S / o` and the `k` factors two of
    `n = o · 2^k` is the oracle's fraction: `m / 2^e = S / n` with the least `e` -/
theorem normDy_of_fraction (S q : Int) (o k n : Nat) (hn : n = o * 2 ^ k) (ho : o % 2 = 1)
    (hq : S = (o : Int) * q) (m : Int) (e : Nat) (hmn : m * (n : Int) = S * 2 ^ e)
    (hmin : ∀ e' < e, ¬ ((n : Int) ∣ S * 2 ^ e')) : normDy q k = (m, e) := by
  have hn' : (n : Int) = o * 2 ^ k := by rw [hn, Nat.cast_mul, Nat.cast_pow]; rfl
  have ho0 : (o : Int) ≠ 0 := Int.natCast_ne_zero.mpr fun h => by rw [h] at ho; cases ho
  have h2k : ∀ j : Nat, (2 : Int) ^ j ≠ 0 := fun j => Int.pow_ne_zero (by decide)
  obtain ⟨n1, n2, n3⟩ := normDy_spec k q
  generalize normDy q k = p at n1 n2 n3 ⊢
  have h1 : m * 2 ^ k = q * 2 ^ e := by
    rw [hn', hq] at hmn
    refine Int.eq_of_mul_eq_mul_left ho0 ?_
    calc (o : Int) * (m * 2 ^ k) = m * (o * 2 ^ k) := by ac_rfl
      _ = o * (q * 2 ^ e) := hmn.trans (Int.mul_assoc _ _ _)
  have h2 : p.1 * 2 ^ k = q * 2 ^ p.2 := by
    rw [n2, Int.mul_assoc p.1, ← Int.pow_add, Nat.sub_add_cancel n1]
  have h3 : m * 2 ^ p.2 = p.1 * 2 ^ e := by
    refine Int.eq_of_mul_eq_mul_right (h2k k) ?_
    rw [Int.mul_right_comm, h1, Int.mul_right_comm p.1, h2]; ac_rfl
  have hle : e ≤ p.2 := Nat.le_of_not_lt fun hlt =>
    hmin p.2 hlt ⟨p.1, by rw [hq, hn', Int.mul_assoc, ← h2]; ac_rfl⟩
  have hee : p.2 = e := by
    by_contra hne
    obtain ⟨j, hj⟩ := Nat.exists_eq_add_of_lt (Nat.lt_of_le_of_ne hle (Ne.symm hne))
    -- `p.1` is even although `p.2 ≠ 0`
    have hp1 : p.1 = m * 2 ^ j * 2 := by
      refine Int.eq_of_mul_eq_mul_right (h2k e) ?_
      rw [← h3, hj, Int.pow_succ, Int.pow_add]; ac_rfl
    rcases n3 with h | h
    · exact Nat.succ_ne_zero _ (hj.symm.trans h)
    · exact h (by rw [hp1]; exact Int.mul_emod_left _ _)
  rw [hee] at h3
  exact Prod.ext (Int.eq_of_mul_eq_mul_right (h2k e) h3).symm hee

theorem coprime_two_pow (o e : Nat) (ho : o % 2 = 1) : Nat.Coprime o (2 ^ e) := by
  apply Nat.Coprime.pow_right
  unfold Nat.Coprime
  rw [Nat.gcd_comm, Nat.gcd_rec, ho]; rfl

/-- `S / float(n)` is the exact quotient in lowest binary terms, when there is one that fits -/
theorem pyDivide_int (S : Int) (n : Nat) (hn : 0 < n) (m : Int) (e : Nat)
    (hbf : binFraction S n = some (m, e)) (hb1 : m.natAbs < Spec.Pipe.two53) (hb2 : e ≤ 1000) :
    pyDivide (.i S) (.f n 0) = .ok (.dbl m e) := by
  obtain ⟨hmn, hmin⟩ := binFraction_spec S n m e hbf
  obtain ⟨hfac, hodd⟩ := oddPart_twoAdic n hn
  -- the odd part of `n` divides `S`, being prime to the power of two in `n ∣ S · 2^e`
  obtain ⟨q, hq⟩ : (oddPart n : Int) ∣ S := by
    have h1 : (oddPart n : Int) ∣ S * 2 ^ e := by
      refine ⟨2 ^ twoAdic n * m, ?_⟩
      rw [← hmn, ← Int.mul_assoc, Int.mul_comm _ m]
      conv => lhs; rw [hfac, Nat.cast_mul, Nat.cast_pow]
      rfl
    rw [← Int.natAbs_dvd_natAbs] at h1 ⊢
    rw [Int.natAbs_natCast, Int.natAbs_mul, Int.natAbs_pow] at h1
    rw [Int.natAbs_natCast]
    exact (coprime_two_pow _ e hodd).dvd_of_dvd_mul_right h1
  have ho0 : (oddPart n : Int) ≠ 0 := Int.natCast_ne_zero.mpr fun h => by rw [h] at hodd; cases hodd
  have hnd := normDy_of_fraction S q _ _ n hfac hodd hq m e hmn hmin
  have c1 : ((n : Int) == 0) = false :=
    beq_eq_false_iff_ne.mpr (Int.natCast_ne_zero.mpr (Nat.ne_of_gt hn))
  have c2 : ¬ (n : Int) < 0 := Int.not_lt.mpr (Int.natCast_nonneg n)
  have hb1' : m.natAbs < Expr.two53.natAbs := hb1
  simp only [pyDivide, PyNum.asF, c1, Bool.false_eq_true, if_false, c2, decide_false,
    Bool.and_false, Int.natAbs_natCast, hq, Int.mul_emod_right, bne_self_eq_false,
    Int.mul_ediv_cancel_left q ho0, pow2, Int.pow_zero, Int.mul_one, Int.one_mul, Nat.zero_add, mkF,
    hnd, hb1', hb2, decide_true, Bool.and_self, if_true]

/-- **`$avg`** over integers (values that are not numbers are ignored): the exact average,
    null when there is no number — whenever the average is a double -/
theorem acc_avg_push (vals : List (Option Val)) (h : ∀ v ∈ specPush vals, sumOk v = true) (v : Val)
    (hs : specAvgInt vals = some v) (hf : avgFits v = true) :
    accApply "$avg" (specPush vals) = .ok v := by
  simp only [accApply, accAvg, String.reduceEq, if_false, if_true, accNums_push vals h]
  unfold specAvgInt at hs
  generalize specInts vals = is at hs ⊢
  cases is with
  | nil => cases hs; rfl
  | cons i r =>
    obtain ⟨⟨m, e⟩, hb, rfl⟩ := Option.map_eq_some_iff.mp hs
    simp only [avgFits, Bool.and_eq_true, decide_eq_true_eq] at hf
    simp only [sumNums_ints, List.length_map]
    exact pyDivide_int _ _ (Nat.succ_pos _) m e hb hf.1 hf.2

theorem specLast_eq_first (vals : List (Option Val)) : specLast vals = specFirst vals.reverse := by
  simp [specLast, specFirst, List.head?_reverse]

theorem sumReasons_nil (vs : List Val) (h : sumReasons vs = []) : ∀ v ∈ vs, sumOk v = true := by
  intro v hv
  cases hb : vs.any isDblV with
  | false => simpa [sumOk] using List.any_eq_false.mp hb v hv
  | true => simp [sumReasons, hb] at h

/-- every accumulator of the domain computes the oracle's value from what it sees of the values
    of its expression -/
theorem accApply_eq_spec (op : String) (vals : List (Option Val)) (v : Val)
    (hD : accReasons op vals = []) (hs : specAcc op vals = some v) :
    accApply op (seenValues (op = "$first" || op = "$last") vals) = .ok v := by
  by_cases h4 : op = "$first"
  · subst h4
    simp only [specAcc, String.reduceEq, if_false, if_true, Option.some.injEq] at hs
    simp only [decide_true, Bool.true_or, acc_first_seen, hs]
  by_cases h5 : op = "$last"
  · subst h5
    simp only [specAcc, String.reduceEq, if_false, if_true, Option.some.injEq] at hs
    simp only [decide_true, Bool.or_true, acc_last_seen, hs]
  have hfl : (decide (op = "$first") || decide (op = "$last")) = false := by simp [h4, h5]
  rw [hfl]
  show accApply op (specPush vals) = .ok v
  by_cases h1 : op = "$sum"
  · subst h1
    simp only [specAcc, if_true, Option.some.injEq] at hs
    simp only [accReasons, if_true] at hD
    rw [← hs]
    exact acc_sum_push vals (sumReasons_nil _ hD)
  by_cases h2 : op = "$avg"
  · subst h2
    simp only [specAcc, String.reduceEq, if_false, if_true] at hs
    simp only [accReasons, String.reduceEq, if_false, if_true, List.append_eq_nil_iff, hs] at hD
    exact acc_avg_push vals (sumReasons_nil _ hD.1) v hs (of_ite_nil hD.2)
  by_cases h3 : op = "$min" ∨ op = "$max"
  · have hone : (specPush vals).all orderScalar = true := by
      rcases h3 with rfl | rfl <;>
        simp only [accReasons, String.reduceEq, if_false, decide_true, decide_false,
          Bool.or_true, Bool.or_false, if_true] at hD <;> exact of_ite_nil hD
    rcases h3 with rfl | rfl <;>
      simp only [specAcc, String.reduceEq, if_false, if_true, Option.some.injEq] at hs <;>
      simp only [accApply, String.reduceEq, if_false, if_true, acc_minmax_push _ _ hone, hs]
  by_cases h6 : op = "$push"
  · subst h6
    simp only [specAcc, String.reduceEq, if_false, if_true, Option.some.injEq] at hs
    rw [acc_push, hs]
  by_cases h7 : op = "$addToSet"
  · subst h7
    simp only [specAcc, String.reduceEq, if_false, if_true, Option.some.injEq] at hs
    simp only [accReasons, String.reduceEq, Bool.or_self, decide_false, Bool.false_eq_true,
      if_false, if_true] at hD
    rw [acc_addToSet, hs]
    intro x hx
    have := List.flatMap_eq_nil_iff.mp hD x hx
    cases hk : groupKeyOk x with
    | true => exact hk
    | false => simp only [hk, Bool.false_eq_true, if_false] at this; split at this <;> cases this
  · simp only [not_or] at h3
    simp [specAcc, h1, h2, h3.1, h3.2, h4, h5, h6, h7] at hs

end MongoModel.Pipe.Proofs
