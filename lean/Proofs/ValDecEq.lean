/-
  Proofs.ValDecEq — decidable equality of values, from the hand-written structural `Val.beq`
  (`deriving DecidableEq` does not go through the nested inductive).  Used to decide concrete
  instances (`decide +kernel`) of statements that speak of `=` between values.
-/
import Proofs.C01Values

namespace MongoModel.Proofs
open MongoModel MongoModel.Proofs.C01Lemmas

theorem beqFields_refl (fs : Fields) (ih : ∀ k v, (k, v) ∈ fs → Val.beq v v = true) :
    beqFields fs fs = true := by
  induction fs with
  | nil => rfl
  | cons kv fs ih2 =>
    obtain ⟨k, v⟩ := kv
    simp only [beqFields, Bool.and_eq_true, beq_self_eq_true, true_and]
    exact ⟨ih k v (by simp), ih2 (fun k v hm => ih k v (by simp [hm]))⟩

theorem beqList_refl (xs : List Val) (ih : ∀ x, x ∈ xs → Val.beq x x = true) :
    beqList xs xs = true := by
  induction xs with
  | nil => rfl
  | cons x xs ih2 =>
    simp only [beqList, Bool.and_eq_true]
    exact ⟨ih x (by simp), ih2 (fun x hm => ih x (by simp [hm]))⟩

theorem Val.beq_refl : ∀ a : Val, Val.beq a a = true := by
  intro a
  induction a using Val.ind with
  | hdoc fs ih => simp only [Val.beq]; exact beqFields_refl fs ih
  | harr xs ih => simp only [Val.beq]; exact beqList_refl xs ih
  | _ => simp [Val.beq]

@[reducible] def valDecEq : DecidableEq Val := fun a b =>
  if h : Val.beq a b = true then isTrue (Val.eq_of_beq a b h)
  else isFalse (fun e => h (e ▸ Val.beq_refl a))

end MongoModel.Proofs
