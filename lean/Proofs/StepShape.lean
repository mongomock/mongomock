/-
  Proofs.StepShape — the step functions `stepColl`, `stepX`, `step`, `stepXS` and the bulk
  executor `bulkOne` are large matches on string literals: unfolding or splitting them is slow,
  and has to be paid again in every module.  Here `stepColl` (data operations), `stepX` and
  `bulkOne` get one equation per operation and one case analysis on the shape of their argument,
  `step` and `stepXS` one equation each; proofs about a step go through these.  Likewise
  the loops (`insertManyLoop`, `bulkLoop`, `updateLoop`: one equation per item) and
  `findAndModify.go`.
-/
import MongoModel.FindModify
import Spec.StoreInv

namespace MongoModel.Proofs.C09Lemmas
open MongoModel

def outNat : R Nat → Out
  | .ok n => .val (.int n)
  | .error e => .err e

def outInt : R Int → Out
  | .ok n => .val (.int n)
  | .error e => .err e

def outArr : R (List Val) → Out
  | .ok ds => .val (.arr ds)
  | .error e => .err e

def outUpd : R UpdateResult → Out
  | .ok x => .val (updateOut x)
  | .error e => .err e

abbrev insErrState (now : Int) (c : Coll) (d : Val) : Coll := insertRejected now c d

theorem step_insert_one (cfg : Cfg) (now : Int) (c : Coll) (d : Val) :
    stepColl cfg now c (.arr [.str "insert_one", d]) =
      match d with
      | .doc _ =>
        (match insertDoc now c d with
         | .ok (c', id) => (c', .val id)
         | .error e => (insErrState now c d, .err e))
      | _ => (c, .err .typeErr) := by
  rfl

theorem step_insert_many (cfg : Cfg) (now : Int) (c : Coll) (ds : List Val) (ordered : Val) :
    stepColl cfg now c (.arr [.str "insert_many", .arr ds, ordered]) =
      if ds.isEmpty then (c, .err .typeErr)
      else if !ds.all Val.isDoc then (c, .err .typeErr)
      else insertManyLoop now (boolOf ordered) ds 0 c [] [] 0 := by rfl

theorem step_update_one (cfg : Cfg) (now : Int) (c : Coll) (f u upsert : Val) :
    stepColl cfg now c (.arr [.str "update_one", f, u, upsert]) =
      match validateUpdate u with
      | .error e => (c, .err e)
      | .ok () => ((applyUpdateColl cfg now c f u (boolOf upsert) false).1,
                   outUpd (applyUpdateColl cfg now c f u (boolOf upsert) false).2) := by rfl

theorem step_update_many (cfg : Cfg) (now : Int) (c : Coll) (f u upsert : Val) :
    stepColl cfg now c (.arr [.str "update_many", f, u, upsert]) =
      match validateUpdate u with
      | .error e => (c, .err e)
      | .ok () => ((applyUpdateColl cfg now c f u (boolOf upsert) true).1,
                   outUpd (applyUpdateColl cfg now c f u (boolOf upsert) true).2) := by rfl

theorem step_replace_one (cfg : Cfg) (now : Int) (c : Coll) (f u upsert : Val) :
    stepColl cfg now c (.arr [.str "replace_one", f, u, upsert]) =
      match validateReplace u with
      | .error e => (c, .err e)
      | .ok () => ((applyUpdateColl cfg now c f u (boolOf upsert) false).1,
                   outUpd (applyUpdateColl cfg now c f u (boolOf upsert) false).2) := by rfl

theorem step_delete_one (cfg : Cfg) (now : Int) (c : Coll) (f : Val) :
    stepColl cfg now c (.arr [.str "delete_one", f]) =
      ((deleteColl now c f false).1, outNat (deleteColl now c f false).2) := by rfl

theorem step_delete_many (cfg : Cfg) (now : Int) (c : Coll) (f : Val) :
    stepColl cfg now c (.arr [.str "delete_many", f]) =
      ((deleteColl now c f true).1, outNat (deleteColl now c f true).2) := by rfl

theorem step_find (cfg : Cfg) (now : Int) (c : Coll) (f : Val) :
    stepColl cfg now c (.arr [.str "find", f]) =
      ((findColl now c f).1, outArr (findColl now c f).2) := by rfl

theorem step_count (cfg : Cfg) (now : Int) (c : Coll) (f : Val) (skip : Int) (limit : Val) :
    stepColl cfg now c (.arr [.str "count", f, .int skip, limit]) =
      ((countColl now c f skip (optOf (some limit))).1,
       outInt (countColl now c f skip (optOf (some limit))).2) := by rfl

theorem step_distinct (cfg : Cfg) (now : Int) (c : Coll) (key : String) (f : Val) :
    stepColl cfg now c (.arr [.str "distinct", .str key, f]) =
      ((distinctColl now c key f).1, outArr (distinctColl now c key f).2) := by rfl

theorem insertManyLoop_cons (now : Int) (ordered : Bool) (d : Val) (rest : List Val) (idx : Nat)
    (c : Coll) (ids errs : List Val) (n : Nat) :
    insertManyLoop now ordered (d :: rest) idx c ids errs n =
      match insertDoc now c d with
      | .ok (c', id) => insertManyLoop now ordered rest (idx + 1) c' (ids ++ [id]) errs (n + 1)
      | .error e =>
        if e.isWriteError then
          if ordered then
            insertManyDone (insErrState now c d) ids
              (errs ++ [.doc [("index", .int idx), ("code", errCode e)]]) n
          else insertManyLoop now ordered rest (idx + 1) (insErrState now c d) ids
              (errs ++ [.doc [("index", .int idx), ("code", errCode e)]]) n
        else (insErrState now c d, .err e) := by
  rfl

end MongoModel.Proofs.C09Lemmas

namespace MongoModel.Proofs.Shape
open MongoModel

/-- the operations of `stepColl` that read or write documents -/
inductive DataShape : Val → Prop
  | insertOne (d : Val) : DataShape (.arr [.str "insert_one", d])
  | insertMany (ds : List Val) (ordered : Val) : DataShape (.arr [.str "insert_many", .arr ds, ordered])
  | updateOne (f u up : Val) : DataShape (.arr [.str "update_one", f, u, up])
  | updateMany (f u up : Val) : DataShape (.arr [.str "update_many", f, u, up])
  | replaceOne (f u up : Val) : DataShape (.arr [.str "replace_one", f, u, up])
  | deleteOne (f : Val) : DataShape (.arr [.str "delete_one", f])
  | deleteMany (f : Val) : DataShape (.arr [.str "delete_many", f])
  | find (f : Val) : DataShape (.arr [.str "find", f])
  | count (f : Val) (skip : Int) (limit : Val) : DataShape (.arr [.str "count", f, .int skip, limit])
  | distinct (key : String) (f : Val) : DataShape (.arr [.str "distinct", .str key, f])

/-- the operations of `stepColl` on the indexes and on the collection as a whole -/
inductive IndexShape : Val → Prop
  | createIndex (keys : Val) (opts : Fields) : IndexShape (.arr [.str "create_index", keys, .doc opts])
  | dropIndex (name : String) : IndexShape (.arr [.str "drop_index", .str name])
  | dropIndexes : IndexShape (.arr [.str "drop_indexes"])
  | drop : IndexShape (.arr [.str "drop"])

/-- an operation has one of the known shapes, or `stepColl` refuses it and changes nothing
    (a known name with the wrong number or kind of arguments included) -/
theorem stepColl_cases (op : Val) :
    DataShape op ∨ IndexShape op ∨ ∀ cfg now c, stepColl cfg now c op = (c, .err .unmodelled) := by
  unfold stepColl
  split
  all_goals first
    | exact .inl (by constructor)
    | exact .inr (.inl (by constructor))
    | exact .inr (.inr fun _ _ _ => rfl)

def outOpt : R (Option Val) → Out
  | .ok v => .val (optVal v)
  | .error e => .err e

/-- the body shared by the three find_one_and_* cases of `stepX` -/
def famStep (cfg : Cfg) (now : Int) (c : Coll) (query proj : Val) (update : Option Val)
    (sortV : Val) (upsert after : Bool) : Coll × Out :=
  match query with
  | .doc _ =>
    (match sortSpecOf sortV with
     | .error e => (c, .err e)
     | .ok sort =>
       ((findAndModify cfg now c query proj update upsert sort after).1,
        outOpt (findAndModify cfg now c query proj update upsert sort after).2))
  | _ => (c, .err .typeErr)

theorem stepX_find_one (cfg : Cfg) (now : Int) (c : Coll) (f proj sortV : Val) :
    stepX cfg now c (.arr [.str "find_one", f, proj, sortV]) =
      match sortSpecOf sortV with
      | .error e => (c, .err e)
      | .ok sort => ((findOneColl now c f proj sort).1, outOpt (findOneColl now c f proj sort).2) := by
  rfl

theorem stepX_fau (cfg : Cfg) (now : Int) (c : Coll) (f u proj sortV up after : Val) :
    stepX cfg now c (.arr [.str "find_one_and_update", f, u, proj, sortV, up, after]) =
      match validateUpdate u with
      | .error e => (c, .err e)
      | .ok () => famStep cfg now c f proj (some u) sortV (boolOf up) (boolOf after) := by
  rfl

theorem stepX_far (cfg : Cfg) (now : Int) (c : Coll) (f u proj sortV up after : Val) :
    stepX cfg now c (.arr [.str "find_one_and_replace", f, u, proj, sortV, up, after]) =
      match validateReplace u with
      | .error e => (c, .err e)
      | .ok () => famStep cfg now c f proj (some u) sortV (boolOf up) (boolOf after) := by
  rfl

theorem stepX_fad (cfg : Cfg) (now : Int) (c : Coll) (f proj sortV : Val) :
    stepX cfg now c (.arr [.str "find_one_and_delete", f, proj, sortV]) =
      famStep cfg now c f proj none sortV false false := by
  rfl

theorem stepX_bulk_write (cfg : Cfg) (now : Int) (c : Coll) (reqs : List Val) (ordered : Val) :
    stepX cfg now c (.arr [.str "bulk_write", .arr reqs, ordered]) =
      bulkWrite cfg now c reqs (boolOf ordered) := by rfl

theorem stepX_bulk_builder (cfg : Cfg) (now : Int) (c : Coll) (reqs : List Val) (ordered : Val)
    (times : Int) :
    stepX cfg now c (.arr [.str "bulk_builder", .arr reqs, ordered, .int times]) =
      bulkBuilder cfg now c reqs (boolOf ordered) times.toNat := by rfl

/-- the operations `stepX` adds to those of `stepColl` -/
inductive OpShapeX : Val → Prop
  | findOne (f proj sortV : Val) : OpShapeX (.arr [.str "find_one", f, proj, sortV])
  | fau (f u proj sortV up after : Val) :
      OpShapeX (.arr [.str "find_one_and_update", f, u, proj, sortV, up, after])
  | far (f u proj sortV up after : Val) :
      OpShapeX (.arr [.str "find_one_and_replace", f, u, proj, sortV, up, after])
  | fad (f proj sortV : Val) : OpShapeX (.arr [.str "find_one_and_delete", f, proj, sortV])
  | bulkWrite (reqs : List Val) (ordered : Val) : OpShapeX (.arr [.str "bulk_write", .arr reqs, ordered])
  | bulkBuilder (reqs : List Val) (ordered : Val) (times : Int) :
      OpShapeX (.arr [.str "bulk_builder", .arr reqs, ordered, .int times])

theorem stepX_cases (op : Val) :
    OpShapeX op ∨ ∀ cfg now c, stepX cfg now c op = stepColl cfg now c op := by
  unfold stepX
  split
  all_goals first
    | exact .inl (by constructor)
    | exact .inr fun _ _ _ => rfl

/-- every operation but `clock` is the collection step run at the state's clock -/
theorem step_eq (cfg : Cfg) (s : St) (op : Val) (h : ∀ us, op ≠ .arr [.str "clock", .int us]) :
    step cfg s op =
      ({ s with c := (stepColl cfg s.now s.c op).1 }, (stepColl cfg s.now s.c op).2) := by
  unfold step
  split
  · exact absurd rfl (h _)
  · rfl

theorem stepXS_eq (cfg : Cfg) (s : St) (op : Val) (h : ∀ us, op ≠ .arr [.str "clock", .int us]) :
    stepXS cfg s op = ({ s with c := (stepX cfg s.now s.c op).1 }, (stepX cfg s.now s.c op).2) := by
  unfold stepXS
  split
  · exact absurd rfl (h _)
  · rfl

/-- the write and the read-back that end `_find_and_modify`, on the upsert path and when a
    target was found alike -/
def famWrite (cfg : Cfg) (now : Int) (c : Coll) (q proj u : Val) (upsert after : Bool)
    (old : Option Val) : Coll × R (Option Val) :=
  match findAndModify.projOk proj with
  | .error e => (c, .error e)
  | .ok () =>
    let (c2, r) := applyUpdateColl cfg now c q u upsert false
    match r with
    | .error e => (c2, .error e)
    | .ok res =>
      if after then
        findOneColl now c2
          (match res.upserted with
           | some id => Val.doc [("_id", id)]
           | none => q) proj none
      else (c2, .ok old)

theorem go_eq (cfg : Cfg) (now : Int) (c : Coll) (query proj : Val) (update : Option Val)
    (upsert : Bool) (sort : Option SortSpec) (after : Bool) :
    findAndModify.go cfg now c query proj update upsert sort after =
      match findOneColl now c query .null sort with
      | (c1, .error e) => (c1, .error e)
      | (c1, .ok none) =>
        if !upsert then (c1, .ok none)
        else
          match update with
          | none => (c1, .ok none)
          | some u => famWrite cfg now c1 query proj u true after none
      | (c1, .ok (some target)) =>
        match findOneColl now c1 (.doc [("_id", idOfDoc target)]) proj none with
        | (c2, .error e) => (c2, .error e)
        | (c2, .ok old) =>
          match update with
          | none =>
            let (c3, r) := deleteColl now c2 (.doc [("_id", idOfDoc target)]) false
            (match r with
             | .error e => (c3, .error e)
             | .ok _ => (c3, .ok old))
          | some u => famWrite cfg now c2 (.doc [("_id", idOfDoc target)]) proj u upsert after old := by
  unfold findAndModify.go
  rfl

open MongoModel.Spec (idOf)

/-- what the update loop does with the snapshot entry stored under `key`: it raises, passes the
    entry over (`none`: gone, or not selected any more), or rewrites it, leaving `c2` and telling
    whether the document counts as modified -/
def visit (now : Int) (spec document nowV key : Val) (c : Coll) : R (Option (Coll × Bool)) :=
  match c.lookup key with
  | none => .ok none
  | some cur =>
    match filterApplies spec cur with
    | .error e => .error e
    | .ok false => .ok none
    | .ok true =>
      match applyUpdate spec document nowV false cur with
      | .error e => .error e
      | .ok new =>
        if pyEq new cur then (ensureUniques now (c.setDoc key new) new).map (fun c2 => some (c2, false))
        else if !(pyEqOpt (idOf cur) (idOf new)) then .error .writeErr
        else (ensureUniques now (c.setDoc key new) new).map (fun c2 => some (c2, true))

theorem updateLoop_nil (now : Int) (spec document nowV : Val) (multi : Bool) (c : Coll) (m u : Nat) :
    updateLoop now spec document nowV multi [] c m u = (c, .ok (m, u)) := by
  rw [updateLoop]

theorem updateLoop_cons (now : Int) (spec document nowV : Val) (multi : Bool) (key v0 : Val)
    (rest : List (Val × Val)) (c : Coll) (m u : Nat) :
    updateLoop now spec document nowV multi ((key, v0) :: rest) c m u =
      match visit now spec document nowV key c with
      | .error e => (c, .error e)
      | .ok none => updateLoop now spec document nowV multi rest c m u
      | .ok (some (c2, ch)) =>
        if multi then updateLoop now spec document nowV multi rest c2 (m + 1) (if ch then u + 1 else u)
        else (c2, .ok (m + 1, if ch then u + 1 else u)) := by
  rw [updateLoop, visit]
  cases c.lookup key with
  | none => rfl
  | some cur =>
    dsimp only
    cases filterApplies spec cur with
    | error e => rfl
    | ok b =>
      cases b with
      | false => rfl
      | true =>
        dsimp only
        cases applyUpdate spec document nowV false cur with
        | error e => rfl
        | ok new =>
          dsimp only
          cases pyEq new cur with
          | true =>
            simp only [if_true]
            cases ensureUniques now (c.setDoc key new) new <;> rfl
          | false =>
            simp only [Bool.false_eq_true, if_false]
            show (if (!pyEqOpt (idOf cur) (idOf new)) = true then _ else _) = _
            cases (!pyEqOpt (idOf cur) (idOf new)) with
            | true => rfl
            | false => cases ensureUniques now (c.setDoc key new) new <;> rfl

theorem visit_skip {now : Int} {spec document nowV key : Val} {c : Coll}
    (h : ∀ cur, c.lookup key = some cur → filterApplies spec cur = .ok false) :
    visit now spec document nowV key c = .ok none := by
  unfold visit
  cases hl : c.lookup key with
  | none => rfl
  | some cur => dsimp only; rw [h cur hl]

/-- a rewritten entry: what was looked up, what it became -/
theorem visit_some {now : Int} {spec document nowV key : Val} {c c2 : Coll} {ch : Bool}
    (h : visit now spec document nowV key c = .ok (some (c2, ch))) :
    ∃ cur new, c.lookup key = some cur ∧ filterApplies spec cur = .ok true ∧
      applyUpdate spec document nowV false cur = .ok new ∧
      ensureUniques now (c.setDoc key new) new = .ok c2 ∧
      (pyEq new cur = true ∨ pyEqOpt (idOf cur) (idOf new) = true) := by
  unfold visit at h
  cases hl : c.lookup key with
  | none => rw [hl] at h; cases h
  | some cur =>
    rw [hl] at h
    dsimp only at h
    cases hf : filterApplies spec cur with
    | error e => rw [hf] at h; cases h
    | ok b =>
      rw [hf] at h
      cases b with
      | false => cases h
      | true =>
        dsimp only at h
        cases ha : applyUpdate spec document nowV false cur with
        | error e => rw [ha] at h; cases h
        | ok new =>
          rw [ha] at h
          dsimp only at h
          refine ⟨cur, new, rfl, hf, ha, ?_⟩
          cases hb : pyEq new cur with
          | true =>
            rw [hb] at h
            cases hu : ensureUniques now (c.setDoc key new) new with
            | error e => rw [hu] at h; cases h
            | ok c3 => rw [hu] at h; cases h; exact ⟨rfl, .inl rfl⟩
          | false =>
            rw [hb] at h
            simp only [Bool.false_eq_true, if_false] at h
            cases hq : pyEqOpt (idOf cur) (idOf new) with
            | false => rw [hq] at h; cases h
            | true =>
              rw [hq] at h
              cases hu : ensureUniques now (c.setDoc key new) new with
              | error e => rw [hu] at h; cases h
              | ok c3 => rw [hu] at h; cases h; exact ⟨rfl, .inr rfl⟩

/-- an entry passed over: gone, or not selected -/
theorem visit_none {now : Int} {spec document nowV key : Val} {c : Coll}
    (h : visit now spec document nowV key c = .ok none) :
    c.lookup key = none ∨ ∃ cur, c.lookup key = some cur ∧ filterApplies spec cur = .ok false := by
  unfold visit at h
  cases hl : c.lookup key with
  | none => exact .inl rfl
  | some cur =>
    rw [hl] at h
    dsimp only at h
    refine .inr ⟨cur, rfl, ?_⟩
    cases hf : filterApplies spec cur with
    | error e => rw [hf] at h; cases h
    | ok b =>
      rw [hf] at h
      cases b with
      | false => rfl
      | true =>
        dsimp only at h
        cases ha : applyUpdate spec document nowV false cur with
        | error e => rw [ha] at h; cases h
        | ok new =>
          rw [ha] at h
          dsimp only at h
          split at h
          · cases hu : ensureUniques now (c.setDoc key new) new <;> rw [hu] at h <;> cases h
          · split at h
            · cases h
            · cases hu : ensureUniques now (c.setDoc key new) new <;> rw [hu] at h <;> cases h

/-- whether a rewritten entry counts as modified -/
theorem visit_changed {now : Int} {spec document nowV key : Val} {c c2 : Coll} {ch : Bool}
    {cur new : Val} (h : visit now spec document nowV key c = .ok (some (c2, ch)))
    (hl : c.lookup key = some cur) (ha : applyUpdate spec document nowV false cur = .ok new) :
    ch = !pyEq new cur := by
  unfold visit at h
  rw [hl] at h
  dsimp only at h
  cases hf : filterApplies spec cur with
  | error e => rw [hf] at h; cases h
  | ok b =>
    rw [hf] at h
    cases b with
    | false => cases h
    | true =>
      dsimp only at h
      rw [ha] at h
      dsimp only at h
      cases hb : pyEq new cur with
      | true =>
        rw [hb, if_pos rfl] at h
        cases hu : ensureUniques now (c.setDoc key new) new <;> rw [hu] at h <;> cases h
        rfl
      | false =>
        rw [hb] at h
        simp only [Bool.false_eq_true, if_false] at h
        split at h
        · cases h
        · cases hu : ensureUniques now (c.setDoc key new) new <;> rw [hu] at h <;> cases h
          rfl

end MongoModel.Proofs.Shape

namespace MongoModel.Proofs.C15Lemmas
open MongoModel

/-- the contribution of a successful update-like executor -/
def updFun (idx : Nat) (res : UpdateResult) : BulkTotals → BulkTotals := fun t =>
  let t := match res.upserted with
    | some id =>
      { t with upserted := t.upserted ++ [Val.doc [("index", Val.int idx), ("_id", id)]],
               nUpserted := t.nUpserted + res.n }
    | none => { t with nMatched := t.nMatched + res.n }
  { t with nModified := t.nModified + res.nModified }

def errEntry (idx : Nat) (e : Err) : Val := .doc [("index", .int idx), ("code", errCode e)]

theorem loop_cons (cfg : Cfg) (now : Int) (ordered : Bool) (r : Val) (rest : List Val) (idx : Nat)
    (c : Coll) (t : BulkTotals) :
    bulkLoop cfg now ordered (r :: rest) idx c t =
      match bulkOne cfg now c idx r with
      | (c', .ok f) => bulkLoop cfg now ordered rest (idx + 1) c' (f t)
      | (c', .writeErr e) =>
        if ordered then (c', .bulkErr ({ t with errors := t.errors ++ [errEntry idx e] }).toVal)
        else bulkLoop cfg now ordered rest (idx + 1) c' { t with errors := t.errors ++ [errEntry idx e] }
      | (c', .abort e) => (c', .err e) := by
  rw [bulkLoop]; rfl

theorem loop_nil (cfg : Cfg) (now : Int) (ordered : Bool) (idx : Nat) (c : Coll) (t : BulkTotals) :
    bulkLoop cfg now ordered [] idx c t =
      (c, if t.errors.isEmpty then .val t.toVal else .bulkErr t.toVal) := by
  rw [bulkLoop]; split <;> rfl

theorem loop_nil_fst (cfg : Cfg) (now : Int) (ordered : Bool) (idx : Nat) (c : Coll) (t : BulkTotals) :
    (bulkLoop cfg now ordered [] idx c t).1 = c := by
  rw [loop_nil]

end MongoModel.Proofs.C15Lemmas

namespace MongoModel.Proofs.Shape
open MongoModel MongoModel.Proofs.C15Lemmas

/-- how an executor reports an exception -/
def bulkFail (e : Err) : BulkOut := if e.isWriteError then .writeErr e else .abort e

def bulkIns (cfg : Cfg) (now : Int) (c : Coll) (d : Val) : Coll × BulkOut :=
  match stepColl cfg now c (.arr [.str "insert_one", d]) with
  | (c', .val _) => (c', .ok (fun t => { t with nInserted := t.nInserted + 1 }))
  | (c', .err e) => (c', bulkFail e)
  | (c', .bulkErr _) => (c', .abort .bulk)

def bulkUpd (cfg : Cfg) (now : Int) (c : Coll) (idx : Nat) (f u : Val) (upsert multi : Bool) :
    Coll × BulkOut :=
  let (c', r) := applyUpdateColl cfg now c f u upsert multi
  match r with
  | .error e => (c', bulkFail e)
  | .ok res => (c', .ok (updFun idx res))

def bulkDel (now : Int) (c : Coll) (f : Val) (multi : Bool) : Coll × BulkOut :=
  match bulkOne.deleteBulk now c f multi with
  | (c', .ok n) => (c', .ok (fun t => { t with nRemoved := t.nRemoved + n }))
  | (c', .error e) => (c', bulkFail e)

theorem bulkFail_ne_ok (e : Err) (f : BulkTotals → BulkTotals) : bulkFail e ≠ .ok f := by
  unfold bulkFail; split <;> exact fun h => by cases h

theorem bulkIns_inv {cfg : Cfg} {now : Int} {c c' : Coll} {d : Val} {o : BulkOut}
    (h : bulkIns cfg now c d = (c', o)) :
    (∃ v, stepColl cfg now c (.arr [.str "insert_one", d]) = (c', .val v) ∧
      o = .ok (fun t => { t with nInserted := t.nInserted + 1 })) ∨
    (∃ out, stepColl cfg now c (.arr [.str "insert_one", d]) = (c', out) ∧ out.isErr = true ∧
      ∀ f, o ≠ .ok f) := by
  unfold bulkIns at h
  cases hx : stepColl cfg now c (.arr [.str "insert_one", d]) with
  | mk c1 out =>
    rw [hx] at h
    cases out with
    | val v => cases h; exact .inl ⟨v, rfl, rfl⟩
    | err e => cases h; exact .inr ⟨_, rfl, rfl, fun f hf => bulkFail_ne_ok e f hf⟩
    | bulkErr v => cases h; exact .inr ⟨_, rfl, rfl, fun f hf => by cases hf⟩

theorem bulkUpd_inv {cfg : Cfg} {now : Int} {c c' : Coll} {idx : Nat} {f u : Val} {up multi : Bool}
    {o : BulkOut} (h : bulkUpd cfg now c idx f u up multi = (c', o)) :
    (∃ res, applyUpdateColl cfg now c f u up multi = (c', .ok res) ∧ o = .ok (updFun idx res)) ∨
    (∃ e, applyUpdateColl cfg now c f u up multi = (c', .error e) ∧ o = bulkFail e) := by
  unfold bulkUpd at h
  cases hx : applyUpdateColl cfg now c f u up multi with
  | mk c1 r =>
    rw [hx] at h
    cases r with
    | ok res => cases h; exact .inl ⟨res, rfl, rfl⟩
    | error e => cases h; exact .inr ⟨e, rfl, rfl⟩

theorem bulkDel_inv {now : Int} {c c' : Coll} {q : Val} {multi : Bool} {o : BulkOut}
    (h : bulkDel now c q multi = (c', o)) :
    (∃ fs n, q = .doc fs ∧ deleteColl now c q multi = (c', .ok n) ∧
      o = .ok (fun t => { t with nRemoved := t.nRemoved + (n : Int) })) ∨
    (∃ fs e, q = .doc fs ∧ deleteColl now c q multi = (c', .error e) ∧ o = bulkFail e) ∨
    (c' = c ∧ o = bulkFail .typeErr) := by
  unfold bulkDel bulkOne.deleteBulk at h
  cases q with
  | doc fs =>
    dsimp only at h
    cases hx : deleteColl now c (.doc fs) multi with
    | mk c1 r =>
      rw [hx] at h
      cases r with
      | ok n => cases h; exact .inl ⟨fs, n, rfl, rfl, rfl⟩
      | error e => cases h; exact .inr (.inl ⟨fs, e, rfl, rfl, rfl⟩)
  | _ => cases h; exact .inr (.inr ⟨rfl, rfl⟩)
theorem bulkOne_InsertOne (cfg : Cfg) (now : Int) (c : Coll) (idx : Nat) (d : Val) :
    bulkOne cfg now c idx (.arr [.str "InsertOne", d]) = bulkIns cfg now c d := by rfl

theorem bulkOne_UpdateOne (cfg : Cfg) (now : Int) (c : Coll) (idx : Nat) (f u up : Val) :
    bulkOne cfg now c idx (.arr [.str "UpdateOne", f, u, up]) =
      bulkUpd cfg now c idx f u (boolOf up) false := by rfl

theorem bulkOne_UpdateMany (cfg : Cfg) (now : Int) (c : Coll) (idx : Nat) (f u up : Val) :
    bulkOne cfg now c idx (.arr [.str "UpdateMany", f, u, up]) =
      bulkUpd cfg now c idx f u (boolOf up) true := by rfl

theorem bulkOne_ReplaceOne (cfg : Cfg) (now : Int) (c : Coll) (idx : Nat) (f u up : Val) :
    bulkOne cfg now c idx (.arr [.str "ReplaceOne", f, u, up]) =
      bulkUpd cfg now c idx f u (boolOf up) false := by rfl

theorem bulkOne_DeleteOne (cfg : Cfg) (now : Int) (c : Coll) (idx : Nat) (f : Val) :
    bulkOne cfg now c idx (.arr [.str "DeleteOne", f]) = bulkDel now c f false := by rfl

theorem bulkOne_DeleteMany (cfg : Cfg) (now : Int) (c : Coll) (idx : Nat) (f : Val) :
    bulkOne cfg now c idx (.arr [.str "DeleteMany", f]) = bulkDel now c f true := by rfl

/-- the requests `bulkOne` knows -/
inductive ReqShape : Val → Prop
  | insertOne (d : Val) : ReqShape (.arr [.str "InsertOne", d])
  | updateOne (f u up : Val) : ReqShape (.arr [.str "UpdateOne", f, u, up])
  | updateMany (f u up : Val) : ReqShape (.arr [.str "UpdateMany", f, u, up])
  | replaceOne (f u up : Val) : ReqShape (.arr [.str "ReplaceOne", f, u, up])
  | deleteOne (f : Val) : ReqShape (.arr [.str "DeleteOne", f])
  | deleteMany (f : Val) : ReqShape (.arr [.str "DeleteMany", f])

theorem bulkOne_cases (req : Val) :
    ReqShape req ∨ ∀ cfg now c idx, bulkOne cfg now c idx req = (c, .abort .unmodelled) := by
  unfold bulkOne
  split
  all_goals first
    | exact .inl (by constructor)
    | exact .inr fun _ _ _ _ => rfl

end MongoModel.Proofs.Shape
