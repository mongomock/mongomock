/-
  C19 — soundness of the kernel-checked certificates of the lock-protocol machine
  (`MongoModel/RWLockProto.lean`): a certificate that passes `pcheckCert` contains every
  reachable state, hence no reachable state is bad or deadlocked (`closed_set_sound`).
-/
import MongoModel.RWLockProto
namespace MongoModel.RWLock

theorem fieldAt_eq (k i : Nat) : fieldAt k i = k / 256 ^ i % 256 := by
  unfold fieldAt
  show (k >>> (8 * i)) &&& 255 = _
  rw [Nat.shiftRight_eq_div_pow, show (255 : Nat) = 2 ^ 8 - 1 by rfl,
    Nat.and_two_pow_sub_one_eq_mod, Nat.pow_mul]

theorem packL_cons (b : Nat) (bs : List Nat) : packL (b :: bs) = b + 256 * packL bs := rfl

theorem fieldAt_packL : ∀ (bs : List Nat) (i : Nat), (∀ b ∈ bs, b < 256) →
    fieldAt (packL bs) i = bs.getD i 0
  | [], i, _ => by simp [fieldAt_eq, packL]
  | b :: bs, 0, h => by
    have hb : b < 256 := h b (by simp)
    rw [fieldAt_eq, packL_cons]; simp; omega
  | b :: bs, i + 1, h => by
    have hb : b < 256 := h b (by simp)
    have ih := fieldAt_packL bs i (fun x hx => h x (by simp [hx]))
    rw [fieldAt_eq] at ih ⊢
    rw [packL_cons, Nat.pow_succ, Nat.mul_comm (256 ^ i), ← Nat.div_div_eq_div_mul]
    have : (b + 256 * packL bs) / 256 = packL bs := by omega
    rw [this, ih]; simp

theorem allSmall_iff (bs : List Nat) : allSmall bs = true ↔ ∀ b ∈ bs, b < 256 := by
  simp [allSmall, Nat.blt_eq]

theorem decInt_encInt (i : Int) : decInt (encInt i) = i := by
  cases i with
  | ofNat n =>
    show (bif Nat.beq (2 * n % 2) 0 then Int.ofNat (2 * n / 2) else .negSucc (2 * n / 2)) = _
    rw [Nat.mul_mod_right, Nat.mul_div_cancel_left n (by decide)]; rfl
  | negSucc n =>
    show (bif Nat.beq ((2 * n + 1) % 2) 0 then Int.ofNat ((2 * n + 1) / 2)
      else .negSucc ((2 * n + 1) / 2)) = _
    rw [Nat.mul_add_mod, Nat.mul_add_div (by decide)]; rfl

/-- the code of a position: two bits `a` for its kind, two bits `b` for `w`, `r`, the rest `j` -/
theorem phase_bits (a b j : Nat) (ha : a < 4) (hb : b < 4) :
    (a + 4 * (b + 4 * j)) % 4 = a ∧ (a + 4 * (b + 4 * j)) / 4 % 2 = b % 2 ∧
      (a + 4 * (b + 4 * j)) / 8 % 2 = b / 2 ∧ (a + 4 * (b + 4 * j)) / 16 = j := by omega

theorem decPhase_encPhase (p : Phase) : decPhase (encPhase p) = p := by
  have hm : ∀ a b, Nat.mod a b = a % b := fun _ _ => rfl
  have hd : ∀ a b, Nat.div a b = a / b := fun _ _ => rfl
  cases p with
  | out => rfl
  | body w => cases w <;> rfl
  | acq w j =>
    obtain ⟨h1, h2, _, h4⟩ := phase_bits 2 (b2n w) j (by decide) (by cases w <;> decide)
    rw [show encPhase (.acq w j) = 2 + 4 * (b2n w + 4 * j) from rfl]
    simp only [decPhase, hm, hd, h1, h2, h4]
    cases w <;> rfl
  | rel w r j =>
    obtain ⟨h1, h2, h3, h4⟩ := phase_bits 3 (b2n w + 2 * b2n r) j (by decide)
      (by cases w <;> cases r <;> decide)
    rw [show encPhase (.rel w r j) = 3 + 4 * (b2n w + 2 * b2n r + 4 * j) from rfl]
    simp only [decPhase, hm, hd, h1, h2, h3, h4]
    cases w <;> cases r <;> rfl

theorem posFrom_eq (k : Nat) : ∀ (ps : List Phase) (i : Nat),
    (∀ j, j < ps.length → fieldAt k (i + j) = encPhase (ps.getD j .out)) →
    posFrom k i ps.length = ps
  | [], _, _ => rfl
  | p :: ps, i, h => by
    have h0 := h 0 (by simp)
    have ih := posFrom_eq k ps (i + 1) (fun j hj => by
      have := h (j + 1) (by simpa using hj)
      simpa [Nat.add_assoc, Nat.add_comm 1 j] using this)
    simp only [List.length_cons, posFrom]
    simp only [Nat.add_zero, List.getD_cons_zero] at h0
    rw [h0, decPhase_encPhase]
    exact congrArg _ ih

theorem pdecodeK_pencodeL (s : PState) (n : Nat) (hl : s.lk.locks.length = 5)
    (hn : s.pos.length = n) (hs : allSmall (pencodeL s) = true) :
    pdecodeK n (packL (pencodeL s)) = s := by
  obtain ⟨⟨locks, rc, wc⟩, pos⟩ := s
  match locks, hl with
  | [a, b, c, d, e], _ =>
    subst hn
    have hf := fun i => fieldAt_packL _ i ((allSmall_iff _).1 hs)
    have hpos : posFrom _ 13 pos.length = pos := posFrom_eq _ pos 13 fun j hj => by
      rw [hf, Nat.add_comm]; simp [pencodeL, List.getD_eq_getElem?_getD, hj]
    simp only [pdecodeK, hf, hpos]
    simp only [pencodeL, List.getD_cons_succ, List.getD_cons_zero, decInt_encInt]

theorem bsearch_has (W blob x : Nat) : ∀ (f : List Unit) (lo hi cnt : Nat), hi ≤ cnt →
    bsearch W blob x f lo hi = true → ∃ j, j < cnt ∧ keyAt W blob j = x
  | [], _, _, _, _, h => nomatch h
  | _ :: f, lo, hi, cnt, hc, h => by
    rw [bsearch] at h
    simp only [Bool.cond_eq_ite, Nat.ble_eq, Nat.beq_eq, Nat.blt_eq] at h
    split at h
    · cases h
    · have hmid : Nat.div (Nat.add lo hi) 2 < hi := by show (lo + hi) / 2 < hi; omega
      split at h
      · exact ⟨_, Nat.lt_of_lt_of_le hmid hc, ‹_›⟩
      · split at h
        · exact bsearch_has W blob x f lo _ cnt (Nat.le_trans (Nat.le_of_lt hmid) hc) h
        · exact bsearch_has W blob x f _ hi cnt hc h

theorem Cert.mem_has (W x : Nat) : ∀ (C : Cert), Cert.mem W x C = true → Cert.Has W C x
  | [], h => nomatch h
  | [l], h =>
    let ⟨j, hj, hk⟩ := bsearch_has W l.blob x fuel32 0 l.cnt l.cnt (Nat.le_refl _) h
    ⟨l, List.mem_singleton_self l, j, hj, hk⟩
  | l :: l' :: rest, h => by
    rw [Cert.mem] at h
    cases h1 : Nat.blt x l'.lo <;> rw [h1] at h
    · obtain ⟨m, hm, hk⟩ := Cert.mem_has W x (l' :: rest) h
      exact ⟨m, List.mem_cons_of_mem _ hm, hk⟩
    · obtain ⟨j, hj, hk⟩ := bsearch_has W l.blob x fuel32 0 l.cnt l.cnt (Nat.le_refl _) h
      exact ⟨l, List.mem_cons_self, j, hj, hk⟩

theorem leafAll_iff (W : Nat) (p : Nat → Bool) (blob : Nat) : ∀ (cnt : Nat),
    leafAll W p blob cnt = true ↔ ∀ j, j < cnt → p (keyAt W blob j) = true
  | 0 => by simp [leafAll]
  | c + 1 => by
    rw [leafAll, Bool.and_eq_true, leafAll_iff W p blob c]
    exact ⟨fun ⟨h0, h⟩ j hj => (Nat.lt_succ_iff_lt_or_eq.1 hj).elim (h j) (· ▸ h0),
      fun h => ⟨h c (Nat.lt_succ_self c), fun j hj => h j (Nat.lt_succ_of_lt hj)⟩⟩

theorem Cert.all_has (W : Nat) (p : Nat → Bool) (C : Cert) (h : Cert.all W p C = true)
    (k : Nat) (hk : Cert.Has W C k) : p k = true := by
  obtain ⟨l, hl, j, hj, hkj⟩ := hk
  simp only [Cert.all, List.all_eq_true] at h
  exact hkj ▸ (leafAll_iff W p l.blob l.cnt).1 (h l hl) j hj

/-- `acquire` seen from the one lock it touches -/
def acqCell (r : Bool) (x : LockSt) (t : Nat) : Option LockSt :=
  bif r then
    bif Nat.beq x.count 0 then some ⟨Nat.add t 1, 1⟩
    else bif Nat.beq x.owner (Nat.add t 1) then some ⟨Nat.add t 1, Nat.add x.count 1⟩ else none
  else bif Nat.beq x.count 0 then some ⟨0, 1⟩ else none

/-- `release` seen from the one lock it touches -/
def relCell (r : Bool) (x : LockSt) (t : Nat) : Option LockSt :=
  bif r then
    bif !Nat.beq x.count 0 && Nat.beq x.owner (Nat.add t 1) then
      (bif Nat.ble x.count 1 then some ⟨0, 0⟩ else some ⟨Nat.add t 1, Nat.sub x.count 1⟩)
    else none
  else bif Nat.beq x.count 0 then none else some ⟨0, 0⟩

theorem acquire_eq (re : List Bool) (lk : Locks) (t : Nat) (l : LockId) :
    acquire re lk t l = (acqCell (isReentrant re l) (lk.lock l) t).map (lk.setLock l) := by
  simp only [acquire, acqCell, Bool.cond_eq_ite, Nat.beq_eq, Nat.add_eq, beq_iff_eq]
  repeat' split
  all_goals rfl

theorem release_eq (re : List Bool) (lk : Locks) (t : Nat) (l : LockId) :
    release re lk t l = (relCell (isReentrant re l) (lk.lock l) t).map (lk.setLock l) := by
  simp only [release, relCell, Bool.cond_eq_ite, Nat.beq_eq, Nat.ble_eq, Nat.add_eq, Nat.sub_eq,
    beq_iff_eq, bne_iff_ne, Bool.and_eq_true, Bool.not_eq_true']
  repeat' split
  all_goals first | rfl | simp_all

theorem acquire_len {re lk t l lk'} (h : acquire re lk t l = some lk') :
    lk'.locks.length = lk.locks.length := by
  rw [acquire_eq] at h
  obtain ⟨x, _, rfl⟩ := Option.map_eq_some_iff.1 h
  exact List.length_set

theorem release_len {re lk t l lk'} (h : release re lk t l = some lk') :
    lk'.locks.length = lk.locks.length := by
  rw [release_eq] at h
  obtain ⟨x, _, rfl⟩ := Option.map_eq_some_iff.1 h
  exact List.length_set

theorem setCtr_len (lk : Locks) (c : Ctr) (v : Int) : (lk.setCtr c v).locks.length = lk.locks.length := by
  cases c <;> rfl

theorem acqRes_len {re lk t l lk'} (h : acqRes re lk t l = .ok lk') :
    lk'.locks.length = lk.locks.length := by
  unfold acqRes at h; split at h <;> cases h; exact acquire_len ‹_›

theorem relRes_len {re lk t l lk'} (h : relRes re lk t l = .ok lk') :
    lk'.locks.length = lk.locks.length := by
  unfold relRes at h; split at h <;> cases h; exact release_len ‹_›

theorem protoOp_ok_len {re lk t ins lk'} (h : protoOp re lk t ins = some (.ok lk')) :
    lk'.locks.length = lk.locks.length := by
  cases ins <;> simp only [protoOp, Option.some.injEq, reduceCtorEq] at h
  case acq l => exact acqRes_len h
  case rel l => exact relRes_len h
  case inc c => cases h; exact setCtr_len _ _ _
  case dec c => cases h; exact setCtr_len _ _ _
  case acqIf c k l => split at h; exact acqRes_len h; cases h; rfl
  case relIf c k l => split at h; exact relRes_len h; cases h; rfl

/-- a step is taken by a thread that exists, under a label its position admits, and keeps the
    number of locks and of threads -/
theorem pstep_spec {P s t lab s'} (h : pstep P s t lab = some s') :
    ∃ p, s.pos[t]? = some p ∧ lab ∈ labsAt p ∧
      s'.lk.locks.length = s.lk.locks.length ∧ s'.pos.length = s.pos.length := by
  rw [pstep] at h
  cases hp : s.pos[t]? with
  | none => rw [hp] at h; cases h
  | some p =>
    rw [hp] at h
    refine ⟨p, rfl, ?_⟩
    cases lab with
    | begin w =>
      cases p <;> cases h
      cases w <;> simp [labsAt, PState.setPos]
    | leave r =>
      cases p <;> cases h
      cases r <;> simp [labsAt, PState.setPos]
    | op =>
      refine ⟨by cases p <;> simp [labsAt, instrAt] at h ⊢, ?_⟩
      dsimp only at h
      split at h
      · cases h
      · split at h <;> cases h
        · exact ⟨protoOp_ok_len ‹_›, List.length_set⟩
        · exact ⟨rfl, List.length_set⟩

theorem allIdx_iff {α} (p : Nat → α → Bool) : ∀ (xs : List α) (i : Nat),
    allIdx p i xs = true ↔ ∀ j x, xs[j]? = some x → p (i + j) x = true
  | [], _ => by simp [allIdx]
  | y :: ys, i => by
    rw [allIdx, Bool.and_eq_true, allIdx_iff p ys]
    constructor
    · rintro ⟨h0, h⟩ (_ | j) x hx
      · cases hx; exact h0
      · rw [← Nat.add_assoc, Nat.add_right_comm]; exact h j x hx
    · exact fun h => ⟨h 0 y rfl, fun j x hx => by
        have := h (j + 1) x hx; rwa [← Nat.add_assoc, Nat.add_right_comm] at this⟩

theorem anyIdx_iff {α} (p : Nat → α → Bool) : ∀ (xs : List α) (i : Nat),
    anyIdx p i xs = true ↔ ∃ j x, xs[j]? = some x ∧ p (i + j) x = true
  | [], _ => by simp [anyIdx]
  | y :: ys, i => by
    rw [anyIdx, Bool.or_eq_true, anyIdx_iff p ys]
    constructor
    · rintro (h0 | ⟨j, x, hx, h⟩)
      · exact ⟨0, y, rfl, h0⟩
      · exact ⟨j + 1, x, hx, by rwa [← Nat.add_assoc, Nat.add_right_comm]⟩
    · rintro ⟨_ | j, x, hx, h⟩
      · cases hx; exact .inl h
      · exact .inr ⟨j, x, hx, by rwa [← Nat.add_assoc, Nat.add_right_comm] at h⟩

theorem psuccIn_holds {C : Cert} {n : Nat} {s' : PState} (hl : s'.lk.locks.length = 5)
    (hn : s'.pos.length = n) (h : psuccIn C n s' = true) : C.Holds n s' := by
  simp only [psuccIn, Bool.and_eq_true] at h
  exact ⟨hl, hn, h.1, Cert.mem_has _ _ _ h.2⟩

theorem holds_checked {P : Protocol} {C : Cert} {n : Nat}
    (hall : Cert.all (keyWidth n) (pcheckKey P C n) C = true) {s : PState} (hs : C.Holds n s) :
    pcheckState P C n s = true := by
  obtain ⟨hl, hn, hsm, hk⟩ := hs
  have := Cert.all_has _ _ C hall _ hk
  rwa [pcheckKey, pdecodeK_pencodeL s n hl hn hsm] at this

/-- a set of states that contains the initial state and is closed under every action of every
    thread contains every state reachable by executions of any length -/
theorem reach_holds {P : Protocol} {C : Cert} {n : Nat}
    (hinit : psuccIn C n (pinit n) = true)
    (hall : Cert.all (keyWidth n) (pcheckKey P C n) C = true) :
    ∀ s, PReach P n s → C.Holds n s := by
  intro s hr
  induction hr with
  | init => exact psuccIn_holds (List.length_replicate ..) (List.length_replicate ..) hinit
  | @step s s' t lab _ hstep ih =>
    obtain ⟨p, hp, hlab, hl, hn⟩ := pstep_spec hstep
    have hc := holds_checked hall ih
    simp only [pcheckState, Bool.and_eq_true, allIdx_iff, List.all_eq_true] at hc
    have := hc.2 t p hp lab hlab
    rw [Nat.zero_add, hstep] at this
    exact psuccIn_holds (hl ▸ ih.1) (hn ▸ ih.2.1) this

theorem closed_set_sound' {P : Protocol} {C : Cert} {n : Nat} (h : pcheckCert P C n = true) :
    ∀ s, PReach P n s → pbad P s = false ∧ pdeadlocked P s = false := by
  simp only [pcheckCert, Bool.and_eq_true] at h
  intro s hr
  have hc := holds_checked h.2 (reach_holds h.1 h.2 s hr)
  simp only [pcheckState, Bool.and_eq_true, Bool.not_eq_true'] at hc
  exact hc.1

end MongoModel.RWLock
