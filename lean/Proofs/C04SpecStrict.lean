/-
  Proofs.C04SpecStrict — `eval_eq_spec`: the strict operators of the fragment (every operand is
  evaluated before the operator is applied) in their three syntactic forms: a list of operands,
  a one-item list for a unary operator, one operand that is not written as a list.
-/
import Proofs.C04Acc

set_option linter.unusedSimpArgs false

namespace MongoModel.Proofs.C04
open MongoModel MongoModel.Expr MongoModel.Spec

theorem map_some_ok {x : R Val} {r : Option Val} (h : x.map some = .ok r) :
    ∃ w, x = .ok w ∧ r = some w := by
  cases x with
  | error e => cases h
  | ok w => exact ⟨w, rfl, by cases h; rfl⟩

theorem map_eq_two {α β} (f : α → β) (xs : List α) (a b : β) (h : xs.map f = [a, b]) :
    ∃ x y, xs = [x, y] ∧ f x = a ∧ f y = b := by
  match xs, h with
  | [x, y], h => simp at h; exact ⟨x, y, rfl, h.1, h.2⟩

/-! ### a list of operands -/

/-- an operator that takes one operand: the rules reject any other number of them -/
theorem match_one {vs : List (Option Val)} {f : Option Val → R (Option Val)} {r : Option Val}
    (h : (match vs with | [a] => f a | _ => .error .opFail) = .ok r) :
    ∃ a, vs = [a] ∧ f a = .ok r := by
  match vs, h with
  | [a], h => exact ⟨a, rfl, h⟩

/-- likewise two operands -/
theorem match_two {vs : List (Option Val)} {f : Option Val → Option Val → R (Option Val)}
    {r : Option Val} (h : (match vs with | [a, b] => f a b | _ => .error .opFail) = .ok r) :
    ∃ a b, vs = [a, b] ∧ f a b = .ok r := by
  match vs, h with
  | [a, b], h => exact ⟨a, b, rfl, h⟩

/-- a strict operator of the fragment applied to a list of operands: the model computes what the
    rules say; and the rules accept one operand only for the operators they also take with a bare
    operand (`$sum $avg $min $max` apart).  The proof follows the tests of `applyStrict` in their
    order; `{k: [x]}` for an operator that takes one operand is the operator applied to `x` (it
    used to be applied to the array `[x]`, unevaluated: finding `arrayliteral`). -/
theorem list_strict (c : Ctx) (hign : c.ign = true) (k : String)
    (hp : provedStrict.contains k = true) (xs : List Val) (vs : List (Option Val))
    (h1 : xs.map (eval c) = vs.map .ok)
    (htz : (unaryOps.contains k && xs.any hasTzKeys) = false)
    (hr : strictReasons k vs = []) (r : Option Val) (hs : applyStrict k vs = .ok r) :
    eval c (.doc [(k, .arr xs)]) = .ok r ∧
      (vs.length = 1 → accOps.contains k = false → bareOk k = true) := by
  have hlen : xs.length = vs.length := by simpa using congrArg List.length h1
  have bo (h : ["$size", "$concatArrays", "$add", "$multiply", "$concat"].contains k = true) :
      bareOk k = true := by rw [bareOk, h, Bool.or_true]
  -- a unary operator: its handler parses the one operand whole
  have nu (h : unaryOps.contains k = true) (a : Option Val) (hv : vs = [a])
      (hw : applyWhole true k a = .ok r) :
      eval c (.doc [(k, .arr xs)]) = .ok r ∧
        (vs.length = 1 → accOps.contains k = false → bareOk k = true) := by
    subst hv
    obtain ⟨x, rfl⟩ := List.length_eq_one_iff.mp hlen
    simp only [List.map_cons, List.map_nil, List.cons.injEq, and_true] at h1
    rw [h] at htz
    rw [eval_unaryKey_list c k h x (by simpa using htz), h1, hign]
    exact ⟨hw, fun _ _ => by rw [bareOk, h, Bool.true_or]⟩
  unfold applyStrict at hs
  by_cases g1 : (k = "$add" || k = "$multiply") = true
  · rw [if_pos g1] at hs
    obtain ⟨w, hw, rfl⟩ := map_some_ok hs
    have g1' : k = "$add" ∨ k = "$multiply" := by simpa using g1
    rw [eval_listKey c hign k (by rcases g1' with rfl | rfl <;> simp [listKeys]) xs vs h1
      (arity_free k (by rcases g1' with rfl | rfl <;> simp) _)]
    refine ⟨?_, fun _ _ => bo (by rcases g1' with rfl | rfl <;> simp)⟩
    simp only [applyList, g1, if_true, nary_pure k vs w hw]; rfl
  rw [if_neg g1] at hs
  by_cases g2 : ["$subtract", "$divide", "$mod", "$pow"].contains k = true
  · rw [if_pos g2] at hs
    obtain ⟨a, b, rfl, hs⟩ := match_two hs
    obtain ⟨w, hw, rfl⟩ := map_some_ok hs
    have g2' : k = "$subtract" ∨ k = "$divide" ∨ k = "$mod" ∨ k = "$pow" := by simpa using g2
    have hb : k ∈ listKeys ∧ binaryArithOps.contains k = true ∧ k ≠ "$cond" ∧ k ≠ "$substr" := by
      rcases g2' with rfl | rfl | rfl | rfl <;> simp [listKeys, binaryArithOps]
    rw [eval_listKey c hign k hb.1 xs _ h1 (by rw [hlen]; exact arity_two k hb.2.2.1 hb.2.2.2)]
    refine ⟨?_, nofun⟩
    simp only [applyList, g1, hb.2.1, if_true, Bool.false_eq_true, if_false, nulled, List.map,
      binary_pure k a b w hw]; rfl
  rw [if_neg g2] at hs
  by_cases g3 : ["$abs", "$ceil", "$floor", "$trunc"].contains k = true
  · rw [if_pos g3] at hs
    obtain ⟨a, rfl, hs⟩ := match_one hs
    obtain ⟨w, hw, rfl⟩ := map_some_ok hs
    have g3' : k = "$abs" ∨ k = "$ceil" ∨ k = "$floor" ∨ k = "$trunc" := by simpa using g3
    have hp := unary_pure k g3' a w hw
    rcases g3' with rfl | rfl | rfl | rfl <;>
      exact nu (by simp [unaryOps]) a rfl (by simp [applyWhole, unaryArithOps, hp, Except.map])
  rw [if_neg g3] at hs
  by_cases g4 : ["$eq", "$ne", "$gt", "$gte", "$lt", "$lte", "$cmp"].contains k = true
  · rw [if_pos g4] at hs
    have hcmp : ["$cmp"].contains k = false := by
      rw [← Bool.not_eq_true, List.contains_iff_mem, List.mem_singleton]
      rintro rfl; simp [provedStrict, arithOps, datePartOps, accOps] at hp
    have hk6 : ["$eq", "$ne", "$gt", "$gte", "$lt", "$lte"].contains k = true := by
      rwa [show ["$eq", "$ne", "$gt", "$gte", "$lt", "$lte", "$cmp"] =
        ["$eq", "$ne", "$gt", "$gte", "$lt", "$lte"] ++ ["$cmp"] from rfl, List.contains_append,
        hcmp, Bool.or_false] at g4
    have hna : arithOps.contains k = false := by
      rw [show arithOps = ["$add", "$multiply"] ++ (["$subtract", "$divide", "$mod", "$pow"] ++
        ["$abs", "$ceil", "$floor", "$trunc"]) from rfl, List.contains_append, List.contains_append]
      simp only [Bool.not_eq_true] at g2 g3
      rw [g2, g3]
      simpa using g1
    obtain ⟨a, b, rfl, hs⟩ := match_two hs
    have hk6' := List.contains_iff_mem.mp hk6
    have hp : compareOpt k a b = cmpHoldsOrd k (ordOpt a b) := by
      rcases a with _ | x
      · exact compare_missing k hk6' none b (Or.inl rfl)
      rcases b with _ | y
      · exact compare_missing k hk6' (some x) none (Or.inr rfl)
      · exact compare_pure k hna hk6 x y hr
    rw [eval_cmp c k hk6' xs hlen, evalAll_ok c xs [a, b] h1]
    exact ⟨by simp only [Except.bind, hp, hs], nofun⟩
  rw [if_neg g4] at hs
  by_cases g5 : k = "$not"
  · subst g5
    rw [if_pos rfl] at hs
    obtain ⟨a, rfl, hs⟩ := match_one hs
    cases hs
    exact nu (by simp [unaryOps]) a rfl (by simp [applyWhole, unaryArithOps, toBoolOpt_eq])
  rw [if_neg g5] at hs
  by_cases g6 : k = "$concat"
  · subst g6
    rw [if_pos rfl] at hs
    obtain ⟨w, hw, rfl⟩ := map_some_ok hs
    rw [eval_listKey c hign _ (by simp [listKeys]) xs vs h1 (arity_free _ (by simp) _)]
    exact ⟨by simp [applyList, binaryArithOps, groupingOps, concat_pure vs w hw, Except.map],
      fun _ _ => bo (by simp)⟩
  rw [if_neg g6] at hs
  by_cases g7 : (k = "$toLower" || k = "$toUpper") = true
  · rw [if_pos g7] at hs
    obtain ⟨a, rfl, hs⟩ := match_one hs
    obtain ⟨w, hw, rfl⟩ := map_some_ok hs
    have hp := case_pure _ a w hw
    have g7' : k = "$toLower" ∨ k = "$toUpper" := by simpa using g7
    rcases g7' with rfl | rfl <;>
      exact nu (by simp [unaryOps]) a rfl (by
        cases a <;> simp [applyWhole, unaryArithOps] at hp ⊢ <;> simp [hp, Except.map])
  rw [if_neg g7] at hs
  by_cases g8 : k = "$strcasecmp"
  · subst g8
    rw [if_pos rfl] at hs
    obtain ⟨a, b, rfl, hs⟩ := match_two hs
    obtain ⟨w, hw, rfl⟩ := map_some_ok hs
    rw [eval_listKey c hign _ (by simp [listKeys]) xs _ h1 (by rw [hlen]; simp [arityErr])]
    exact ⟨by simp [applyList, binaryArithOps, groupingOps, nulled, strcasecmp_pure a b w hw,
      Except.map], nofun⟩
  rw [if_neg g8] at hs
  by_cases g9 : k = "$size"
  · subst g9
    rw [if_pos rfl] at hs
    rcases vs with _ | ⟨a, _ | ⟨b, t⟩⟩
    · cases hs
    · rcases a with _ | w
      · cases hs
      cases w with
      | arr ys =>
        obtain ⟨x, rfl⟩ := List.length_eq_one_iff.mp hlen
        simp only [List.map_cons, List.map_nil, List.cons.injEq, and_true] at h1
        cases hs
        rw [eval_size_list, h1]
        exact ⟨rfl, fun _ _ => bo (by simp)⟩
      | _ => cases hs
    · simp at hs
  rw [if_neg g9] at hs
  by_cases g10 : k = "$concatArrays"
  · subst g10
    rw [if_pos rfl] at hs
    obtain ⟨w, hw, rfl⟩ := map_some_ok hs
    rw [eval_listKey c hign _ (by simp [listKeys]) xs vs h1 (arity_free _ (by simp) _)]
    exact ⟨by simp [applyList, binaryArithOps, groupingOps, concatArrays_pure vs w hw, Except.map],
      fun _ _ => bo (by simp)⟩
  rw [if_neg g10] at hs
  by_cases g11 : k = "$arrayElemAt"
  · subst g11
    rw [if_pos rfl] at hs
    obtain ⟨a, i, rfl, hs⟩ := match_two hs
    rw [eval_listKey c hign _ (by simp [listKeys]) xs _ h1 (by rw [hlen]; simp [arityErr])]
    exact ⟨by simp [applyList, binaryArithOps, nulled, elemAt_pure a i r hs], nofun⟩
  rw [if_neg g11] at hs
  by_cases g12 : k = "$in"
  · subst g12; simp [provedStrict, arithOps, datePartOps, accOps] at hp
  rw [if_neg g12] at hs
  by_cases g13 : k = "$isArray"
  · subst g13
    rw [if_pos rfl] at hs
    rcases vs with _ | ⟨a, _ | ⟨b, t⟩⟩
    · cases hs
    · refine nu (by simp [unaryOps]) a rfl ?_
      rw [show applyWhole true "$isArray" a = .ok (some (isArrayOp a)) by
        simp [applyWhole, unaryArithOps]]
      rcases a with _ | x
      · cases hs; rfl
      · cases x <;> cases hs <;> rfl
    · simp at hs
  rw [if_neg g13] at hs
  by_cases g14 : k = "$isNumber"
  · subst g14
    rw [if_pos rfl] at hs
    rcases vs with _ | ⟨a, _ | ⟨b, t⟩⟩
    · cases hs
    · refine nu (by simp [unaryOps]) a rfl ?_
      rw [show applyWhole true "$isNumber" a = .ok (some (isNumberOp a)) by
        simp [applyWhole, unaryArithOps]]
      rcases a with _ | x
      · cases hs; rfl
      · cases x <;> cases hs <;> rfl
    · simp at hs
  rw [if_neg g14] at hs
  by_cases g15 : k = "$toString"
  · subst g15
    rw [if_pos rfl] at hs
    obtain ⟨a, rfl, hs⟩ := match_one hs
    obtain ⟨w, hw, rfl⟩ := map_some_ok hs
    have hp := toString_pure a w hw
    exact nu (by simp [unaryOps]) a rfl (by
      cases a <;> simp [applyWhole, unaryArithOps] at hp ⊢ <;> simp [hp, Except.map])
  rw [if_neg g15] at hs
  by_cases g16 : datePartOps.contains k = true
  · rw [if_pos g16] at hs
    obtain ⟨a, rfl, hs⟩ := match_one hs
    obtain ⟨w, hw, rfl⟩ := map_some_ok hs
    have g16' : k ∈ datePartOps := by simpa using g16
    refine nu (by simp [unaryOps, g16']) a rfl ?_
    -- the tests of `applyWhole` that come before the date parts and are not among those above
    have hn : k ∉ unaryArithOps ∧ ¬ (k = "$toInt" ∨ k = "$toLong") ∧
        k ≠ "$arrayToObject" ∧ k ≠ "$objectToArray" := by
      simp only [datePartOps, List.contains_cons, List.contains_nil, Bool.or_false, Bool.or_eq_true,
        beq_iff_eq] at g16
      rcases g16 with rfl | rfl | rfl | rfl | rfl | rfl | rfl | rfl | rfl | rfl <;>
        simp [unaryArithOps]
    have hd : k ∈ dateOps := by simp [dateOps, g16']
    have g7' : k ≠ "$toLower" ∧ k ≠ "$toUpper" := by simpa using g7
    rcases a with _ | v
    · have : w = .null := by simp [datePartS, nullish] at hw; exact hw.symm
      simp [applyWhole, hn, g5, g13, g14, g9, g15, g7', g16', this]
    · have hp := datePart_pure k g16 v w hw
      simp [applyWhole, hn, g5, g13, g14, g9, g15, g7', g16', hd, hp, Except.map]
  rw [if_neg g16] at hs
  by_cases g17 : accOps.contains k = true
  · rw [if_pos g17] at hs
    rw [acc_list_eval c hign k (accOps_cases k g17) xs vs h1 hr, hs]
    exact ⟨rfl, fun _ h => by rw [g17] at h; cases h⟩
  · rw [if_neg g17] at hs; cases hs

/-! ### one operand that is not written as a list -/

/-- for the strict operators that the rules take with a bare operand, the code reads the bare
    operand as a one-item argument list (under `ignore_missing_keys`) -/
theorem bareOk_eq_list (c : Ctx) (hign : c.ign = true) (k : String) (hb : bareOk k = true)
    (v : Val) (ha : v.isArr = false) (htz : hasTzKeys v = false) :
    eval c (.doc [(k, v)]) = eval c (.doc [(k, .arr [v])]) := by
  simp only [bareOk, List.contains_cons, List.contains_nil, Bool.or_false, Bool.or_eq_true,
    beq_iff_eq] at hb
  rcases hb with hu | rfl | rfl | rfl | rfl | rfl
  · rw [eval_wholeKey c k (Or.inl hu) v ha htz, eval_unaryKey_list c k hu v htz]
  · rw [eval_wholeKey c _ (Or.inr (Or.inl rfl)) v ha htz, eval_size_list]
    congr 1
  · have hk : "$concatArrays" ∈ listKeys := by simp [listKeys]
    rw [eval_wholeKey c _ (Or.inr (Or.inr rfl)) v ha htz,
      eval_list c hk [v] (arity_free _ (by simp) _), evalList_one, hign, (listKeys_names _ hk).2.2]
    cases eval c v with
    | error e => rfl
    | ok r =>
      rcases r with _ | w <;>
        simp [Except.bind, manyItem, applyWhole, applyList, unaryArithOps, dateOps, datePartOps,
          binaryArithOps, groupingOps, concatArraysOp, isNull, Except.map]
  all_goals exact bare_eq_list c _ (by simp [variadicOps]) v ha

/-- a strict operator applied to one operand that is not written as a list: the rules take it as
    the one operand of the unary operators, `$size`, `$concatArrays` and of the variadic `$add
    $multiply $concat`; every other strict operator wants another number of arguments -/
theorem bare_strict (c : Ctx) (hign : c.ign = true) (k : String)
    (hp : provedStrict.contains k = true) (hacc : accOps.contains k = false) (v : Val)
    (ha : v.isArr = false) (htz : hasTzKeys v = false) (a : Option Val) (h1 : eval c v = .ok a)
    (hr : strictReasons k [a] = []) (r : Option Val) (hs : applyStrict k [a] = .ok r) :
    eval c (.doc [(k, v)]) = .ok r := by
  obtain ⟨h, hb⟩ := list_strict c hign k hp [v] [a] (by simp [h1]) (by simp [htz]) hr r hs
  rw [bareOk_eq_list c hign k (hb rfl hacc) v ha htz, h]

end MongoModel.Proofs.C04
