/-
  Proofs.C16 — lemmas for C16 (aggregation is read-only, leaves its arguments alone, repeatable):
  the predicate "every identity of a value satisfies `p`" through the operations of
  MongoModel.AggHeap, the frame of an in-place write, and the windows of run-local identities
  the copies are allocated in.
-/
import MongoModel.AggHeap

namespace MongoModel.Proofs.C16
open MongoModel MongoModel.AggHeap

def allLL (p : Id → Bool) : List (List HV) → Bool
  | [] => true
  | l :: r => allL p l && allLL p r

def allColls (p : Id → Bool) : List (String × List HV) → Bool
  | [] => true
  | (_, l) :: r => allL p l && allColls p r

theorem allL_iff {p : Id → Bool} {l : List HV} : allL p l = true ↔ ∀ v ∈ l, v.all p = true := by
  induction l with
  | nil => simp [allL]
  | cons v r ih => simp [allL, ih]

theorem allLL_iff {p : Id → Bool} {l : List (List HV)} :
    allLL p l = true ↔ ∀ x ∈ l, allL p x = true := by
  induction l with
  | nil => simp [allLL]
  | cons x r ih => simp [allLL, ih]

theorem allColls_iff {p : Id → Bool} {c : List (String × List HV)} :
    allColls p c = true ↔ ∀ nl ∈ c, allL p nl.2 = true := by
  induction c with
  | nil => simp [allColls]
  | cons nl r ih => simp [allColls, ih]

theorem allL_append (p : Id → Bool) (a b : List HV) : allL p (a ++ b) = (allL p a && allL p b) := by
  rw [Bool.eq_iff_iff]; simp only [allL_iff, Bool.and_eq_true, List.mem_append]
  exact ⟨fun h => ⟨fun v hv => h v (.inl hv), fun v hv => h v (.inr hv)⟩,
    fun h v hv => hv.elim (h.1 v) (h.2 v)⟩

theorem allLL_append (p : Id → Bool) (a b : List (List HV)) :
    allLL p (a ++ b) = (allLL p a && allLL p b) := by
  rw [Bool.eq_iff_iff]; simp only [allLL_iff, Bool.and_eq_true, List.mem_append]
  exact ⟨fun h => ⟨fun v hv => h v (.inl hv), fun v hv => h v (.inr hv)⟩,
    fun h v hv => hv.elim (h.1 v) (h.2 v)⟩

theorem mutateL_eq (id : Id) (f : Kids → Kids) : ∀ l, mutateL id f l = l.map (mutate id f)
  | [] => rfl
  | v :: r => by rw [mutateL, mutateL_eq id f r, List.map_cons]

theorem mutateLL_eq (id : Id) (f : Kids → Kids) : ∀ l, mutateLL id f l = l.map (mutateL id f)
  | [] => rfl
  | v :: r => by rw [mutateLL, mutateLL_eq id f r, List.map_cons]

theorem mutateColls_eq (id : Id) (f : Kids → Kids) :
    ∀ c, mutateColls id f c = c.map fun nl => (nl.1, mutateL id f nl.2)
  | [] => rfl
  | (n, l) :: r => by rw [mutateColls, mutateColls_eq id f r, List.map_cons]

theorem map_eq_self {α : Type} {g : α → α} {l : List α} (h : ∀ x ∈ l, g x = x) : l.map g = l :=
  (List.map_congr_left h).trans (List.map_id l)

/-! ### the frame: a write to an object that does not occur in a value leaves the value alone -/

mutual
  theorem mutate_noop (p : Id → Bool) (id : Id) (f : Kids → Kids) (hid : p id = false) :
      ∀ v : HV, v.all p = true → mutate id f v = v
    | .atom _, _ => rfl
    | .node i d kids, h => by
      simp only [HV.all, Bool.and_eq_true] at h
      have hne : i ≠ id := fun e => by rw [e, hid] at h; exact Bool.noConfusion h.1
      rw [mutate, if_neg hne, mutateKids_noop p id f hid kids h.2]
  theorem mutateKids_noop (p : Id → Bool) (id : Id) (f : Kids → Kids) (hid : p id = false) :
      ∀ ks : Kids, allKids p ks = true → mutateKids id f ks = ks
    | [], _ => rfl
    | (k, v) :: r, h => by
      simp only [allKids, Bool.and_eq_true] at h
      rw [mutateKids, mutate_noop p id f hid v h.1, mutateKids_noop p id f hid r h.2]
end

theorem mutateL_noop (p : Id → Bool) (id : Id) (f : Kids → Kids) (hid : p id = false)
    (l : List HV) (h : allL p l = true) : mutateL id f l = l :=
  (mutateL_eq id f l).trans (map_eq_self fun v hv => mutate_noop p id f hid v (allL_iff.mp h v hv))

theorem mutateLL_noop (p : Id → Bool) (id : Id) (f : Kids → Kids) (hid : p id = false)
    (l : List (List HV)) (h : allLL p l = true) : mutateLL id f l = l :=
  (mutateLL_eq id f l).trans (map_eq_self fun x hx => mutateL_noop p id f hid x (allLL_iff.mp h x hx))

theorem mutateColls_noop (p : Id → Bool) (id : Id) (f : Kids → Kids) (hid : p id = false)
    (c : List (String × List HV)) (h : allColls p c = true) : mutateColls id f c = c :=
  (mutateColls_eq id f c).trans (map_eq_self fun nl hnl => by
    rw [mutateL_noop p id f hid nl.2 (allColls_iff.mp h nl hnl)])

/-! ### in-place writes keep `all p` when what is written satisfies `p` -/

mutual
  theorem mutate_all {p : Id → Bool} (id : Id) (f : Kids → Kids)
      (hf : ∀ ks, allKids p ks = true → allKids p (f ks) = true) :
      ∀ v : HV, v.all p = true → (mutate id f v).all p = true
    | .atom _, _ => rfl
    | .node i d kids, h => by
      simp only [HV.all, Bool.and_eq_true] at h
      rw [mutate]
      split <;> simp only [HV.all, Bool.and_eq_true]
      · exact ⟨h.1, hf kids h.2⟩
      · exact ⟨h.1, mutateKids_all id f hf kids h.2⟩
  theorem mutateKids_all {p : Id → Bool} (id : Id) (f : Kids → Kids)
      (hf : ∀ ks, allKids p ks = true → allKids p (f ks) = true) :
      ∀ ks : Kids, allKids p ks = true → allKids p (mutateKids id f ks) = true
    | [], _ => rfl
    | (k, v) :: r, h => by
      simp only [allKids, Bool.and_eq_true] at h
      simp only [mutateKids, allKids, Bool.and_eq_true]
      exact ⟨mutate_all id f hf v h.1, mutateKids_all id f hf r h.2⟩
end

theorem mutateL_all {p : Id → Bool} (id : Id) (f : Kids → Kids)
    (hf : ∀ ks, allKids p ks = true → allKids p (f ks) = true) (l : List HV)
    (h : allL p l = true) : allL p (mutateL id f l) = true := by
  rw [mutateL_eq]
  exact allL_iff.mpr fun v hv => by
    obtain ⟨x, hx, rfl⟩ := List.mem_map.mp hv
    exact mutate_all id f hf x (allL_iff.mp h x hx)

mutual
  theorem all_mono {p q : Id → Bool} (h : ∀ i, p i = true → q i = true) :
      ∀ v : HV, v.all p = true → v.all q = true
    | .atom _, _ => rfl
    | .node i d kids, hv => by
      simp only [HV.all, Bool.and_eq_true] at hv ⊢
      exact ⟨h i hv.1, allKids_mono h kids hv.2⟩
  theorem allKids_mono {p q : Id → Bool} (h : ∀ i, p i = true → q i = true) :
      ∀ ks : Kids, allKids p ks = true → allKids q ks = true
    | [], _ => rfl
    | (k, v) :: r, hv => by
      simp only [allKids, Bool.and_eq_true] at hv ⊢
      exact ⟨all_mono h v hv.1, allKids_mono h r hv.2⟩
end

theorem allL_mono {p q : Id → Bool} (h : ∀ i, p i = true → q i = true) (l : List HV)
    (hl : allL p l = true) : allL q l = true :=
  allL_iff.mpr fun v hv => all_mono h v (allL_iff.mp hl v hv)

theorem allLL_mono {p q : Id → Bool} (h : ∀ i, p i = true → q i = true) (l : List (List HV))
    (hl : allLL p l = true) : allLL q l = true :=
  allLL_iff.mpr fun x hx => allL_mono h x (allLL_iff.mp hl x hx)

theorem allColls_mono {p q : Id → Bool} (h : ∀ i, p i = true → q i = true)
    (c : List (String × List HV)) (hc : allColls p c = true) : allColls q c = true :=
  allColls_iff.mpr fun nl hnl => allL_mono h nl.2 (allColls_iff.mp hc nl hnl)

/-! ### list / dict operations keep `all p` -/

theorem allL_getElem? {p : Id → Bool} (l : List HV) (j : Nat) (v : HV) (hl : allL p l = true)
    (h : l[j]? = some v) : v.all p = true :=
  allL_iff.mp hl v (List.mem_of_getElem? h)

theorem allL_set {p : Id → Bool} (l : List HV) (j : Nat) (v : HV) (hl : allL p l = true)
    (hv : v.all p = true) : allL p (l.set j v) = true :=
  allL_iff.mpr fun x hx => (List.mem_or_eq_of_mem_set hx).elim (allL_iff.mp hl x) (· ▸ hv)

theorem allL_take {p : Id → Bool} (l : List HV) (n : Nat) (hl : allL p l = true) :
    allL p (l.take n) = true :=
  allL_iff.mpr fun x hx => allL_iff.mp hl x (List.mem_of_mem_take hx)

theorem allL_pick {p : Id → Bool} (l : List HV) (hl : allL p l = true) :
    ∀ idxs : List Nat, allL p (pick l idxs) = true
  | [] => rfl
  | i :: r => by
    rw [pick]
    split
    · next v hv => simp only [allL, allL_getElem? l i v hl hv, allL_pick l hl r, Bool.and_self]
    · exact allL_pick l hl r

theorem allKids_kget {p : Id → Bool} (k : String) : ∀ (ks : Kids) (v : HV),
    allKids p ks = true → kget k ks = some v → v.all p = true := by
  intro ks
  induction ks with
  | nil => intro _ _ h; cases h
  | cons kx r ih =>
    intro v hk h
    simp only [allKids, Bool.and_eq_true] at hk
    rw [kget] at h
    split at h
    · cases h; exact hk.1
    · exact ih v hk.2 h

theorem allKids_kset {p : Id → Bool} (k : String) (v : HV) (hv : v.all p = true) :
    ∀ ks : Kids, allKids p ks = true → allKids p (kset k v ks) = true := by
  intro ks
  induction ks with
  | nil => intro _; simp only [kset, allKids, hv, Bool.and_self]
  | cons kx r ih =>
    intro hk
    simp only [allKids, Bool.and_eq_true] at hk
    rw [kset]
    split <;> simp only [allKids, Bool.and_eq_true]
    · exact ⟨hv, hk.2⟩
    · exact ⟨hk.1, ih hk.2⟩

theorem allKids_kdel {p : Id → Bool} (k : String) :
    ∀ ks : Kids, allKids p ks = true → allKids p (kdel k ks) = true := by
  intro ks
  induction ks with
  | nil => exact fun _ => rfl
  | cons kx r ih =>
    intro hk
    simp only [allKids, Bool.and_eq_true] at hk
    rw [kdel]
    split
    · exact hk.2
    · simp only [allKids, Bool.and_eq_true]; exact ⟨hk.1, ih hk.2⟩

theorem all_get {p : Id → Bool} (k : String) (x v : HV) (hx : x.all p = true)
    (h : x.get k = some v) : v.all p = true := by
  unfold HV.get at h
  split at h
  · simp only [HV.all, Bool.and_eq_true] at hx
    exact allKids_kget k _ v hx.2 h
  · cases h

theorem all_setLocal {p : Id → Bool} (k : String) (x v : HV) (hx : x.all p = true)
    (hv : v.all p = true) : (x.setLocal k v).all p = true := by
  cases x with
  | atom _ => exact hx
  | node i d kids =>
    simp only [HV.setLocal, HV.all, Bool.and_eq_true] at hx ⊢
    exact ⟨hx.1, allKids_kset k v hv kids hx.2⟩

theorem all_delLocal {p : Id → Bool} (k : String) (x : HV) (hx : x.all p = true) :
    (x.delLocal k).all p = true := by
  cases x with
  | atom _ => exact hx
  | node i d kids =>
    simp only [HV.delLocal, HV.all, Bool.and_eq_true] at hx ⊢
    exact ⟨hx.1, allKids_kdel k kids hx.2⟩

theorem all_id? {p : Id → Bool} (x : HV) (id : Id) (hx : x.all p = true) (h : x.id? = some id) :
    p id = true := by
  cases x with
  | atom _ => cases h
  | node i d kids =>
    cases h
    simp only [HV.all, Bool.and_eq_true] at hx
    exact hx.1

theorem allKids_mapList {p : Id → Bool} : ∀ l : List HV,
    allKids p (l.map (fun v => ("", v))) = allL p l
  | [] => rfl
  | v :: r => by simp only [List.map_cons, allKids, allL, allKids_mapList r]

theorem all_getPath {p : Id → Bool} : ∀ (path : List String) (x r : HV),
    x.all p = true → getPath path x = .ok (some r) → r.all p = true
  | [], x, r, hx, h => by cases h; exact hx
  | k :: path, .atom _, r, _, h => by cases h
  | k :: path, .node _ false _, r, _, h => by cases h
  | k :: path, .node i true kids, r, hx, h => by
    simp only [getPath] at h
    simp only [HV.all, Bool.and_eq_true] at hx
    split at h
    · next c hc => exact all_getPath path c r (allKids_kget k kids c hx.2 hc) h
    · cases h

/-! ### copies equal what they copy as values -/

theorem runL_deep_eq : ∀ (l : List HV) (n : Nat), Copy.runL .deep l n = deepTmpL l n
  | [], _ => rfl
  | v :: r, n => by
    simp only [Copy.runL, deepTmpL, Copy.run]
    rw [runL_deep_eq r]

mutual
  theorem deepTmp_toVal : ∀ (v : HV) (n : Nat), (deepTmp v n).1.toVal = v.toVal
    | .atom _, _ => rfl
    | .node _ true kids, n => by
      simp only [deepTmp, HV.toVal]; rw [(deepTmpKids_toVal kids (n + 1)).1]
    | .node _ false kids, n => by
      simp only [deepTmp, HV.toVal]; rw [(deepTmpKids_toVal kids (n + 1)).2]
  theorem deepTmpKids_toVal : ∀ (ks : Kids) (n : Nat),
      toFields (deepTmpKids ks n).1 = toFields ks ∧ toList (deepTmpKids ks n).1 = toList ks
    | [], _ => ⟨rfl, rfl⟩
    | (k, v) :: r, n => by
      simp only [deepTmpKids, toFields, toList]
      rw [deepTmp_toVal v n, (deepTmpKids_toVal r _).1, (deepTmpKids_toVal r _).2]
      exact ⟨rfl, rfl⟩
end

/-- identities allocated by the running call with a number in `[b, m)` -/
def inR (b m : Nat) : Id → Bool
  | .tmp n => decide (b ≤ n) && decide (n < m)
  | _ => false

/-- every identity except the run-local ones numbered `≥ b` -/
def below (b : Nat) : Id → Bool
  | .tmp n => decide (n < b)
  | _ => true

theorem inR_mono {b b' m m' : Nat} (hb : b' ≤ b) (hm : m ≤ m') (i : Id) :
    inR b m i = true → inR b' m' i = true := by
  cases i <;> simp [inR] <;> omega

theorem inR_not_below {b m : Nat} (i : Id) : inR b m i = true → below b i = false := by
  cases i <;> simp [inR, below] <;> omega

theorem inR_below {b m : Nat} (i : Id) : inR b m i = true → below m i = true := by
  cases i <;> simp [inR, below]

theorem inR_isTmp {b m : Nat} (i : Id) : inR b m i = true → i.isTmp = true := by
  cases i <;> simp [inR, Id.isTmp]

theorem below_mono {b b' : Nat} (h : b ≤ b') (i : Id) : below b i = true → below b' i = true := by
  cases i <;> simp [below] <;> omega

theorem notTmp_below (b : Nat) (i : Id) : (!i.isTmp) = true → below b i = true := by
  cases i <;> simp [below, Id.isTmp]

theorem inR_tmp {b m n : Nat} (h1 : b ≤ n) (h2 : n < m) : inR b m (.tmp n) = true := by
  simp [inR]; omega

theorem all_le {b m m' : Nat} (hm : m ≤ m') {v : HV} (h : v.all (inR b m) = true) :
    v.all (inR b m') = true :=
  all_mono (inR_mono (Nat.le_refl _) hm) v h

theorem allKids_le {b m m' : Nat} (hm : m ≤ m') {ks : Kids} (h : allKids (inR b m) ks = true) :
    allKids (inR b m') ks = true :=
  allKids_mono (inR_mono (Nat.le_refl _) hm) ks h

theorem allL_le {b m m' : Nat} (hm : m ≤ m') {l : List HV} (h : allL (inR b m) l = true) :
    allL (inR b m') l = true :=
  allL_mono (inR_mono (Nat.le_refl _) hm) l h

/-! ### copies are allocated in the window -/

mutual
  theorem deepTmp_inR : ∀ (v : HV) (n : Nat),
      n ≤ (deepTmp v n).2 ∧ (deepTmp v n).1.all (inR n (deepTmp v n).2) = true
    | .atom _, n => ⟨Nat.le_refl _, rfl⟩
    | .node _ d kids, n => by
      have h := deepTmpKids_inR kids (n + 1)
      simp only [deepTmp, HV.all, Bool.and_eq_true]
      exact ⟨by omega, inR_tmp (Nat.le_refl _) (by omega),
        allKids_mono (inR_mono (Nat.le_succ _) (Nat.le_refl _)) _ h.2⟩
  theorem deepTmpKids_inR : ∀ (ks : Kids) (n : Nat),
      n ≤ (deepTmpKids ks n).2 ∧ allKids (inR n (deepTmpKids ks n).2) (deepTmpKids ks n).1 = true
    | [], n => ⟨Nat.le_refl _, rfl⟩
    | (k, v) :: r, n => by
      have h1 := deepTmp_inR v n
      have h2 := deepTmpKids_inR r (deepTmp v n).2
      simp only [deepTmpKids, allKids, Bool.and_eq_true]
      exact ⟨by omega, all_le h2.1 h1.2, allKids_mono (inR_mono h1.1 (Nat.le_refl _)) _ h2.2⟩
end

theorem deepTmp_tmp (v : HV) (n : Nat) : (deepTmp v n).1.all Id.isTmp = true :=
  all_mono inR_isTmp _ (deepTmp_inR v n).2

theorem deepTmpKids_tmp : ∀ (ks : Kids) (n : Nat), allKids Id.isTmp (deepTmpKids ks n).1 = true :=
  fun ks n => allKids_mono inR_isTmp _ (deepTmpKids_inR ks n).2

theorem deepTmp_win {b : Nat} (v : HV) (n : Nat) (hb : b ≤ n) :
    n ≤ (deepTmp v n).2 ∧ (deepTmp v n).1.all (inR b (deepTmp v n).2) = true :=
  ⟨(deepTmp_inR v n).1, all_mono (inR_mono hb (Nat.le_refl _)) _ (deepTmp_inR v n).2⟩

theorem deepTmpL_win {b : Nat} : ∀ (l : List HV) (n : Nat), b ≤ n →
    n ≤ (deepTmpL l n).2 ∧ allL (inR b (deepTmpL l n).2) (deepTmpL l n).1 = true := by
  intro l
  induction l with
  | nil => exact fun n _ => ⟨Nat.le_refl _, rfl⟩
  | cons v r ih =>
    intro n hb
    have h1 := deepTmp_win (b := b) v n hb
    have h2 := ih (deepTmp v n).2 (by omega)
    simp only [deepTmpL, allL, Bool.and_eq_true]
    exact ⟨by omega, all_le h2.1 h1.2, h2.2⟩

theorem deepTmpL_tmp (l : List HV) (n : Nat) : allL Id.isTmp (deepTmpL l n).1 = true :=
  allL_mono inR_isTmp _ (deepTmpL_win l n (Nat.le_refl n)).2

theorem shallowTmp_win {b : Nat} (v : HV) (n : Nat) (hb : b ≤ n) (hv : v.all (inR b n) = true) :
    n ≤ (shallowTmp v n).2 ∧ (shallowTmp v n).1.all (inR b (shallowTmp v n).2) = true := by
  cases v with
  | atom _ => exact ⟨Nat.le_refl _, rfl⟩
  | node i d kids =>
    simp only [shallowTmp, HV.all, Bool.and_eq_true] at hv ⊢
    exact ⟨Nat.le_succ _, inR_tmp hb (Nat.lt_succ_self _), allKids_le (Nat.le_succ _) hv.2⟩

theorem runL_shallow_win {b : Nat} : ∀ (l : List HV) (n : Nat), b ≤ n → allL (inR b n) l = true →
    n ≤ (Copy.runL .shallow l n).2 ∧
      allL (inR b (Copy.runL .shallow l n).2) (Copy.runL .shallow l n).1 = true := by
  intro l
  induction l with
  | nil => exact fun n _ _ => ⟨Nat.le_refl _, rfl⟩
  | cons v r ih =>
    intro n hb hl
    simp only [allL, Bool.and_eq_true] at hl
    have h1 := shallowTmp_win (b := b) v n hb hl.1
    have h2 := ih (shallowTmp v n).2 (by omega) (allL_le h1.1 hl.2)
    simp only [Copy.runL, Copy.run, allL, Bool.and_eq_true]
    exact ⟨by omega, all_le h2.1 h1.2, h2.2⟩

theorem nestNew_win {b : Nat} : ∀ (path : List String) (v : HV) (n : Nat), b ≤ n →
    v.all (inR b n) = true →
    n ≤ (nestNew path v n).2 ∧ (nestNew path v n).1.all (inR b (nestNew path v n).2) = true := by
  intro path
  induction path with
  | nil => exact fun v n _ hv => ⟨Nat.le_refl _, hv⟩
  | cons k r ih =>
    intro v n hb hv
    have h := ih v (n + 1) (by omega) (all_le (Nat.le_succ _) hv)
    simp only [nestNew, HV.all, allKids, Bool.and_eq_true, Bool.and_true]
    exact ⟨by omega, inR_tmp hb (by omega), h.2⟩

/-- every way of handing a value on keeps it inside the window -/
theorem copyRun_win {b : Nat} (c : Copy) (v : HV) (n : Nat) (hb : b ≤ n) (hv : v.all (inR b n) = true) :
    n ≤ (c.run v n).2 ∧ (c.run v n).1.all (inR b (c.run v n).2) = true := by
  cases c with
  | deep => exact deepTmp_win v n hb
  | shallow => exact shallowTmp_win v n hb hv
  | none => exact ⟨Nat.le_refl _, hv⟩

/-- the walk along a dotted name inside a private object: what it builds is made of the object,
    the value written and new objects -/
theorem setPathCopy_win {b : Nat} (c : Copy) (v : HV) : ∀ (path : List String) (x : HV) (n : Nat),
    b ≤ n → x.all (inR b n) = true → v.all (inR b n) = true →
    n ≤ (setPathCopy c v path x n).2 ∧
      (setPathCopy c v path x n).1.all (inR b (setPathCopy c v path x n).2) = true := by
  intro path
  induction path with
  | nil => exact fun x n _ hx _ => ⟨Nat.le_refl _, hx⟩
  | cons k r ih =>
    intro x n hb hx hv
    cases r with
    | nil => exact ⟨Nat.le_refl _, all_setLocal k x v hx hv⟩
    | cons k2 r =>
      rw [setPathCopy]
      split
      · next i ks hg =>
        have hc := copyRun_win (b := b) c (.node i true ks) n hb (all_get k x _ hx hg)
        have ih := ih _ _ (Nat.le_trans hb hc.1) hc.2 (all_le hc.1 hv)
        exact ⟨Nat.le_trans hc.1 ih.1,
          all_setLocal k x _ (all_le (Nat.le_trans hc.1 ih.1) hx) ih.2⟩
      · have hn := nestNew_win (b := b) (k2 :: r) v n hb hv
        exact ⟨hn.1, all_setLocal k x _ (all_le hn.1 hx) hn.2⟩

/-! ### `_add_field`: what it builds is made of what was there, the value and new objects -/

mutual
  theorem addFieldV_win {b : Nat} (ci : Copy) : ∀ (x : HV) (new : HV) (ps : List String) (n : Nat),
      b ≤ n → x.all (inR b n) = true → new.all (inR b n) = true →
      n ≤ (addFieldV ci new x ps n).2 ∧
        (addFieldV ci new x ps n).1.all (inR b (addFieldV ci new x ps n).2) = true
    | x, new, ps, n, hb, hx, hv => by
      cases ps with
      | nil => cases x <;> exact ⟨Nat.le_refl _, hv⟩
      | cons p ps =>
        cases x with
        | atom a => exact nestNew_win (b := b) (p :: ps) new n hb hv
        | node i d items =>
          simp only [HV.all, Bool.and_eq_true] at hx
          cases d with
          | false =>
            have h := addFieldItems_win (b := b) ci items new (p :: ps) (n + 1) (by omega)
              (allKids_le (Nat.le_succ _) hx.2) (all_le (Nat.le_succ _) hv)
            simp only [addFieldV, HV.all, Bool.and_eq_true]
            exact ⟨by omega, inR_tmp hb (by omega), h.2⟩
          | true =>
            have h := addFieldKey_win (b := b) ci items new p ps (n + 1) (by omega)
              (allKids_le (Nat.le_succ _) hx.2) (all_le (Nat.le_succ _) hv)
            simp only [addFieldV, HV.all, Bool.and_eq_true]
            exact ⟨by omega, inR_tmp hb (by omega), h.2⟩
  theorem addFieldItems_win {b : Nat} (ci : Copy) : ∀ (items : Kids) (new : HV) (ps : List String) (n : Nat),
      b ≤ n → allKids (inR b n) items = true → new.all (inR b n) = true →
      n ≤ (addFieldItems ci new items ps n).2 ∧
        allKids (inR b (addFieldItems ci new items ps n).2) (addFieldItems ci new items ps n).1 = true
    | items, new, ps, n, hb, hi, hv => by
      cases items with
      | nil => exact ⟨Nat.le_refl _, rfl⟩
      | cons kit r =>
        obtain ⟨k, it⟩ := kit
        simp only [allKids, Bool.and_eq_true] at hi
        have hc := copyRun_win (b := b) ci new n hb hv
        have h1 := addFieldV_win (b := b) ci it (ci.run new n).1 ps (ci.run new n).2
          (Nat.le_trans hb hc.1) (all_le hc.1 hi.1) hc.2
        have hn := Nat.le_trans hc.1 h1.1
        have h2 := addFieldItems_win (b := b) ci r new ps _ (Nat.le_trans hb hn)
          (allKids_le hn hi.2) (all_le hn hv)
        simp only [addFieldItems, allKids, Bool.and_eq_true]
        exact ⟨Nat.le_trans hn h2.1, all_le h2.1 h1.2, h2.2⟩
  theorem addFieldKey_win {b : Nat} (ci : Copy) : ∀ (kids : Kids) (new : HV) (p : String) (ps : List String) (n : Nat),
      b ≤ n → allKids (inR b n) kids = true → new.all (inR b n) = true →
      n ≤ (addFieldKey ci new p ps kids n).2 ∧
        allKids (inR b (addFieldKey ci new p ps kids n).2) (addFieldKey ci new p ps kids n).1 = true
    | kids, new, p, ps, n, hb, hk, hv => by
      cases kids with
      | nil =>
        simp only [addFieldKey, allKids, Bool.and_true]
        exact nestNew_win (b := b) ps new n hb hv
      | cons kv r =>
        obtain ⟨k, v⟩ := kv
        simp only [allKids, Bool.and_eq_true] at hk
        rw [addFieldKey]
        split <;> simp only [allKids, Bool.and_eq_true]
        · have h1 := addFieldV_win (b := b) ci v new ps n hb hk.1 hv
          exact ⟨h1.1, h1.2, allKids_le h1.1 hk.2⟩
        · have h2 := addFieldKey_win (b := b) ci r new p ps n hb hk.2 hv
          exact ⟨h2.1, all_le h2.1 hk.1, h2.2⟩
end

theorem addFieldTop_win {b : Nat} (ci : Copy) (v : HV) (path : List String) (top : HV) (n : Nat)
    (hb : b ≤ n) (ht : top.all (inR b n) = true) (hv : v.all (inR b n) = true) :
    n ≤ (addFieldTop ci v path top n).2 ∧
      (addFieldTop ci v path top n).1.all (inR b (addFieldTop ci v path top n).2) = true := by
  unfold addFieldTop
  split
  · next p ps id kids =>
    simp only [HV.all, Bool.and_eq_true] at ht ⊢
    have h := addFieldKey_win (b := b) ci kids v p ps n hb ht.2 hv
    exact ⟨h.1, inR_mono (Nat.le_refl _) h.1 _ ht.1, h.2⟩
  · exact ⟨Nat.le_refl _, ht⟩

end MongoModel.Proofs.C16
