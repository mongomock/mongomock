/-
  Proofs.Basics — what every layer uses of `MongoModel.Value`: induction on values, the error
  monad, association lists (`dget` / `dset` / `derase` / `dkeys`), `key.split('.')`, `Num.eq`.
-/
import MongoModel.Value

namespace MongoModel

/-! ### induction on values -/

theorem Val.ind {P : Val → Prop}
    (hnull : P .null) (hbool : ∀ b, P (.bool b)) (hint : ∀ i, P (.int i))
    (hdbl : ∀ m e, P (.dbl m e)) (hstr : ∀ s, P (.str s)) (hdate : ∀ u o, P (.date u o))
    (hoid : ∀ n, P (.oid n))
    (hdoc : ∀ fs : Fields, (∀ k v, (k, v) ∈ fs → P v) → P (.doc fs))
    (harr : ∀ xs : List Val, (∀ x, x ∈ xs → P x) → P (.arr xs)) : ∀ v, P v := by
  intro v
  refine Val.rec (motive_1 := P)
    (motive_2 := fun fs => ∀ k v, (k, v) ∈ fs → P v)
    (motive_3 := fun xs => ∀ x, x ∈ xs → P x)
    (motive_4 := fun p => P p.2)
    hnull hbool hint hdbl hstr hdate hoid hdoc harr ?_ ?_ ?_ ?_ ?_ v
  · intro k v h; cases h
  · intro hd tl h1 h2 k v hm
    rcases List.mem_cons.mp hm with e | hm
    · subst e; exact h1
    · exact h2 k v hm
  · intro x h; cases h
  · intro hd tl h1 h2 x hm
    rcases List.mem_cons.mp hm with e | hm
    · subst e; exact h1
    · exact h2 x hm
  · intro k v h; exact h

/-! ### the error monad -/

theorem bind_ok_iff {α β : Type} {x : R α} {g : α → R β} {b : β} :
    (x >>= g) = .ok b ↔ ∃ a, x = .ok a ∧ g a = .ok b := by
  cases x <;> simp [bind, Except.bind]

theorem bind_ok {α β : Type} {x : R α} {g : α → R β} {b : β} (h : (x >>= g) = .ok b) :
    ∃ a, x = .ok a ∧ g a = .ok b := bind_ok_iff.1 h

/-! ### numbers -/

theorem Num.eq_comm (a b : Num) : Num.eq a b = Num.eq b a := BEq.comm

/-! ### association lists: `dget` -/

theorem dget_mem {k : String} {v : Val} : ∀ {fs : Fields}, dget k fs = some v → (k, v) ∈ fs
  | (k', v') :: r, h => by
    rw [dget] at h
    split at h
    · cases h; subst k; exact List.mem_cons_self
    · exact List.mem_cons_of_mem _ (dget_mem h)

theorem mem_dkeys_of_dget {k : String} {fs : Fields} {v : Val} (h : dget k fs = some v) :
    k ∈ dkeys fs := List.mem_map.2 ⟨(k, v), dget_mem h, rfl⟩

theorem dget_none_iff {k : String} : ∀ {fs : Fields}, dget k fs = none ↔ k ∉ dkeys fs
  | [] => by simp [dget, dkeys]
  | (k', v') :: r => by
    have ih := @dget_none_iff k r
    simp only [dget, dkeys, List.map_cons, List.mem_cons, not_or] at ih ⊢
    split
    · rename_i e; subst e; simp
    · rename_i ne
      have : ¬ k = k' := fun e => ne e.symm
      simp [this, ih]

theorem dget_of_mem_dkeys {k : String} {fs : Fields} (h : k ∈ dkeys fs) :
    ∃ v, dget k fs = some v :=
  Option.ne_none_iff_exists'.1 fun hn => dget_none_iff.1 hn h

/-- with distinct keys, `dget` finds every pair of the list -/
theorem dget_of_mem_nodup {k : String} {v : Val} : ∀ {fs : Fields}, (dkeys fs).Nodup →
    (k, v) ∈ fs → dget k fs = some v
  | (k', v') :: r, hn, hm => by
    rw [dkeys, List.map_cons, List.nodup_cons] at hn
    rw [dget]
    rcases List.mem_cons.1 hm with e | hm
    · cases e; exact if_pos rfl
    · split
      · rename_i e; subst e
        exact absurd (List.mem_map.2 ⟨(k', v), hm, rfl⟩) hn.1
      · exact dget_of_mem_nodup hn.2 hm

theorem dget_append (k : String) : ∀ (fs gs : Fields),
    dget k (fs ++ gs) = (match dget k fs with | some v => some v | none => dget k gs)
  | [], gs => rfl
  | (k', v) :: r, gs => by
    by_cases e : k' = k
    · simp [dget, e]
    · simp only [List.cons_append, dget, e, if_false]; exact dget_append k r gs

/-! ### `dset` and `derase` -/

theorem dget_dset_same (k : String) (v : Val) : ∀ fs : Fields, dget k (dset k v fs) = some v
  | [] => by simp [dset, dget]
  | (k', v') :: r => by
    by_cases h : k' = k
    · simp [dset, dget, h]
    · simp [dset, dget, h, dget_dset_same k v r]

theorem dget_dset_other {k p : String} (v : Val) (h : k ≠ p) :
    ∀ fs : Fields, dget k (dset p v fs) = dget k fs
  | [] => by simp [dset, dget, Ne.symm h]
  | (k', v') :: r => by
    by_cases h2 : k' = p
    · subst h2; simp [dset, dget, Ne.symm h]
    · by_cases h3 : k' = k
      · subst h3; simp [dset, dget, h]
      · simp [dset, dget, h2, h3, dget_dset_other v h r]

theorem mem_dset {k : String} {v : Val} : ∀ {fs : Fields} {kv : String × Val},
    kv ∈ dset k v fs → kv ∈ fs ∨ kv = (k, v)
  | [], _, h => Or.inr (List.mem_singleton.1 h)
  | (k', v') :: r, kv, h => by
    rw [dset] at h
    split at h
    · exact (List.mem_cons.1 h).symm.imp_left (List.mem_cons_of_mem _)
    · rcases List.mem_cons.1 h with h | h
      · exact Or.inl (h ▸ List.mem_cons_self)
      · exact (mem_dset h).imp_left (List.mem_cons_of_mem _)

theorem mem_derase {k : String} : ∀ {fs : Fields} {kv : String × Val},
    kv ∈ derase k fs → kv ∈ fs
  | (k', v') :: r, kv, h => by
    rw [derase] at h
    split at h
    · exact List.mem_cons_of_mem _ h
    · exact (List.mem_cons.1 h).elim (· ▸ List.mem_cons_self)
        fun h => List.mem_cons_of_mem _ (mem_derase h)

/-- `d[k] = v` for a new key appends -/
theorem dset_absent {k : String} {v : Val} : ∀ {fs : Fields}, k ∉ dkeys fs →
    dset k v fs = fs ++ [(k, v)]
  | [], _ => rfl
  | (k', v') :: r, h => by
    simp only [dkeys, List.map_cons, List.mem_cons, not_or] at h
    simp only [dset, Ne.symm h.1, if_false, List.cons_append]
    rw [dset_absent h.2]

theorem dset_self {k : String} {v : Val} : ∀ {fs : Fields}, dget k fs = some v → dset k v fs = fs
  | (k', v') :: r, h => by
    rw [dget] at h
    rw [dset]
    split
    · rename_i e; rw [if_pos e] at h; cases h; rw [e]
    · rename_i ne; rw [if_neg ne] at h; rw [dset_self h]

theorem dkeys_dset (k : String) (v : Val) : ∀ fs : Fields,
    dkeys (dset k v fs) = if k ∈ dkeys fs then dkeys fs else dkeys fs ++ [k]
  | [] => by simp [dset, dkeys]
  | (k', v') :: r => by
    by_cases e : k' = k
    · subst e; simp [dset, dkeys]
    · have e' : ¬ k = k' := fun h => e h.symm
      have ih := dkeys_dset k v r
      simp only [dkeys] at ih
      simp only [dset, e, if_false, dkeys, List.map_cons, List.mem_cons, e', false_or, ih]
      split <;> simp [*]

theorem nodup_dset (k : String) (v : Val) (fs : Fields) (h : (dkeys fs).Nodup) :
    (dkeys (dset k v fs)).Nodup := by
  rw [dkeys_dset]
  split
  · exact h
  · rename_i hn
    rw [List.nodup_append]
    refine ⟨h, by simp, ?_⟩
    intro a ha b hb e
    cases List.mem_singleton.1 hb
    exact hn (e ▸ ha)

/-- `dict(pairs)` over a dict -/
theorem nodup_foldl_dset : ∀ (doc base : Fields), (dkeys base).Nodup →
    (dkeys (doc.foldl (fun acc kv => dset kv.1 kv.2 acc) base)).Nodup
  | [], _, h => h
  | (k, v) :: r, base, h => nodup_foldl_dset r _ (nodup_dset k v base h)

/-! ### `key.split('.')` -/

theorem splitDotsChars_ne_nil : ∀ (cs cur : List Char), splitDotsChars cs cur ≠ []
  | [], cur => by simp [splitDotsChars]
  | c :: r, cur => by
    simp only [splitDotsChars]
    split
    · simp
    · exact splitDotsChars_ne_nil r _

theorem splitDots_ne_nil (s : String) : splitDots s ≠ [] := splitDotsChars_ne_nil _ _

theorem splitDotsChars_nodot : ∀ (cs cur : List Char), '.' ∉ cs →
    splitDotsChars cs cur = [String.ofList (cur.reverse ++ cs)]
  | [], cur, _ => by simp [splitDotsChars]
  | c :: r, cur, h => by
    simp only [List.mem_cons, not_or] at h
    rw [splitDotsChars, if_neg (Ne.symm h.1), splitDotsChars_nodot r _ h.2]
    simp

theorem splitDots_nodot (s : String) (h : s.toList.contains '.' = false) : splitDots s = [s] := by
  rw [splitDots, splitDotsChars_nodot _ _ (by simpa using h)]
  simp

theorem splitDots_id : splitDots "_id" = ["_id"] := by decide

end MongoModel
