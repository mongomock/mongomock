/-
  Proofs.C08 — a failed single-document write in a history (from `atomic_fail_near`), and
  `insert_many`: its loop goes through the same collections as the bulk loop over the
  corresponding `InsertOne` requests (`insertMany_bulk`), so the ordered / unordered statements
  come from those on `bulkLoop` (C15Loop).
-/
import Proofs.C08Step
import Proofs.C15Loop

namespace MongoModel.Proofs.C08Lemmas
open MongoModel MongoModel.Spec MongoModel.Proofs.Shape MongoModel.Proofs.C15Lemmas
open MongoModel.Proofs.C09Lemmas (step_insert_one step_insert_many insertManyLoop_cons)

def insReq (d : Val) : Val := .arr [.str "InsertOne", d]

/-- outcomes of the same kind -/
inductive OutSim : Out → Out → Prop
  | val (v w : Val) : OutSim (.val v) (.val w)
  | err (e : Err) : OutSim (.err e) (.err e)
  | bulkErr (v w : Val) : OutSim (.bulkErr v) (.bulkErr w)

theorem OutSim.isErr {a b : Out} (h : OutSim a b) : a.isErr = b.isErr := by cases h <;> rfl

theorem isEmpty_snoc {α : Type} (l : List α) (x : α) : (l ++ [x]).isEmpty = false := by
  cases l <;> rfl

/-- the insert loop and the bulk loop over the corresponding requests go through the same
    collections and end the same way -/
theorem insertMany_bulk (cfg : Cfg) (now : Int) (ordered : Bool) (ds : List Val)
    (hd : ds.all Val.isDoc = true) :
    ∀ (idx : Nat) (c : Coll) (ids errs : List Val) (n : Nat) (t : BulkTotals),
      errs.isEmpty = t.errors.isEmpty →
      (insertManyLoop now ordered ds idx c ids errs n).1 =
        (bulkLoop cfg now ordered (ds.map insReq) idx c t).1 ∧
      OutSim (insertManyLoop now ordered ds idx c ids errs n).2
        (bulkLoop cfg now ordered (ds.map insReq) idx c t).2 := by
  induction ds with
  | nil =>
    intro idx c ids errs n t he
    rw [insertManyLoop, List.map_nil, loop_nil, ← he]
    unfold insertManyDone
    split <;> exact ⟨rfl, by constructor⟩
  | cons d rest ih =>
    simp only [List.all_cons, Bool.and_eq_true] at hd
    obtain ⟨fs, rfl⟩ : ∃ fs, d = .doc fs := by cases d <;> first | exact ⟨_, rfl⟩ | cases hd.1
    intro idx c ids errs n t he
    rw [insertManyLoop_cons, List.map_cons, loop_cons, insReq, bulkOne_InsertOne]
    unfold bulkIns
    rw [step_insert_one]
    dsimp only
    cases insertDoc now c (.doc fs) with
    | ok r => exact ih hd.2 _ _ _ _ _ _ he
    | error e =>
      dsimp only [bulkFail]
      cases hwe : e.isWriteError with
      | false => exact ⟨rfl, .err e⟩
      | true =>
        cases ordered with
        | true =>
          simp only [if_true, insertManyDone, isEmpty_snoc, Bool.false_eq_true, if_false, true_and]
          exact .bulkErr _ _
        | false =>
          simp only [if_true, Bool.false_eq_true, if_false]
          exact ih hd.2 _ _ _ _ _ _ (by rw [isEmpty_snoc, isEmpty_snoc])

theorem plain_insReq (ds : List Val) : (ds.map insReq).all plainRequest = true := by
  rw [List.all_map]; exact List.all_eq_true.2 fun _ _ => rfl

theorem precheck_insReq (ds : List Val) : bulkPrecheck (ds.map insReq) = .ok () := by
  induction ds with
  | nil => rfl
  | cons d rest ih => rw [precheck_eq] at ih ⊢; exact ih

theorem seqInsert_eq (cfg : Cfg) (now : Int) (ds : List Val) (c : Coll) :
    seqInsert cfg now ds c = seqOps cfg now ((ds.map insReq).map asSingle) c := by
  rw [List.map_map, seqOps, List.foldl_map]; rfl

theorem step_insert_many_ok (cfg : Cfg) (now : Int) (c : Coll) (ds : List Val) (b : Bool)
    (hne : ds ≠ []) (hd : ds.all Val.isDoc = true) :
    stepColl cfg now c (.arr [.str "insert_many", .arr ds, .bool b]) =
      insertManyLoop now b ds 0 c [] [] 0 := by
  rw [step_insert_many, if_neg (by simpa using hne), hd]
  cases b <;> rfl

/-- an ordered batch reports the position it stopped at and the number of inserts before it -/
theorem loop_details (now : Int) (ds : List Val) :
    ∀ (idx : Nat) (c : Coll) (ids : List Val) (n : Nat) (details : Val), idx = n →
      (insertManyLoop now true ds idx c ids [] n).2 = .bulkErr details →
      ∃ (k : Int) (code : Val),
        details = .doc [("writeErrors", .arr [.doc [("index", .int k), ("code", code)]]),
                        ("nInserted", .int k)] := by
  induction ds with
  | nil =>
    intro idx c ids n details _ h
    rw [insertManyLoop] at h; cases h
  | cons d rest ih =>
    intro idx c ids n details hn h
    rw [insertManyLoop_cons] at h
    split at h
    · exact ih _ _ _ _ _ (by omega) h
    · split at h
      · simp only [if_true, List.nil_append, insertManyDone, List.isEmpty_cons,
          Bool.false_eq_true, if_false, Out.bulkErr.injEq] at h
        exact ⟨_, _, by rw [← h, hn]⟩
      · cases h

end MongoModel.Proofs.C08Lemmas

namespace MongoModel.Proofs.C08
open MongoModel MongoModel.Spec MongoModel.Proofs.C08Lemmas MongoModel.Proofs.Shape
open MongoModel.Proofs.C15Lemmas

/-- a single-document write is not a `clock` operation: `step` runs `stepColl` at the clock -/
theorem step_single (cfg : Cfg) (s : St) (op : Val) (hs : singleWrite op = true) :
    step cfg s op =
      ({ s with c := (stepColl cfg s.now s.c op).1 }, (stepColl cfg s.now s.c op).2) :=
  step_eq cfg s op fun us h => by subst h; cases hs

theorem failed_single_write_noop (cfg : Cfg) (s : St) (op : Val) (hs : singleWrite op = true)
    (he : (step cfg s op).2.isErr = true) :
    visible (step cfg s op).1 = visible s := by
  rw [step_single cfg s op hs] at he ⊢
  exact (atomic_fail_near cfg s.now s.c op (atomic_of_single hs) he).visible

theorem failed_single_write_indexes (cfg : Cfg) (s : St) (op : Val) (hs : singleWrite op = true)
    (he : (step cfg s op).2.isErr = true) :
    (step cfg s op).1.c.indexes.map (·.name) = s.c.indexes.map (·.name) ∧
    (step cfg s op).1.c.ttlIndexes.map (·.name) = s.c.ttlIndexes.map (·.name) := by
  rw [step_single cfg s op hs] at he ⊢
  have h := (atomic_fail_near cfg s.now s.c op (atomic_of_single hs) he).indexes
  exact ⟨by rw [h.1], by rw [h.2]⟩

theorem validation_before_mutation (cfg : Cfg) (now : Int) (c : Coll) (f u up : Val) (e : Err)
    (h : validateUpdate u = .error e) :
    stepColl cfg now c (.arr [.str "update_one", f, u, up]) = (c, .err e) ∧
    stepColl cfg now c (.arr [.str "update_many", f, u, up]) = (c, .err e) := by
  rw [C09Lemmas.step_update_one, C09Lemmas.step_update_many, h]
  exact ⟨rfl, rfl⟩

theorem unordered_all_successes (cfg : Cfg) (now : Int) (c : Coll) (ds : List Val)
    (hne : ds ≠ []) (hd : ds.all Val.isDoc = true)
    (hw : ∀ e, (stepColl cfg now c (.arr [.str "insert_many", .arr ds, .bool false])).2 ≠ .err e) :
    (stepColl cfg now c (.arr [.str "insert_many", .arr ds, .bool false])).1
      = seqInsert cfg now ds c := by
  rw [step_insert_many_ok cfg now c ds false hne hd] at hw ⊢
  obtain ⟨h1, h2⟩ := insertMany_bulk cfg now false ds hd 0 c [] [] 0 {} rfl
  obtain ⟨t', h3, _⟩ := loop_unordered cfg now _ (plain_insReq ds) (precheck_insReq ds) 0 c {}
    (fun e he => by
      rw [he] at h2
      generalize (insertManyLoop now false ds 0 c [] [] 0).2 = o at hw h2
      cases h2; exact hw e rfl)
  rw [h1, h3, seqInsert_eq]

theorem ordered_prefix (cfg : Cfg) (now : Int) (c : Coll) (ds : List Val)
    (hne : ds ≠ []) (hd : ds.all Val.isDoc = true) :
    ∃ k, k ≤ ds.length ∧
      (stepColl cfg now c (.arr [.str "insert_many", .arr ds, .bool true])).1
        = seqInsert cfg now (ds.take k) c ∧
      ((stepColl cfg now c (.arr [.str "insert_many", .arr ds, .bool true])).2.isErr = false →
        k = ds.length) := by
  rw [step_insert_many_ok cfg now c ds true hne hd]
  obtain ⟨h1, h2⟩ := insertMany_bulk cfg now true ds hd 0 c [] [] 0 {} rfl
  obtain ⟨k, hk, hst, hfin⟩ := C15.ordered_eq_seq_prefix cfg now c _ (plain_insReq ds)
    (precheck_insReq ds) (by simpa using hne)
  rw [bulkWrite_loop cfg now c _ true (precheck_insReq ds) (by simpa using hne)] at hst hfin
  rw [List.length_map] at hk hfin
  refine ⟨k, hk, ?_, fun h => hfin (h2.isErr ▸ h)⟩
  rw [h1, hst, ← List.map_take, seqInsert_eq]

theorem ordered_error_details (cfg : Cfg) (now : Int) (c : Coll) (ds : List Val) (details : Val)
    (h : (stepColl cfg now c (.arr [.str "insert_many", .arr ds, .bool true])).2 = .bulkErr details) :
    ∃ k code, details = .doc [("writeErrors", .arr [.doc [("index", .int k), ("code", code)]]),
                              ("nInserted", .int k)] := by
  rw [C09Lemmas.step_insert_many] at h
  split at h
  · cases h
  · split at h
    · cases h
    · exact loop_details now ds 0 c [] 0 details rfl h

end MongoModel.Proofs.C08
