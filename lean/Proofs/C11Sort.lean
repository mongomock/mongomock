/-
  Proofs.C11Sort — the theory of the stable sort `isort` (core Lean only).  The tool is
  `stable_sort_unique`: w.r.t. a strict weak order a list has one stable sorted permutation, the
  one `isort` computes.  "Reverse-sort-reverse = sort by the flipped order" and "successive sorts =
  one lexicographic sort" are proved by checking that the left side is such a permutation.
-/
import MongoModel.Sort

namespace MongoModel.Proofs.C11
open MongoModel

variable {α : Type}

/-- `lt` is a strict weak order: asymmetric, and `¬ lt b a` ("a ≤ b") is transitive.
    (Totality of `≤` is asymmetry; irreflexivity and transitivity of `lt` follow.) -/
structure StrictWeak (lt : α → α → Bool) : Prop where
  asymm : ∀ a b, lt a b = true → lt b a = false
  negTrans : ∀ a b c, lt b a = false → lt c b = false → lt c a = false

/-- `a` and `b` tie: neither is smaller -/
def tie (lt : α → α → Bool) (a b : α) : Bool := !lt a b && !lt b a

/-- "sorted": no later element is smaller than an earlier one -/
def Sorted (lt : α → α → Bool) (l : List α) : Prop := l.Pairwise (fun a b => lt b a = false)

/-- "stable w.r.t. `xs`": every tie class appears in the same order as in `xs` -/
def StableWrt (lt : α → α → Bool) (ys xs : List α) : Prop :=
  ∀ a, ys.filter (tie lt a) = xs.filter (tie lt a)

theorem StrictWeak.irrefl {lt : α → α → Bool} (sw : StrictWeak lt) (a : α) : lt a a = false := by
  cases h : lt a a with
  | false => rfl
  | true => have := sw.asymm a a h; rw [h] at this; exact this

theorem StrictWeak.flip {lt : α → α → Bool} (sw : StrictWeak lt) :
    StrictWeak (fun a b => lt b a) :=
  ⟨fun a b h => sw.asymm b a h, fun a b c h1 h2 => sw.negTrans c b a h2 h1⟩

theorem tie_flip (lt : α → α → Bool) : tie (fun a b => lt b a) = tie lt := by
  funext a b; simp [tie, Bool.and_comm]

theorem tie_self {lt : α → α → Bool} (sw : StrictWeak lt) (a : α) : tie lt a a = true := by
  simp [tie, sw.irrefl]

/-- two elements tied with a third are not strictly ordered -/
theorem tie_tie_not_lt {lt : α → α → Bool} (sw : StrictWeak lt) {a x y : α}
    (hx : tie lt a x = true) (hy : tie lt a y = true) : lt y x = false := by
  simp [tie] at hx hy
  exact sw.negTrans x a y hx.1 hy.2

theorem insertBy_perm (lt : α → α → Bool) (x : α) (l : List α) :
    (insertBy lt x l).Perm (x :: l) := by
  induction l with
  | nil => exact List.Perm.refl _
  | cons y ys ih =>
    simp only [insertBy]
    split
    · exact (List.Perm.cons y ih).trans (List.Perm.swap x y ys)
    · exact List.Perm.refl _

theorem isort_perm (lt : α → α → Bool) (l : List α) : (isort lt l).Perm l := by
  induction l with
  | nil => exact List.Perm.refl _
  | cons x xs ih => exact (insertBy_perm lt x _).trans (List.Perm.cons x ih)

/-- Python's `sorted` returns a permutation -/
theorem pySorted_perm (lt : α → α → R Bool) (rev : Bool) (xs out : List α)
    (h : pySorted lt rev xs = .ok out) : out.Perm xs := by
  unfold pySorted at h
  split at h
  · cases h
    split
    · exact (List.reverse_perm _).trans ((isort_perm _ _).trans (List.reverse_perm _))
    · exact isort_perm _ _
  · split at h <;> cases h

theorem sortedByKey_perm (key : String) (rev : Bool) (docs out : List Val)
    (h : sortedByKey key rev docs = .ok out) : out.Perm docs := by
  unfold sortedByKey at h
  split at h
  · cases h
  · split at h
    · cases h
    · exact pySorted_perm _ _ _ _ h

theorem mem_insertBy {lt : α → α → Bool} {x z : α} {l : List α} :
    z ∈ insertBy lt x l ↔ z = x ∨ z ∈ l := by
  rw [(insertBy_perm lt x l).mem_iff]; simp

theorem insertBy_sorted {lt : α → α → Bool} (sw : StrictWeak lt) (x : α) (l : List α)
    (h : Sorted lt l) : Sorted lt (insertBy lt x l) := by
  induction l with
  | nil => simp [insertBy, Sorted]
  | cons y ys ih =>
    unfold Sorted at h ih ⊢
    rw [List.pairwise_cons] at h
    simp only [insertBy]
    split
    next hlt =>
      rw [List.pairwise_cons]
      refine ⟨?_, ih h.2⟩
      intro z hz
      rcases mem_insertBy.mp hz with rfl | hz
      · exact sw.asymm _ _ hlt
      · exact h.1 z hz
    next hlt =>
      have hyx : lt y x = false := by simpa using hlt
      rw [List.pairwise_cons]
      refine ⟨?_, List.pairwise_cons.mpr h⟩
      intro z hz
      rcases List.mem_cons.mp hz with rfl | hz
      · exact hyx
      · exact sw.negTrans x y z hyx (h.1 z hz)

theorem isort_sorted {lt : α → α → Bool} (sw : StrictWeak lt) (l : List α) :
    Sorted lt (isort lt l) := by
  induction l with
  | nil => simp [isort, Sorted]
  | cons x xs ih => exact insertBy_sorted sw x _ ih

theorem insertBy_filter_tie {lt : α → α → Bool} (sw : StrictWeak lt) (a x : α) (l : List α) :
    (insertBy lt x l).filter (tie lt a) = (x :: l).filter (tie lt a) := by
  induction l with
  | nil => simp [insertBy]
  | cons y ys ih =>
    simp only [insertBy]
    split
    next hlt =>
      rw [List.filter_cons, ih]
      cases hax : tie lt a x with
      | false => simp [List.filter_cons, hax]
      | true =>
        have hay : tie lt a y = false := by
          cases hay : tie lt a y with
          | false => rfl
          | true => have := tie_tie_not_lt sw hax hay; rw [hlt] at this; cases this
        simp [hax, hay]
    next => rfl

theorem isort_stable {lt : α → α → Bool} (sw : StrictWeak lt) (l : List α) :
    StableWrt lt (isort lt l) l := by
  intro a
  induction l with
  | nil => rfl
  | cons x xs ih =>
    simp only [isort]
    rw [insertBy_filter_tie sw, List.filter_cons, List.filter_cons, ih]

theorem sorted_stable_unique {lt : α → α → Bool} (sw : StrictWeak lt) :
    ∀ (l1 l2 : List α), l1.Perm l2 → Sorted lt l1 → Sorted lt l2 →
      (∀ a, l1.filter (tie lt a) = l2.filter (tie lt a)) → l1 = l2 := by
  intro l1
  induction l1 with
  | nil => intro l2 hp _ _ _; exact (List.Perm.nil_eq hp)
  | cons x t1 ih =>
    intro l2 hp hs1 hs2 hf
    cases l2 with
    | nil => exact absurd hp.symm (List.Perm.nil_eq · |> fun h => by cases h)
    | cons y t2 =>
      unfold Sorted at hs1 hs2
      rw [List.pairwise_cons] at hs1 hs2
      have hxy : lt x y = false := by
        have : x ∈ y :: t2 := hp.mem_iff.mp (List.mem_cons_self)
        rcases List.mem_cons.mp this with rfl | hx
        · exact sw.irrefl _
        · exact hs2.1 x hx
      have hyx : lt y x = false := by
        have : y ∈ x :: t1 := hp.mem_iff.mpr (List.mem_cons_self)
        rcases List.mem_cons.mp this with rfl | hy
        · exact sw.irrefl _
        · exact hs1.1 y hy
      have hxx : tie lt x x = true := tie_self sw x
      have hty : tie lt x y = true := by simp [tie, hxy, hyx]
      have hx := hf x
      rw [List.filter_cons, List.filter_cons, hxx, hty] at hx
      simp only [if_true] at hx
      have hxe : x = y := (List.cons.inj hx).1
      subst hxe
      have hp' : t1.Perm t2 := (List.perm_cons x).mp hp
      have hf' : ∀ a, t1.filter (tie lt a) = t2.filter (tie lt a) := by
        intro a
        have := hf a
        rw [List.filter_cons, List.filter_cons] at this
        split at this
        · exact (List.cons.inj this).2
        · exact this
      rw [ih t2 hp' hs1.2 hs2.2 hf']

/-- any stable sorted permutation of `xs` is the one `isort` computes -/
theorem stable_sort_unique {lt : α → α → Bool} (sw : StrictWeak lt) (xs ys : List α)
    (hp : ys.Perm xs) (hs : Sorted lt ys) (hst : StableWrt lt ys xs) : ys = isort lt xs :=
  sorted_stable_unique sw ys (isort lt xs) (hp.trans (isort_perm lt xs).symm) hs
    (isort_sorted sw xs) (fun a => (hst a).trans (isort_stable sw xs a).symm)

theorem insertBy_congr {lt lt' : α → α → Bool} (x : α) (l : List α)
    (h : ∀ y ∈ l, lt y x = lt' y x) : insertBy lt x l = insertBy lt' x l := by
  induction l with
  | nil => rfl
  | cons y ys ih =>
    simp only [insertBy]
    rw [h y (List.mem_cons_self), ih (fun z hz => h z (List.mem_cons_of_mem _ hz))]

/-- `isort` only looks at the comparison between elements of the list -/
theorem isort_congr {lt lt' : α → α → Bool} (l : List α)
    (h : ∀ a ∈ l, ∀ b ∈ l, lt a b = lt' a b) : isort lt l = isort lt' l := by
  induction l with
  | nil => rfl
  | cons x xs ih =>
    simp only [isort]
    rw [ih (fun a ha b hb => h a (List.mem_cons_of_mem _ ha) b (List.mem_cons_of_mem _ hb))]
    apply insertBy_congr
    intro y hy
    have hy' : y ∈ xs := (isort_perm lt' xs).mem_iff.mp hy
    exact h y (List.mem_cons_of_mem _ hy') x (List.mem_cons_self)

theorem insertBy_false (x : α) (l : List α) : insertBy (fun _ _ => false) x l = x :: l := by
  cases l <;> simp [insertBy]

/-- with no key at all every pair ties: the sort is the identity (natural order) -/
theorem isort_false (l : List α) : isort (fun _ _ => false) l = l := by
  induction l with
  | nil => rfl
  | cons x xs ih => simp [isort, ih, insertBy_false]

theorem strictWeak_false : StrictWeak (fun (_ _ : α) => false) :=
  ⟨fun _ _ h => (by cases h), fun _ _ _ _ _ => rfl⟩

/-- CPython's "reverse, sort, reverse" is the stable sort by the flipped order: descending,
    ties in their original order -/
theorem reverse_isort_reverse {lt : α → α → Bool} (sw : StrictWeak lt) (xs : List α) :
    (isort lt xs.reverse).reverse = isort (fun a b => lt b a) xs := by
  apply stable_sort_unique sw.flip
  · exact (List.reverse_perm _).trans ((isort_perm lt _).trans (List.reverse_perm _))
  · unfold Sorted
    rw [List.pairwise_reverse]
    exact isort_sorted sw _
  · intro a
    rw [tie_flip, List.filter_reverse, isort_stable sw, List.filter_reverse, List.reverse_reverse]

/-- compare by `lt1`; on a tie, by `lt2` -/
def lexLt (lt1 lt2 : α → α → Bool) (a b : α) : Bool :=
  if lt1 a b then true else if lt1 b a then false else lt2 a b

theorem tie_lex (lt1 lt2 : α → α → Bool) (a b : α) :
    tie (lexLt lt1 lt2) a b = (tie lt1 a b && tie lt2 a b) := by
  simp only [tie, lexLt]
  cases lt1 a b <;> cases lt1 b a <;> cases lt2 a b <;> cases lt2 b a <;> rfl

theorem lexLt_false_iff (lt1 lt2 : α → α → Bool) (a b : α) :
    lexLt lt1 lt2 b a = false ↔ lt1 b a = false ∧ (lt1 a b = true ∨ lt2 b a = false) := by
  simp only [lexLt]
  cases lt1 a b <;> cases lt1 b a <;> cases lt2 b a <;> simp

theorem strictWeak_lex {lt1 lt2 : α → α → Bool} (s1 : StrictWeak lt1) (s2 : StrictWeak lt2) :
    StrictWeak (lexLt lt1 lt2) := by
  constructor
  · intro a b h
    simp only [lexLt] at h ⊢
    cases h1 : lt1 a b with
    | true => have := s1.asymm a b h1; simp [this]
    | false =>
      rw [h1] at h
      cases h1' : lt1 b a with
      | true => rw [h1'] at h; simp at h
      | false =>
        rw [h1'] at h
        simp at h
        simp [s2.asymm a b h]
  · intro a b c hab hbc
    rw [lexLt_false_iff] at hab hbc ⊢
    have hac : lt1 c a = false := s1.negTrans a b c hab.1 hbc.1
    refine ⟨hac, ?_⟩
    cases h : lt1 a c with
    | true => exact Or.inl rfl
    | false =>
      right
      -- a, c tie under lt1, hence so do a, b and b, c
      have hba : lt1 a b = false := s1.negTrans b c a hbc.1 h
      have hcb : lt1 b c = false := s1.negTrans c a b h hab.1
      have h2ab : lt2 b a = false := by
        rcases hab.2 with h' | h'
        · rw [hba] at h'; cases h'
        · exact h'
      have h2bc : lt2 c b = false := by
        rcases hbc.2 with h' | h'
        · rw [hcb] at h'; cases h'
        · exact h'
      exact s2.negTrans a b c h2ab h2bc

theorem sorted_lex_of {lt1 lt2 : α → α → Bool} (s1 : StrictWeak lt1) :
    ∀ (l : List α), Sorted lt1 l → (∀ a, Sorted lt2 (l.filter (tie lt1 a))) →
      Sorted (lexLt lt1 lt2) l := by
  intro l
  induction l with
  | nil => intro _ _; exact List.Pairwise.nil
  | cons x t ih =>
    intro hs hf
    unfold Sorted at hs ⊢
    rw [List.pairwise_cons] at hs ⊢
    constructor
    · intro z hz
      rw [lexLt_false_iff]
      refine ⟨hs.1 z hz, ?_⟩
      cases h : lt1 x z with
      | true => exact Or.inl rfl
      | false =>
        right
        have hxz : tie lt1 x z = true := by simp [tie, h, hs.1 z hz]
        have := hf x
        unfold Sorted at this
        rw [List.filter_cons, tie_self s1 x] at this
        simp only [if_true] at this
        rw [List.pairwise_cons] at this
        exact this.1 z (List.mem_filter.mpr ⟨hz, hxz⟩)
    · apply ih hs.2
      intro a
      have := hf a
      unfold Sorted at this ⊢
      rw [List.filter_cons] at this
      split at this
      · exact (List.pairwise_cons.mp this).2
      · exact this

/-- sorting by the secondary key first and then (stably) by the primary key is the stable sort by
    the lexicographic order -/
theorem isort_isort_lex {lt1 lt2 : α → α → Bool} (s1 : StrictWeak lt1) (s2 : StrictWeak lt2)
    (xs : List α) : isort lt1 (isort lt2 xs) = isort (lexLt lt1 lt2) xs := by
  apply stable_sort_unique (strictWeak_lex s1 s2)
  · exact (isort_perm lt1 _).trans (isort_perm lt2 _)
  · apply sorted_lex_of s1 _ (isort_sorted s1 _)
    intro a
    rw [isort_stable s1 _ a]
    exact List.Pairwise.sublist List.filter_sublist (isort_sorted s2 xs)
  · intro a
    have e : tie (lexLt lt1 lt2) a = fun b => tie lt2 a b && tie lt1 a b := by
      funext b; rw [tie_lex, Bool.and_comm]
    rw [e, ← List.filter_filter, isort_stable s1 _ a, List.filter_filter]
    have : (fun b => tie lt2 a b && tie lt1 a b) = fun b => tie lt1 a b && tie lt2 a b := by
      funext b; rw [Bool.and_comm]
    rw [this, ← List.filter_filter, isort_stable s2 _ a, List.filter_filter]

end MongoModel.Proofs.C11
