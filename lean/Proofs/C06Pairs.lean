/-
  Proofs.C06Pairs — the invariant carried through the operations (`UniqS`: uniqueness among the
  value-keyed, covered documents) in its "ordered pairs" form, and the lemma that a write
  checked by `_ensure_uniques` cannot create a clash.
-/
import Proofs.C06Ensure

namespace MongoModel.Proofs.C06Lemmas
open MongoModel MongoModel.Spec

theorem sublist_pair_filter {α : Type} {P : α → Bool} {a b : α} {l : List α} :
    [a, b].Sublist (l.filter P) ↔ [a, b].Sublist l ∧ P a = true ∧ P b = true := by
  constructor
  · intro h
    have ha : a ∈ l.filter P := h.subset (by simp)
    have hb : b ∈ l.filter P := h.subset (by simp)
    exact ⟨h.trans List.filter_sublist, (List.mem_filter.1 ha).2, (List.mem_filter.1 hb).2⟩
  · rintro ⟨h, ha, hb⟩
    have := h.filter P
    simpa [List.filter_cons, ha, hb] using this

theorem pair_mem {α : Type} {a b : α} {l : List α} (h : [a, b].Sublist l) : a ∈ l ∧ b ∈ l :=
  ⟨h.subset (by simp), h.subset (by simp)⟩

/-- the documents the carried invariant speaks about: value-keyed and covered -/
def good (ix : Index) (p : Val × Val) : Bool := valueKeys ix p.2 && covers ix p.2

theorem good_iff {ix : Index} {p : Val × Val} :
    good ix p = true ↔ valueKeys ix p.2 = true ∧ covers ix p.2 = true := by
  simp [good]

/-- the two documents do not clash on the index -/
def Rk (ix : Index) (a b : Val × Val) : Prop := keyEq (keyVals ix a.2) (keyVals ix b.2) = false

/-- no two good documents (in store order) clash -/
def PairsOK (ix : Index) (docs : List (Val × Val)) : Prop :=
  ∀ a b, [a, b].Sublist docs → good ix a = true → good ix b = true → Rk ix a b

theorem PairsOK.sublist {ix : Index} {l l' : List (Val × Val)} (h : PairsOK ix l)
    (hs : l'.Sublist l) : PairsOK ix l' :=
  fun a b hab ha hb => h a b (hab.trans hs) ha hb

/-- the invariant carried through the operations.  Only for an index with distinct field names:
    `_ensure_uniques` collects the values of the new document in a dict keyed by field name
    (`valuesFor`), which is the key tuple only then (`valuesFor_ok`) -/
def UniqS (c : Coll) : Prop :=
  ∀ ix ∈ c.indexes, ix.unique = true → distinctFields ix = true → PairsOK ix c.docs

theorem uniqS_of_uniqInv {c : Coll} (h : UniqInv c) : UniqS c := by
  intro ix hix hu _ a b hab ha hb
  have hp := h ix hix hu
  rw [List.pairwise_iff_forall_sublist] at hp
  exact hp (sublist_pair_filter.2 ⟨hab, (good_iff.1 ha).2, (good_iff.1 hb).2⟩)

theorem uniqInv_of_uniqS {c : Coll} (h : UniqS c) (hs : ValueInv c) : UniqInv c := by
  intro ix hix hu
  obtain ⟨hd, hsc⟩ := hs ix hix hu
  rw [List.pairwise_iff_forall_sublist]
  intro a b hab
  obtain ⟨hab', ca, cb⟩ := sublist_pair_filter.1 hab
  obtain ⟨ma, mb⟩ := pair_mem hab'
  exact h ix hix hu hd a b hab' (good_iff.2 ⟨hsc a ma, ca⟩) (good_iff.2 ⟨hsc b mb, cb⟩)

theorem UniqS.of_sub {c c' : Coll} (h : UniqS c) (hd : c'.docs.Sublist c.docs)
    (hi : ∀ ix ∈ c'.indexes, ix ∈ c.indexes) : UniqS c' :=
  fun ix hix hu hdf => (h ix (hi ix hix) hu hdf).sublist hd

theorem two_hits {f : Val} {a b : Val × Val} {l : List (Val × Val)} (hab : [a, b].Sublist l)
    (ha : filterApplies f a.2 = .ok true) (hb : filterApplies f b.2 = .ok true) : 2 ≤ hits f l := by
  have : [a, b].Sublist (l.filter (fun p => isTrue (filterApplies f p.2))) :=
    sublist_pair_filter.2 ⟨hab, by simp [ha, isTrue], by simp [hb, isTrue]⟩
  exact this.length_le

/-- after a successful `_ensure_uniques(new)`, a pair of value-keyed covered documents one of
    which is `new` does not clash -/
theorem checked_pair' {new : Val} {ix : Index} {docs : List (Val × Val)} (hc : Checked new ix docs)
    (hu : ix.unique = true) (hd : distinctFields ix = true) {a b : Val × Val}
    (hab : [a, b].Sublist docs) (sa : valueKeys ix a.2 = true) (ca : covers ix a.2 = true)
    (sb : valueKeys ix b.2 = true) (cb : covers ix b.2 = true)
    (hnew : a.2 = new ∨ b.2 = new) : Rk ix a b := by
  have oka := okKeys_of_valueKeys sa
  have okb := okKeys_of_valueKeys sb
  have hsn : valueKeys ix new = true ∧ covers ix new = true := by
    rcases hnew with e | e <;> rw [← e]
    · exact ⟨sa, ca⟩
    · exact ⟨sb, cb⟩
  have okn := okKeys_of_valueKeys hsn.1
  have hv := valuesFor_ok ix.keys new okn (distinctFields_nodup hd)
  have hcov := hsn.2
  rw [covers_eq, Bool.and_eq_true, Bool.not_eq_true'] at hcov
  have hskip : (ix.sparse && (kwOf ix.keys new).all isNullCond) = false := by
    rw [kwOf_all_null]; exact hcov.1
  have hle := hc hu _ hv hskip
  unfold Rk
  rw [keyVals_eq, keyVals_eq]
  cases hk : keyEq (kv ix.keys a.2) (kv ix.keys b.2) with
  | false => rfl
  | true =>
    exfalso
    have pa : pfOk ix a.2 = true := by
      have := ca; rw [covers_eq, Bool.and_eq_true] at this; exact this.2
    have pb : pfOk ix b.2 = true := by
      have := cb; rw [covers_eq, Bool.and_eq_true] at this; exact this.2
    have ka : keyEq (kv ix.keys a.2) (kv ix.keys new) = true := by
      rcases hnew with e | e
      · rw [← e]; exact keyEq_refl (kv_allKeyable oka)
      · rw [← e]; exact hk
    have kb : keyEq (kv ix.keys b.2) (kv ix.keys new) = true := by
      rcases hnew with e | e
      · rw [← e, keyEq_symm (kv_allKeyable okb) (kv_allKeyable oka)]; exact hk
      · rw [← e]; exact keyEq_refl (kv_allKeyable okb)
    have h2 := two_hits hab (query_matches ix new a.2 oka pa ka)
      (query_matches ix new b.2 okb pb kb)
    omega

theorem checked_pair {new : Val} {ix : Index} {docs : List (Val × Val)} (hc : Checked new ix docs)
    (hu : ix.unique = true) (hd : distinctFields ix = true) {a b : Val × Val}
    (hab : [a, b].Sublist docs) (ga : good ix a = true) (gb : good ix b = true)
    (hnew : a.2 = new ∨ b.2 = new) : Rk ix a b :=
  checked_pair' hc hu hd hab (good_iff.1 ga).1 (good_iff.1 ga).2 (good_iff.1 gb).1
    (good_iff.1 gb).2 hnew

end MongoModel.Proofs.C06Lemmas
