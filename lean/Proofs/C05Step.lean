/-
  Proofs.C05Step — the `_id` invariant as a `Carried` pair: before an update every entry has a
  `SymmVal` key `==` to the `_id` of its dict-shaped document (`EntU`), after any operation every
  entry sits under its `_id` at least syntactically (`WInv`).
-/
import Proofs.C05Loop
import Proofs.C05Update

namespace MongoModel.Proofs.C05Lemmas
open MongoModel MongoModel.Spec

/-- weak form of `KeyIsId` for one entry -/
def EntW (p : Val × Val) : Prop := ∃ id, idOf p.2 = some id ∧ (p.1 = id ∨ pyEq p.1 id = true)

/-- strong form (the one of `KeyIsId`) -/
def EntS (p : Val × Val) : Prop := ∃ id, idOf p.2 = some id ∧ pyEq p.1 id = true

theorem EntS.toW {p : Val × Val} (h : EntS p) : EntW p :=
  let ⟨id, h1, h2⟩ := h; ⟨id, h1, Or.inr h2⟩

theorem EntW.toS {p : Val × Val} (h : EntW p) (hr : pyEq p.1 p.1 = true) : EntS p := by
  obtain ⟨id, h1, rfl | h2⟩ := h
  · exact ⟨_, h1, hr⟩
  · exact ⟨id, h1, h2⟩

def WInv (c : Coll) : Prop := KeysDistinct c ∧ ∀ p ∈ c.docs, EntW p

theorem IdInv.toW {c : Coll} (h : IdInv c) : WInv c := ⟨h.1, fun p hp => EntS.toW (h.2 p hp)⟩

theorem WInv.toId {c : Coll} (h : WInv c) (hr : ∀ p ∈ c.docs, pyEq p.1 p.1 = true) : IdInv c :=
  ⟨h.1, fun p hp => EntW.toS (h.2 p hp) (hr p hp)⟩

theorem all_sub {P : Val × Val → Prop} {c' c : Coll} (hs : Sub c' c) (h : ∀ p ∈ c.docs, P p) :
    ∀ p ∈ c'.docs, P p := fun p hp => h p (hs.subset hp)

theorem WInv.sub {c' c : Coll} (hs : Sub c' c) (h : WInv c) : WInv c' :=
  ⟨h.1.sublist hs, all_sub hs h.2⟩

theorem KeysDistinct.append {c c' : Coll} (k d : Val) (h : KeysDistinct c)
    (hf : c.hasKey k = false) (hd : c'.docs = c.docs ++ [(k, d)]) : KeysDistinct c' := by
  unfold KeysDistinct at *
  rw [hd, List.pairwise_append]
  refine ⟨h, List.pairwise_singleton _ _, ?_⟩
  intro a ha b hb
  cases List.mem_singleton.1 hb
  exact (hasKey_false_iff c k).mp hf a ha

theorem KeysDistinct.sameKeys {c c' : Coll} (h : KeysDistinct c)
    (hk : c'.docs.map (·.1) = c.docs.map (·.1)) : KeysDistinct c' := by
  have e : ∀ l : List (Val × Val), l.Pairwise (fun a b => pyEq a.1 b.1 = false) ↔
      (l.map (·.1)).Pairwise (fun a b => pyEq a b = false) := fun l => by rw [List.pairwise_map]
  unfold KeysDistinct at *
  rw [e] at *
  rw [hk]; exact h

theorem setDoc_present_keys (c : Coll) (k d : Val) (h : c.hasKey k = true) :
    (c.setDoc k d).docs.map (·.1) = c.docs.map (·.1) := by
  rw [setDoc_present c k d h, List.map_map]
  apply List.map_congr_left
  intro p _
  simp only [Function.comp]
  split <;> rfl

/-- dict equality of two dicts transports the presence of a key backwards -/
theorem pyEq_doc_id (nf cf : Fields) (k : String) (idc : Val)
    (h : pyEq (.doc nf) (.doc cf) = true) (hn : (dkeys nf).Nodup) (hc : dget k cf = some idc) :
    ∃ idn, dget k nf = some idn ∧ pyEq idn idc = true := by
  rw [pyEq_doc_iff] at h
  obtain ⟨hl, hf⟩ := h
  obtain ⟨idn, hidn⟩ := dget_of_mem_dkeys ((dkeys_perm hn hl hf).symm.subset (mem_dkeys_of_dget hc))
  obtain ⟨v', hv', he⟩ := hf k idn (dget_mem hidn)
  rw [hc] at hv'; cases hv'
  exact ⟨idn, hidn, he⟩

/-- what the loop maintains for every entry, relative to the collection `c0` it started from -/
def EntU (c0 : Coll) (q : Val × Val) : Prop :=
  SymmVal q.1 ∧ TopOK q.2 ∧ EntS q ∧
    ∃ q0 ∈ c0.docs, q0.1 = q.1 ∧ pyEqOpt (idOf q0.2) (idOf q.2) = true

/-- the `_id` of the rewritten document is `==` to the key of the entry it was computed from -/
theorem rewrite_id (c0 : Coll) (q1 : Val × Val) (new : Val) (h1 : EntU c0 q1) (hnew : TopOK new)
    (hA : pyEq new q1.2 = true ∨ pyEqOpt (idOf q1.2) (idOf new) = true) :
    ∃ idn, idOf new = some idn ∧ pyEq q1.1 idn = true := by
  obtain ⟨hs, ⟨cf, hcf, _⟩, ⟨id1, hid1, hk1⟩, _⟩ := h1
  obtain ⟨nf, rfl, hnn⟩ := hnew
  rcases hA with hA | hA
  · rw [hcf] at hA hid1
    obtain ⟨idn, h2, h3⟩ := pyEq_doc_id nf cf "_id" id1 hA hnn hid1
    refine ⟨idn, h2, pyEq_trans _ _ _ hk1 ?_⟩
    rw [symm_closed hs hk1 idn]; exact h3
  · rw [hid1] at hA
    cases hn : idOf (Val.doc nf) with
    | none => rw [hn] at hA; cases hA
    | some idn => rw [hn] at hA; exact ⟨idn, rfl, pyEq_trans _ _ _ hk1 hA⟩

theorem setDoc_entU (c0 c : Coll) (κ cur new : Val) (hc : ∀ q ∈ c.docs, EntU c0 q)
    (hl : c.lookup κ = some cur) (hnew : TopOK new)
    (hA : pyEq new cur = true ∨ pyEqOpt (idOf cur) (idOf new) = true) :
    ∀ q ∈ (c.setDoc κ new).docs, EntU c0 q := by
  obtain ⟨q1, hq1, hk1, rfl⟩ := lookup_some c κ cur hl
  obtain ⟨idn, hidn, hkn⟩ := rewrite_id c0 q1 new (hc q1 hq1) hnew hA
  have hκ1 : pyEq κ q1.1 = true := by rw [← (hc q1 hq1).1 κ]; exact hk1
  rw [setDoc_present c κ new (lookup_hasKey c κ _ hl)]
  intro q hq
  obtain ⟨p, hp, rfl⟩ := List.mem_map.1 hq
  split
  · rename_i hpk
    obtain ⟨hsp, _, ⟨idp, hidp, hkp⟩, ⟨p0, hp0, hp0k, hp0i⟩⟩ := hc p hp
    have hpn : pyEq p.1 idn = true := pyEq_trans _ _ _ (pyEq_trans _ _ _ hpk hκ1) hkn
    refine ⟨hsp, hnew, ⟨idn, hidn, hpn⟩, p0, hp0, hp0k, ?_⟩
    rw [hidn]
    rw [hidp] at hp0i
    cases h0 : idOf p0.2 with
    | none => rw [h0] at hp0i; cases hp0i
    | some id0 =>
      rw [h0] at hp0i
      have : pyEq idp p.1 = true := by rw [symm_closed hsp hkp p.1]; exact hkp
      exact pyEq_trans _ _ _ hp0i (pyEq_trans _ _ _ this hpn)
  · exact hc p hp

/-- the `_id` invariant through the store: relative to any collection `c0` -/
theorem carried (c0 : Coll) :
    Carried (fun c => KeysDistinct c ∧ ∀ q ∈ c.docs, EntU c0 q) WInv where
  weaken := fun h => ⟨h.1, fun q hq => (h.2 q hq).2.2.1.toW⟩
  lossP := fun h hl => ⟨h.1.sublist hl.1, all_sub hl.1 h.2⟩
  lossQ := fun h hl => h.sub hl.1
  update := by
    intro now c c' key cur new spec document nowV h hl ha hid hu
    obtain ⟨q1, hq1, _, rfl⟩ := lookup_some c key _ hl
    have hs := (loss_ensure hu).1
    refine ⟨(KeysDistinct.sameKeys h.1
        (setDoc_present_keys c key new (lookup_hasKey c key _ hl))).sublist hs,
      all_sub hs (setDoc_entU c0 c key _ new h.2 hl ?_ hid)⟩
    exact applyUpdate_top _ _ _ _ _ _ (h.2 q1 hq1).2.1 ha
  insert := by
    intro now c c' id d h hf hd hu
    have hs : c'.docs.Sublist (c.docs ++ [(id, d)]) := storeDoc_fresh c id d hf ▸ (loss_ensure hu).1
    refine WInv.sub (c := { c with docs := c.docs ++ [(id, d)] }) hs
      ⟨KeysDistinct.append id d h.1 hf rfl, fun p hp => ?_⟩
    rcases List.mem_append.1 hp with hp | hp
    · exact h.2 p hp
    · cases List.mem_singleton.1 hp; exact ⟨id, hd, .inl rfl⟩
  index := fun h _ _ => h
  drop := fun _ => ⟨List.Pairwise.nil, fun _ hp => by cases hp⟩

/-- what the update loop needs of the collection it starts from -/
def UpdOK (c : Coll) : Prop := ∀ p ∈ c.docs, SymmVal p.1 ∧ TopOK p.2

theorem entU_init {c : Coll} (hi : IdInv c) (hg : UpdOK c) :
    KeysDistinct c ∧ ∀ q ∈ c.docs, EntU c q := by
  refine ⟨hi.1, fun q hq => ?_⟩
  obtain ⟨id, hid, hk⟩ := hi.2 q hq
  refine ⟨(hg q hq).1, (hg q hq).2, ⟨id, hid, hk⟩, q, hq, rfl, ?_⟩
  rw [hid]
  exact pyEq_trans _ _ _ (by rw [symm_closed (hg q hq).1 hk q.1]; exact hk) hk

theorem updOK_of_good {c : Coll} (h : GoodColl c) : UpdOK c :=
  fun p hp => ⟨(h p hp).1, (h p hp).2.2⟩

/-- the `_id` invariant through the store, from any collection an update can start from:
    `carried c` at the collection `c` itself for the update; the other fields do not mention
    `c0` -/
theorem carriedId : Carried (fun c => IdInv c ∧ UpdOK c) WInv where
  weaken := fun h => IdInv.toW h.1
  lossP := fun h hl => ⟨⟨h.1.1.sublist hl.1, all_sub hl.1 h.1.2⟩, all_sub hl.1 h.2⟩
  lossQ := (carried default).lossQ
  update := by
    intro now c c' key cur new spec document nowV h hl ha hid hu
    obtain ⟨kd, he⟩ := (carried c).update (entU_init h.1 h.2) hl ha hid hu
    exact ⟨⟨kd, fun q hq => (he q hq).2.2.1⟩, fun q hq => ⟨(he q hq).1, (he q hq).2.1⟩⟩
  insert := (carried default).insert
  index := (carried default).index
  drop := (carried default).drop

theorem step_winv (cfg : Cfg) (s : St) (op : Val) (hi : IdInv s.c) (hg : UpdOK s.c) :
    WInv (step cfg s op).1.c :=
  (carried s.c).of_step cfg s op (entU_init hi hg)

end MongoModel.Proofs.C05Lemmas

namespace MongoModel.Proofs.C05Ext
open MongoModel MongoModel.Spec MongoModel.Proofs.C05Lemmas

/-- on well-behaved entries the weak invariant is the invariant, and an update can start -/
theorem bridge (c : Coll) (hw : WInv c) (hg : GoodColl c) : IdInv c ∧ UpdOK c :=
  ⟨WInv.toId hw (fun p hp => (hg p hp).2.1), updOK_of_good hg⟩

end MongoModel.Proofs.C05Ext
