/-
  Proofs.C06Bridge — the look-up `_ensure_uniques` issues (`{key: {$eq: value}, …}`) is key
  equality on documents whose indexed paths are value paths.
-/
import Proofs.C06Scalar
import Proofs.C05Store
import Proofs.C01Main

namespace MongoModel.Proofs.C06Lemmas
open MongoModel MongoModel.Spec
open MongoModel.Proofs.C01Lemmas (applyFields_cons applyHead applyKey_single singleOp_pos leafOp_eq
  candsKey_of_keyOk ne_of_not_dollar)

theorem cands_empty_doc (ps : List String) (p : String) : cands (p :: ps) (.doc []) = .ok [none] := by
  induction ps generalizing p with
  | nil => simp [cands, dget]
  | cons q qs ih => simp only [cands, dget, Option.getD_none]; exact ih q

/-- along a value path: exactly one candidate, the value `get_value_by_dot` finds (or NOTHING
    where it raises KeyError) -/
theorem path_value (ps : List String) (p : String) (d : Val) (h : valuePath (p :: ps) d = true) :
    (∃ v, isKeyable v = true ∧ getByDotParts (p :: ps) d = .ok v ∧ cands (p :: ps) d = .ok [some v]) ∨
    (getByDotParts (p :: ps) d = .error .keyErr ∧ cands (p :: ps) d = .ok [none]) := by
  induction ps generalizing p d with
  | nil =>
    cases d with
    | doc fs =>
      rw [valuePath] at h
      rw [getByDotParts, cands]
      cases hg : dget p fs with
      | none => exact .inr ⟨rfl, rfl⟩
      | some v => rw [hg] at h; exact .inl ⟨v, h, rfl, rfl⟩
    | arr xs => cases h
    | _ => exact .inr ⟨rfl, rfl⟩
  | cons q qs ih =>
    cases d with
    | doc fs =>
      rw [valuePath] at h
      rw [getByDotParts, cands]
      cases hg : dget p fs with
      | none => exact .inr ⟨rfl, cands_empty_doc qs q⟩
      | some v => rw [hg] at h; exact ih q v h
    | arr xs => cases h
    | _ => exact .inr ⟨rfl, rfl⟩

/-- the index-key component of a document at one field -/
def kv1 (k : String) (d : Val) : Val :=
  match getByDot d k with
  | .ok v => v
  | .error _ => .null

/-- the conditions `valueKeys` puts on a field name and the document -/
def okField (k : String) (d : Val) : Prop :=
  keyOk k = true ∧ k.startsWith "$" = false ∧ valuePath (splitDots k) d = true

theorem okField_get {k : String} {d : Val} (h : okField k d) :
    (∃ v, isKeyable v = true ∧ getByDot d k = .ok v ∧ candsKey k d = .ok [some v]) ∨
    (getByDot d k = .error .keyErr ∧ candsKey k d = .ok [none]) := by
  obtain ⟨h1, _, h3⟩ := h
  rw [candsKey_of_keyOk d h1]
  obtain ⟨p, ps, hp⟩ := List.exists_cons_of_ne_nil (splitDots_ne_nil k)
  unfold getByDot
  rw [hp] at h3 ⊢
  exact path_value ps p d h3

theorem kv1_keyable {k : String} {d : Val} (h : okField k d) : isKeyable (kv1 k d) = true := by
  unfold kv1
  rcases okField_get h with ⟨v, hv, hg, _⟩ | ⟨hg, _⟩ <;> rw [hg]
  · exact hv
  · rfl

theorem opEq_keyable {x : Val} (v : Val) (hx : isKeyable x = true) : opEq (some x) v = pyEq x v := by
  have := isKeyable_notArr hx
  cases x <;> simp [Val.isArr] at this <;> simp [opEq, operatorEq]

theorem opEq_none (v : Val) : opEq none v = pyEq .null v := by
  cases v <;> simp [opEq, operatorEq, pyEq]

/-- one item `(k, {$eq: v})` of the look-up on a document whose path `k` is a value path: the
    operand `v` is compared as data, whatever it is -/
theorem applyKey_eq {k : String} {e : Val} (v : Val) (h : okField k e) :
    applyKey (eqCond v) k e = .ok (pyEq (kv1 k e) v) := by
  -- the one candidate of the path compares with the operand as `kv1` does
  obtain ⟨c, hc, hcv⟩ : ∃ c, candsKey k e = .ok [c] ∧ opEq c v = pyEq (kv1 k e) v := by
    unfold kv1
    rcases okField_get h with ⟨x, hx, hg, hc⟩ | ⟨hg, hc⟩ <;> rw [hg]
    · exact ⟨_, hc, opEq_keyable v hx⟩
    · exact ⟨_, hc, opEq_none v⟩
  unfold eqCond
  rw [applyKey_single "$eq" v k e (by decide), hc]
  simp only [Except.bind]
  rw [singleOp_pos "$eq" v _ (fun dv => opEq dv v) (by decide) (by decide) (by decide)
    (leafOp_eq v)]
  simp [hcv]

theorem applyHead_field {k : String} (v e : Val) (hk : k.startsWith "$" = false) :
    applyHead k v e = applyKey v k e := by
  have n1 : k ≠ "$comment" := ne_of_not_dollar hk (by decide +kernel)
  have n2 : k ≠ "$or" := ne_of_not_dollar hk (by decide +kernel)
  have n3 : k ≠ "$and" := ne_of_not_dollar hk (by decide +kernel)
  have n4 : k ≠ "$nor" := ne_of_not_dollar hk (by decide +kernel)
  have n5 : k ≠ "$not" := ne_of_not_dollar hk (by decide +kernel)
  have n6 : k ≠ "$expr" := ne_of_not_dollar hk (by decide +kernel)
  have n7 : k ≠ "$text" := ne_of_not_dollar hk (by decide +kernel)
  have n8 : k ≠ "$where" := ne_of_not_dollar hk (by decide +kernel)
  have n9 : k ≠ "$jsonSchema" := ne_of_not_dollar hk (by decide +kernel)
  simp [applyHead, logicalKeys, topLevelOperators, n1, n2, n3, n4, n5, n6, n7, n8, n9, hk]

/-- the index key of a document over a key list -/
def kv (keys : List (String × Val)) (d : Val) : List Val := keys.map (fun k => kv1 k.1 d)

theorem keyVals_eq (ix : Index) (d : Val) : keyVals ix d = kv ix.keys d := by
  -- the same `match`, written in two places: case by case, not by unification
  refine List.map_congr_left (fun k _ => ?_)
  unfold kv1
  cases getByDot d k.1 <;> rfl

/-- the `kwargs` of `_ensure_uniques` when the field names are distinct -/
def kwOf (keys : List (String × Val)) (d : Val) : Fields :=
  keys.map (fun k => (k.1, eqCond (kv1 k.1 d)))

def OkKeys (keys : List (String × Val)) (d : Val) : Prop := ∀ k ∈ keys, okField k.1 d

theorem kv_allKeyable {keys : List (String × Val)} {d : Val} (h : OkKeys keys d) :
    AllKeyable (kv keys d) := by
  intro v hv
  simp only [kv, List.mem_map] at hv
  obtain ⟨k, hk, rfl⟩ := hv
  exact kv1_keyable (h k hk)

/-- the look-up on a document whose indexed paths are value paths is key equality (nothing is
    asked of the NEW document's values beyond what makes `kv` its key: the operands are data) -/
theorem applyFields_kw (keys : List (String × Val)) (new e : Val) (he : OkKeys keys e) :
    applyFields (kwOf keys new) e = .ok (keyEq (kv keys e) (kv keys new)) := by
  induction keys with
  | nil => simp [kwOf, kv, applyFields]
  | cons k keys ih =>
    have he' : OkKeys keys e := fun k' h' => he k' (List.mem_cons_of_mem _ h')
    have h1 := he k (List.mem_cons_self ..)
    simp only [kwOf, kv, List.map_cons, keyEq_cons] at ih ⊢
    rw [applyFields_cons, applyHead_field _ _ h1.2.1, applyKey_eq _ h1]
    simp only [bind, Except.bind, pure, Except.pure]
    cases hq : pyEq (kv1 k.1 e) (kv1 k.1 new)
    · simp
    · simp only [if_true, Bool.true_and]
      exact ih he'

theorem length_eraseDups_le : ∀ (l : List String), l.eraseDups.length ≤ l.length
  | [] => by simp
  | a :: as => by
    rw [List.eraseDups_cons]
    have h1 := length_eraseDups_le (as.filter fun b => !b == a)
    have h2 := List.length_filter_le (fun b => !b == a) as
    simp only [List.length_cons]; omega
termination_by l => l.length
decreasing_by simp only [List.length_cons]; exact Nat.lt_succ_of_le (List.length_filter_le _ _)

theorem nodup_of_eraseDups_length : ∀ (l : List String), l.eraseDups.length = l.length → l.Nodup
  | [], _ => List.nodup_nil
  | a :: as, h => by
    rw [List.eraseDups_cons] at h
    simp only [List.length_cons, Nat.add_right_cancel_iff] at h
    have h1 := length_eraseDups_le (as.filter fun b => !b == a)
    have h2 := List.length_filter_le (fun b => !b == a) as
    have hf : (as.filter fun b => !b == a).length = as.length := by omega
    have hall := List.length_filter_eq_length_iff.1 hf
    have hfe : as.filter (fun b => !b == a) = as := List.filter_eq_self.2 hall
    rw [hfe] at h
    refine List.nodup_cons.2 ⟨?_, nodup_of_eraseDups_length as h⟩
    intro hm
    have := hall a hm
    simp at this

theorem distinctFields_nodup {ix : Index} (h : distinctFields ix = true) :
    (ix.keys.map (·.1)).Nodup := by
  apply nodup_of_eraseDups_length
  simpa [distinctFields] using h

/-- one key of `find_kwargs` -/
def vfStep (d : Val) (acc : Fields) (kv : String × Val) : R Fields :=
  match getByDot d kv.1 with
  | .ok v => .ok (dset kv.1 (eqCond v) acc)
  | .error .keyErr => .ok (dset kv.1 (eqCond .null) acc)
  | .error e => .error e

theorem valuesFor_eq (keys : List (String × Val)) (d : Val) :
    valuesFor keys d = keys.foldlM (vfStep d) [] := by
  refine congrArg (fun f => keys.foldlM f []) (funext fun acc => funext fun kv => ?_)
  unfold vfStep
  cases getByDot d kv.1 with
  | ok v => rfl
  | error e => cases e <;> rfl

theorem valuesFor_go (keys : List (String × Val)) (d : Val) (acc : Fields) (hok : OkKeys keys d)
    (hnd : (keys.map (·.1)).Nodup) (hdis : ∀ k ∈ keys, k.1 ∉ dkeys acc) :
    keys.foldlM (vfStep d) acc = .ok (acc ++ kwOf keys d) := by
  induction keys generalizing acc with
  | nil => exact congrArg Except.ok (List.append_nil _).symm
  | cons k keys ih =>
    have hk := hok k (List.mem_cons_self ..)
    rw [List.map_cons, List.nodup_cons] at hnd
    have hstep : vfStep d acc k = .ok (acc ++ [(k.1, eqCond (kv1 k.1 d))]) := by
      unfold vfStep kv1
      rcases okField_get hk with ⟨v, _, hg, _⟩ | ⟨hg, _⟩ <;> rw [hg] <;>
        exact congrArg Except.ok (dset_absent (hdis k (List.mem_cons_self ..)))
    rw [List.foldlM_cons, hstep]
    refine (ih _ (fun k' h' => hok k' (List.mem_cons_of_mem _ h')) hnd.2 ?_).trans
      (congrArg Except.ok (List.append_assoc ..))
    intro k' hk'
    rw [dkeys, List.map_append, List.mem_append, not_or]
    refine ⟨hdis k' (List.mem_cons_of_mem _ hk'), fun e => ?_⟩
    have e' : k'.1 = k.1 := List.mem_singleton.1 e
    exact hnd.1 (e' ▸ List.mem_map_of_mem (f := (·.1)) hk')

theorem valuesFor_ok (keys : List (String × Val)) (d : Val) (hok : OkKeys keys d)
    (hnd : (keys.map (·.1)).Nodup) : valuesFor keys d = .ok (kwOf keys d) :=
  (valuesFor_eq keys d).trans (valuesFor_go keys d [] hok hnd (fun _ _ h => by cases h))

theorem kwOf_all_null (keys : List (String × Val)) (d : Val) :
    (kwOf keys d).all isNullCond = (kv keys d).all isNull := by
  simp only [kwOf, kv, List.all_map]
  congr 1
  funext k
  simp only [Function.comp, isNullCond, eqCond]
  cases kv1 k.1 d <;> rfl

theorem okKeys_of_valueKeys {ix : Index} {d : Val} (h : valueKeys ix d = true) :
    OkKeys ix.keys d := by
  intro k hk
  simp only [valueKeys, List.all_eq_true, Bool.and_eq_true, Bool.not_eq_true'] at h
  obtain ⟨⟨⟨h1, h2⟩, _⟩, h4⟩ := h k hk
  exact ⟨h1, h2, h4⟩

/-- the partial-filter half of `covers` -/
def pfOk (ix : Index) (d : Val) : Bool :=
  match ix.partialFilter with
  | none => true
  | some f => (match filterApplies f d with
    | .ok b => b
    | .error _ => false)

theorem covers_eq (ix : Index) (d : Val) :
    covers ix d = (!(ix.sparse && (kv ix.keys d).all isNull) && pfOk ix d) := by
  unfold covers pfOk
  rw [keyVals_eq]
  cases ix.partialFilter <;> rfl

/-- the look-up is the conjunction of the partial filter (if there is one) and the conditions on
    the indexed fields -/
theorem query_eval (ix : Index) (kw : Fields) (e : Val) (b bk : Bool)
    (hp : match ix.partialFilter with
      | some f => filterApplies f e = .ok b
      | none => b = true)
    (hk : applyFields kw e = .ok bk) :
    filterApplies (queryOf ix kw) e = .ok (b && bk) := by
  unfold queryOf
  cases hpf : ix.partialFilter with
  | none =>
    rw [hpf] at hp
    simp only at hp
    rw [hp]
    exact hk
  | some f =>
    rw [hpf] at hp
    simp only [filterApplies] at hp
    simp only [filterApplies, applyVal]
    rw [applyFields_cons]
    simp only [applyHead, logicalKeys, Val.truthy, allApply, hp, applyVal, hk, bind, Except.bind,
      pure, Except.pure, applyFields]
    cases b <;> cases bk <;> rfl

/-- a document that passes the partial filter and has the key of `new` matches the query -/
theorem query_matches (ix : Index) (new e : Val) (he : OkKeys ix.keys e)
    (hp : pfOk ix e = true) (hk : keyEq (kv ix.keys e) (kv ix.keys new) = true) :
    filterApplies (queryOf ix (kwOf ix.keys new)) e = .ok true := by
  refine query_eval ix _ e true true ?_ (hk ▸ applyFields_kw ix.keys new e he)
  unfold pfOk at hp
  cases hpf : ix.partialFilter with
  | none => rfl
  | some f =>
    rw [hpf] at hp
    dsimp only at hp ⊢
    cases hf : filterApplies f e with
    | error x => rw [hf] at hp; cases hp
    | ok b => rw [hf] at hp; exact congrArg Except.ok hp

end MongoModel.Proofs.C06Lemmas
