/-
  Proofs.C05Inv — a single insert cut into its steps, and `Carried`: what a pair of predicates
  on collections has to survive for every entry point of the store to take the first to the
  second.
-/
import Proofs.C05Store
import Proofs.C18
import Proofs.StepShape

namespace MongoModel.Proofs.C05Lemmas
open MongoModel MongoModel.Spec

theorem hasKey_false_iff (c : Coll) (k : Val) :
    c.hasKey k = false ↔ ∀ p ∈ c.docs, pyEq p.1 k = false := by
  simp [Coll.hasKey]

theorem setDoc_fresh (c : Coll) (k d : Val) (h : c.hasKey k = false) :
    (c.setDoc k d).docs = c.docs ++ [(k, d)] := by
  simp [Coll.setDoc, h]

theorem storeDoc_fresh (c : Coll) (k d : Val) (h : c.hasKey k = false) :
    (c.storeDoc k d).docs = c.docs ++ [(k, d)] := setDoc_fresh c k d h

theorem setDoc_present (c : Coll) (k d : Val) (h : c.hasKey k = true) :
    (c.setDoc k d).docs = c.docs.map (fun p => if pyEq p.1 k then (p.1, d) else p) := by
  simp [Coll.setDoc, h]

theorem setDoc_indexes (c : Coll) (k d : Val) : (c.setDoc k d).indexes = c.indexes := by
  unfold Coll.setDoc; split <;> rfl

theorem setDoc_forceCreated (c : Coll) (k d : Val) :
    (c.setDoc k d).forceCreated = c.forceCreated := by
  unfold Coll.setDoc; split <;> rfl

theorem lookup_some (c : Coll) (k cur : Val) (h : c.lookup k = some cur) :
    ∃ q ∈ c.docs, pyEq q.1 k = true ∧ q.2 = cur := by
  unfold Coll.lookup at h
  cases hf : c.docs.find? (fun p => pyEq p.1 k) with
  | none => simp [hf] at h
  | some q =>
    simp [hf] at h
    exact ⟨q, List.mem_of_find?_eq_some hf, by simpa using List.find?_some hf, h⟩

theorem lookup_hasKey (c : Coll) (k cur : Val) (h : c.lookup k = some cur) : c.hasKey k = true := by
  obtain ⟨q, hq, hk, _⟩ := lookup_some c k cur h
  simp only [Coll.hasKey, List.any_eq_true]
  exact ⟨q, hq, hk⟩

theorem storeKey_ok (id key : Val) (h : storeKey id = .ok key) : key = id := by
  unfold storeKey at h
  split at h
  · cases h
  · split at h
    · cases h; rfl
    · cases h

/-- `insertDoc` once the `_id` has been generated: `fs1` has an `_id` -/
def insertCore (now : Int) (c0 : Coll) (fs1 : Fields) : R (Coll × Val) := do
  let d := patchDT (.doc fs1)
  let id := match d with | .doc ds => (dget "_id" ds).getD .null | _ => .null
  let key ← storeKey id
  let c1 ← expire now c0
  if c1.hasKey key then .error .dupKey
  else do
    let c2 := c1.storeDoc key d
    match ensureUniques now c2 d with
    | .ok c3 => pure (c3, id)
    | .error e => .error e

theorem insertDoc_eq (now : Int) (c : Coll) (fs : Fields) :
    insertDoc now c (.doc fs) =
      if dhas "_id" fs then insertCore now c fs
      else insertCore now { c with nextOid := c.nextOid + 1 } (dset "_id" (.oid c.nextOid) fs) := by
  cases hh : dhas "_id" fs <;> simp only [insertDoc, insertCore, hh] <;> rfl

theorem insertCore_spec (now : Int) (c0 : Coll) (fs1 : Fields) (c' : Coll) (id : Val)
    (hid : dhas "_id" fs1 = true)
    (h : insertCore now c0 fs1 = .ok (c', id)) :
    dget "_id" (patchFields fs1) = some id ∧ storeKey id = .ok id ∧
    ∃ c1, expire now c0 = .ok c1 ∧ c1.hasKey id = false ∧
      ensureUniques now (c1.storeDoc id (.doc (patchFields fs1))) (.doc (patchFields fs1)) = .ok c' := by
  obtain ⟨w, hw⟩ : ∃ w, dget "_id" (patchFields fs1) = some w := by
    rw [C18.dget_patchFields]
    obtain ⟨a, ha⟩ := Option.isSome_iff_exists.1 hid
    exact ⟨patchDT a, by rw [ha]; rfl⟩
  have h' : insertCore now c0 fs1 = (storeKey w >>= fun key => expire now c0 >>= fun c1 =>
      if c1.hasKey key then .error .dupKey
      else match ensureUniques now (c1.storeDoc key (.doc (patchFields fs1)))
          (.doc (patchFields fs1)) with
        | .ok c3 => pure (c3, w)
        | .error e => .error e) := by
    simp only [insertCore, patchDT, patch, hw, Option.getD_some]
  rw [h'] at h
  obtain ⟨key, hk, h⟩ := bind_ok h
  obtain ⟨c1, he, h⟩ := bind_ok h
  cases storeKey_ok w key hk
  cases hh : c1.hasKey w with
  | true => rw [hh] at h; cases h
  | false =>
    rw [hh] at h
    cases hu : ensureUniques now (c1.storeDoc w (.doc (patchFields fs1))) (.doc (patchFields fs1)) with
    | error e => rw [hu] at h; cases h
    | ok c3 => rw [hu] at h; cases h; exact ⟨hw, hk, c1, he, hh, hu⟩

/-- a successful insert: things are lost (expiry), then the document is stored under its fresh
    `_id` and passes `_ensure_uniques` -/
theorem insertDoc_ok {now : Int} {c c' : Coll} {data id : Val}
    (h : insertDoc now c data = .ok (c', id)) :
    ∃ c1 d, Loss c c1 ∧ c1.hasKey id = false ∧ idOf d = some id ∧
      ensureUniques now (c1.storeDoc id d) d = .ok c' := by
  cases data with
  | doc fs =>
    rw [insertDoc_eq] at h
    by_cases hh : dhas "_id" fs = true
    · rw [if_pos hh] at h
      obtain ⟨h1, _, c1, he, hf, hu⟩ := insertCore_spec now c fs c' id hh h
      exact ⟨c1, .doc (patchFields fs), loss_expire he, hf, h1, hu⟩
    · rw [if_neg hh] at h
      obtain ⟨h1, _, c1, he, hf, hu⟩ := insertCore_spec now _ _ c' id
        (by rw [dhas, dget_dset_same]; rfl) h
      exact ⟨c1, .doc (patchFields _), .trans (b := { c with nextOid := c.nextOid + 1 })
        (Loss.refl c) (loss_expire he), hf, h1, hu⟩
  | _ => cases h

theorem ensureUniques_noTtl (now : Int) (c : Coll) (d : Val) (c' : Coll)
    (hn : c.ttlIndexes = []) (h : ensureUniques now c d = .ok c') : c' = c := by
  refine foldlM_inv (fun b => b = c) _ ?_ c.indexes c c' rfl h
  intro b ix r hb hs
  subst hb
  rcases ensureStep_ok hs with ⟨_, rfl⟩ | ⟨_, _, _, ⟨_, rfl⟩ | ⟨_, _, hi, _⟩⟩
  · rfl
  · rfl
  · obtain ⟨⟨c1, h1, h2⟩, _⟩ := iterDocuments_ok hi
    rw [C09Lemmas.expire_nil now b hn] at h1; cases h1
    rw [C09Lemmas.expire_nil now b hn] at h2; cases h2
    rfl

theorem insertCore_fresh (now : Int) (c0 : Coll) (fs1 : Fields) (c' : Coll) (id : Val)
    (hn : c0.ttlIndexes = []) (hid : dhas "_id" fs1 = true)
    (h : insertCore now c0 fs1 = .ok (c', id)) :
    dget "_id" (patchFields fs1) = some id ∧ c0.hasKey id = false ∧
      c'.docs = c0.docs ++ [(id, patchDT (.doc fs1))] := by
  obtain ⟨h1, _, c1, he, hf, hu⟩ := insertCore_spec now c0 fs1 c' id hid h
  rw [C09Lemmas.expire_nil now c0 hn] at he
  cases he
  rw [ensureUniques_noTtl now _ _ _ (by simp [Coll.setDoc, hf, hn]) hu]
  exact ⟨h1, hf, storeDoc_fresh _ _ _ hf⟩

/-- `P` (asked before an update) and `Q` (what every entry point leaves) survive what the store
    does to a collection: losing things, rewriting a stored document in place, storing a new
    document under a fresh key — both followed by a successful `_ensure_uniques` —, registering an
    index after its pre-check, and `drop()`.  Every entry point takes `P` to `Q`
    (`Carried.of_stepColl`, Proofs/C05Loop.lean). -/
structure Carried (P Q : Coll → Prop) : Prop where
  weaken : ∀ {c}, P c → Q c
  lossP : ∀ {c c'}, P c → Loss c c' → P c'
  lossQ : ∀ {c c'}, Q c → Loss c c' → Q c'
  /-- one round of the update loop: `new` compares equal to `cur`, or has kept its `_id` -/
  update : ∀ {now c c' key cur new spec document nowV}, P c → c.lookup key = some cur →
    applyUpdate spec document nowV false cur = .ok new →
    (pyEq new cur = true ∨ pyEqOpt (idOf cur) (idOf new) = true) →
    ensureUniques now (c.setDoc key new) new = .ok c' → P c'
  insert : ∀ {now c c' id d}, Q c → c.hasKey id = false → idOf d = some id →
    ensureUniques now (c.storeDoc id d) d = .ok c' → Q c'
  index : ∀ {c ix l t}, Q c →
    (ix.unique = true → precheckUnique ix.keys ix.sparse ix.partialFilter c.docs [] = .ok ()) →
    (∀ i ∈ l, i = ix ∨ i ∈ c.indexes) →
    Q { c with indexes := l, ttlIndexes := t, forceCreated := true }
  drop : ∀ c, Q (dropColl c)

variable {P Q : Coll → Prop}

theorem Carried.of_insertDoc (H : Carried P Q) {now : Int} {c c' : Coll} {d id : Val} (hQ : Q c)
    (h : insertDoc now c d = .ok (c', id)) : Q c' :=
  let ⟨_, _, hl, hf, hd, hu⟩ := insertDoc_ok h
  H.insert (H.lossQ hQ hl) hf hd hu

theorem Carried.of_insertManyLoop (H : Carried P Q) (now : Int) (ordered : Bool) (ds : List Val)
    (idx : Nat) (c : Coll) (ids errs : List Val) (n : Nat) (hQ : Q c) :
    Q (insertManyLoop now ordered ds idx c ids errs n).1 := by
  have done : ∀ c ids errs n, Q c → Q (insertManyDone c ids errs n).1 := by
    intro c ids errs n h; unfold insertManyDone; split <;> exact h
  induction ds generalizing idx c ids errs n with
  | nil => exact done _ _ _ _ hQ
  | cons d rest ih =>
    rw [C09Lemmas.insertManyLoop_cons]
    cases hi : insertDoc now c d with
    | ok r => exact ih _ _ _ _ _ (H.of_insertDoc hQ hi)
    | error e =>
      have hr := H.lossQ hQ (loss_insertRejected now c d)
      dsimp only
      by_cases hw : e.isWriteError = true
      · rw [if_pos hw]
        cases ordered
        · exact ih _ _ _ _ _ hr
        · exact done _ _ _ _ hr
      · rw [if_neg hw]; exact hr

theorem Carried.of_createIndex (H : Carried P Q) (now : Int) (c : Coll) (ix : Index) (hQ : Q c) :
    Q (createIndexColl now c ix).1 := by
  rcases createIndexColl_ok now c ix with ⟨hl, _⟩ | ⟨c1, t, hpre, he⟩
  · exact H.lossQ hQ hl
  · obtain ⟨hl, hp⟩ := preCreate_ok hpre
    rw [he]
    exact H.index (H.lossQ hQ hl) hp (fun i hi => mem_putIx hi)

end MongoModel.Proofs.C05Lemmas
