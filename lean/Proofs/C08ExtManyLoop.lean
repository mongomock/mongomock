/-
  Proofs.C08ExtManyLoop — `update_many` fails at document granularity: the loop is the iteration
  of the single-document update over the snapshot, stopped by the first one that raises (which
  changes nothing).  On a collection without TTL index: an updated prefix, then the entries
  exactly as they were, the first of them being the one whose update raised.
-/
import Proofs.C08Step
import Proofs.C14Base
import Mathlib.Data.List.Forall2

namespace MongoModel.Proofs.C08Lemmas
open MongoModel MongoModel.Spec MongoModel.Proofs.Shape
open MongoModel.Proofs.C10Lemmas MongoModel.Proofs.C14Lemmas MongoModel.Proofs.C05Lemmas

/-- the single-document loop over one snapshot entry is one visit -/
theorem single_visit (now : Int) (spec document nowV : Val) (key v0 : Val) (c : Coll) (m u : Nat) :
    updateLoop now spec document nowV false [(key, v0)] c m u =
      match visit now spec document nowV key c with
      | .error e => (c, .error e)
      | .ok none => (c, .ok (m, u))
      | .ok (some (c2, ch)) => (c2, .ok (m + 1, if ch then u + 1 else u)) := by
  rw [Shape.updateLoop_cons]
  cases visit now spec document nowV key c with
  | error e => rfl
  | ok o =>
    cases o with
    | none => exact updateLoop_nil ..
    | some r => rfl

theorem many_cons (now : Int) (spec document nowV : Val) (p : Val × Val) (rest : List (Val × Val))
    (c : Coll) (m u : Nat) :
    updateLoop now spec document nowV true (p :: rest) c m u =
      match updateLoop now spec document nowV false [p] c m u with
      | (_, .error e) => (c, .error e)
      | (c1, .ok (m1, u1)) => updateLoop now spec document nowV true rest c1 m1 u1 := by
  obtain ⟨key, v0⟩ := p
  rw [Shape.updateLoop_cons, single_visit]
  cases visit now spec document nowV key c with
  | error e => rfl
  | ok o => cases o <;> rfl

/-! ### the declarative reading (no TTL index, well-behaved store keys) -/

/-- a failing single-document step fails the same way whatever the counters -/
theorem single_err_indep (now : Int) (spec document nowV : Val) (p : Val × Val) (c : Coll)
    (m u : Nat) (e : Err)
    (h : (updateLoop now spec document nowV false [p] c m u).2 = .error e) (m2 u2 : Nat) :
    updateLoop now spec document nowV false [p] c m2 u2 = (c, .error e) := by
  obtain ⟨key, v0⟩ := p
  rw [single_visit] at h ⊢
  cases hv : visit now spec document nowV key c with
  | error e' => rw [hv] at h; cases h; rfl
  | ok o => rw [hv] at h; cases o <;> cases h

/-- rewriting the entry `p` of `done ++ p :: rest` touches that entry only -/
theorem setDoc_at (c : Coll) (done rest : List (Val × Val)) (p : Val × Val) (new : Val)
    (hc : c.docs = done ++ p :: rest) (hd : DK c.docs) (hg : GK c.docs) :
    (c.setDoc p.1 new).docs = done ++ (p.1, new) :: rest := by
  have hp : p ∈ c.docs := by rw [hc]; simp
  have hk : c.hasKey p.1 = true := by
    unfold Coll.hasKey
    rw [List.any_eq_true]
    exact ⟨p, hp, (hg p hp).2⟩
  rw [setDoc_docs new hk, hc, List.map_append, List.map_cons]
  rw [hc] at hd
  have hd' := List.pairwise_append.1 hd
  have h1 : done.map (setEntry p.1 new) = done := by
    conv => rhs; rw [← List.map_id done]
    apply List.map_congr_left
    intro a ha
    have : pyEq a.1 p.1 = false := hd'.2.2 a ha p (List.mem_cons_self ..)
    simp [setEntry, this]
  have h2 : rest.map (setEntry p.1 new) = rest := by
    conv => rhs; rw [← List.map_id rest]
    apply List.map_congr_left
    intro b hb
    have h0 : pyEq p.1 b.1 = false := (List.pairwise_cons.1 hd'.2.1).1 b hb
    have : pyEq b.1 p.1 = false := by rw [← (hg p hp).1 b.1]; exact h0
    simp [setEntry, this]
  rw [h1, h2]
  simp [setEntry, (hg p hp).2]

/-- what a successful single-document step does to the entry it visits -/
theorem single_spec (now : Int) (spec document nowV : Val) (p : Val × Val) (c : Coll)
    (done rest : List (Val × Val)) (m u : Nat) (c1 : Coll) (m1 u1 : Nat)
    (hc : c.docs = done ++ p :: rest) (hn : c.ttlIndexes = []) (hd : DK c.docs) (hg : GK c.docs)
    (h : updateLoop now spec document nowV false [p] c m u = (c1, .ok (m1, u1))) :
    ∃ p', Updated spec document nowV p p' ∧ c1.docs = done ++ p' :: rest ∧ c1.ttlIndexes = [] ∧
      c1.indexes = c.indexes ∧ DK c1.docs ∧ GK c1.docs := by
  have hp : p ∈ c.docs := by rw [hc]; simp
  have hl : c.lookup p.1 = some p.2 := by
    unfold Coll.lookup; rw [find_of_mem hd hg hp]; rfl
  have hk : c.hasKey p.1 = true := C05Lemmas.lookup_hasKey _ _ _ hl
  have key_step : ∀ (new : Val) (c2 : Coll), filterApplies spec p.2 = .ok true →
      applyUpdate spec document nowV false p.2 = .ok new →
      ensureUniques now (c.setDoc p.1 new) new = .ok c2 →
      ∃ p', Updated spec document nowV p p' ∧ c2.docs = done ++ p' :: rest ∧ c2.ttlIndexes = [] ∧
        c2.indexes = c.indexes ∧ DK c2.docs ∧ GK c2.docs := by
    intro new c2 hf ha hu
    have h2 : c2 = c.setDoc p.1 new := ensureUniques_noTtl now _ new c2 (by rw [setDoc_ttl]; exact hn) hu
    subst h2
    refine ⟨(p.1, new), ⟨rfl, .inr ⟨hf, ha⟩⟩, setDoc_at c done rest p new hc hd hg, ?_, ?_, ?_, ?_⟩
    · rw [setDoc_ttl]; exact hn
    · exact setDoc_indexes _ _ _
    · rw [setDoc_docs new hk]; exact DK_map_setEntry _ _ hd
    · rw [setDoc_docs new hk]; exact GK_map_setEntry _ _ hg
  have same : (c, (Except.ok (m, u) : R (Nat × Nat))) = (c1, .ok (m1, u1)) →
      filterApplies spec p.2 = .ok false →
      ∃ p', Updated spec document nowV p p' ∧ c1.docs = done ++ p' :: rest ∧ c1.ttlIndexes = [] ∧
        c1.indexes = c.indexes ∧ DK c1.docs ∧ GK c1.docs := by
    intro h hf
    cases h
    exact ⟨p, ⟨rfl, .inl ⟨hf, rfl⟩⟩, hc, hn, rfl, hd, hg⟩
  obtain ⟨key, v0⟩ := p
  rw [single_visit] at h
  cases hv : visit now spec document nowV key c with
  | error e' => rw [hv] at h; cases h
  | ok o =>
    rw [hv] at h
    cases o with
    | none =>
      rcases visit_none hv with hl' | ⟨cur, hl', hf⟩
      · rw [hl] at hl'; cases hl'
      · rw [hl] at hl'; cases hl'; exact same h hf
    | some r =>
      obtain ⟨c2, ch⟩ := r
      obtain ⟨cur, new, hl', hf, ha, hu, _⟩ := visit_some hv
      rw [hl] at hl'; cases hl'
      cases h
      exact key_step new _ hf ha hu

theorem many_split (now : Int) (spec document nowV : Val) :
    ∀ (pending done : List (Val × Val)) (c : Coll) (m u : Nat) (c' : Coll) (r : R (Nat × Nat)),
      c.docs = done ++ pending → c.ttlIndexes = [] → DK c.docs → GK c.docs →
      updateLoop now spec document nowV true pending c m u = (c', r) →
      c'.indexes = c.indexes ∧ c'.ttlIndexes = [] ∧
      ∃ pre pre' post, pending = pre ++ post ∧ c'.docs = done ++ (pre' ++ post) ∧
        List.Forall₂ (Updated spec document nowV) pre pre' ∧
        (match r with
         | .ok _ => post = []
         | .error e => ∃ q rest, post = q :: rest ∧
             ∀ m2 u2, updateLoop now spec document nowV false [q] c' m2 u2 = (c', .error e)) := by
  intro pending
  induction pending with
  | nil =>
    intro done c m u c' r hc hn _ _ h
    simp only [updateLoop, Prod.mk.injEq] at h
    obtain ⟨rfl, rfl⟩ := h
    exact ⟨rfl, hn, [], [], [], rfl, by simpa using hc, .nil, rfl⟩
  | cons p rest ih =>
    intro done c m u c' r hc hn hd hg h
    rw [many_cons] at h
    cases hs : updateLoop now spec document nowV false [p] c m u with
    | mk c1 r1 =>
      rw [hs] at h
      cases r1 with
      | error e =>
        simp only [Prod.mk.injEq] at h
        obtain ⟨rfl, rfl⟩ := h
        refine ⟨rfl, hn, [], [], p :: rest, rfl, by simpa using hc, .nil, p, rest, rfl, ?_⟩
        exact single_err_indep now spec document nowV p c m u e (by rw [hs])
      | ok mu =>
        obtain ⟨m1, u1⟩ := mu
        simp only at h
        obtain ⟨p', hup, hc1, hn1, hi1, hd1, hg1⟩ :=
          single_spec now spec document nowV p c done rest m u c1 m1 u1 hc hn hd hg hs
        have hc1' : c1.docs = (done ++ [p']) ++ rest := by rw [hc1]; simp
        obtain ⟨h1, h2, pre, pre', post, h3, h4, h5, h6⟩ :=
          ih (done ++ [p']) c1 m1 u1 c' r hc1' hn1 hd1 hg1 h
        refine ⟨h1.trans hi1, h2, p :: pre, p' :: pre', post, by rw [h3]; rfl, ?_, .cons hup h5, h6⟩
        rw [h4]; simp

theorem preLoop_nottl (now : Int) (c c2 : Coll) (spec : Val) (hn : c.ttlIndexes = [])
    (h : preLoop now c spec = .ok c2) : c2 = c := by
  have := preLoop_ok h
  rw [C09Lemmas.expire_nil now c hn] at this
  exact (Except.ok.inj this).symm

theorem Near.nottl {now : Int} {c c' : Coll} (h : Near now c c') (hn : c.ttlIndexes = []) :
    c'.docs = c.docs := by
  obtain ⟨b, _, ⟨m, rfl⟩ | ⟨m, c1, h1, rfl⟩⟩ := h
  · rw [markStored_docs]
  · rw [C09Lemmas.expire_nil now c hn] at h1; cases h1; rw [markStored_docs]

theorem update_many_fail (cfg : Cfg) (now : Int) (c c' : Coll) (f u : Val) (up : Bool) (e : Err)
    (hn : c.ttlIndexes = []) (hd : DK c.docs) (hg : GK c.docs)
    (h : applyUpdateColl cfg now c f u up true = (c', .error e)) :
    c'.indexes = c.indexes ∧ c'.ttlIndexes = c.ttlIndexes ∧
    ∃ pre pre' post, c.docs = pre ++ post ∧ c'.docs = pre' ++ post ∧
      List.Forall₂ (Updated (patchDT f) (patchDT u) (patchDT (.date now none))) pre pre' := by
  have triv : c'.docs = c.docs → c'.indexes = c.indexes → c'.ttlIndexes = c.ttlIndexes →
      c'.indexes = c.indexes ∧ c'.ttlIndexes = c.ttlIndexes ∧
      ∃ pre pre' post, c.docs = pre ++ post ∧ c'.docs = pre' ++ post ∧
        List.Forall₂ (Updated (patchDT f) (patchDT u) (patchDT (.date now none))) pre pre' :=
    fun h1 h2 h3 => ⟨h2, h3, [], [], c.docs, rfl, h1, .nil⟩
  rw [applyUpdateColl_eq] at h
  split at h
  · split at h
    · cases h; exact triv rfl rfl rfl
    · split at h
      · cases h; exact triv rfl rfl rfl
      · rename_i c2 hpre
        have h2 := preLoop_nottl now c c2 _ hn hpre
        subst h2
        have hnear := near_afterLoop _ _ _ _ _ _ _ _ _ _ _ h
        obtain ⟨i1, i2, pre, pre', post, j1, j2, j3, _⟩ :=
          many_split now (patchDT f) (patchDT u) (patchDT (.date now none)) c2.docs [] c2 0 0 _ _
            rfl hn hd hg rfl
        refine ⟨hnear.indexes.1.trans i1, by rw [hnear.indexes.2, i2, hn], pre, pre', post, j1, ?_, j3⟩
        rw [hnear.nottl i2, j2]; rfl
  · cases h; exact triv rfl rfl rfl

end MongoModel.Proofs.C08Lemmas
