/-
  Proofs.C06 — `step_uniq_inv_full` and `dup_write_rejected_full` of Props/C06.lean (the latter
  concludes a WriteError) are FALSE of the model: `step_uniq_false`, `cex_insert`
  (Proofs/C06Check.lean).  What is proved:

  * `step_uniq_inv_alt` — on the value-key domain (`ValueInv` of the resulting state), with no
    other hypothesis; behind it `step_carried`: the invariant `UniqS` ("uniqueness among the
    value-keyed, covered documents") is preserved by every operation with no hypothesis on the
    documents at all, hence `reachable_uniq_alt` for whole histories;
  * `insert_dup_rejected` (always rejected) and `dup_write_rejected_dupkey_alt` (with
    DuplicateKeyError under three more hypotheses);
  * `create_over_dups_fails_clean`, `create_establishes_uniq`.

  (Until library commit d244509 `_apply_update` stored an edited document that is `==` to the old
  one without `_ensure_uniques`, and the step theorem was false on the value-key domain:
  `Proofs/C06Check.lean`, `ptsColl`.)
-/
import Proofs.C06Check

namespace MongoModel.Proofs.C06
open MongoModel MongoModel.Spec MongoModel.Proofs.C06Lemmas
open MongoModel.Proofs.C05Lemmas (runSt run_snd preCreate_ok)

theorem init_uniq : UniqInv ({} : Coll) := by
  intro ix hix; cases hix

theorem step_carried (cfg : Cfg) (now : Int) (c : Coll) (op : Val) (hU : UniqS c) :
    UniqS (stepColl cfg now c op).1 :=
  carried.of_stepColl cfg now c op hU

theorem step_uniq_inv_alt (cfg : Cfg) (now : Int) (c : Coll) (op : Val)
    (hu : UniqInv c) (hs' : ValueInv (stepColl cfg now c op).1) :
    UniqInv (stepColl cfg now c op).1 :=
  uniqInv_of_uniqS (step_carried cfg now c op (uniqS_of_uniqInv hu)) hs'

theorem step_uniq_inv_check (cfg : Cfg) (now : Int) (c : Coll) (op : Val)
    (h : (uniqB c && valB (stepColl cfg now c op).1) = true) :
    UniqInv (stepColl cfg now c op).1 := by
  simp only [Bool.and_eq_true] at h
  exact step_uniq_inv_alt cfg now c op ((uniqB_iff c).1 h.1) ((valB_iff _).1 h.2)

theorem reachable_uniq_alt (cfg : Cfg) (ops : List Val)
    (hs : ValueInv (run cfg ops).2.c) : UniqInv (run cfg ops).2.c := by
  refine uniqInv_of_uniqS ?_ hs
  rw [run_snd]
  exact carried.of_runSt (fun _ => True) (fun _ h _ => h) cfg ops {} (fun ix hix => by cases hix)
    (fun _ => trivial)

theorem reachable_uniq_check (cfg : Cfg) (ops : List Val)
    (h : valB (run cfg ops).2.c = true) : UniqInv (run cfg ops).2.c :=
  reachable_uniq_alt cfg ops ((valB_iff _).1 h)

theorem dup_write_rejected_dupkey_alt (now : Int) (c : Coll) (d : Val) (ix : Index) (p : Val × Val)
    (hs : ValueInv c) (hix : ix ∈ c.indexes) (hu : ix.unique = true) (hnt : c.ttlIndexes = [])
    (hp : p ∈ c.docs) (hcp : covers ix p.2 = true) (hcd : covers ix (patchDT d) = true)
    (hsd : valueKeys ix (patchDT d) = true)
    (heq : keyEq (keyVals ix p.2) (keyVals ix (patchDT d)) = true)
    (hid : ∃ fs, d = .doc fs ∧ dhas "_id" fs = true)
    (hk : ∃ k, storeKey (idOfDoc (patchDT d)) = .ok k)
    (hone : ∀ i ∈ c.indexes, i.unique = true → i = ix)
    (hpf : ∀ f, ix.partialFilter = some f → ∀ q ∈ c.docs, ∃ b, filterApplies f q.2 = .ok b) :
    insertDoc now c d = .error .dupKey := by
  obtain ⟨fs, rfl, hid⟩ := hid
  obtain ⟨k, hk⟩ := hk
  obtain ⟨hdf, hsc⟩ := hs ix hix hu
  exact insert_dup_dupKey now c fs ix p k hdf hsc hix hu hnt hp hcp hcd hsd heq hid hk hone hpf

theorem create_over_dups_fails_clean (now : Int) (c : Coll) (ix : Index) (a b : Val × Val)
    (hu : ix.unique = true) (hnt : c.ttlIndexes = []) (hnew : ∀ i ∈ c.indexes, i.name ≠ ix.name)
    (hsc : ∀ p ∈ c.docs, valueKeys ix p.2 = true) (hpf : ix.partialFilter = none)
    (hns : ix.sparse = false)
    (hab : [a, b].Sublist c.docs)
    (heq : keyEq (keyVals ix a.2) (keyVals ix b.2) = true) :
    (createIndexColl now c ix).2 = .error .dupKey ∧
    (createIndexColl now c ix).1.indexes = c.indexes := by
  rw [create_over_dups now c ix a b hu hnt hnew hsc hpf hns hab heq]
  exact ⟨rfl, rfl⟩

theorem create_establishes_uniq (now : Int) (c c' : Coll) (ix : Index) (name : String)
    (hu : ix.unique = true) (hpf : ix.partialFilter = none) (hns : ix.sparse = false)
    (h : createIndexColl now c ix = (c', .ok name)) :
    c'.docs.Pairwise (fun a b => keyEq (keyVals ix a.2) (keyVals ix b.2) = false) := by
  obtain ⟨c1, hpre, hd⟩ := createIndex_ok_shape h
  obtain ⟨_, hp⟩ := preCreate_ok hpre
  rw [hd, List.pairwise_iff_forall_sublist]
  intro a b hab
  exact (precheck_ok ix c1.docs [] (hp hu)).2 a b hab (covers_plain hpf hns _) (covers_plain hpf hns _)

/-- for any unique index (sparse, partial): a successful creation leaves no two covered
    documents with equal keys -/
theorem create_establishes_uniq_covered (now : Int) (c c' : Coll) (ix : Index) (name : String)
    (hu : ix.unique = true) (h : createIndexColl now c ix = (c', .ok name)) :
    (c'.docs.filter (fun p => covers ix p.2)).Pairwise
      (fun a b => keyEq (keyVals ix a.2) (keyVals ix b.2) = false) := by
  obtain ⟨c1, hpre, hd⟩ := createIndex_ok_shape h
  obtain ⟨_, hp⟩ := preCreate_ok hpre
  rw [hd, List.pairwise_iff_forall_sublist]
  intro a b hab
  obtain ⟨hab', ca, cb⟩ := sublist_pair_filter.1 hab
  exact (precheck_ok ix c1.docs [] (hp hu)).2 a b hab' ca cb

end MongoModel.Proofs.C06
