/-
  Proofs.C03Ext — the same for the stages whose oracle and domain are in Spec/PipelineExt.lean.
  Each file rests on its counterpart of Proofs.C03 (keys, accumulators, `$bucket`) and on
  `stage_eq_spec` there for the stages a pipeline or a `$facet` branch may also hold.
-/
import Proofs.C03ExtKeys
import Proofs.C03ExtAcc
import Proofs.C03ExtGroup
import Proofs.C03ExtLookup
import Proofs.C03ExtFields
import Proofs.C03ExtBucket
import Proofs.C03ExtStage
