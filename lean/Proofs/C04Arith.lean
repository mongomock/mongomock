/-
  Proofs.C04Arith — the arithmetic operators are their bodies (`unaryArithOpt`, `binaryArith`,
  `naryArith`) applied to the evaluated operands; the operand loops of `$add` / `$multiply` stop at
  the first null or boolean (`checkNums_stops`, `checkAdd_stops`).
-/
import Proofs.C04Cond

set_option linter.unusedSimpArgs false

namespace MongoModel.Proofs.C04
open MongoModel MongoModel.Expr

/-! ### unary: `$abs $ceil $exp $floor $ln $log10 $sqrt $trunc` -/

theorem unary_arith_eval (c : Ctx) (op : String) (hop : op ∈ unaryArithOps) (e : Val)
    (he : e.isArr = false) :
    eval c (.doc [(op, e)]) = (eval c e).bind (fun r => (unaryArithOpt op r).map some) := by
  have ⟨h1, h2, h3⟩ := classify_known (k := op) (by simp [arithmeticOps, hop])
  have hd : ∀ k ∈ unaryArithOps, variadicOps.contains k = false ∧ dateOps.contains k = false := by
    decide +kernel
  rw [eval_whole' c op e h1 h2 h3 (Or.inr he) (Or.inl (hd op hop).1)
    (mode_whole (by simp [wholeOps, hop]) e (by rw [(hd op hop).2]; nofun))]
  congr 1
  funext r
  simp [applyWhole, hop]

/-! ### binary: `$divide $log $mod $pow $subtract` -/

/-- the first two tests of `binaryArith` (stated apart: the nested match of its last case is dear
    for `simp` to open) -/
theorem binaryArith_null (k : String) {a b : Val} (h : (isNull a || isNull b) = true) :
    binaryArith k a b = .ok .null := by
  unfold binaryArith
  rw [if_pos h]

theorem binaryArith_bool (k : String) {a b : Val} (hn : (isNull a || isNull b) = false)
    (hb : (isBoolV a || isBoolV b) = true) : binaryArith k a b = .error .opFail := by
  unfold binaryArith
  rw [hn, if_neg nofun, if_pos hb]

/-- `parse_many` of two operands under `ignore_missing_keys`, a missing one being read as null -/
theorem binary_arith_eval (c : Ctx) (hign : c.ign = true) (op : String) (hop : op ∈ binaryArithOps)
    (a b : Val) (ra rb : Option Val) (ha : eval c a = .ok ra) (hb : eval c b = .ok rb) :
    eval c (.doc [(op, .arr [a, b])]) =
      (binaryArith op (ra.getD .null) (rb.getD .null)).map some := by
  have hl : evalList c true [a, b] = .ok (some [ra.getD .null, rb.getD .null]) := by
    cases ra <;> cases rb <;>
      simp [evalList, ha, hb, manyItem, bind, Except.bind, pure, Except.pure]
  have hn : nullOnMissing c.ign op = true := by
    simp [nullOnMissing, usesParseMany, arithmeticOps, List.contains_eq_mem, hop, hign]
  rw [eval_arityOp c op (by simp [arityOps, List.contains_eq_mem, hop]),
    evalOp_list c op _ _ (by simp [listOps, arithmeticOps, List.contains_eq_mem, hop]), hn, hl]
  · simp only [binaryArithOps, List.mem_cons, List.not_mem_nil, or_false] at hop
    rcases hop with rfl | rfl | rfl | rfl | rfl <;> simp [applyList, binaryArithOps, Except.bind]
  · simp only [binaryArithOps, List.mem_cons, List.not_mem_nil, or_false] at hop
    rcases hop with rfl | rfl | rfl | rfl | rfl <;> simp [arityErr, binaryArithOps]

/-! ### n-ary: `$add`, `$multiply` -/

theorem nary_arith_eval (c : Ctx) (op : String) (hop : op = "$add" ∨ op = "$multiply")
    (xs vals : List Val) (hl : evalList c c.ign xs = .ok (some vals)) :
    eval c (.doc [(op, .arr xs)]) = (naryArith op vals).map some := by
  rw [eval_shapedOp c (List.mem_append_right _ (by rcases hop with rfl | rfl <;> simp [variadicOps]))
      _ (Or.inr rfl),
    evalOp_list]
  · rcases hop with rfl | rfl <;>
      simp [nullOnMissing, usesParseMany, usesParseOrNothing, arithmeticOps, unaryArithOps,
        binaryArithOps, groupingOps, hl, applyList, Except.bind]
  · rcases hop with rfl | rfl <;> simp [arityErr, binaryArithOps, comparisonOps]
  · rcases hop with rfl | rfl <;> simp [listOps, arithmeticOps, unaryArithOps, binaryArithOps]

/-- the loop over the operands of `$multiply`: after numbers, an operand at which the loop ends
    (null: `.ok none`; a boolean: an error) ends it that way -/
theorem checkNums_stops (pre rest : List Val) (hpre : ∀ v ∈ pre, (toPyNumNB v).isSome = true)
    (h : checkNums rest = .ok none ∨ ∃ e, checkNums rest = .error e) :
    checkNums (pre ++ rest) = checkNums rest := by
  induction pre with
  | nil => rfl
  | cons v pre ih =>
    have ih' := ih (fun w hw => hpre w (by simp [hw]))
    have hv := hpre v (by simp)
    cases v <;> simp [toPyNumNB] at hv <;>
      rcases h with h | ⟨e, h⟩ <;>
      simp [checkNums, toPyNum, ih', h, bind, Except.bind, pure, Except.pure]

/-- the same for the loop of `$add`, whether or not a date has been set aside -/
theorem checkAdd_stops (pre rest : List Val) (d : Option Int)
    (hpre : ∀ v ∈ pre, (toPyNumNB v).isSome = true)
    (h : checkAdd rest d = .ok none ∨ ∃ e, checkAdd rest d = .error e) :
    checkAdd (pre ++ rest) d = checkAdd rest d := by
  induction pre with
  | nil => rfl
  | cons v pre ih =>
    have ih' := ih (fun w hw => hpre w (by simp [hw]))
    have hv := hpre v (by simp)
    cases v <;> simp [toPyNumNB] at hv <;>
      rcases h with h | ⟨e, h⟩ <;>
      simp [checkAdd, toPyNum, ih', h, bind, Except.bind, pure, Except.pure]

/-- `$add` / `$multiply`: when the first operand value that is not a number is null, the result
    is null -/
theorem naryArith_null (op : String) (hop : op = "$add" ∨ op = "$multiply") (pre post : List Val)
    (hpre : ∀ v ∈ pre, (toPyNumNB v).isSome = true) :
    naryArith op (pre ++ .null :: post) = .ok .null := by
  have hne : (pre ++ Val.null :: post).isEmpty = false := by cases pre <;> rfl
  rcases hop with rfl | rfl <;>
    simp [naryArith, hne, checkNums_stops pre (.null :: post) hpre (.inl rfl),
      checkAdd_stops pre (.null :: post) none hpre (.inl rfl), checkNums, checkAdd, bind,
      Except.bind, pure, Except.pure]

end MongoModel.Proofs.C04
