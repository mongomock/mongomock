/-
  Proofs.C03ExtFields — `$addFields` / `$set` (dotted names included) and `$replaceRoot` against the
  oracle of Spec/PipelineExt.lean.
-/
import Proofs.C03ExtGroup
import Proofs.C03ExtLookup

namespace MongoModel.Pipe.Proofs
open MongoModel MongoModel.Pipe MongoModel.Spec MongoModel.Spec.Pipe MongoModel.Expr

theorem freshPath_eq_nestDoc : ∀ (ks : List String) (v : Val), freshPath ks v = nestDoc ks v
  | [], _ => rfl
  | k :: ks, v => by simp only [freshPath, nestDoc, freshPath_eq_nestDoc ks v]

mutual
  /-- the code's `_add_field` (aggregate.py:1806) is the oracle's deep write: through documents,
      into every item of an array, in the place of anything else -/
  theorem addField_eq_setDeep : ∀ (x : Val) (ks : List String) (v : Val),
      addField x ks v = setDeep x ks v
    | .null, [], _ | .bool _, [], _ | .int _, [], _ | .dbl _ _, [], _ | .str _, [], _
    | .date _ _, [], _ | .oid _, [], _ | .doc _, [], _ | .arr _, [], _ => by
      simp only [addField, setDeep]
    | .arr xs, k :: ks, v => by
      simp only [addField, setDeep, addFieldItems_eq xs (k :: ks) v]
    | .doc fs, k :: ks, v => by
      simp only [addField, setDeep, addFieldIn_eq fs k ks v]
    | .null, k :: ks, v | .bool _, k :: ks, v | .int _, k :: ks, v | .dbl _ _, k :: ks, v
    | .str _, k :: ks, v | .date _ _, k :: ks, v | .oid _, k :: ks, v => by
      simp only [addField, setDeep, freshPath_eq_nestDoc]
  theorem addFieldItems_eq : ∀ (xs : List Val) (ks : List String) (v : Val),
      addFieldItems xs ks v = setDeepItems xs ks v
    | [], _, _ => by simp only [addFieldItems, setDeepItems]
    | x :: xs, ks, v => by
      simp only [addFieldItems, setDeepItems, addField_eq_setDeep x ks v, addFieldItems_eq xs ks v]
  theorem addFieldIn_eq : ∀ (fs : Fields) (k : String) (ks : List String) (v : Val),
      addFieldIn fs k ks v = setDeepIn fs k ks v
    | [], k, ks, v => by simp only [addFieldIn, setDeepIn, freshPath_eq_nestDoc]
    | (k', x) :: r, k, ks, v => by
      simp only [addFieldIn, setDeepIn, addField_eq_setDeep x ks v, addFieldIn_eq r k ks v]
end

theorem setDeepItems_eq_map (xs : List Val) (ks : List String) (v : Val) :
    setDeepItems xs ks v = xs.map (fun x => setDeep x ks v) := by
  induction xs with
  | nil => simp only [setDeepItems, List.map_nil]
  | cons x r ih => simp only [setDeepItems, List.map_cons, ih]

theorem dget_setDeepIn_other (k k' : String) (ks : List String) (v : Val) (h : k' ≠ k) :
    ∀ fs : Fields, dget k' (setDeepIn fs k ks v) = dget k' fs
  | [] => by simp [setDeepIn, dget, Ne.symm h]
  | (k'', x) :: r => by
    by_cases h2 : k'' = k
    · subst h2; simp [setDeepIn, dget, Ne.symm h]
    · by_cases h3 : k'' = k'
      · subst h3; simp [setDeepIn, dget, h2]
      · simp [setDeepIn, dget, h2, h3, dget_setDeepIn_other k k' ks v h r]

/-- the stage on one document: every expression is read on the input document, a dotted name is
    written as the oracle's `setDeepIn` does -/
theorem afDoc_eq_spec : ∀ (es : Fields) (s : AfState) (acc' : Fields),
    (∀ kv ∈ es, exprReasons kv.2 (.doc s.inD) = []) →
    specSetFields (.doc s.inD) es s.outD = some acc' →
    afDoc es s = .ok ⟨s.inD, acc'⟩
  | [], s, acc', _, h => by
    simp only [specSetFields, Option.some.injEq] at h
    subst h
    rfl
  | (name, e) :: rest, s, acc', hD, h => by
    obtain ⟨he, hrest⟩ := List.forall_mem_cons.mp hD
    simp only [specSetFields] at h
    cases hv : exprValue e (.doc s.inD) with
    | none => simp [hv] at h
    | some r =>
      have hev : evalExpr (.doc s.inD) e = .ok r := evalExpr_of_value he hv
      cases r with
      | none =>
        simp only [hv] at h
        have hc := afDoc_eq_spec rest s acc' hrest h
        simp only [afDoc, afStep, hev, hc]
      | some v =>
        simp only [hv] at h
        cases hsp : splitDots name with
        | nil => simp [hsp] at h
        | cons k ks =>
          simp only [hsp] at h
          have hc := afDoc_eq_spec rest { s with outD := setDeepIn s.outD k ks v } acc' hrest h
          have hstep : afStep name e s = .ok { s with outD := setDeepIn s.outD k ks v } := by
            simp only [afStep, hev, hsp, addFieldIn_eq]
          simp only [afDoc, hstep, hc]

/-! ### the field-major loop of the stage is the document-major one -/

theorem afFields_of_afDoc : ∀ (es : Fields) (st st' : List AfState),
    List.Forall₂ (fun s s' => afDoc es s = .ok s') st st' → afFields es st = .ok st'
  | [], st, st', h => by
    simp only [afFields]
    induction h with
    | nil => rfl
    | cons h1 _ ih =>
      simp only [afDoc, Except.ok.injEq] at h1
      simp only [Except.ok.injEq, List.cons.injEq] at ih ⊢
      exact ⟨h1, ih⟩
  | (f, e) :: rest, st, st', h => by
    have hmid : ∃ mid, List.Forall₂ (fun s m => afStep f e s = .ok m) st mid ∧
        List.Forall₂ (fun m s' => afDoc rest m = .ok s') mid st' := by
      induction h with
      | nil => exact ⟨[], List.Forall₂.nil, List.Forall₂.nil⟩
      | @cons s s' l l' h1 _ ih =>
        obtain ⟨mid, m1, m2⟩ := ih
        simp only [afDoc] at h1
        cases hs : afStep f e s with
        | error err => simp [hs] at h1
        | ok m =>
          simp only [hs] at h1
          exact ⟨m :: mid, List.Forall₂.cons hs m1, List.Forall₂.cons h1 m2⟩
    obtain ⟨mid, m1, m2⟩ := hmid
    simp only [afFields, mapR_ok_iff.2 m1]
    exact afFields_of_afDoc rest mid st' m2

theorem addFields_docs (entries : Fields) :
    ∀ (docs s : List Val),
    docs.flatMap (fun d => match d with
      | .doc _ => entries.flatMap (fun kv => tag "expr:" (exprReasons kv.2 d))
      | _ => ["nondoc"]) = [] →
    mapOpt (specAddFieldsDoc entries) docs = some s →
    ∃ st st', mapR afInit docs = .ok st ∧
      List.Forall₂ (fun s s' => afDoc entries s = .ok s') st st' ∧
      st'.map (fun x => Val.doc x.outD) = s
  | [], s, _, hs => by
    simp only [mapOpt, Option.some.injEq] at hs
    subst hs
    exact ⟨[], [], rfl, List.Forall₂.nil, rfl⟩
  | d :: ds, s, hD, hs => by
    obtain ⟨y, r, h1, h2, rfl⟩ := mapOpt_cons_some hs
    simp only [List.flatMap_cons, List.append_eq_nil_iff] at hD
    obtain ⟨st, st', i1, i2, i3⟩ := addFields_docs entries ds r hD.2 h2
    cases d with
    | doc fs =>
      simp only [specAddFieldsDoc] at h1
      cases hsf : specSetFields (.doc fs) entries fs with
      | none => simp [hsf] at h1
      | some acc' =>
        simp only [hsf, Option.map_some, Option.some.injEq] at h1
        subst h1
        have hc := afDoc_eq_spec entries ⟨fs, fs⟩ acc' (fun kv hkv =>
          (tag_nil _ _).1 (List.flatMap_eq_nil_iff.mp hD.1 kv hkv)) hsf
        exact ⟨⟨fs, fs⟩ :: st, ⟨fs, acc'⟩ :: st', by simp [mapR, afInit, i1],
          List.Forall₂.cons hc i2, by simp [i3]⟩
    | _ => simp [specAddFieldsDoc] at h1

/-- **`$addFields` / `$set` = the oracle** on the domain -/
theorem addFields_eq_spec (opts : Val) (docs s : List Val)
    (hD : addFieldsReasons opts docs = []) (hs : specAddFieldsStage opts docs = some s) :
    addFieldsStage opts docs = .ok s := by
  cases opts with
  | doc entries =>
    simp only [specAddFieldsStage] at hs
    obtain ⟨hc, hs⟩ := Option.ite_none_left_eq_some.mp hs
    simp only [addFieldsReasons] at hD
    obtain ⟨st, st', i1, i2, i3⟩ := addFields_docs entries docs s hD hs
    cases entries with
    | nil => exact absurd rfl hc
    | cons kv rest => simp only [addFieldsStage, i1, afFields_of_afDoc _ st st' i2, i3]
  | _ => cases hs

theorem replaceRoot_docs (e : Val) : ∀ (docs s : List Val),
    (∀ d ∈ docs, exprReasons e d = []) →
    mapOpt (fun d => match exprValue e d with
      | some (some (.doc r)) => some (Val.doc r)
      | _ => none) docs = some s →
    mapR (replaceRootDoc e) docs = .ok s
  | [], s, _, hs => by simp only [mapOpt, Option.some.injEq] at hs; subst hs; rfl
  | d :: ds, s, hall, hs => by
    obtain ⟨y, r, h1, h2, rfl⟩ := mapOpt_cons_some hs
    obtain ⟨hd, hds⟩ := List.forall_mem_cons.mp hall
    have ih := replaceRoot_docs e ds r hds h2
    cases hv : exprValue e d with
    | none => simp [hv] at h1
    | some rv =>
      have hev : evalExpr d e = .ok rv := evalExpr_of_value hd hv
      rw [hv] at h1
      match rv, h1, hev with
      | some (.doc g), h1, hev =>
        simp only [Option.some.injEq] at h1
        subst h1
        simp only [mapR, replaceRootDoc, hev, ih]

/-- **`$replaceRoot` = the oracle** on the domain -/
theorem replaceRoot_eq_spec (opts : Val) (docs s : List Val)
    (hD : replaceRootReasons opts docs = []) (hs : specReplaceRootStage opts docs = some s) :
    replaceRootStage opts docs = .ok s := by
  unfold specReplaceRootStage at hs
  split at hs
  · rename_i e
    simp only [replaceRootReasons] at hD
    simp only [replaceRootStage, dget, if_true]
    exact replaceRoot_docs e docs s (exprTags_nil e docs hD) hs
  · cases hs

end MongoModel.Pipe.Proofs
