/-
  Proofs.C03 — the seven stage kinds of Spec/Pipeline.lean: on the domain of
  Spec/PipelineDomain.lean the model's handlers answer what the oracle answers.
-/
import Proofs.C03Basic
import Proofs.C03Group
import Proofs.C03Stages
import Proofs.C03Docs
import Proofs.C03GroupKeys
import Proofs.C03Project
import Proofs.C03Acc
import Proofs.C03Spec
import Proofs.C03Bucket
