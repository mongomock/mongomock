/-
  Proofs.C04Cond — the operators of a fixed arity (`_OPERATOR_ARITY`): what `evalOp` makes of a
  bare operand, and that the rules reject a wrong number of arguments too; `$cond`, `$ifNull`
  (two of them) and `$switch`.
-/
import Proofs.C04Basic

set_option linter.unusedSimpArgs false

namespace MongoModel.Proofs.C04
open MongoModel MongoModel.Expr

/-! ### operators of a fixed arity -/

/-- what is neither a list nor one of the documents `evalOp` knows is handed to `argShapeErr` -/
theorem evalOp_bare (c : Ctx) (k : String) (v : Val) (hv : v.isArr = false)
    (hd : v.isDoc = true → ¬ k ∈ ["$let", "$map", "$filter", "$cond", "$switch"]) :
    evalOp c k v = argShapeErr k v := by
  cases v with
  | arr xs => cases hv
  | doc gs =>
    have := hd rfl
    simp only [List.mem_cons, List.not_mem_nil, or_false, not_or] at this
    simp only [evalOp, this, if_false]
  | _ => rw [evalOp] <;> nofun

/-! ### the rules reject a wrong number of arguments too -/

section
open MongoModel.Spec

theorem sList_length (root : Val) (env : Env) (xs : List Val) (vs : List (Option Val))
    (h : sList root env xs = .ok vs) : vs.length = xs.length := by
  induction xs generalizing vs with
  | nil => simp [sList] at h; subst h; rfl
  | cons x r ih =>
    simp only [sList, bind, Except.bind] at h
    cases hx : sEval root env x with
    | error e => simp [hx] at h
    | ok v =>
      simp only [hx] at h
      cases hr : sList root env r with
      | error e => simp [hr] at h
      | ok ws =>
        simp only [hr, pure, Except.pure, Except.ok.injEq] at h
        subst h
        simp [ih ws hr]

/-- the operators of two arguments the rules know -/
def binaryRuleOps : List String :=
  ["$eq", "$ne", "$gt", "$gte", "$lt", "$lte", "$subtract", "$divide", "$mod", "$pow", "$in",
   "$arrayElemAt"]

theorem applyStrict_two (k : String) (hk : binaryRuleOps.contains k = true)
    (vs : List (Option Val)) (hlen : vs.length ≠ 2) : applyStrict k vs = .error .opFail := by
  simp only [binaryRuleOps, List.contains_cons, List.contains_nil, Bool.or_false, Bool.or_eq_true,
    beq_iff_eq] at hk
  -- the tests of `applyStrict` are walked once per name, with the operands left open
  unfold applyStrict
  rcases hk with rfl | rfl | rfl | rfl | rfl | rfl | rfl | rfl | rfl | rfl | rfl | rfl <;>
    simp -iota <;>
    match vs, hlen with
    | [], _ => simp
    | [_], _ => simp
    | [_, _], h => exact absurd rfl h
    | _ :: _ :: _ :: _, _ => simp

end

/-! ### `$cond` -/

theorem cond_arity : arityOps.contains "$cond" = true := by
  simp [arityOps, comparisonOps, binaryArithOps]

theorem cond_list (c : Ctx) (a b d : Val) :
    eval c (.doc [("$cond", .arr [a, b, d])]) =
      (eval c a).bind (fun r => if Spec.toBool r then eval c b else eval c d) := by
  rw [eval_arityOp c _ cond_arity, evalOp, arityErr]
  simp [binaryArithOps, comparisonOps, listOps, arithmeticOps, unaryArithOps,
    groupingOps, evalCond3, toBoolOpt_eq]
  rfl

theorem cond_doc (c : Ctx) (gs : Fields)
    (h : (dhas "if" gs && dhas "then" gs && dhas "else" gs) = true)
    (hx : gs.any (fun kv => !(["if", "then", "else"].contains kv.1)) = false) :
    eval c (.doc [("$cond", .doc gs)]) =
      (evalAt c "if" gs).bind (fun r =>
        if Spec.toBool r then evalAt c "then" gs else evalAt c "else" gs) := by
  rw [eval_arityOp c _ cond_arity]
  simp only [evalOp, h, hx, Bool.not_true]
  simp [toBoolOpt_eq]
  rfl

/-- a `$cond` document that lacks one of its three fields is rejected ("Missing 'else' parameter
    to $cond"); it used to be "missing", the KeyError of `values['else']` -/
theorem cond_doc_lacking (c : Ctx) (gs : Fields)
    (h : (dhas "if" gs && dhas "then" gs && dhas "else" gs) = false) :
    eval c (.doc [("$cond", .doc gs)]) = .error .opFail := by
  rw [eval_arityOp c _ cond_arity]
  simp [evalOp, h]

/-! ### `$ifNull` -/

theorem ifNull_arity : arityOps.contains "$ifNull" = true := by
  simp [arityOps, comparisonOps, binaryArithOps]

theorem ifNull_list (c : Ctx) (xs : List Val) (hlen : 2 ≤ xs.length) :
    eval c (.doc [("$ifNull", .arr xs)]) = evalIfNull c xs := by
  have : ¬ xs.length < 2 := by omega
  rw [eval_arityOp c _ ifNull_arity, evalOp, arityErr]
  simp [binaryArithOps, comparisonOps, listOps, arithmeticOps, unaryArithOps,
    groupingOps, this]

/-- fewer than two operands are rejected -/
theorem ifNull_short (c : Ctx) (xs : List Val) (hlen : xs.length < 2) :
    eval c (.doc [("$ifNull", .arr xs)]) = .error .opFail := by
  rw [eval_arityOp c _ ifNull_arity, evalOp, arityErr]
  simp [binaryArithOps, comparisonOps, hlen]

/-- an operand that is neither null nor missing is the result; the later ones are not parsed -/
theorem ifNull_first (c : Ctx) (x y : Val) (r : List Val) (v : Val)
    (hx : eval c x = .ok (some v)) (hv : v ≠ .null) :
    evalIfNull c (x :: y :: r) = .ok (some v) := by
  have : isNull v = false := by cases v <;> simp_all [isNull]
  simp [evalIfNull, hx, this, bind, Except.bind, pure, Except.pure]

/-- a null or missing operand is skipped -/
theorem ifNull_skip (c : Ctx) (x y : Val) (r : List Val) (rx : Option Val)
    (hx : eval c x = .ok rx) (hn : Spec.nullish rx = true) :
    evalIfNull c (x :: y :: r) = evalIfNull c (y :: r) := by
  cases rx with
  | none => simp [evalIfNull, hx, bind, Except.bind]
  | some v =>
    cases v <;> simp [Spec.nullish] at hn
    simp [evalIfNull, hx, isNull, bind, Except.bind]

/-- the last operand is the replacement, whatever it evaluates to -/
theorem ifNull_last (c : Ctx) (f : Val) : evalIfNull c [f] = eval c f := by
  simp [evalIfNull]

/-! ### `$switch` -/

theorem switch_eq (c : Ctx) (gs : Fields) (bs : List Val)
    (hb : dget "branches" gs = some (.arr bs)) (hne : bs ≠ []) (hok : branchesOk bs = true) :
    eval c (.doc [("$switch", .doc gs)]) =
      (evalBranchesAt c gs).bind (fun r =>
        match r with
        | some v => .ok v
        | none => if dhas "default" gs then evalAt c "default" gs else .error .opFail) := by
  have hne' : bs.isEmpty = false := by cases bs <;> simp_all
  rw [eval_shapedOp c (List.mem_append_left _ (List.mem_append_right _ (by simp))) _
    (Or.inl (by simp [variadicOps]))]
  simp only [evalOp, hb, Option.getD, hne', hok]
  simp
  rfl

theorem evalBranchesAt_eq (c : Ctx) (gs : Fields) (bs : List Val)
    (hb : dget "branches" gs = some (.arr bs)) : evalBranchesAt c gs = evalBranches c bs :=
  walkAt_eq (sh := .arr) (fun _ _ _ => rfl)
    (fun _ v _ hv => by cases v <;> first | rfl | exact absurd rfl (hv _)) hb

/-- the branches before the first true `case` are skipped -/
theorem branches_skip (c : Ctx) (b : Fields) (r : List Val) (rc : Option Val)
    (hc : evalAt c "case" b = .ok rc) (hf : Spec.toBool rc = false) :
    evalBranches c (.doc b :: r) = evalBranches c r := by
  simp [evalBranches, hc, toBoolOpt_eq, hf, bind, Except.bind]

/-- the first branch whose `case` is true gives its `then` -/
theorem branches_hit (c : Ctx) (b : Fields) (r : List Val) (rc : Option Val)
    (hc : evalAt c "case" b = .ok rc) (ht : Spec.toBool rc = true) :
    evalBranches c (.doc b :: r) = (evalAt c "then" b).map some := by
  simp [evalBranches, hc, toBoolOpt_eq, ht, bind, Except.bind, pure, Except.pure]
  cases evalAt c "then" b <;> rfl

/-- **switch_first_true**: falsy cases in front, then a truthy one -/
theorem switch_first_true (c : Ctx) (pre : List Fields) (b : Fields) (post : List Val)
    (hpre : ∀ p ∈ pre, ∃ rc, evalAt c "case" p = .ok rc ∧ Spec.toBool rc = false)
    (rc : Option Val) (hc : evalAt c "case" b = .ok rc) (ht : Spec.toBool rc = true) :
    evalBranches c (pre.map .doc ++ .doc b :: post) = (evalAt c "then" b).map some := by
  induction pre with
  | nil => simpa using branches_hit c b post rc hc ht
  | cons p pre ih =>
    obtain ⟨rp, hp, hf⟩ := hpre p (by simp)
    simp only [List.map_cons, List.cons_append]
    rw [branches_skip c p _ rp hp hf]
    exact ih (fun q hq => hpre q (by simp [hq]))

end MongoModel.Proofs.C04
