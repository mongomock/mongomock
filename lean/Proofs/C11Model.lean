/-
  Proofs.C11Model — the model of MongoModel/Sort.lean agrees with the oracle of Spec/Order.lean.
  Sorting: on in-domain values `BsonComparable.__lt__` is the oracle's `valLt`, so the model's
  sort key of a document is the oracle's `docKey`, one `sorted` call is `isort` by `dirLt`, and
  the loop over the key list is one `isort` by `docLt` (`isort_isort_lex`).  Skip / limit: the
  relation `Rel` between the model's cursor and the oracle's settings holds for the constructor
  call and is kept by every cursor-method call that both accept.
  `dirLt`, `effLim`, `Rel`, `stagesVerdict`, `Missing`, `setsSkip`, `setsLimit`, `setsSort` are
  used in the statements of Props/C11.lean.
-/
import Proofs.C11Order
import Spec.OrderDomain

namespace MongoModel.Proofs.C11
open MongoModel MongoModel.Spec.Order MongoModel.Proofs.Bson

theorem ite_ord_beq_lt (P Q : Prop) [Decidable P] [Decidable Q] :
    ((if P then Ordering.lt else if Q then Ordering.eq else Ordering.gt) == Ordering.lt)
      = decide P := by
  by_cases hP : P <;> by_cases hQ : Q <;> simp [hP, hQ]

theorem bool_compare_beq_lt (x y : Bool) :
    (compare x.toNat y.toNat == Ordering.lt) = (!x && y) := by
  cases x <;> cases y <;> decide

/-- `BsonComparable.__lt__` on two values of the domain is the oracle's order: by class when the
    classes differ, by the values within a class -/
theorem bsonLt_eq_valLt (a b : Val) (ha : valReasons a = []) (hb : valReasons b = []) :
    bsonCompare .lt a b true = .ok (valLt a b) := by
  unfold valLt
  by_cases h : b.tc = a.tc
  · rw [if_neg (not_not.mpr ((typeOrder_eq_iff a b).mpr h.symm)),
      bsonCompare_of_tc_eq .lt true h.symm (by cases b <;> first | rfl | cases hb)
        (by cases b <;> first | rfl | cases hb)]
    -- `compare` on strings, ints and nats is `compareOfLessAndEq`, which `ite_ord_beq_lt` reads
    cases a with
    | null => cases tc_null h; rfl
    | bool x => obtain ⟨y, rfl⟩ := tc_bool h; exact congrArg _ (bool_compare_beq_lt x y)
    | int i =>
      rcases tc_num h with ⟨j, rfl⟩ | ⟨m, e, rfl⟩
      · exact congrArg _ ((ite_ord_beq_lt _ _).trans
          (by simp only [Num.lt, pow_zero, Int.mul_one, Bool.decide_eq_true]))
      · exact congrArg _ ((ite_ord_beq_lt _ _).trans Bool.decide_eq_true)
    | dbl m e =>
      rcases tc_num h with ⟨j, rfl⟩ | ⟨m', e', rfl⟩ <;>
        exact congrArg _ ((ite_ord_beq_lt _ _).trans Bool.decide_eq_true)
    | str s => obtain ⟨t, rfl⟩ := tc_str h; exact congrArg _ (ite_ord_beq_lt _ _)
    | date u o =>
      obtain ⟨u', o', rfl⟩ := tc_date h
      cases o with
      | some _ => cases ha
      | none => cases o' with
        | some _ => cases hb
        | none => exact congrArg _ (ite_ord_beq_lt _ _)
    | oid n =>
      obtain ⟨n', rfl⟩ := tc_oid h
      have hn : (decide (n < oidFresh) && decide (n' < oidFresh)) = true := by
        simp only [valReasons] at ha hb
        split at ha <;> split at hb <;> simp_all
      show (oidCmp n n').map _ = _
      rw [oidCmp, if_pos hn]
      exact congrArg _ (ite_ord_beq_lt _ _)
    | doc fs => cases ha
    | arr xs => cases ha
  · rw [bsonCompare_of_tc_ne .lt true (Ne.symm h),
      if_pos (fun e => h ((typeOrder_eq_iff a b).mp e).symm)]
    exact congrArg _ ((ite_ord_beq_lt _ _).trans
      (decide_eq_decide.mpr (typeOrder_lt_iff a b).symm))

/-- a key of the domain: a null / bool / number / string / naive datetime / supplied ObjectId
    (of either rank) -/
def DKey (k : SortKey) : Prop := valReasons k.val = []

theorem keyLt_eq_spec (a b : SortKey) (ha : DKey a) (hb : DKey b) :
    MongoModel.keyLt a b = .ok (Spec.Order.keyLt a b) := by
  unfold MongoModel.keyLt Spec.Order.keyLt
  split
  · rfl
  · exact bsonLt_eq_valLt a.val b.val ha hb

/-- the model's and the oracle's reading of one reached value are the same function -/
theorem candSortKeys_eq (c : Option Val) : candSortKeys c = candKeys c := by
  cases c with
  | none => rfl
  | some v =>
    cases v with
    | arr xs => cases xs <;> rfl
    | _ => rfl

theorem dkey_of_candReasons (c : Option Val) (h : candReasons c = []) :
    ∀ k ∈ candKeys c, DKey k := by
  intro k hk
  cases c with
  | none =>
    simp only [candKeys, List.mem_singleton] at hk
    subst hk; rfl
  | some v =>
    cases v with
    | arr xs =>
      cases xs with
      | nil =>
        simp only [candKeys, List.mem_singleton] at hk
        subst hk; rfl
      | cons x r =>
        simp only [candKeys, List.mem_map] at hk
        obtain ⟨y, hy, rfl⟩ := hk
        exact List.flatMap_eq_nil_iff.mp h y hy
    | _ =>
      simp only [candKeys, List.mem_singleton] at hk
      subst hk; exact h

/-- Python's `min` / `max` over in-domain keys is the oracle's smallest / largest key -/
theorem pickSortKey_eq (rev : Bool) : ∀ (r : List SortKey) (best : SortKey), DKey best →
    (∀ k ∈ r, DKey k) →
    pickSortKey rev best r = .ok (pickKey rev best r) ∧ DKey (pickKey rev best r) := by
  intro r
  induction r with
  | nil => intro best hb _; exact ⟨rfl, hb⟩
  | cons k r ih =>
    intro best hb hr
    have hk : DKey k := hr k List.mem_cons_self
    have hr' : ∀ k' ∈ r, DKey k' := fun k' hk' => hr k' (List.mem_cons_of_mem _ hk')
    cases rev with
    | false =>
      simp only [pickSortKey, pickKey, Bool.false_eq_true, if_false, keyLt_eq_spec k best hk hb]
      refine ih _ ?_ hr'
      cases Spec.Order.keyLt k best <;> simp [hk, hb]
    | true =>
      simp only [pickSortKey, pickKey, if_true, keyLt_eq_spec best k hb hk]
      refine ih _ ?_ hr'
      cases Spec.Order.keyLt best k <;> simp [hk, hb]

/-- inside the domain the model's sort key is the oracle's, for either direction, and it is an
    in-domain key -/
theorem key_of_reasons_nil (key : String) (d : Val) (h : keyReasons key d = []) (desc : Bool) :
    resolveSortKey key desc d = .ok (docKey key desc d) ∧ DKey (docKey key desc d) := by
  unfold keyReasons at h
  unfold resolveSortKey docKey
  cases hc : candsKey key d with
  | error e => rw [hc] at h; simp at h
  | ok cs =>
    rw [hc] at h
    simp only at h ⊢
    have he : cs.flatMap candSortKeys = cs.flatMap candKeys := by
      exact congrArg (fun f => cs.flatMap f) (funext candSortKeys_eq)
    rw [he]
    cases hk : cs.flatMap candKeys with
    | nil => exact ⟨rfl, rfl⟩
    | cons k r =>
      have hall : ∀ k' ∈ k :: r, DKey k' := by
        intro k' hk'
        rw [← hk, List.mem_flatMap] at hk'
        obtain ⟨c, hcm, hkc⟩ := hk'
        exact dkey_of_candReasons c (List.flatMap_eq_nil_iff.mp h c hcm) k' hkc
      exact pickSortKey_eq desc r k (hall k List.mem_cons_self)
        (fun k' hk' => hall k' (List.mem_cons_of_mem _ hk'))

theorem keyShallow_of_reasons (v : Val) (h : valReasons v = []) : keyShallow v = true := by
  cases v <;> first | rfl | cases h

/-- order of two documents under one key, as the oracle sees it: by their smallest reached
    values (`desc = false`) or by their largest (`desc = true`) -/
def dirLt (key : String) (desc : Bool) (a b : Val) : Bool :=
  Spec.Order.keyLt (docKey key desc a) (docKey key desc b)

abbrev ascLt (key : String) : Val → Val → Bool := dirLt key false

theorem docLt_eq_spec (key : String) (desc : Bool) (a b : Val)
    (ha : keyReasons key a = []) (hb : keyReasons key b = []) :
    docKeyLt key desc a b = .ok (dirLt key desc a b) := by
  obtain ⟨hka, dka⟩ := key_of_reasons_nil key a ha desc
  obtain ⟨hkb, dkb⟩ := key_of_reasons_nil key b hb desc
  simp only [docKeyLt, hka, hkb, dirLt]
  exact keyLt_eq_spec _ _ dka dkb

theorem mapR_ok {α β} (f : α → R β) (g : α → β) (l : List α) (h : ∀ x ∈ l, f x = .ok (g x)) :
    mapR f l = .ok (l.map g) := by
  induction l with
  | nil => rfl
  | cons x xs ih =>
    simp only [mapR, h x (List.mem_cons_self),
      ih (fun y hy => h y (List.mem_cons_of_mem _ hy)), List.map_cons]

theorem pairsOk_of {α} (lt : α → α → R Bool) (l : List α)
    (h : ∀ a ∈ l, ∀ b ∈ l, isOk (lt a b) = true) : pairsOk lt l = true := by
  induction l with
  | nil => rfl
  | cons x xs ih =>
    simp only [pairsOk, Bool.and_eq_true, List.all_eq_true]
    refine ⟨fun y hy => ⟨h x (List.mem_cons_self) y (List.mem_cons_of_mem _ hy),
      h y (List.mem_cons_of_mem _ hy) x (List.mem_cons_self)⟩, ?_⟩
    exact ih (fun a ha b hb => h a (List.mem_cons_of_mem _ ha) b (List.mem_cons_of_mem _ hb))

theorem strictWeak_dirLt (key : String) (desc : Bool) : StrictWeak (dirLt key desc) :=
  strictWeak_of_embedding _ (fun d => emb (docKey key desc d)) (fun _ _ => keyLt_iff _ _)

theorem strictWeak_ascLt (key : String) : StrictWeak (ascLt key) := strictWeak_dirLt key false

/-- one `sorted(…, key=resolve_sort_key(…, reverse), reverse=…)` inside the domain, for a literal
    direction: the stable sort by the smallest values, or by the flipped order of the largest -/
theorem sortedByKey_dir (key : String) (rev : Bool) (ds : List Val)
    (h : ∀ d ∈ ds, keyReasons key d = []) :
    sortedByKey key rev ds =
      .ok (if rev then isort (fun a b => dirLt key true b a) ds else isort (dirLt key false) ds) := by
  have hkeys : mapR (resolveSortKey key rev) ds = .ok (ds.map (docKey key rev)) := by
    apply mapR_ok
    intro d hd
    exact (key_of_reasons_nil key d (h d hd) rev).1
  have hshallow : (ds.map (docKey key rev)).all (fun k => keyShallow k.val) = true := by
    simp only [List.all_eq_true, List.mem_map]
    rintro k ⟨d, hd, rfl⟩
    exact keyShallow_of_reasons _ (key_of_reasons_nil key d (h d hd) rev).2
  have hok : pairsOk (docKeyLt key rev) ds = true := by
    apply pairsOk_of
    intro a ha b hb
    rw [docLt_eq_spec key rev a b (h a ha) (h b hb)]; rfl
  have hlt : ∀ a ∈ ds, ∀ b ∈ ds, okTrue (docKeyLt key rev a b) = dirLt key rev a b := by
    intro a ha b hb
    rw [docLt_eq_spec key rev a b (h a ha) (h b hb)]
    cases dirLt key rev a b <;> rfl
  simp only [sortedByKey, hkeys, hshallow, Bool.not_true, Bool.false_eq_true, if_false, pySorted,
    hok, if_true]
  congr 1
  cases rev with
  | true =>
    simp only [if_true]
    rw [isort_congr (lt' := dirLt key true) ds.reverse
      (fun a ha b hb => hlt a (List.mem_reverse.mp ha) b (List.mem_reverse.mp hb)),
      reverse_isort_reverse (strictWeak_dirLt key true)]
  | false =>
    simp only [Bool.false_eq_true, if_false]
    exact isort_congr ds hlt

/-- …for the direction given as an int: the stable sort by the oracle's order for that key and
    direction -/
theorem sortedByKey_eq (kd : String × Int) (ds : List Val)
    (h : ∀ d ∈ ds, keyReasons kd.1 d = []) :
    sortedByKey kd.1 (decide (kd.2 < 0)) ds = .ok (isort (docLt1 kd) ds) := by
  rw [sortedByKey_dir kd.1 _ ds h]
  congr 1
  by_cases hdir : kd.2 < 0 <;>
    simp only [hdir, decide_true, decide_false, if_true, if_false, Bool.false_eq_true] <;>
    exact isort_congr ds fun a _ b _ => by simp only [docLt1, hdir, if_true, if_false, dirLt]

/-- every key is an ordinary key and every document's key lies in the domain -/
def SpecOk (spec : SortSpec) (docs : List Val) : Prop :=
  ∀ kd ∈ spec, startsWithDollar kd.1 = false ∧ ∀ d ∈ docs, keyReasons kd.1 d = []

theorem specOk_of_reasons (spec : SortSpec) (docs : List Val) (h : specReasons spec docs = []) :
    SpecOk spec docs := by
  intro kd hkd
  unfold specReasons at h
  have := (List.flatMap_eq_nil_iff.mp h) kd hkd
  by_cases hd : startsWithDollar kd.1 = true
  · simp [hd] at this
  · simp only [hd, Bool.false_eq_true, if_false] at this
    exact ⟨by simpa using hd, fun d hd' => (List.flatMap_eq_nil_iff.mp this) d hd'⟩

theorem specOk_mono {spec : SortSpec} {docs docs' : List Val} (h : SpecOk spec docs)
    (hsub : ∀ d ∈ docs', d ∈ docs) : SpecOk spec docs' :=
  fun kd hkd => ⟨(h kd hkd).1, fun d hd => (h kd hkd).2 d (hsub d hd)⟩

theorem docLt_cons (kd : String × Int) (rest : SortSpec) :
    docLt (kd :: rest) = lexLt (docLt1 kd) (docLt rest) := by
  funext a b; rfl

theorem strictWeak_docLt (spec : SortSpec) : StrictWeak (docLt spec) := by
  induction spec with
  | nil =>
    have : docLt [] = fun _ _ => false := by funext a b; rfl
    rw [this]; exact strictWeak_false
  | cons kd rest ih =>
    rw [docLt_cons]; exact strictWeak_lex (strictWeak_docLt1 kd) ih

/-- the loop of `_get_dataset` / `_handle_sort_stage`: sorting by the last key first and by the
    first key last (each sort stable) is the stable sort by the lexicographic order -/
theorem sortRounds_eq (round : String × Int → List Val → R (List Val))
    (hround : ∀ kd ds, startsWithDollar kd.1 = false →
      round kd ds = sortedByKey kd.1 (decide (kd.2 < 0)) ds)
    (spec : SortSpec) (docs : List Val) (h : SpecOk spec docs) :
    sortRounds round spec docs = .ok (isort (docLt spec) docs) := by
  induction spec with
  | nil =>
    have : docLt [] = fun _ _ => false := by funext a b; rfl
    simp [sortRounds, this, isort_false]
  | cons kd rest ih =>
    have hrest : SpecOk rest docs := fun kd' hkd' => h kd' (List.mem_cons_of_mem _ hkd')
    have hkd := h kd (List.mem_cons_self)
    simp only [sortRounds, ih hrest, bindR]
    rw [hround kd _ hkd.1, sortedByKey_eq kd _
      (fun d hd => hkd.2 d ((isort_perm _ _).mem_iff.mp hd)),
      isort_isort_lex (strictWeak_docLt1 kd) (strictWeak_docLt rest), docLt_cons]

theorem natural_startsWithDollar : startsWithDollar "$natural" = true := by decide

theorem applySortKey_plain (kd : String × Int) (ds : List Val)
    (h : startsWithDollar kd.1 = false) :
    applySortKey kd ds = sortedByKey kd.1 (decide (kd.2 < 0)) ds := by
  have hn : kd.1 ≠ "$natural" := by
    intro e; rw [e, natural_startsWithDollar] at h; cases h
  simp [applySortKey, hn, h]

theorem loneNatural_some {spec : SortSpec} {dir : Int} (h : loneNatural spec = some dir) :
    spec = [("$natural", dir)] := by
  match spec, h with
  | [(k, d)], h =>
    simp only [loneNatural] at h
    by_cases hk : k = "$natural"
    · simp [hk] at h; simp [hk, h]
    · simp [hk] at h

/-- `_get_dataset` on a key list of the domain: the stable sort by the key-by-key order -/
theorem getDataset_some (spec : SortSpec) (docs : List Val) (h : specReasons spec docs = []) :
    getDataset (some spec) docs = .ok (isort (docLt spec) docs) :=
  sortRounds_eq applySortKey applySortKey_plain spec docs (specOk_of_reasons _ _ h)

theorem aggSort_eq_spec (spec : SortSpec) (docs : List Val) (h : SpecOk spec docs) :
    aggSort spec docs = .ok (isort (docLt spec) docs) :=
  sortRounds_eq _ (fun _ _ _ => rfl) spec docs h

/-- the limit the model's cursor effectively applies (`None` and 0 are both falsy) -/
def implLim : Option Int → Option Nat
  | some l => if l = 0 then none else some l.natAbs
  | none => none

/-- …taking the empty-slice flag into account: an empty slice selects nothing -/
def effLim (c : Cursor) : Option Nat := if c.empty then some 0 else implLim c.limit

/-- the model's cursor `c` and the oracle's settings `s` describe the same request -/
def Rel (c : Cursor) (s : Settings) : Prop :=
  c.sort = s.sort ∧ c.skip = s.skip ∧ effLim c = s.limit

/-- `limit if limit != 0 else None`, as `Cursor.__init__`, `.limit()` and `clone` store it -/
theorem implLim_norm (l : Int) : implLim (if l ≠ 0 then some l else none) = limitArg l := by
  by_cases h : l = 0 <;> simp [implLim, limitArg, h]

/-- `clone` runs the normalisation of `Cursor.__init__` again: no effect on the effective limit -/
theorem effLim_clone (c : Cursor) :
    effLim { c with limit := match c.limit with
                              | some l => if l ≠ 0 then some l else none
                              | none => none } = effLim c := by
  unfold effLim
  cases c.limit with
  | none => rfl
  | some l => exact congrArg _ (implLim_norm l)

theorem rel_new (sort : Option SortSpec) (skip limit : Int) :
    Rel (Cursor.new sort skip limit) (Settings.new sort skip limit) :=
  ⟨rfl, rfl, implLim_norm limit⟩

/-- `cursor[a:stop]` for `0 ≤ a`: both reject `stop < a`, or both move to skip `a`, limit
    `stop - a` -/
theorem sliceStop_rel (c : Cursor) (s : Settings) (a : Int) (stop : Option Int) (h : Rel c s) :
    (∃ e, sliceStop c a stop = .error e ∧ s.slice a stop = none) ∨
    (∃ c' s', sliceStop c a stop = .ok c' ∧ s.slice a stop = some s' ∧ Rel c' s') := by
  cases stop with
  | none => exact .inr ⟨_, _, rfl, rfl, h.1, rfl, rfl⟩
  | some b =>
    unfold sliceStop Settings.slice
    by_cases hb : b < a
    · exact .inl ⟨.indexErr, if_pos (by omega), if_pos hb⟩
    · refine .inr ⟨_, _, if_neg (by omega), if_neg hb, h.1, rfl, ?_⟩
      by_cases hz : b - a = 0
      · simp [effLim, hz]
      · simp [implLim, effLim, hz, show (b - a).natAbs = (b - a).toNat by omega]

/-- one cursor-method call: the model and the oracle both reject it, or both accept it and stay
    related -/
theorem step_rel (c : Cursor) (s : Settings) (op : CurOp) (h : Rel c s) :
    (∃ e, c.step op = .error e ∧ s.step op = none) ∨
    (∃ c' s', c.step op = .ok c' ∧ s.step op = some s' ∧ Rel c' s') := by
  obtain ⟨h1, h2, h3⟩ := h
  cases op with
  | skip n => exact .inr ⟨_, _, rfl, rfl, h1, rfl, h3⟩
  | limit n => exact .inr ⟨_, _, rfl, rfl, h1, h2, implLim_norm n⟩
  | sortKey k d =>
    refine .inr ⟨_, _, rfl, rfl, ?_, h2, h3⟩
    cases d with
    | none => rfl
    | some d => by_cases hd : d = 0 <;> simp [hd]
  | sortList spec =>
    cases spec with
    | nil => exact .inl ⟨_, rfl, rfl⟩
    | cons kd r => exact .inr ⟨_, _, rfl, rfl, rfl, h2, h3⟩
  | slice start stop =>
    cases start with
    | none => exact sliceStop_rel c s 0 stop ⟨h1, h2, h3⟩
    | some a =>
      dsimp only [Cursor.step, Settings.step]
      by_cases ha : a < 0
      · exact .inl ⟨.indexErr, if_pos ha, if_pos ha⟩
      · rw [if_neg ha, if_neg ha]; exact sliceStop_rel c s a stop ⟨h1, h2, h3⟩
  | clone => exact .inr ⟨_, _, rfl, rfl, h1, h2, (effLim_clone c).trans h3⟩
  | rewind => exact .inr ⟨_, _, rfl, rfl, h1, h2, h3⟩

theorem run_rel (ops : List CurOp) : ∀ (c : Cursor) (s : Settings), Rel c s →
    (∃ e, c.run ops = .error e ∧ s.run ops = none) ∨
    (∃ c' s', c.run ops = .ok c' ∧ s.run ops = some s' ∧ Rel c' s') := by
  induction ops with
  | nil => intro c s h; exact .inr ⟨c, s, rfl, rfl, h⟩
  | cons op ops ih =>
    intro c s h
    simp only [Cursor.run, Settings.run]
    rcases step_rel c s op h with ⟨e, h1, h2⟩ | ⟨c', s', h1, h2, h3⟩
    · rw [h1, h2]; exact .inl ⟨e, rfl, rfl⟩
    · rw [h1, h2]; exact ih c' s' h3

theorem pyDropFrom_nonneg {α} (s : Int) (xs : List α) (h : 0 ≤ s) :
    pyDropFrom s xs = xs.drop s.toNat := by
  simp [pyDropFrom, h]

theorem pyTakeTo_nonneg {α} (e : Int) (xs : List α) (h : 0 ≤ e) :
    pyTakeTo e xs = xs.take e.toNat := by
  simp [pyTakeTo, h]

/-- `_compute_results` slicing is `drop` then `take` of the effective limit -/
theorem window_eq_effLim {α} (c : Cursor) (xs : List α) (h : 0 ≤ c.skip) :
    c.window xs = window c.skip.toNat (effLim c) xs := by
  unfold Cursor.window window effLim implLim
  cases he : c.empty with
  | true => simp
  | false =>
    cases hl : c.limit with
    | none => simp [pyDropFrom_nonneg _ _ h]
    | some l => by_cases hz : l = 0 <;> simp [hz, pyDropFrom_nonneg _ _ h]

theorem window_eq_spec {α} (c : Cursor) (s : Settings) (xs : List α) (h : Rel c s)
    (hs : 0 ≤ s.skip) : c.window xs = window s.skip.toNat s.limit xs := by
  obtain ⟨_, h2, h3⟩ := h
  rw [window_eq_effLim c xs (h2 ▸ hs), h2, h3]

theorem length_window {α} (skip : Nat) (limit : Option Nat) (xs : List α) :
    (window skip limit xs).length =
      match limit with
      | none => xs.length - skip
      | some l => min l (xs.length - skip) := by
  cases limit
  · exact List.length_drop
  · exact List.length_take.trans (congrArg _ List.length_drop)

theorem count_eq (n : Nat) (skip : Nat) (limit : Option Nat) :
    Spec.Order.count n skip limit =
      match limit with
      | none => n - skip
      | some l => min l (n - skip) := by
  rw [Spec.Order.count, length_window, List.length_replicate]

/-- `max(n - skip, 0)` for a non-negative skip is the truncated difference -/
theorem max_sub_zero (n : Nat) {skip : Int} (hs : 0 ≤ skip) :
    max ((n : Int) - skip) 0 = ((n - skip.toNat : Nat) : Int) := by
  obtain ⟨s, rfl⟩ := Int.eq_ofNat_of_zero_le hs
  rw [← Int.toNat_eq_max, Int.toNat_sub, Int.toNat_natCast]

theorem countDocuments_num {α} (xs : List α) (skip l : Int) (hs : 0 ≤ skip) (hl : 0 < l) :
    countDocuments xs.length skip (.num l) =
      .ok ((window skip.toNat (some l.toNat) xs).length : Nat) := by
  rw [countDocuments, if_neg (Int.not_le.mpr hl), max_sub_zero _ hs, length_window]
  obtain ⟨k, rfl⟩ := Int.eq_ofNat_of_zero_le (Int.le_of_lt hl)
  exact congrArg _ ((Int.min_comm _ _).trans (Nat.cast_min _ _).symm)

theorem countDocuments_absent {α} (xs : List α) (skip : Int) (hs : 0 ≤ skip) :
    countDocuments xs.length skip .absent = .ok ((window skip.toNat none xs).length : Nat) := by
  rw [countDocuments, max_sub_zero _ hs, length_window]

theorem rewrite_ids (k d : Val) (s : Store) : (Store.rewrite k d s).ids = s.ids := by
  induction s with
  | nil => rfl
  | cons kd r ih =>
    obtain ⟨k', d'⟩ := kd
    simp only [Store.rewrite]
    split
    · rfl
    · simp only [Store.ids, List.map_cons] at ih ⊢
      rw [ih]

theorem rewrite_length (k d : Val) (s : Store) : (Store.rewrite k d s).length = s.length := by
  have := congrArg List.length (rewrite_ids k d s)
  simpa [Store.ids] using this

theorem delete_ids (k : Val) (s : Store) :
    (Store.delete k s).ids = s.ids.eraseP (fun i => pyEq i k) := by
  induction s with
  | nil => rfl
  | cons kd r ih =>
    obtain ⟨k', d'⟩ := kd
    simp only [Store.ids] at ih
    cases h : pyEq k' k <;> simp [Store.delete, Store.ids, h, ih]

theorem has_ids (k : Val) (s : Store) : s.has k = s.ids.any (fun i => pyEq i k) := by
  simp [Store.has, Store.ids, List.any_map, Function.comp_def]

theorem runOps_ids (ops : List StoreOp) : ∀ s : Store,
    (Store.runOps s ops).ids = naturalIds s.ids ops := by
  induction ops with
  | nil => intro s; rfl
  | cons op ops ih =>
    intro s
    cases op with
    | insert k d =>
      simp only [Store.runOps, Store.step, naturalIds, ← has_ids]
      split
      · exact ih s
      · rw [ih]; simp [Store.ids]
    | rewrite k d =>
      simp only [Store.runOps, Store.step, naturalIds]
      rw [ih, rewrite_ids]
    | delete k =>
      simp only [Store.runOps, Store.step, naturalIds]
      rw [ih, delete_ids]

/-- the code's answer for the oracle's verdict: the documents, or OperationFailure -/
def stagesVerdict : Option (List Val) → R (List Val)
  | some out => .ok out
  | none => .error .opFail

theorem runPipeline_eq_spec (stages : List Stage) : ∀ (docs0 docs : List Val),
    (∀ st ∈ stages, stageReasons docs0 st = []) → (∀ d ∈ docs, d ∈ docs0) →
    runPipeline stages docs = stagesVerdict (runStages stages docs) := by
  induction stages with
  | nil => intro _ _ _ _; rfl
  | cons st rest ih =>
    intro docs0 docs h hsub
    have hst := h st (List.mem_cons_self)
    have hrest : ∀ st' ∈ rest, stageReasons docs0 st' = [] :=
      fun st' hm => h st' (List.mem_cons_of_mem _ hm)
    cases st with
    | sort spec =>
      have hok : SpecOk spec docs := specOk_mono (specOk_of_reasons spec docs0 hst) hsub
      simp only [runPipeline, Stage.apply, aggSort_eq_spec spec docs hok, bindR, runStages,
        stageApply, Option.bind_some]
      exact ih docs0 _ hrest (fun d hd => hsub d ((isort_perm _ _).mem_iff.mp hd))
    | skip n =>
      simp only [runPipeline, Stage.apply, runStages, stageApply]
      split
      · rfl
      · exact ih docs0 _ hrest (fun d hd => hsub d (List.mem_of_mem_drop hd))
    | limit n =>
      simp only [runPipeline, Stage.apply, runStages, stageApply]
      split
      · rfl
      · exact ih docs0 _ hrest (fun d hd => hsub d (List.mem_of_mem_take hd))

/-- the path reaches nothing in the document -/
def Missing (key : String) (d : Val) : Prop :=
  candsKey key d = .ok [] ∨ candsKey key d = .ok [none]

theorem resolveSortKey_missing (key : String) (rev : Bool) (d : Val) (h : Missing key d) :
    resolveSortKey key rev d = .ok ⟨1, .null⟩ := by
  rcases h with h | h <;> rw [resolveSortKey, h] <;> rfl

theorem resolveSortKey_null (key : String) (rev : Bool) (d : Val)
    (h : candsKey key d = .ok [some .null]) :
    resolveSortKey key rev d = .ok ⟨1, .null⟩ := by
  rw [resolveSortKey, h]; rfl

def setsSkip : CurOp → Bool
  | .skip _ | .slice _ _ => true
  | _ => false

def setsLimit : CurOp → Bool
  | .limit _ | .slice _ _ => true
  | _ => false

def setsSort : CurOp → Bool
  | .sortKey _ _ | .sortList _ => true
  | _ => false

theorem run_append (ops1 ops2 : List CurOp) : ∀ c : Cursor,
    c.run (ops1 ++ ops2) = bindR (c.run ops1) (fun c' => c'.run ops2) := by
  induction ops1 with
  | nil => intro c; rfl
  | cons op ops ih =>
    intro c
    simp only [List.cons_append, Cursor.run]
    cases c.step op with
    | error e => rfl
    | ok c' => simp only [bindR]; exact ih c'

theorem step_frame (c c' : Cursor) (op : CurOp) (h : c.step op = .ok c') :
    (setsSkip op = false → c'.skip = c.skip) ∧
    (setsLimit op = false → effLim c' = effLim c) ∧
    (setsSort op = false → c'.sort = c.sort) := by
  cases op with
  | skip n => cases h; exact ⟨nofun, fun _ => rfl, fun _ => rfl⟩
  | limit n => cases h; exact ⟨fun _ => rfl, nofun, fun _ => rfl⟩
  | sortKey k d => cases h; exact ⟨fun _ => rfl, fun _ => rfl, nofun⟩
  | sortList spec =>
    cases spec with
    | nil => cases h
    | cons kd r => cases h; exact ⟨fun _ => rfl, fun _ => rfl, nofun⟩
  | slice a b =>
    refine ⟨nofun, nofun, fun _ => ?_⟩
    have hs : ∀ (a : Int) (c' : Cursor), sliceStop c a b = .ok c' → c'.sort = c.sort := by
      intro a c' h
      cases b with
      | none => cases h; rfl
      | some b =>
        simp only [sliceStop] at h
        split at h
        · cases h
        · cases h; rfl
    cases a with
    | none => exact hs 0 c' h
    | some a =>
      simp only [Cursor.step] at h
      split at h
      · cases h
      · exact hs a c' h
  | clone => cases h; exact ⟨fun _ => rfl, fun _ => effLim_clone c, fun _ => rfl⟩
  | rewind => cases h; exact ⟨fun _ => rfl, fun _ => rfl, fun _ => rfl⟩

/-- a component of the cursor that a call leaves alone unless it sets it is left alone by a
    sequence of calls none of which sets it -/
theorem run_keeps {α} (p : Cursor → α) (sets : CurOp → Bool)
    (hstep : ∀ c c' op, c.step op = .ok c' → sets op = false → p c' = p c) :
    ∀ (ops : List CurOp) (c c' : Cursor), c.run ops = .ok c' →
      (∀ op ∈ ops, sets op = false) → p c' = p c := by
  intro ops
  induction ops with
  | nil => intro c c' h _; cases h; rfl
  | cons op ops ih =>
    intro c c' h hh
    simp only [Cursor.run] at h
    cases hs : c.step op with
    | error e => rw [hs] at h; cases h
    | ok c1 =>
      rw [hs] at h
      rw [ih c1 c' h fun o ho => hh o (List.mem_cons_of_mem _ ho),
        hstep c c1 op hs (hh op List.mem_cons_self)]

theorem run_frame (ops : List CurOp) (c c' : Cursor) (h : c.run ops = .ok c') :
    ((∀ op ∈ ops, setsSkip op = false) → c'.skip = c.skip) ∧
    ((∀ op ∈ ops, setsLimit op = false) → effLim c' = effLim c) ∧
    ((∀ op ∈ ops, setsSort op = false) → c'.sort = c.sort) :=
  ⟨run_keeps _ _ (fun c c' op hs => (step_frame c c' op hs).1) ops c c' h,
   run_keeps _ _ (fun c c' op hs => (step_frame c c' op hs).2.1) ops c c' h,
   run_keeps _ _ (fun c c' op hs => (step_frame c c' op hs).2.2) ops c c' h⟩

/-- whatever came before, after `… .skip(n) …` with no later call that sets the skip, the
    skip is `n`; likewise for `.limit(n)` and `.sort(…)` -/
theorem last_call_wins (c0 c' : Cursor) (ops1 ops2 : List CurOp) (op : CurOp)
    (h : c0.run (ops1 ++ op :: ops2) = .ok c') :
    ∃ c1 c2, c0.run ops1 = .ok c1 ∧ c1.step op = .ok c2 ∧
      ((∀ o ∈ ops2, setsSkip o = false) → c'.skip = c2.skip) ∧
      ((∀ o ∈ ops2, setsLimit o = false) → effLim c' = effLim c2) ∧
      ((∀ o ∈ ops2, setsSort o = false) → c'.sort = c2.sort) := by
  rw [run_append] at h
  cases h1 : c0.run ops1 with
  | error e => rw [h1] at h; cases h
  | ok c1 =>
    rw [h1] at h
    simp only [bindR, Cursor.run] at h
    cases h2 : c1.step op with
    | error e => rw [h2] at h; cases h
    | ok c2 =>
      rw [h2] at h
      exact ⟨c1, c2, rfl, h2, run_frame ops2 c2 c' h⟩

end MongoModel.Proofs.C11
