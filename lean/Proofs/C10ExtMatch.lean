/-
  Proofs.C10ExtMatch — the aggregation `$match` stage over the stored documents is `find`
  (through Proofs/C03Stages.lean); `find_one` and `find_one_and_*` pick their document in the
  shared selection (derived from Proofs/C14*.lean).
-/
import Spec.CountsExt
import Proofs.C03Stages
import Proofs.C14

namespace MongoModel.Proofs.C10Ext
open MongoModel MongoModel.Spec
open MongoModel.Proofs.C10Lemmas MongoModel.Proofs.C09Lemmas MongoModel.Proofs.C14Lemmas

theorem find_empty (now : Int) (c c1 : Coll) (fs : Fields) (he : expire now c = .ok c1)
    (hemp : c1.docs = []) :
    (findColl now c (.doc fs)).2 =
      match filterApplies (patchDT (.doc fs)) (.doc []) with
      | .error e => .error e
      | .ok _ => .ok [] := by
  simp only [findColl]
  rw [iter_empty now c c1 _ he hemp]
  cases filterApplies (patchDT (.doc fs)) (.doc []) <;> rfl

theorem aggregate_match_eq_find (now : Int) (c c1 : Coll) (fs : Fields)
    (he : expire now c = .ok c1) (hn : ∀ p ∈ c1.docs, patch p.2 = p.2) :
    Pipe.matchStage (.doc fs) (c1.docs.map (·.2)) = (findColl now c (.doc fs)).2 := by
  have hn' : ∀ d ∈ c1.docs.map (·.2), patch d = d := by
    intro d hd
    obtain ⟨p, hp, rfl⟩ := List.mem_map.1 hd
    exact hn p hp
  rw [Pipe.Proofs.matchStage_eq_findDocs _ _ hn']
  by_cases hemp : c1.docs = []
  · rw [find_empty now c c1 fs he hemp, hemp]
    rfl
  · rw [MongoModel.Proofs.C10.find_is_selection now c c1 fs he hemp,
      Pipe.Proofs.selectDocs_eq_filterR]
    cases hd : c1.docs with
    | nil => exact absurd hd hemp
    | cons p ps => rfl

/-- `$match` selects with the shared match relation: `aggregate_match_eq_find` composed with
    `find_is_selection` -/
theorem aggregate_match_is_selection (now : Int) (c c1 : Coll) (fs : Fields)
    (he : expire now c = .ok c1) (hne : c1.docs ≠ []) (hn : ∀ p ∈ c1.docs, patch p.2 = p.2) :
    Pipe.matchStage (.doc fs) (c1.docs.map (·.2)) =
      (selectDocs (patchDT (.doc fs)) c1.docs).map (·.map (·.2)) := by
  rw [aggregate_match_eq_find now c c1 fs he hn,
    MongoModel.Proofs.C10.find_is_selection now c c1 fs he hne]

/-- the first document in sort order exists iff something is selected -/
theorem firstSorted_none_iff (sort : Option SortSpec) (sel : List (Val × Val)) (t : Option Val)
    (h : firstSorted sort sel = .ok t) : t = none ↔ sel = [] := by
  unfold firstSorted at h
  cases hg : getDataset sort (sel.map (·.2)) with
  | error e => rw [hg] at h; cases h
  | ok sorted =>
    rw [hg] at h
    simp only [Except.map, Except.ok.injEq] at h
    subst h
    have hp := getDataset_perm sort _ sorted hg
    constructor
    · intro hn
      have : sorted = [] := List.head?_eq_none_iff.1 hn
      subst this
      have := hp.symm.eq_nil
      exact List.map_eq_nil_iff.1 this
    · intro hn
      subst hn
      have := hp.eq_nil
      subst this
      rfl

theorem find_one_in_selection (now : Int) (c c1 : Coll) (fs : Fields) (proj : Val)
    (sort : Option SortSpec) (sel : List (Val × Val)) (out : Option Val)
    (he : expire now c = .ok c1) (hne : c1.docs ≠ [])
    (hs : selectDocs (patchDT (.doc fs)) c1.docs = .ok sel)
    (h : (findOneColl now c (.doc fs) proj sort).2 = .ok out) :
    (out = none ↔ sel = []) ∧
    (∀ o, out = some o → ∃ p ∈ sel, firstSorted sort sel = .ok (some p.2) ∧
      copyOnlyFields p.2 proj = .ok o) := by
  obtain ⟨t, ht, hm⟩ := MongoModel.Proofs.C14.find_one_is_first_sorted now c c1 fs proj sort sel
    out he hne hs h
  have hiff := firstSorted_none_iff sort sel t ht
  cases t with
  | none =>
    dsimp only at hm
    subst hm
    exact ⟨⟨fun _ => hiff.1 rfl, fun _ => rfl⟩, fun o ho => by cases ho⟩
  | some d =>
    dsimp only at hm
    obtain ⟨hc, hsome⟩ := hm
    obtain ⟨p, hp, rfl⟩ := target_entry sort sel d ht
    constructor
    · constructor
      · intro ho; subst ho; cases hsome
      · intro hn; have := hiff.2 hn; cases this
    · intro o ho
      subst ho
      exact ⟨p, hp, ht, hc⟩

/-- the first read of `findAndModify` is `firstSorted` of the selection -/
theorem fam_first_read (now : Int) (c : Coll) (fs : Fields) (sort : Option SortSpec)
    (sel : List (Val × Val)) (hi : IdInv c) (hn : c.ttlIndexes = []) (hne : c.docs ≠ [])
    (hs : selectDocs (patchDT (.doc fs)) c.docs = .ok sel) :
    findOneColl now c (.doc fs) .null sort = (c, firstSorted sort sel) := by
  have he := expire_nil now c hn
  have hsub := select_sublist _ _ _ hs
  have hdoc : ∀ d ∈ sel.map (·.2), ∃ fs, d = Val.doc fs := by
    intro d hd
    obtain ⟨p, hp, rfl⟩ := List.mem_map.1 hd
    obtain ⟨id, hidp, _⟩ := hi.2 p (hsub.subset hp)
    cases hp2 : p.2 with
    | doc fs => exact ⟨fs, rfl⟩
    | _ => rw [hp2] at hidp; cases hidp
  rw [findOne_eq now c c fs .null sort sel he hne hs, headProj_null sort _ hdoc]
  rfl

theorem fam_target_in_selection (cfg : Cfg) (now : Int) (c c' : Coll) (fs : Fields) (proj : Val)
    (update : Option Val) (upsert after : Bool) (sort : Option SortSpec)
    (sel : List (Val × Val)) (ret : Option Val)
    (hne : c.docs ≠ []) (hi : IdInv c) (hg : GoodKeys c) (hn : c.ttlIndexes = [])
    (hna : ∀ p ∈ c.docs, p.1.isArr = false)
    (hs : selectDocs (patchDT (.doc fs)) c.docs = .ok sel)
    (hid : ∀ p ∈ sel, ∀ tid, idOf p.2 = some tid → isScalar tid = true ∧ patchDT tid = tid)
    (hda : update = none → upsert = false ∧ after = false)
    (h : findAndModify cfg now c (.doc fs) proj update upsert sort after = (c', .ok ret)) :
    (sel = [] → upsert = false → ret = none ∧ c'.docs = c.docs) ∧
    (sel ≠ [] → ∃ p ∈ sel, ∃ tid, idOf p.2 = some tid ∧
      firstSorted sort sel = .ok (some p.2) ∧ sameExcept tid c.docs c'.docs ∧
      (after = false → copyOnlyFields p.2 proj = .ok (ret.getD .null) ∧ ret.isSome)) := by
  have he := expire_nil now c hn
  constructor
  · intro hsel hup
    subst hsel hup
    exact MongoModel.Proofs.C14.fam_no_match_noop cfg now c c c' fs proj update sort after ret he
      hne hs h
  · intro hsel
    have hgo := findAndModify_go _ _ _ _ _ _ _ _ _ _ _ h
    have hr := fam_first_read now c fs sort sel hi hn hne hs
    cases ht : firstSorted sort sel with
    | error e =>
      rw [ht] at hr
      rw [Shape.go_eq, hr] at hgo
      cases hgo
    | ok t =>
      cases t with
      | none => exact absurd ((firstSorted_none_iff sort sel none ht).1 rfl) hsel
      | some target =>
        obtain ⟨p, hp, rfl⟩ := target_entry sort sel target ht
        have hpc : p ∈ c.docs := (select_sublist _ _ _ hs).subset hp
        obtain ⟨tid, htid, _⟩ := hi.2 p hpc
        obtain ⟨hsc, hpt⟩ := hid p hp tid htid
        refine ⟨p, hp, tid, htid, rfl, ?_⟩
        cases update with
        | none =>
          obtain ⟨rfl, rfl⟩ := hda rfl
          obtain ⟨h1, _, h3, h4⟩ := MongoModel.Proofs.C14.fam_delete_spec_alt cfg now c c c' fs proj
            sort sel p.2 tid ret he hi hg hn hna hs ht htid hsc hpt h
          exact ⟨h1, fun _ => ⟨h3, h4⟩⟩
        | some u =>
          obtain ⟨h1, _, h3, _⟩ := MongoModel.Proofs.C14.fam_update_spec_alt cfg now c c c' fs proj
            u upsert after sort sel p.2 tid ret he hi hg hn hna hs ht htid hsc hpt h
          exact ⟨h1, h3⟩

end MongoModel.Proofs.C10Ext
