/-
  Proofs.C10ExtBulk — the counters of a successful bulk are the sums of the sizes of the
  selections of its requests, each taken on the collection the request runs on; decidable checks
  of the invariant along a bulk, for the examples.
-/
import Spec.CountsExt
import Proofs.C10
import Proofs.C15Loop
import Proofs.C05Ext

namespace MongoModel.Proofs.C10Ext
open MongoModel MongoModel.Spec
open MongoModel.Proofs.C15Lemmas MongoModel.Proofs.Shape

theorem selectedCount_ok (now : Int) (c : Coll) (f : Val) (n : Nat)
    (h : selectedCount now c f = .ok n) :
    ∃ c1 sel, expire now c = .ok c1 ∧ selectDocs (patchDT f) c1.docs = .ok sel ∧ n = sel.length := by
  unfold selectedCount at h
  cases he : expire now c with
  | error e => rw [he] at h; cases h
  | ok c1 =>
    rw [he] at h
    simp only [bind, Except.bind] at h
    cases hs : selectDocs (patchDT f) c1.docs with
    | error e => rw [hs] at h; cases h
    | ok sel =>
      rw [hs] at h
      simp only [pure, Except.pure, Except.ok.injEq] at h
      exact ⟨c1, sel, rfl, hs, h.symm⟩

theorem map_ok {α β} {x : R α} {g : α → β} {b : β} (h : x.map g = .ok b) : ∃ a, x = .ok a ∧ g a = b := by
  cases x with
  | error e => cases h
  | ok a => simp only [Except.map, Except.ok.injEq] at h; exact ⟨a, rfl, h⟩

/-- what the totals gain: `a` matched, `b` removed, `i` inserted, nothing else -/
def Adds (g : BulkTotals → BulkTotals) (a b i : Nat) : Prop :=
  ∀ t, (g t).nMatched = t.nMatched + a ∧ (g t).nRemoved = t.nRemoved + b ∧
    (g t).nInserted = t.nInserted + i ∧ (g t).nUpserted = t.nUpserted ∧
    (g t).upserted = t.upserted ∧ (g t).errors = t.errors

theorem upd_adds (cfg : Cfg) (now : Int) (c c' : Coll) (idx : Nat) (f u : Val) (multi : Bool)
    (g : BulkTotals → BulkTotals) (n : Nat) (hi : IdInv c) (hg : GoodKeys c)
    (hc : selectedCount now c f = .ok n)
    (h : bulkUpd cfg now c idx f u false multi = (c', .ok g)) :
    Adds g (if multi then n else min n 1) 0 0 := by
  obtain ⟨c1, sel, he, hs, rfl⟩ := selectedCount_ok now c f n hc
  rcases bulkUpd_inv h with ⟨res, ha, hg'⟩ | ⟨e, _, hg'⟩
  · cases hg'
    have hdoc : ∃ fs, f = .doc fs := by
      cases f with
      | doc fs => exact ⟨fs, rfl⟩
      | _ => simp [applyUpdateColl, patchDT, patch] at ha
    obtain ⟨fs, rfl⟩ := hdoc
    obtain ⟨h1, _, h3⟩ := MongoModel.Proofs.C10.update_count cfg now c c1 c' fs u sel res multi he hi.1 hg hs ha
    intro t
    unfold updFun
    rw [h3]
    dsimp only
    refine ⟨?_, by omega, by omega, rfl, rfl, rfl⟩
    rw [h1]
  · exact (bulkFail_ne_ok _ _ hg'.symm).elim

theorem del_adds (now : Int) (c c' : Coll) (q : Val) (multi : Bool)
    (g : BulkTotals → BulkTotals) (n : Nat) (hi : IdInv c) (hg : GoodKeys c)
    (hc : selectedCount now c q = .ok n)
    (h : bulkDel now c q multi = (c', .ok g)) :
    Adds g 0 (if multi then n else min n 1) 0 := by
  obtain ⟨c1, sel, he, hs, rfl⟩ := selectedCount_ok now c q n hc
  rcases bulkDel_inv h with ⟨fs, k, rfl, hd, hg'⟩ | ⟨_, e, _, _, hg'⟩ | ⟨_, hg'⟩
  · cases hg'
    have := MongoModel.Proofs.C10.delete_count_all now c c1 fs sel multi k he hi hg hs (by rw [hd])
    intro t
    dsimp only
    refine ⟨by omega, ?_, by omega, rfl, rfl, rfl⟩
    rw [this]
  · exact (bulkFail_ne_ok _ _ hg'.symm).elim
  · exact (bulkFail_ne_ok _ _ hg'.symm).elim

theorem one_adds (cfg : Cfg) (now : Int) (c c' : Coll) (idx : Nat) (r : Val)
    (g : BulkTotals → BulkTotals) (a b : Nat) (hi : IdInv c) (hg : GoodKeys c)
    (hu : noUpsert r = true) (hc : requestCounts now c r = .ok (a, b))
    (h : bulkOne cfg now c idx r = (c', .ok g)) :
    Adds g a b (if isInsertOne r then 1 else 0) := by
  -- an update-like request: `k` says how its selection is counted
  have upd : ∀ (f u up : Val) (multi : Bool) (k : Nat → Nat × Nat),
      (!boolOf up) = true → (selectedCount now c f).map k = .ok (a, b) →
      (∀ n, k n = (if multi then n else min n 1, 0)) →
      bulkUpd cfg now c idx f u (boolOf up) multi = (c', .ok g) → Adds g a b 0 := by
    intro f u up multi k hup hk hkn h
    obtain ⟨n, hn, hab⟩ := map_ok hk
    rw [hkn] at hab
    cases hab
    rw [(Bool.not_eq_true' _).mp hup] at h
    exact upd_adds cfg now c c' idx f u multi g n hi hg hn h
  have del : ∀ (f : Val) (multi : Bool) (k : Nat → Nat × Nat),
      (selectedCount now c f).map k = .ok (a, b) →
      (∀ n, k n = (0, if multi then n else min n 1)) →
      bulkDel now c f multi = (c', .ok g) → Adds g 0 b 0 ∧ a = 0 := by
    intro f multi k hk hkn h
    obtain ⟨n, hn, hab⟩ := map_ok hk
    rw [hkn] at hab
    cases hab
    exact ⟨del_adds now c c' f multi g n hi hg hn h, rfl⟩
  rcases bulkOne_cases r with hs | hx
  · cases hs with
    | insertOne d =>
      cases (hc : Except.ok (0, 0) = Except.ok (a, b))
      rw [bulkOne_InsertOne] at h
      rcases bulkIns_inv h with ⟨_, _, hg'⟩ | ⟨_, _, _, hne⟩
      · cases hg'
        intro t
        exact ⟨(Int.add_zero _).symm, (Int.add_zero _).symm, rfl, rfl, rfl, rfl⟩
      · exact (hne _ rfl).elim
    | updateOne f u up => exact upd _ _ _ false _ hu hc (fun _ => rfl) (bulkOne_UpdateOne .. ▸ h)
    | updateMany f u up => exact upd _ _ _ true _ hu hc (fun _ => rfl) (bulkOne_UpdateMany .. ▸ h)
    | replaceOne f u up => exact upd _ _ _ false _ hu hc (fun _ => rfl) (bulkOne_ReplaceOne .. ▸ h)
    | deleteOne f =>
      obtain ⟨h1, rfl⟩ := del _ false _ hc (fun _ => rfl) (bulkOne_DeleteOne .. ▸ h); exact h1
    | deleteMany f =>
      obtain ⟨h1, rfl⟩ := del _ true _ hc (fun _ => rfl) (bulkOne_DeleteMany .. ▸ h); exact h1
  · rw [hx] at h; cases h
/-- once a write error was collected the bulk cannot answer a value -/
theorem bulk_errs_noval (cfg : Cfg) (now : Int) (ordered : Bool) :
    ∀ (reqs : List Val) (idx : Nat) (c : Coll) (t : BulkTotals) (c' : Coll) (out : Val),
      t.errors ≠ [] → bulkLoop cfg now ordered reqs idx c t ≠ (c', .val out) := by
  intro reqs
  induction reqs with
  | nil =>
    intro idx c t c' out hne h
    rw [bulkLoop] at h
    split at h
    · rename_i hemp
      exact hne (List.isEmpty_iff.1 hemp)
    · cases h
  | cons r rest ih =>
    intro idx c t c' out hne h
    rw [loop_cons] at h
    cases hb : bulkOne cfg now c idx r with
    | mk c2 o =>
      rw [hb] at h
      cases o with
      | ok g =>
        refine ih _ _ _ _ _ ?_ h
        rw [ok_errors (one_ok cfg now c c2 idx r g hb)]
        exact hne
      | writeErr e =>
        dsimp only at h
        split at h
        · cases h
        · exact ih _ _ _ _ _ (by simp) h
      | abort e => cases h

/-- the invariant along the one-at-a-time states -/
def AlongInv (cfg : Cfg) (now : Int) (reqs : List Val) (c : Coll) : Prop :=
  ∀ k < reqs.length, IdInv (seqOps cfg now ((reqs.take k).map asSingle) c) ∧
    GoodKeys (seqOps cfg now ((reqs.take k).map asSingle) c)

theorem bulk_loop_counts (cfg : Cfg) (now : Int) (ordered : Bool) :
    ∀ (reqs : List Val) (idx : Nat) (c : Coll) (t : BulkTotals) (c' : Coll) (out : Val) (M D : Nat),
      reqs.all plainRequest = true → bulkPrecheck reqs = .ok () → reqs.all noUpsert = true →
      AlongInv cfg now reqs c → bulkCounts cfg now reqs c = .ok (M, D) →
      bulkLoop cfg now ordered reqs idx c t = (c', .val out) →
      ∃ t' : BulkTotals, out = t'.toVal ∧ t'.nMatched = t.nMatched + M ∧
        t'.nRemoved = t.nRemoved + D ∧ t'.nInserted = t.nInserted + (reqs.filter isInsertOne).length ∧
        t'.nUpserted = t.nUpserted ∧ t'.upserted = t.upserted ∧ t'.errors = [] := by
  intro reqs
  induction reqs with
  | nil =>
    intro idx c t c' out M D _ _ _ _ hc h
    simp only [bulkCounts, Except.ok.injEq, Prod.mk.injEq] at hc
    obtain ⟨rfl, rfl⟩ := hc
    rw [bulkLoop] at h
    split at h
    · rename_i hemp
      cases h
      exact ⟨t, rfl, by simp, by simp, by simp, rfl, rfl, List.isEmpty_iff.1 hemp⟩
    · cases h
  | cons r rest ih =>
    intro idx c t c' out M D hp hv hu hinv hc h
    obtain ⟨hp1, hpr⟩ := plain_cons hp
    obtain ⟨hv1, hvr⟩ := precheck_cons hv
    rw [List.all_cons, Bool.and_eq_true] at hu
    obtain ⟨hu1, hur⟩ := hu
    obtain ⟨hi', hg'⟩ : IdInv c ∧ GoodKeys c := hinv 0 (Nat.succ_pos _)
    rw [bulkCounts] at hc
    obtain ⟨⟨a, b⟩, hc1, hc⟩ := bind_ok hc
    obtain ⟨⟨M2, D2⟩, hc2, hc⟩ := bind_ok hc
    cases hc
    rw [loop_cons] at h
    cases hb : bulkOne cfg now c idx r with
    | mk c2 o =>
      rw [hb] at h
      have hc2' : c2 = (stepColl cfg now c (asSingle r)).1 := by
        rw [← one_fst cfg now c idx hp1 hv1, hb]
      cases o with
      | ok g =>
        dsimp only at h
        have hadd := one_adds cfg now c c2 idx r g a b hi' hg' hu1 hc1 hb
        have hinv2 : AlongInv cfg now rest c2 := by
          intro k hk
          have := hinv (k + 1) (Nat.succ_lt_succ hk)
          rw [hc2']
          exact this
        rw [← hc2'] at hc2
        obtain ⟨t', e1, e2, e3, e4, e5, e6, e7⟩ := ih (idx + 1) c2 (g t) c' out M2 D2 hpr hvr hur
          hinv2 hc2 h
        obtain ⟨g1, g2, g3, g4, g5, _⟩ := hadd t
        refine ⟨t', e1, ?_, ?_, ?_, by rw [e5, g4], by rw [e6, g5], e7⟩
        · rw [e2, g1, Nat.cast_add, Int.add_assoc]
        · rw [e3, g2, Nat.cast_add, Int.add_assoc]
        · rw [e4, g3, List.filter_cons]
          split <;> (simp; try omega)
      | writeErr e =>
        exfalso
        dsimp only at h
        split at h
        · cases h
        · exact bulk_errs_noval cfg now ordered _ _ _ _ _ _ (by simp) h
      | abort e => cases h

theorem bulk_counts_eq_selection (cfg : Cfg) (now : Int) (c c' : Coll) (reqs : List Val)
    (ordered : Bool) (out : Val) (M D : Nat)
    (hp : reqs.all plainRequest = true) (hu : reqs.all noUpsert = true)
    (hinv : AlongInv cfg now reqs c)
    (hc : bulkCounts cfg now reqs c = .ok (M, D))
    (h : bulkWrite cfg now c reqs ordered = (c', .val out)) :
    ∃ t : BulkTotals, out = t.toVal ∧ t.nMatched = M ∧ t.nRemoved = D ∧
      t.nInserted = (reqs.filter isInsertOne).length ∧ t.nUpserted = 0 ∧ t.upserted = [] ∧
      t.errors = [] := by
  unfold bulkWrite at h
  cases hv : bulkPrecheck reqs with
  | error e => rw [hv] at h; cases h
  | ok x =>
    rw [hv] at h
    dsimp only at h
    split at h
    · cases h
    · obtain ⟨t, e1, e2, e3, e4, e5, e6, e7⟩ := bulk_loop_counts cfg now ordered reqs 0 c {} c' out M D
        hp hv hu hinv hc h
      exact ⟨t, e1, by simpa using e2, by simpa using e3, by simpa using e4, e5, e6, e7⟩

/-- `IdInv` and `GoodKeys` by evaluation (scalar store keys, dict-shaped documents) -/
theorem inv_check (c : Coll)
    (h : (MongoModel.Proofs.C05Ext.idInvB c && MongoModel.Proofs.C05Ext.goodCollB c) = true) :
    IdInv c ∧ GoodKeys c := by
  simp only [Bool.and_eq_true] at h
  refine ⟨(MongoModel.Proofs.C05Ext.idInvB_iff c).1 h.1, ?_⟩
  intro p hp
  have := MongoModel.Proofs.C05Ext.goodColl_of_B c h.2 p hp
  exact ⟨this.1, this.2.1⟩

/-- the invariant on every collection between the requests of a bulk issued one at a time -/
def alongB (cfg : Cfg) (now : Int) (reqs : List Val) (c : Coll) : Bool :=
  (List.range reqs.length).all (fun k =>
    MongoModel.Proofs.C05Ext.idInvB (seqOps cfg now ((reqs.take k).map asSingle) c) &&
    MongoModel.Proofs.C05Ext.goodCollB (seqOps cfg now ((reqs.take k).map asSingle) c))

theorem along_check (cfg : Cfg) (now : Int) (reqs : List Val) (c : Coll)
    (h : alongB cfg now reqs c = true) :
    ∀ k < reqs.length, IdInv (seqOps cfg now ((reqs.take k).map asSingle) c) ∧
      GoodKeys (seqOps cfg now ((reqs.take k).map asSingle) c) := by
  intro k hk
  unfold alongB at h
  rw [List.all_eq_true] at h
  exact inv_check _ (h k (List.mem_range.2 hk))

end MongoModel.Proofs.C10Ext
