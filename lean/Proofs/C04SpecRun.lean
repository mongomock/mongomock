/-
  Proofs.C04SpecRun — `eval_eq_spec`: how `eval` runs the handler of an operator of the fragment,
  family by family: the list handlers, the comparisons, `$size`, the handlers that parse their
  whole argument, a one-item argument list for a unary operator, a bare operand for a variadic one.
  What has to be known of a name (which lists of the code it is in) is settled once per family, by
  evaluation over the family's names.
-/
import Proofs.C04Basic

set_option linter.unusedSimpArgs false

namespace MongoModel.Proofs.C04
open MongoModel MongoModel.Expr MongoModel.Spec

/-! ### operand lists -/

/-- `parse_many` under `ignore_missing_keys`: missing operands read as null -/
def nulled (vs : List (Option Val)) : List Val := vs.map (·.getD .null)

theorem nulled_cons (v : Option Val) (r : List (Option Val)) :
    nulled (v :: r) = v.getD .null :: nulled r := rfl

theorem allSome_manyTrue (vs : List (Option Val)) :
    allSome (vs.map (manyItem true)) = some (nulled vs) := by
  induction vs with
  | nil => rfl
  | cons v r ih => cases v <;> simp [allSome, manyItem, ih, nulled]

theorem allSome_manyFalse_some (vs : List Val) :
    allSome ((vs.map some).map (manyItem false)) = some vs := by
  induction vs with
  | nil => rfl
  | cons v r ih =>
    simp only [List.map_cons, manyItem, allSome, ih, Option.map_some]

theorem evalList_ok (c : Ctx) (b : Bool) (xs : List Val) (vs : List (Option Val))
    (h : xs.map (eval c) = vs.map .ok) :
    evalList c b xs = .ok (allSome (vs.map (manyItem b))) := by
  induction xs generalizing vs with
  | nil => cases vs <;> simp_all [evalList, allSome]
  | cons x r ih =>
    cases vs with
    | nil => simp at h
    | cons v vs =>
      simp only [List.map_cons, List.cons.injEq] at h
      simp only [evalList, h.1, ih vs h.2, bind, Except.bind, pure, Except.pure, List.map_cons]
      cases hm : manyItem b v with
      | none => simp [allSome]
      | some w => cases ha : allSome (vs.map (manyItem b)) <;> simp [allSome, ha]

theorem evalList_one (c : Ctx) (b : Bool) (v : Val) :
    evalList c b [v] = (eval c v).bind (fun r => .ok ((manyItem b r).map ([·]))) := by
  simp only [evalList, bind, Except.bind, pure, Except.pure]
  cases eval c v with
  | error e => rfl
  | ok r => simp only; cases h : manyItem b r <;> simp [h]

/-! ### `$sum $avg $min $max $concatArrays $size`: a list is taken apart, anything else parsed whole -/

def listFormKeys : List String := ["$sum", "$avg", "$min", "$max", "$concatArrays", "$size"]

theorem listFormKeys_names : ∀ k ∈ listFormKeys,
    (modeConstKeys ++ wholeOps).contains k = false ∧
      (groupingOps.contains k || (k = "$size" || k = "$concatArrays")) = true ∧
      (k ∈ projectOps ∨ k ∈ arrayOps) ∧ variadicOps.contains k = false := by
  decide +kernel

theorem listFormKeys_mode {k : String} (hk : k ∈ listFormKeys) (v : Val) :
    mode k v = if v.isArr then .shaped else .whole := by
  obtain ⟨h1, h2, -⟩ := listFormKeys_names k hk
  rw [mode_not_whole h1, h2, Bool.true_and]
  cases v.isArr <;> rfl

theorem eval_listForm (c : Ctx) {k : String} (hk : k ∈ listFormKeys) (xs : List Val) :
    eval c (.doc [(k, .arr xs)]) = evalOp c k (.arr xs) := by
  have ⟨h1, h2, h3⟩ := classify_known (k := k) (by
    rcases (listFormKeys_names k hk).2.2.1 with h | h <;> simp [h])
  have hm : mode k (.arr xs) = .shaped := listFormKeys_mode hk _
  exact eval_shaped c k _ h1 h2 h3 (shaped_not_unary hm) (Or.inr rfl) hm

theorem eval_listForm_bare (c : Ctx) {k : String} (hk : k ∈ listFormKeys) (v : Val)
    (ha : v.isArr = false) : eval c (.doc [(k, v)]) = (eval c v).bind (applyWhole c.ign k) := by
  have ⟨h1, h2, h3⟩ := classify_known (k := k) (by
    rcases (listFormKeys_names k hk).2.2.1 with h | h <;> simp [h])
  exact eval_whole' c k v h1 h2 h3 (Or.inr ha) (Or.inl (listFormKeys_names k hk).2.2.2)
    (by rw [listFormKeys_mode hk, ha]; rfl)

/-! ### the list handlers -/

/-- the keys of the fragment whose handler takes the list of its evaluated operands, a missing one
    read as null -/
def listKeys : List String :=
  ["$add", "$multiply", "$subtract", "$divide", "$mod", "$pow", "$concat", "$arrayElemAt",
   "$strcasecmp", "$sum", "$avg", "$min", "$max", "$concatArrays"]

theorem listKeys_names : ∀ k ∈ listKeys,
    (k ∈ shapedOps ∨ k ∈ listFormKeys) ∧ listOps.contains k = true ∧
      nullOnMissing true k = true := by
  decide +kernel

/-- `{k: [x₁, …, xₙ]}` for such a key: the operands are parsed by `evalList`, then `applyList` -/
theorem eval_list (c : Ctx) {k : String} (hk : k ∈ listKeys) (xs : List Val)
    (har : arityErr k xs.length = none) :
    eval c (.doc [(k, .arr xs)]) =
      (evalList c (nullOnMissing c.ign k) xs).bind (fun r =>
        match r with
        | none => if k = "$split" then .ok (some .null) else .ok none
        | some vals => applyList k vals) := by
  obtain ⟨hs, hl, -⟩ := listKeys_names k hk
  rcases hs with hs | hs
  · rw [eval_shapedOp c hs _ (Or.inr rfl), evalOp_list c k xs har hl]; rfl
  · rw [eval_listForm c hs xs, evalOp_list c k xs har hl]; rfl

/-- under `ignore_missing_keys`: the handler on the operand values -/
theorem eval_listKey (c : Ctx) (hign : c.ign = true) (k : String) (hk : k ∈ listKeys)
    (xs : List Val) (vs : List (Option Val)) (h1 : xs.map (eval c) = vs.map .ok)
    (har : arityErr k xs.length = none) :
    eval c (.doc [(k, .arr xs)]) = applyList k (nulled vs) := by
  rw [eval_list c hk xs har, hign, (listKeys_names k hk).2.2, evalList_ok c true xs vs h1,
    allSome_manyTrue]
  rfl

/-- the operators of the fragment that take any number of operands -/
theorem arity_free (k : String)
    (hk : k ∈ ["$add", "$multiply", "$concat", "$concatArrays", "$sum", "$avg", "$min", "$max"])
    (n : Nat) : arityErr k n = none := by
  simp only [List.mem_cons, List.not_mem_nil, or_false] at hk
  rcases hk with rfl | rfl | rfl | rfl | rfl | rfl | rfl | rfl <;>
    simp [arityErr, binaryArithOps, comparisonOps]

theorem arity_two (k : String) (h1 : k ≠ "$cond") (h2 : k ≠ "$substr") : arityErr k 2 = none := by
  simp [arityErr, h1, h2]

/-! ### comparisons -/

theorem cmpKeys_names : ∀ k ∈ ["$eq", "$ne", "$gt", "$gte", "$lt", "$lte"],
    arityOps.contains k = true ∧ listOps.contains k = false ∧ comparisonOps.contains k = true ∧
      ["$cond", "$substr", "$and", "$or", "$ifNull", "$size", "$slice"].contains k = false := by
  decide +kernel

/-- how `eval` runs a comparison: both operands through `_parse_or_nothing`, then `compareOpt` -/
theorem eval_cmp (c : Ctx) (k : String) (hk : k ∈ ["$eq", "$ne", "$gt", "$gte", "$lt", "$lte"])
    (xs : List Val) (hlen : xs.length = 2) :
    eval c (.doc [(k, .arr xs)]) =
      (evalAll c xs).bind (fun rs =>
        match rs with
        | [a, b] => (compareOpt k a b).map some
        | _ => .error .other) := by
  obtain ⟨ha, hl, hc, hn⟩ := cmpKeys_names k hk
  simp only [List.contains_cons, List.contains_nil, Bool.or_false, Bool.or_eq_false_iff,
    beq_eq_false_iff_ne, ne_eq] at hn
  rw [eval_arityOp c k ha]
  simp only [evalOp, hlen, arity_two k hn.1 hn.2.1, hl, hc, hn, if_true, if_false,
    Bool.false_eq_true, bind, Except.bind]
  cases evalAll c xs <;> rfl

/-! ### `$size: [e]` -/

theorem eval_size_list (c : Ctx) (x : Val) :
    eval c (.doc [("$size", .arr [x])]) = (eval c x).bind (fun r => (sizeOp r).map some) := by
  rw [eval_listForm c (by simp [listFormKeys]), evalOp, arityErr]
  simp [binaryArithOps, comparisonOps, listOps, arithmeticOps, unaryArithOps,
    groupingOps, evalSize, bind, Except.bind]

/-! ### operators that parse their whole argument -/

/-- the operators of the rules that take one operand are among those of the code: the date parts
    by the way the lists are put together, the other ten by evaluation -/
theorem unaryOps_code (k : String) (hk : unaryOps.contains k = true) :
    wholeOps.contains k = true ∧ unaryListOps.contains k = true := by
  have h10 : ∀ k ∈ ["$abs", "$ceil", "$floor", "$trunc", "$not", "$toLower", "$toUpper", "$isArray",
      "$isNumber", "$toString"], wholeOps.contains k = true ∧ unaryListOps.contains k = true := by
    decide +kernel
  rw [unaryOps, List.contains_append, Bool.or_eq_true] at hk
  rcases hk with hk | hk
  · exact h10 k (by simpa using hk)
  · have hk : k ∈ datePartOps := by simpa using hk
    simp [wholeOps, dateOps, unaryListOps, hk]

/-- `{k: [x]}` for an operator that takes one operand -/
theorem eval_unaryKey_list (c : Ctx) (k : String) (hk : unaryOps.contains k = true) (x : Val)
    (htz : hasTzKeys x = false) :
    eval c (.doc [(k, .arr [x])]) = (eval c x).bind (applyWhole c.ign k) := by
  obtain ⟨hw, hu⟩ := unaryOps_code k hk
  obtain ⟨h1, h2, h3, -⟩ := unaryListOps_known k hu
  rw [eval_op_unary_list c k x h1 h2 h3 hu, mode_whole hw x fun _ => htz]

/-- `{k: v}` with `v` not written as a list, for the operators of the rules that take a bare
    operand as their one operand and parse it whole -/
theorem eval_wholeKey (c : Ctx) (k : String)
    (hk : unaryOps.contains k = true ∨ k = "$size" ∨ k = "$concatArrays") (v : Val)
    (ha : v.isArr = false) (htz : hasTzKeys v = false) :
    eval c (.doc [(k, v)]) = (eval c v).bind (applyWhole c.ign k) := by
  rcases hk with hk | hk
  · obtain ⟨hw, hu⟩ := unaryOps_code k hk
    obtain ⟨h1, h2, h3, hv⟩ := unaryListOps_known k hu
    exact eval_whole' c k v h1 h2 h3 (Or.inr ha) (Or.inl hv) (mode_whole hw v fun _ => htz)
  · exact eval_listForm_bare c (by rcases hk with rfl | rfl <;> simp [listFormKeys]) v ha

/-! ### a variadic operator given one operand that is not written as a list -/

/-- a bare operand of a variadic operator is a one-item argument list (it used to be rejected:
    part of finding `scalararg`) -/
theorem bare_eq_list (c : Ctx) (k : String) (hk : variadicOps.contains k = true) (v : Val)
    (ha : v.isArr = false) :
    eval c (.doc [(k, v)]) = eval c (.doc [(k, .arr [v])]) := by
  have hk' : k ∈ variadicOps := by simpa using hk
  have hs : k ∈ shapedOps := List.mem_append_right _ hk'
  have ⟨h1, h2, h3⟩ := shapedOps_known hs
  -- the left side: `applyBare`; the right side: `evalOp`
  rw [eval_op c k v h1 h2 h3, shaped_not_unary (shapedOps_mode hs v), hk, ha,
    eval_shapedOp c hs _ (Or.inr rfl)]
  simp only [Bool.false_and, Bool.false_eq_true, if_false, Bool.not_false, Bool.and_self, if_true]
  simp only [variadicOps, List.mem_cons, List.not_mem_nil, or_false] at hk'
  -- `$add $multiply $concat`: the list handler on the one operand
  have hlist (hk' : k ∈ listKeys) (har : arityErr k 1 = none)
      (hne : k ≠ "$and" ∧ k ≠ "$or" ∧ k ≠ "$setUnion" ∧ k ≠ "$split") :
      (eval c v).bind (applyBare c.ign k) = evalOp c k (.arr [v]) := by
    rw [evalOp_list c k [v] har (listKeys_names k hk').2.1, evalList_one]
    cases eval c v with
    | error e => rfl
    | ok r =>
      simp only [Except.bind, applyBare, hne.1, hne.2.1, hne.2.2.1, hne.2.2.2, decide_false,
        Bool.or_self, Bool.false_eq_true, if_false]
      cases manyItem (nullOnMissing c.ign k) r <;> rfl
  rcases hk' with rfl | rfl | rfl | rfl | rfl | rfl
  · exact hlist (by simp [listKeys]) (arity_free _ (by simp) _) (by simp)
  · rw [evalOp_and]
    simp only [evalAll, applyBare, bind, Except.bind, pure, Except.pure]
    cases eval c v <;> simp
  · exact hlist (by simp [listKeys]) (arity_free _ (by simp) _) (by simp)
  · exact hlist (by simp [listKeys]) (arity_free _ (by simp) _) (by simp)
  · rw [evalOp_or]
    simp only [evalOr, applyBare, bind, Except.bind, pure, Except.pure]
    cases eval c v with
    | error e => rfl
    | ok r => cases h : toBoolOpt r <;> simp [h]
  · rw [evalOp, arityErr]
    simp [binaryArithOps, comparisonOps, listOps, arithmeticOps, unaryArithOps, groupingOps,
      evalUnion, applyBare, bind, Except.bind, pure, Except.pure]

end MongoModel.Proofs.C04
