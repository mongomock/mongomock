/-
  Proofs.C10ExtDistinct — `distinct` reads its values from exactly the selected documents.
  `distinctColl` is three nested loops over what `find` yields (documents, candidates of the path,
  items of a candidate), named here `distinctFold`, `addCands`, `addItems`.  They flatten to one
  `addItems` over the items of the selected documents (`distinctFold_ok`), which de-duplicates
  provided every item is hashable (`addItems_ok`).
-/
import Mathlib.Data.List.Forall2
import Spec.CountsExt
import Proofs.C10

namespace MongoModel.Proofs.C10Ext
open MongoModel MongoModel.Spec
open MongoModel.Proofs.C10Lemmas MongoModel.Proofs.C09Lemmas

def addStep (acc : List Val) (x : Val) : R (List Val) :=
  if !hashableKey x then .error .typeErr else pure (if pyIn x acc then acc else acc ++ [x])

def addItems (acc : List Val) (items : List Val) : R (List Val) := items.foldlM addStep acc

def candItems (cv : Option Val) : List Val :=
  match cv with
  | none => []
  | some (.arr xs) => xs
  | some x => [x]

def addCands (acc : List Val) (cs : List (Option Val)) : R (List Val) :=
  cs.foldlM (fun acc cv =>
    match cv with
    | none => pure acc
    | some v => addItems acc (match v with | .arr xs => xs | x => [x])) acc

def distinctFold (key : String) (ms : List Val) (acc : List Val) : R (List Val) :=
  ms.foldlM (fun acc d => do
    let cs ← candsKey key d
    addCands acc cs) acc

theorem distinctColl_eq (now : Int) (c : Coll) (key : String) (filter : Val) :
    distinctColl now c key filter =
      match findColl now c filter with
      | (c1, .error e) => (c1, .error e)
      | (c1, .ok ms) => (c1, distinctFold key ms []) := rfl

theorem distinctItems_eq (key : String) (d : Val) :
    distinctItems key d = (candsKey key d).map (fun cs => cs.flatMap candItems) := by
  unfold distinctItems
  congr 1

theorem addItems_nil (acc : List Val) : addItems acc [] = .ok acc := rfl

theorem addItems_cons (acc : List Val) (x : Val) (xs : List Val) :
    addItems acc (x :: xs) = (addStep acc x).bind (fun a => addItems a xs) := by
  unfold addItems
  rw [List.foldlM_cons]
  rfl

theorem addItems_append (acc : List Val) (a b : List Val) :
    addItems acc (a ++ b) = (addItems acc a).bind (fun acc' => addItems acc' b) := by
  induction a generalizing acc with
  | nil => rfl
  | cons x xs ih =>
    rw [List.cons_append, addItems_cons, addItems_cons]
    cases addStep acc x with
    | error e => rfl
    | ok a' => exact ih a'

theorem addCands_eq (acc : List Val) (cs : List (Option Val)) :
    addCands acc cs = addItems acc (cs.flatMap candItems) := by
  induction cs generalizing acc with
  | nil => rfl
  | cons cv cs ih =>
    unfold addCands
    rw [List.foldlM_cons, List.flatMap_cons, addItems_append]
    cases cv with
    | none =>
      simp only [candItems, addItems_nil]
      exact ih acc
    | some v =>
      have hv : (match v with | .arr xs => xs | x => [x]) = candItems (some v) := by
        cases v <;> rfl
      simp only [hv, bind, Except.bind]
      cases addItems acc (candItems (some v)) with
      | error e => rfl
      | ok a' => exact ih a'

theorem distinctFold_cons (key : String) (d : Val) (ms : List Val) (acc : List Val) :
    distinctFold key (d :: ms) acc =
      (candsKey key d).bind (fun cs =>
        (addItems acc (cs.flatMap candItems)).bind (fun a => distinctFold key ms a)) := by
  unfold distinctFold
  rw [List.foldlM_cons]
  simp only [bind, Except.bind]
  cases candsKey key d with
  | error e => rfl
  | ok cs =>
    dsimp only
    rw [addCands_eq]

theorem items_ok_iff (key : String) (d : Val) (its : List Val) :
    distinctItems key d = .ok its ↔ ∃ cs, candsKey key d = .ok cs ∧ its = cs.flatMap candItems := by
  rw [distinctItems_eq]
  cases candsKey key d with
  | error e => simp [Except.map]
  | ok cs => simp [Except.map, eq_comm]

/-- the whole fold succeeds iff every document yields its items and adding them all succeeds -/
theorem distinctFold_ok (key : String) (l : List (Val × Val)) (acc vs : List Val) :
    distinctFold key (l.map (·.2)) acc = .ok vs ↔
      ∃ iss, List.Forall₂ (fun (p : Val × Val) its => distinctItems key p.2 = .ok its) l iss ∧
        addItems acc iss.flatten = .ok vs := by
  induction l generalizing acc with
  | nil =>
    constructor
    · intro h
      exact ⟨[], .nil, h⟩
    · rintro ⟨iss, hf, h⟩
      cases hf
      exact h
  | cons p l ih =>
    rw [List.map_cons, distinctFold_cons]
    constructor
    · intro h
      cases hc : candsKey key p.2 with
      | error e => rw [hc] at h; cases h
      | ok cs =>
        rw [hc] at h
        simp only [Except.bind] at h
        cases ha : addItems acc (cs.flatMap candItems) with
        | error e => rw [ha] at h; cases h
        | ok a' =>
          rw [ha] at h
          obtain ⟨iss, hf, h2⟩ := (ih a').1 h
          refine ⟨cs.flatMap candItems :: iss,
            .cons ((items_ok_iff key p.2 _).2 ⟨cs, hc, rfl⟩) hf, ?_⟩
          rw [List.flatten_cons, addItems_append, ha]
          exact h2
    · rintro ⟨iss, hf, h⟩
      cases hf with
      | @cons _ its _ iss' h1 h2 =>
        obtain ⟨cs, hc, rfl⟩ := (items_ok_iff key p.2 its).1 h1
        rw [hc]
        simp only [Except.bind]
        rw [List.flatten_cons, addItems_append] at h
        cases ha : addItems acc (cs.flatMap candItems) with
        | error e => rw [ha] at h; cases h
        | ok a' =>
          rw [ha] at h
          exact (ih a').2 ⟨iss', h2, h⟩

def dstep (acc : List Val) (x : Val) : List Val := if pyIn x acc then acc else acc ++ [x]

theorem dedupe_eq (xs : List Val) : dedupe xs = xs.foldl dstep [] := rfl

theorem addItems_ok (acc items vs : List Val) :
    addItems acc items = .ok vs ↔
      (∀ x ∈ items, hashableKey x = true) ∧ vs = items.foldl dstep acc := by
  induction items generalizing acc with
  | nil =>
    simp only [addItems_nil, Except.ok.injEq, List.not_mem_nil, false_imp_iff, implies_true,
      true_and, List.foldl_nil]
    exact eq_comm
  | cons x xs ih =>
    rw [addItems_cons]
    unfold addStep
    cases hx : hashableKey x with
    | false =>
      simp only [Bool.not_false, if_true, Except.bind]
      constructor
      · intro h; cases h
      · rintro ⟨h, _⟩
        have := h x (List.mem_cons_self ..)
        rw [hx] at this; cases this
    | true =>
      simp only [Bool.not_true, Bool.false_eq_true, if_false, pure, Except.pure, Except.bind]
      rw [ih, List.foldl_cons]
      constructor
      · rintro ⟨h1, h2⟩
        refine ⟨?_, h2⟩
        intro y hy
        rcases List.mem_cons.1 hy with rfl | hy
        · exact hx
        · exact h1 y hy
      · rintro ⟨h1, h2⟩
        exact ⟨fun y hy => h1 y (List.mem_cons_of_mem _ hy), h2⟩

theorem dfold_props (items acc : List Val) :
    (∀ x ∈ items.foldl dstep acc, x ∈ acc ∨ x ∈ items) ∧
    (∀ x ∈ acc, x ∈ items.foldl dstep acc) ∧
    (∀ x ∈ items, x ∈ items.foldl dstep acc ∨ pyIn x (items.foldl dstep acc) = true) ∧
    (acc.Pairwise (fun a b => pyEq a b = false) →
      (items.foldl dstep acc).Pairwise (fun a b => pyEq a b = false)) := by
  induction items generalizing acc with
  | nil => exact ⟨fun x hx => .inl hx, fun x hx => hx, fun x hx => absurd hx List.not_mem_nil, fun h => h⟩
  | cons y ys ih =>
    rw [List.foldl_cons]
    obtain ⟨h1, h2, h3, h4⟩ := ih (dstep acc y)
    have hsub : ∀ x ∈ acc, x ∈ dstep acc y := by
      intro x hx
      unfold dstep
      split
      · exact hx
      · exact List.mem_append_left _ hx
    refine ⟨?_, fun x hx => h2 x (hsub x hx), ?_, ?_⟩
    · intro x hx
      rcases h1 x hx with h | h
      · unfold dstep at h
        split at h
        · exact .inl h
        · rcases List.mem_append.1 h with h | h
          · exact .inl h
          · rw [List.mem_singleton] at h
            exact .inr (h ▸ List.mem_cons_self ..)
      · exact .inr (List.mem_cons_of_mem _ h)
    · intro x hx
      rcases List.mem_cons.1 hx with rfl | hx
      · by_cases hin : pyIn x acc = true
        · right
          unfold pyIn at hin ⊢
          rw [List.any_eq_true] at hin ⊢
          obtain ⟨a, ha, hax⟩ := hin
          exact ⟨a, h2 a (hsub a ha), hax⟩
        · left
          apply h2
          unfold dstep
          rw [if_neg hin]
          exact List.mem_append_right _ (List.mem_singleton.2 rfl)
      · exact h3 x hx
    · intro hp
      apply h4
      unfold dstep
      split
      · exact hp
      · rename_i hin
        rw [List.pairwise_append]
        refine ⟨hp, List.pairwise_singleton _ _, ?_⟩
        intro a ha b hb
        rw [List.mem_singleton] at hb
        subst hb
        unfold pyIn at hin
        rw [Bool.not_eq_true, List.any_eq_false] at hin
        have := hin a ha
        simpa using this

theorem distinct_on_selection (now : Int) (c c1 : Coll) (key : String) (fs : Fields)
    (sel : List (Val × Val)) (he : expire now c = .ok c1) (hne : c1.docs ≠ [])
    (hs : selectDocs (patchDT (.doc fs)) c1.docs = .ok sel) :
    (distinctColl now c key (.doc fs)).2 = distinctFold key (sel.map (·.2)) [] := by
  rw [distinctColl_eq]
  simp only [findColl]
  rw [iter_eq now c c1 _ he hne, hs]
  rfl

theorem distinct_raises_with_find (now : Int) (c : Coll) (key : String) (f : Val) (e : Err)
    (h : (findColl now c f).2 = .error e) : (distinctColl now c key f).2 = .error e := by
  rw [distinctColl_eq]
  generalize findColl now c f = r at h
  obtain ⟨c1, r⟩ := r
  cases r with
  | error e' => exact h
  | ok ms => cases h

theorem distinct_exact (now : Int) (c c1 : Coll) (key : String) (fs : Fields)
    (sel : List (Val × Val)) (vs : List Val) (he : expire now c = .ok c1) (hne : c1.docs ≠ [])
    (hs : selectDocs (patchDT (.doc fs)) c1.docs = .ok sel)
    (h : (distinctColl now c key (.doc fs)).2 = .ok vs) :
    ∃ iss, List.Forall₂ (fun (p : Val × Val) its => distinctItems key p.2 = .ok its) sel iss ∧
      (∀ x ∈ iss.flatten, hashableKey x = true) ∧ vs = dedupe iss.flatten := by
  rw [distinct_on_selection now c c1 key fs sel he hne hs, distinctFold_ok] at h
  obtain ⟨iss, hf, ha⟩ := h
  rw [addItems_ok] at ha
  exact ⟨iss, hf, ha.1, ha.2⟩

theorem forall₂_of_forall {α β} {R : α → β → Prop} (l : List α) (h : ∀ a ∈ l, ∃ b, R a b) :
    ∃ bs, List.Forall₂ R l bs := by
  induction l with
  | nil => exact ⟨[], .nil⟩
  | cons a l ih =>
    obtain ⟨b, hb⟩ := h a (List.mem_cons_self ..)
    obtain ⟨bs, hbs⟩ := ih (fun x hx => h x (List.mem_cons_of_mem _ hx))
    exact ⟨b :: bs, .cons hb hbs⟩

theorem forall₂_mem_left {α β} {R : α → β → Prop} {l : List α} {bs : List β}
    (h : List.Forall₂ R l bs) : ∀ a ∈ l, ∃ b ∈ bs, R a b := by
  induction h with
  | nil => intro a ha; cases ha
  | cons hab _ ih =>
    intro x hx
    rcases List.mem_cons.1 hx with rfl | hx
    · exact ⟨_, List.mem_cons_self .., hab⟩
    · obtain ⟨b, hb, hr⟩ := ih x hx
      exact ⟨b, List.mem_cons_of_mem _ hb, hr⟩

theorem forall₂_mem_right {α β} {R : α → β → Prop} {l : List α} {bs : List β}
    (h : List.Forall₂ R l bs) : ∀ b ∈ bs, ∃ a ∈ l, R a b := by
  induction h with
  | nil => intro a ha; cases ha
  | cons hab _ ih =>
    intro x hx
    rcases List.mem_cons.1 hx with rfl | hx
    · exact ⟨_, List.mem_cons_self .., hab⟩
    · obtain ⟨a, ha, hr⟩ := ih x hx
      exact ⟨a, List.mem_cons_of_mem _ ha, hr⟩

theorem distinct_answers_iff (now : Int) (c c1 : Coll) (key : String) (fs : Fields)
    (sel : List (Val × Val)) (he : expire now c = .ok c1) (hne : c1.docs ≠ [])
    (hs : selectDocs (patchDT (.doc fs)) c1.docs = .ok sel) :
    (∃ vs, (distinctColl now c key (.doc fs)).2 = .ok vs) ↔
      ∀ p ∈ sel, ∃ its, distinctItems key p.2 = .ok its ∧ ∀ x ∈ its, hashableKey x = true := by
  rw [distinct_on_selection now c c1 key fs sel he hne hs]
  constructor
  · rintro ⟨vs, h⟩
    rw [distinctFold_ok] at h
    obtain ⟨iss, hf, ha⟩ := h
    rw [addItems_ok] at ha
    intro p hp
    obtain ⟨its, hits, hr⟩ := forall₂_mem_left hf p hp
    exact ⟨its, hr, fun x hx => ha.1 x (List.mem_flatten.2 ⟨its, hits, hx⟩)⟩
  · intro h
    obtain ⟨iss, hf⟩ := forall₂_of_forall (R := fun (p : Val × Val) its =>
      distinctItems key p.2 = .ok its ∧ ∀ x ∈ its, hashableKey x = true) sel h
    refine ⟨iss.flatten.foldl dstep [], ?_⟩
    rw [distinctFold_ok]
    refine ⟨iss, hf.imp (fun _ _ h => h.1), ?_⟩
    rw [addItems_ok]
    refine ⟨?_, rfl⟩
    intro x hx
    obtain ⟨its, hits, hx⟩ := List.mem_flatten.1 hx
    obtain ⟨p, _, hr⟩ := forall₂_mem_right hf its hits
    exact hr.2 x hx

theorem distinct_eq_find (now : Int) (c c1 : Coll) (key : String) (fs : Fields)
    (sel : List (Val × Val)) (vs : List Val) (he : expire now c = .ok c1) (hne : c1.docs ≠ [])
    (hs : selectDocs (patchDT (.doc fs)) c1.docs = .ok sel)
    (h : (distinctColl now c key (.doc fs)).2 = .ok vs) :
    (∀ x ∈ vs, ∃ p ∈ sel, ∃ its, distinctItems key p.2 = .ok its ∧ x ∈ its) ∧
    (∀ p ∈ sel, ∃ its, distinctItems key p.2 = .ok its ∧
      ∀ x ∈ its, x ∈ vs ∨ pyIn x vs = true) ∧
    vs.Pairwise (fun a b => pyEq a b = false) := by
  obtain ⟨iss, hf, _, rfl⟩ := distinct_exact now c c1 key fs sel vs he hne hs h
  rw [dedupe_eq]
  obtain ⟨h1, _, h3, h4⟩ := dfold_props iss.flatten []
  refine ⟨?_, ?_, h4 .nil⟩
  · intro x hx
    rcases h1 x hx with h | h
    · cases h
    · obtain ⟨its, hits, hx⟩ := List.mem_flatten.1 h
      obtain ⟨p, hp, hr⟩ := forall₂_mem_right hf its hits
      exact ⟨p, hp, its, hr, hx⟩
  · intro p hp
    obtain ⟨its, hits, hr⟩ := forall₂_mem_left hf p hp
    exact ⟨its, hr, fun x hx => h3 x (List.mem_flatten.2 ⟨its, hits, hx⟩)⟩

end MongoModel.Proofs.C10Ext
