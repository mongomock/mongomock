/-
  Proofs.C14Cex — the collections on which the full statements of Props/C14.lean fail
  (`fam_delete_spec_full`, `fam_update_spec_full`, `update_one_no_match_noop_full`).
-/
import Spec.Single
import Proofs.C05
import Proofs.C01Values

namespace MongoModel.Proofs.C14Cex
open MongoModel MongoModel.Spec

/-! ### 1. a target `_id` that is not normalised (`patchDT tid ≠ tid`)

The second read of `_find_and_modify` goes through `find_one({'_id': tid})`, whose filter is
normalised (`patch_datetime_awareness_in_document`: milliseconds, naive): a stored `_id`
`datetime(…, microsecond=1500)` is not found again.  (No history should reach such a state, since
`insert` normalises the document; no theorem says so.) -/

def cB : Coll := { docs := [(.date 1500 none, .doc [("_id", .date 1500 none)])] }

theorem cB_inv : IdInv cB :=
  ⟨List.pairwise_singleton _ _, fun p hp => by
    simp only [cB, List.mem_singleton] at hp; subst hp; exact ⟨_, rfl, by decide⟩⟩

theorem cB_good : GoodKeys cB := fun p hp => by
  simp only [cB, List.mem_singleton] at hp; subst hp
  exact ⟨MongoModel.Proofs.C05.scalar_symm _ rfl, by decide⟩

/-! ### 2. an array as store key

`{_id: 5}` also matches a document whose `_id` is the array `[5]` (array membership), so the second
read / the delete / the update by `_id` hit the document stored first.  (No reachable state has an
array as store key: `storeKey` rejects lists — unhashable.)  The statements stay false when
`patchDT tid = tid` is added. -/

def cA : Coll := { docs := [(.arr [.int 5], .doc [("_id", .arr [.int 5]), ("a", .int 0)]),
                            (.int 5, .doc [("_id", .int 5), ("a", .int 1)])] }

theorem symm_arr5 : SymmVal (.arr [.int 5]) := by
  intro w
  cases w with
  | arr ys =>
    cases ys with
    | nil => rfl
    | cons y ys' =>
      have h1 : pyEq (.int 5) y = pyEq y (.int 5) :=
        MongoModel.Proofs.C05.scalar_symm (.int 5) rfl y
      show pyEqList [.int 5] (y :: ys') = pyEqList (y :: ys') [.int 5]
      cases ys' <;> simp [pyEqList, h1]
  | date u o => cases o <;> rfl
  | _ => rfl

theorem cA_inv : IdInv cA := by
  refine ⟨?_, ?_⟩
  · simp only [KeysDistinct, cA, List.pairwise_cons, List.mem_singleton, forall_eq,
      List.not_mem_nil, false_imp_iff, implies_true, List.Pairwise.nil, and_true]
    decide
  · intro p hp
    simp only [cA, List.mem_cons, List.not_mem_nil, or_false] at hp
    rcases hp with rfl | rfl
    · exact ⟨_, rfl, by decide⟩
    · exact ⟨_, rfl, by decide⟩

theorem cA_good : GoodKeys cA := by
  intro p hp
  simp only [cA, List.mem_cons, List.not_mem_nil, or_false] at hp
  rcases hp with rfl | rfl
  · exact ⟨symm_arr5, by decide⟩
  · exact ⟨MongoModel.Proofs.C05.scalar_symm _ rfl, by decide⟩

theorem cA_sel : selectDocs (patchDT (.doc [("a", .int 1)])) cA.docs =
    .ok [(.int 5, .doc [("_id", .int 5), ("a", .int 1)])] := by
  have k : (match selectDocs (patchDT (.doc [("a", .int 1)])) cA.docs with
      | .ok [p] => Val.beq p.1 (.int 5) && Val.beq p.2 (.doc [("_id", .int 5), ("a", .int 1)])
      | _ => false) = true := by decide +kernel
  generalize selectDocs (patchDT (.doc [("a", .int 1)])) cA.docs = y at k
  cases y with
  | error e => cases k
  | ok sel =>
    cases sel with
    | nil => cases k
    | cons p t =>
      cases t with
      | cons _ _ => cases k
      | nil =>
        simp only [Bool.and_eq_true] at k
        obtain ⟨a, b⟩ := p
        have h1 := MongoModel.Proofs.C01Lemmas.Val.eq_of_beq _ _ k.1
        have h2 := MongoModel.Proofs.C01Lemmas.Val.eq_of_beq _ _ k.2
        dsimp only at h1 h2
        rw [h1, h2]

theorem fam_delete_spec_false_array :
    ¬ (∀ (cfg : Cfg) (now : Int) (c c1 c' : Coll) (fs : Fields) (proj : Val)
        (sort : Option SortSpec) (sel : List (Val × Val)) (target : Val) (tid : Val)
        (ret : Option Val),
        expire now c = .ok c1 → IdInv c → GoodKeys c → c.ttlIndexes = [] →
        selectDocs (patchDT (.doc fs)) c1.docs = .ok sel →
        firstSorted sort sel = .ok (some target) → idOf target = some tid →
        isScalar tid = true → patchDT tid = tid →
        findAndModify cfg now c (.doc fs) proj none false sort false = (c', .ok ret) →
        sameExcept tid c1.docs c'.docs ∧ c'.docs.length + 1 = c1.docs.length ∧
        copyOnlyFields target proj = .ok (ret.getD .null) ∧ ret.isSome) := by
  intro H
  have k : (match findAndModify {} 0 cA (.doc [("a", .int 1)]) .null none false none false with
      | (c', .ok _) => c'.docs.all (fun p => pyEq p.1 (.int 5))
      | _ => false) = true := by decide +kernel
  generalize hx : findAndModify {} 0 cA (.doc [("a", .int 1)]) .null none false none false = x at k
  obtain ⟨c', r⟩ := x
  cases r with
  | error e => cases k
  | ok ret =>
    dsimp only at k
    have hs : selectDocs (patchDT (.doc [("a", .int 1)])) cA.docs =
        .ok [(.int 5, .doc [("_id", .int 5), ("a", .int 1)])] := cA_sel
    have := (H {} 0 cA cA c' [("a", .int 1)] .null none _ (.doc [("_id", .int 5), ("a", .int 1)])
      (.int 5) ret rfl cA_inv cA_good rfl hs rfl rfl rfl rfl hx).1.1
      (.arr [.int 5], .doc [("_id", .arr [.int 5]), ("a", .int 0)])
      (by simp [cA]) (by decide)
    have h5 := List.all_eq_true.1 k _ this
    exact absurd h5 (by decide)

/-! ### 3. `update_one_no_match_noop_full`: a call that raises before the scan

`_apply_update` raises the pre-5.0 "empty operator" WriteError before `_iter_documents` runs, so
the expiry pass never happens: the collection is returned as it was, expired documents included,
whereas the statement compares with the collection AFTER the pass. -/

def ixT : Index := { name := "t_1", keys := [("t", .int 1)], ttl := some (.int 0) }

def cC : Coll :=
  { docs := [(.int 1, .doc [("_id", .int 1), ("t", .date 0 none)]),
             (.int 2, .doc [("_id", .int 2)])],
    indexes := [ixT], ttlIndexes := [ixT] }

end MongoModel.Proofs.C14Cex
