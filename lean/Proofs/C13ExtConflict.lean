/-
  Proofs.C13ExtConflict — `_expand_dots` succeeds EXACTLY on prefix-free keys, and fails with the
  WriteError 'cannot infer query fields to set' otherwise (never with the KeyError the code could
  raise from `paths[subkey]`).  Invariant of the fold: every node of the accumulated document
  that is not at or below the path of a finished key is a sub-document the expansion created.
-/
import Proofs.C13ExtExpand

namespace MongoModel.Proofs.C13Ext
open MongoModel MongoModel.Spec MongoModel.Proofs.C13Lemmas

/-- what `expandOne` does to the node at a proper prefix `π` of the new path: the next component
    is set in the sub-document there (an absent node counts as empty) -/
theorem expandOne_node (given inter : List String) (v : Val) : ∀ (π : List String) (k : String)
    (rest pre : List String) (acc acc' : Fields),
    expandOne given inter v (π ++ k :: rest) pre acc = .ok acc' →
    ∃ x fs0, getPath π (.doc acc') = some (.doc (dset k x fs0)) ∧
      (getPath π (.doc acc) = some (.doc fs0) ∨ (getPath π (.doc acc) = none ∧ fs0 = []))
  | [], k, rest, pre, acc, acc', h => by
    have hres : ∃ x, acc' = dset k x acc := by
      cases rest with
      | nil => simp only [List.nil_append, expandOne] at h; cases h; exact ⟨_, rfl⟩
      | cons r1 rest =>
        obtain ⟨_, sub0, sub, _, _, e⟩ := expandOne_head given inter v k r1 rest pre acc acc' h
        exact ⟨_, e⟩
    obtain ⟨x, rfl⟩ := hres
    exact ⟨x, acc, rfl, Or.inl rfl⟩
  | a :: π, k, rest, pre, acc, acc', h => by
    have hshape : (a :: π) ++ k :: rest = a :: (π ++ k :: rest) := rfl
    rw [hshape] at h
    cases hπ : π ++ k :: rest with
    | nil => simp at hπ
    | cons r1 rest' =>
      rw [hπ] at h
      obtain ⟨_, sub0, sub, hcase, hs, rfl⟩ := expandOne_head given inter v a r1 rest' pre acc acc' h
      rw [← hπ] at hs
      obtain ⟨x, fs0, h1, h2⟩ := expandOne_node given inter v π k rest _ sub0 sub hs
      rcases hcase with ⟨hnone, rfl⟩ | hsome
      · have hfs0 : fs0 = [] := by
          rcases h2 with h2 | h2
          · cases π with
            | nil => simp only [getPath, Option.some.injEq, Val.doc.injEq] at h2; exact h2.symm
            | cons b π' => rw [getPath_empty_doc] at h2; cases h2
          · exact h2.2
        subst hfs0
        refine ⟨x, [], ?_, Or.inr ⟨getPath_cons_none π hnone, rfl⟩⟩
        rw [getPath_cons_some π (dget_dset_same a _ acc)]
        exact h1
      · refine ⟨x, fs0, ?_, ?_⟩
        · rw [getPath_cons_some π (dget_dset_same a _ acc)]; exact h1
        · rw [getPath_cons_some π hsome]; exact h2

/-- every node of the accumulated document that is not at or below a finished path is a
    sub-document (created by the expansion) -/
def DocInv (done : Fields) (acc : Fields) : Prop :=
  ∀ π x, getPath π (.doc acc) = some x → (∀ a ∈ done, ¬ splitDots a.1 <+: π) → ∃ fs, x = .doc fs

theorem docInv_nil : DocInv [] [] := by
  intro π x hg _
  cases π with
  | nil => simp only [getPath, Option.some.injEq] at hg; subst hg; exact ⟨[], rfl⟩
  | cons a t => rw [getPath_empty_doc] at hg; cases hg

theorem docInv_step (done acc acc' : Fields) (kv : String × Val) (given inter pre : List String)
    (hex : expandOne given inter kv.2 (splitDots kv.1) pre acc = .ok acc')
    (hI : DocInv done acc) : DocInv (done ++ [kv]) acc' := by
  intro π x hg hnp
  have hnp' : ¬ splitDots kv.1 <+: π := hnp kv (by simp)
  have hdone : ∀ a ∈ done, ¬ splitDots a.1 <+: π := fun a ha => hnp a (by simp [ha])
  by_cases hpre : π <+: splitDots kv.1
  · obtain ⟨t, ht⟩ := hpre
    cases t with
    | nil => rw [List.append_nil] at ht; exact absurd (ht ▸ List.prefix_refl _) hnp'
    | cons k rest =>
      rw [← ht] at hex
      obtain ⟨x', fs0, h1, _⟩ := expandOne_node given inter kv.2 π k rest pre acc acc' hex
      rw [h1] at hg
      cases hg
      exact ⟨_, rfl⟩
  · rw [expandOne_frame given inter kv.2 _ _ _ _ π hex ⟨hnp', hpre⟩] at hg
    exact hI π x hg hdone

/-- the walk either succeeds or raises the WriteError, and it raises only at a stated key -/
theorem expandOne_cases (given inter : List String) (v : Val) : ∀ (p pre : List String) (acc : Fields),
    (∀ i, 0 < i → i < p.length → ∀ x, getPath (p.take i) (.doc acc) = some x →
      (∃ fs, x = .doc fs) ∨
      ∃ j, 0 < j ∧ j ≤ i ∧ given.contains (joinDots (pre ++ p.take j)) = true) →
    (∃ acc', expandOne given inter v p pre acc = .ok acc') ∨
    (expandOne given inter v p pre acc = .error .writeErr ∧
      ∃ i, 0 < i ∧ i < p.length ∧ given.contains (joinDots (pre ++ p.take i)) = true)
  | [], _, _, _ => Or.inl ⟨_, rfl⟩
  | [last], _, _, _ => Or.inl ⟨_, rfl⟩
  | part :: r1 :: rest, pre, acc, H => by
    have hlen : 1 < (part :: r1 :: rest).length := by simp
    by_cases hg : given.contains (joinDots (pre ++ [part])) = true
    · right
      refine ⟨?_, 1, by omega, hlen, by simpa using hg⟩
      simp only [expandOne]
      split
      · rw [if_pos hg]
      · rw [if_pos hg]
      · simp only [hg, Bool.true_or, if_true]
    · have hg' : given.contains (joinDots (pre ++ [part])) = false := by simpa using hg
      -- the recursive call on the node below `part`
      have key : ∀ sub0 : Fields,
          (dget part acc = none ∧ sub0 = [] ∨ dget part acc = some (.doc sub0)) →
          (∃ acc', expandOne given inter v (part :: r1 :: rest) pre acc = .ok acc') ∨
          (expandOne given inter v (part :: r1 :: rest) pre acc = .error .writeErr ∧
            ∃ i, 0 < i ∧ i < (part :: r1 :: rest).length ∧
              given.contains (joinDots (pre ++ (part :: r1 :: rest).take i)) = true) := by
        intro sub0 hcase
        have H' : ∀ i, 0 < i → i < (r1 :: rest).length → ∀ x,
            getPath ((r1 :: rest).take i) (.doc sub0) = some x →
            (∃ fs, x = .doc fs) ∨
            ∃ j, 0 < j ∧ j ≤ i ∧ given.contains (joinDots ((pre ++ [part]) ++ (r1 :: rest).take j)) = true := by
          intro i h0 hi x hx
          rcases hcase with ⟨hnone, rfl⟩ | hsome
          · cases i with
            | zero => omega
            | succ i' => rw [List.take_succ_cons, getPath_empty_doc] at hx; cases hx
          · have hx' : getPath ((part :: r1 :: rest).take (i + 1)) (.doc acc) = some x := by
              rw [List.take_succ_cons, getPath_cons_some _ hsome]; exact hx
            rcases H (i + 1) (by omega) (by simp only [List.length_cons] at hi ⊢; omega) x hx' with h | ⟨j, hj0, hji, hjg⟩
            · exact Or.inl h
            · cases j with
              | zero => omega
              | succ j' =>
                cases j' with
                | zero =>
                  simp only [List.take_succ_cons, List.take_zero] at hjg
                  rw [hg'] at hjg; cases hjg
                | succ j'' =>
                  refine Or.inr ⟨j'' + 1, by omega, by omega, ?_⟩
                  simpa [List.take_succ_cons, List.append_assoc] using hjg
        have hunf : expandOne given inter v (part :: r1 :: rest) pre acc =
            (expandOne given inter v (r1 :: rest) (pre ++ [part]) sub0).bind
              (fun sub => .ok (dset part (.doc sub) acc)) := by
          simp only [expandOne]
          rcases hcase with ⟨hnone, rfl⟩ | hsome
          · simp only [hnone, hg', Bool.false_eq_true, if_false]; rfl
          · simp only [hsome, hg', Bool.false_eq_true, if_false]; rfl
        rcases expandOne_cases given inter v (r1 :: rest) (pre ++ [part]) sub0 H' with ⟨sub, hs⟩ | ⟨he, i, hi0, hil, hig⟩
        · left; rw [hunf, hs]; exact ⟨_, rfl⟩
        · right
          refine ⟨by rw [hunf, he]; rfl, i + 1, by omega, by simp only [List.length_cons] at hil ⊢; omega, ?_⟩
          simpa [List.take_succ_cons, List.append_assoc] using hig
      cases hd : dget part acc with
      | none => exact key [] (Or.inl ⟨hd, rfl⟩)
      | some x =>
        by_cases hdoc : ∃ sub0, x = Val.doc sub0
        · obtain ⟨sub0, rfl⟩ := hdoc
          exact key sub0 (Or.inr hd)
        · exfalso
          have hx : getPath ((part :: r1 :: rest).take 1) (.doc acc) = some x := by
            simp only [List.take_succ_cons, List.take_zero, getPath, hd]
          rcases H 1 (by omega) hlen x hx with ⟨fs, hfs⟩ | ⟨j, hj0, hj1, hjg⟩
          · exact hdoc ⟨fs, hfs⟩
          · have : j = 1 := by omega
            subst this
            simp only [List.take_succ_cons, List.take_zero] at hjg
            rw [hg'] at hjg; cases hjg

/-- the hypothesis of `expandOne_cases` from the invariant of the fold -/
theorem walk_hyp (done acc : Fields) (kv : String × Val) (hI : DocInv done acc) :
    ∀ i, 0 < i → i < (splitDots kv.1).length → ∀ x,
      getPath ((splitDots kv.1).take i) (.doc acc) = some x →
      (∃ fs, x = .doc fs) ∨
      ∃ j, 0 < j ∧ j ≤ i ∧
        (dkeys done ++ [kv.1]).contains (joinDots ([] ++ (splitDots kv.1).take j)) = true := by
  intro i h0 hi x hx
  by_cases hall : ∀ a ∈ done, ¬ splitDots a.1 <+: (splitDots kv.1).take i
  · exact Or.inl (hI _ x hx hall)
  · right
    have : ∃ a ∈ done, splitDots a.1 <+: (splitDots kv.1).take i := by
      apply Classical.byContradiction
      intro hne
      exact hall (fun a ha hp => hne ⟨a, ha, hp⟩)
    obtain ⟨a, ha, hp⟩ := this
    have hpos : 0 < (splitDots a.1).length := List.length_pos_iff.2 (splitDots_ne_nil a.1)
    have hle : (splitDots a.1).length ≤ i := by
      have := hp.length_le
      simp only [List.length_take] at this
      omega
    refine ⟨(splitDots a.1).length, hpos, hle, ?_⟩
    have htake : (splitDots kv.1).take (splitDots a.1).length = splitDots a.1 := by
      obtain ⟨t, ht⟩ := hp
      have h2 : (splitDots a.1) <+: splitDots kv.1 := ⟨t ++ (splitDots kv.1).drop i, by
        rw [← List.append_assoc, ht, List.take_append_drop]⟩
      exact (List.prefix_iff_eq_take.1 h2).symm
    rw [List.nil_append, htake, joinDots_splitDots]
    have : a.1 ∈ dkeys done := List.mem_map.2 ⟨a, ha, rfl⟩
    simp [this]

/-- one step: it succeeds when the new key is incomparable with the finished ones, and fails with
    the WriteError otherwise -/
theorem edStep_cases (done : Fields) (st : Fields × List String × List String) (kv : String × Val)
    (hg : st.2.1 = dkeys done) (hi : st.2.2 = recorded done) (hI : DocInv done st.1) :
    ((∃ st1, edStep st kv = .ok st1) ∨ edStep st kv = .error .writeErr) ∧
    ((∀ a ∈ done, Incomp (splitDots a.1) (splitDots kv.1)) → ∃ st1, edStep st kv = .ok st1) := by
  have hcases := expandOne_cases (st.2.1 ++ [kv.1]) st.2.2 kv.2 (splitDots kv.1) [] st.1
    (by rw [hg]; exact walk_hyp done st.1 kv hI)
  have hunf : ∀ (h1 : st.2.1.contains kv.1 = false) (h2 : st.2.2.contains kv.1 = false),
      edStep st kv = (expandOne (st.2.1 ++ [kv.1]) st.2.2 kv.2 (splitDots kv.1) [] st.1).map
        (fun acc' => (acc', st.2.1 ++ [kv.1], st.2.2 ++ properPrefixes (splitDots kv.1))) := by
    intro h1 h2
    unfold edStep
    simp only [h1, h2, Bool.or_self, Bool.false_eq_true, if_false]
  constructor
  · by_cases h1 : st.2.1.contains kv.1 = true
    · right; unfold edStep; simp only [h1, Bool.true_or, if_true]
    · by_cases h2 : st.2.2.contains kv.1 = true
      · right; unfold edStep; simp only [h2, Bool.or_true, if_true]
      · rw [hunf (by simpa using h1) (by simpa using h2)]
        rcases hcases with ⟨acc', ha⟩ | ⟨he, _⟩
        · left; rw [ha]; exact ⟨_, rfl⟩
        · right; rw [he]; rfl
  · intro hinc
    have h1 : st.2.1.contains kv.1 = false := by
      rw [hg]
      apply Bool.eq_false_iff.2
      intro hc
      have hm : kv.1 ∈ dkeys done := by simpa using hc
      obtain ⟨a, ha, e⟩ := List.mem_map.1 hm
      exact (hinc a ha).1 (by rw [e]; exact List.prefix_refl _)
    have h2 : st.2.2.contains kv.1 = false := by
      rw [hi]
      apply Bool.eq_false_iff.2
      intro hc
      have hm : kv.1 ∈ recorded done := by simpa using hc
      simp only [recorded, List.mem_flatMap] at hm
      obtain ⟨a, ha, hmem⟩ := hm
      obtain ⟨i, h0, hil, e⟩ := mem_properPrefixes.1 hmem
      have : splitDots kv.1 = (splitDots a.1).take i := by rw [e, splitDots_join_take a.1 i h0]
      exact (hinc a ha).2 (by rw [this]; exact List.take_prefix _ _)
    rw [hunf h1 h2]
    rcases hcases with ⟨acc', ha⟩ | ⟨_, i, h0, hil, hig⟩
    · rw [ha]; exact ⟨_, rfl⟩
    · exfalso
      rw [List.nil_append] at hig
      have hm : joinDots ((splitDots kv.1).take i) ∈ st.2.1 ++ [kv.1] := by simpa using hig
      rcases List.mem_append.1 hm with hm | hm
      · rw [hg] at hm
        obtain ⟨a, ha, e⟩ := List.mem_map.1 hm
        have : splitDots a.1 = (splitDots kv.1).take i := by rw [e, splitDots_join_take kv.1 i h0]
        exact (hinc a ha).1 (by rw [this]; exact List.take_prefix _ _)
      · simp only [List.mem_singleton] at hm
        have := congrArg (fun k => (splitDots k).length) hm
        simp only [splitDots_join_take kv.1 i h0, List.length_take] at this
        omega

theorem fold_cases : ∀ (ss done : Fields) (st : Fields × List String × List String),
    st.2.1 = dkeys done → st.2.2 = recorded done → DocInv done st.1 →
    ((∃ st', ss.foldlM edStep st = .ok st') ∨ ss.foldlM edStep st = .error .writeErr) ∧
    (ss.Pairwise (fun a b => Incomp (splitDots a.1) (splitDots b.1)) →
      (∀ a ∈ done, ∀ b ∈ ss, Incomp (splitDots a.1) (splitDots b.1)) →
      ∃ st', ss.foldlM edStep st = .ok st')
  | [], done, st, _, _, _ => ⟨Or.inl ⟨st, rfl⟩, fun _ _ => ⟨st, rfl⟩⟩
  | kv :: ss, done, st, hg, hi, hI => by
    obtain ⟨hc1, hc2⟩ := edStep_cases done st kv hg hi hI
    have hnext : ∀ st1, edStep st kv = .ok st1 →
        ((∃ st', (kv :: ss).foldlM edStep st = .ok st') ∨ (kv :: ss).foldlM edStep st = .error .writeErr) ∧
        (ss.Pairwise (fun a b => Incomp (splitDots a.1) (splitDots b.1)) →
          (∀ a ∈ done ++ [kv], ∀ b ∈ ss, Incomp (splitDots a.1) (splitDots b.1)) →
          ∃ st', (kv :: ss).foldlM edStep st = .ok st') := by
      intro st1 h1
      obtain ⟨_, hg1, hi1⟩ := edStep_incomp done st st1 kv hg hi h1
      obtain ⟨_, _, hex, _, _⟩ := edStep_ok st st1 kv h1
      have hI1 := docInv_step done st.1 st1.1 kv _ _ [] hex hI
      obtain ⟨r1, r2⟩ := fold_cases ss (done ++ [kv]) st1 hg1 hi1 hI1
      rw [List.foldlM_cons, h1]
      exact ⟨r1, r2⟩
    constructor
    · rcases hc1 with ⟨st1, h1⟩ | he
      · exact (hnext st1 h1).1
      · right; rw [List.foldlM_cons, he]; rfl
    · intro hp hc
      obtain ⟨hp1, hp2⟩ := List.pairwise_cons.1 hp
      obtain ⟨st1, h1⟩ := hc2 (fun a ha => hc a ha kv (List.mem_cons_self ..))
      refine (hnext st1 h1).2 hp2 ?_
      intro a ha b hb
      rcases List.mem_append.1 ha with ha | ha
      · exact hc a ha b (List.mem_cons_of_mem _ hb)
      · simp only [List.mem_singleton] at ha; subst ha; exact hp1 b hb

/-- `_expand_dots` succeeds exactly on prefix-free keys -/
theorem expand_ok_iff (ss : Fields) : (∃ ex, expandDots ss = .ok ex) ↔ prefixFree ss := by
  constructor
  · rintro ⟨ex, h⟩; exact expand_ok_prefixFree ss ex h
  · intro hp
    obtain ⟨st', h⟩ := (fold_cases ss [] ([], [], []) rfl rfl docInv_nil).2 hp (by simp)
    exact ⟨st'.1, by rw [expandDots_eq, h]; rfl⟩

/-- on keys that are not prefix-free `_expand_dots` raises the WriteError 'cannot infer query
    fields to set' -/
theorem expand_conflict (ss : Fields) (hp : ¬ prefixFree ss) : expandDots ss = .error .writeErr := by
  rcases (fold_cases ss [] ([], [], []) rfl rfl docInv_nil).1 with ⟨st', h⟩ | h
  · exact absurd (expand_ok_prefixFree ss st'.1 (by rw [expandDots_eq, h]; rfl)) hp
  · rw [expandDots_eq, h]; rfl

end MongoModel.Proofs.C13Ext
