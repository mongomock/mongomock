/-
  Proofs.C14Update — `applyUpdateColl … multi = false` on a collection without TTL indexes:
  the first selected entry is rewritten in place, or nothing happens.
-/
import Proofs.C14Base

namespace MongoModel.Proofs.C14Lemmas
open MongoModel MongoModel.Spec
open MongoModel.Proofs.C10Lemmas MongoModel.Proofs.C09Lemmas

/-- what the rewrite of an entry guarantees about the `_id` (the two branches of the loop) -/
def IdKept (cur new : Val) : Prop :=
  pyEq new cur = true ∨ pyEqOpt (idOf cur) (idOf new) = true

/-- the single-document loop over a snapshot whose first selected entry is `q` -/
theorem loop_first (now : Int) (spec document nowV : Val) :
    ∀ (l : List (Val × Val)) (c : Coll) (m u : Nat) (q : Val × Val) (more : List (Val × Val)),
      c.ttlIndexes = [] → DK l → LInv now [] l c → selectDocs spec l = .ok (q :: more) →
      (∃ e, updateLoop now spec document nowV false l c m u = (c, .error e)) ∨
      ∃ new u', updateLoop now spec document nowV false l c m u =
          (c.setDoc q.1 new, .ok (m + 1, u')) ∧ IdKept q.2 new ∧
          applyUpdate spec document nowV false q.2 = .ok new := by
  intro l
  induction l with
  | nil => intro c m u q more _ _ _ hs; cases hs
  | cons kv rest ih =>
    intro c m u q more hn hd hinv hs
    have hl := hinv.lookup
    have hd' : DK rest := (List.pairwise_cons.1 hd).2
    obtain ⟨b, more', hb, hm, hsel⟩ := select_cons spec kv rest _ hs
    obtain ⟨key, v⟩ := kv
    have hb' : filterApplies spec v = .ok b := hb
    have hl' : c.lookup key = some v := hl
    rw [Shape.updateLoop_cons]
    cases b with
    | false =>
      simp only [Bool.false_eq_true, if_false] at hsel
      subst hsel
      rw [Shape.visit_skip (fun cur h => by rw [hl'] at h; cases h; exact hb')]
      exact ih c m u q more hn hd' hinv.tail hm
    | true =>
      simp only [if_true, List.cons.injEq] at hsel
      obtain ⟨rfl, _⟩ := hsel
      cases hv : Shape.visit now spec document nowV key c with
      | error e => left; exact ⟨e, rfl⟩
      | ok o =>
        cases o with
        | none =>
          rcases Shape.visit_none hv with h0 | ⟨cur, h0, hf⟩
          · rw [hl'] at h0; cases h0
          · rw [hl'] at h0; cases h0; rw [hb'] at hf; cases hf
        | some r =>
          obtain ⟨c2, ch⟩ := r
          obtain ⟨cur, new, h0, _, ha, hu, hk⟩ := Shape.visit_some hv
          rw [hl'] at h0; cases h0
          have h2 : c2 = c.setDoc key new :=
            C05Lemmas.ensureUniques_noTtl now _ new c2 (by rw [setDoc_ttl]; exact hn) hu
          subst h2
          right
          exact ⟨new, _, rfl, hk, ha⟩

theorem pre_nil (now : Int) (c : Coll) (spec : Val) (hn : c.ttlIndexes = []) (hne : c.docs ≠ []) :
    (do
      let c1 ← expire now c
      if c1.docs.isEmpty then
        let _ ← filterApplies spec (.doc [])
      expire now c1) = Except.ok c :=
  MongoModel.Proofs.C10.pre_eq now c c spec (expire_nil now c hn) hne

theorem select_ne_nil {f : Val} {l : List (Val × Val)} {q : Val × Val} {more : List (Val × Val)}
    (h : selectDocs f l = .ok (q :: more)) : l ≠ [] := by
  intro e; subst e; cases h

/-- a first selected entry exists: it is rewritten in place (and nothing is upserted), or the
    call fails and leaves the collection as it was -/
theorem update_one_core (cfg : Cfg) (now : Int) (c c' : Coll) (fs : Fields) (u : Val)
    (upsert : Bool) (q : Val × Val) (more : List (Val × Val)) (r : R UpdateResult)
    (hn : c.ttlIndexes = []) (hd : DK c.docs) (hg : GK c.docs)
    (hs : selectDocs (patchDT (.doc fs)) c.docs = .ok (q :: more))
    (h : applyUpdateColl cfg now c (.doc fs) u upsert false = (c', r)) :
    (c' = c ∧ ∃ e, r = .error e) ∨
    ∃ new res spec document nowV, c' = c.setDoc q.1 new ∧ r = .ok res ∧ res.upserted = none ∧
      IdKept q.2 new ∧ applyUpdate spec document nowV false q.2 = .ok new := by
  have hne := select_ne_nil hs
  unfold applyUpdateColl at h
  extract_lets spec document nowV at h
  have hspec : spec = .doc (patchFields fs) := C18.patchDT_doc fs
  have hs' : selectDocs spec c.docs = .ok (q :: more) := hs
  clear_value spec document nowV
  subst hspec
  rw [pre_nil now c _ hn hne] at h
  split at h
  · rename_i _ _ ss dfs hss
    split at h
    · cases h; exact Or.inl ⟨rfl, _, rfl⟩
    · dsimp only at h
      have hinv := linv_nil now c hn hd hg c.docs (fun _ hp => hp)
      rcases loop_first now (Val.doc (patchFields fs)) (Val.doc dfs) nowV c.docs c 0 0 q more
        hn hd hinv hs' with ⟨e, hl⟩ | ⟨new, u', hl, hk, ha⟩
      · rw [hl] at h
        cases h; exact Or.inl ⟨rfl, _, rfl⟩
      · rw [hl] at h
        simp only [Nat.zero_add, Nat.zero_lt_one, gt_iff_lt, decide_true,
          Bool.or_true, if_true] at h
        cases h
        exact Or.inr ⟨new, _, _, _, _, rfl, rfl, rfl, hk, ha⟩
  · cases h; exact Or.inl ⟨rfl, _, rfl⟩

theorem hasKey_of_mem {c : Coll} {q : Val × Val} (hg : GK c.docs) (hq : q ∈ c.docs) :
    c.hasKey q.1 = true := by
  unfold Coll.hasKey
  rw [List.any_eq_true]
  exact ⟨q, hq, (hg q hq).2⟩

/-- rewriting the entries stored under `k` changes nothing outside `tid` when every key `==` to
    `k` is `==` to `tid` -/
theorem sameExcept_map (k tid new : Val) (l : List (Val × Val))
    (hk : ∀ p ∈ l, pyEq p.1 k = true → pyEq p.1 tid = true) :
    sameExcept tid l (l.map (setEntry k new)) := by
  have key : ∀ p ∈ l, pyEq p.1 tid = false → setEntry k new p = p := by
    intro p hp hf
    unfold setEntry
    cases hx : pyEq p.1 k with
    | false => rfl
    | true => rw [hk p hp hx] at hf; cases hf
  constructor
  · intro p hp hf
    exact List.mem_map.2 ⟨p, hp, key p hp hf⟩
  · intro p' hp' hf
    obtain ⟨p, hp, rfl⟩ := List.mem_map.1 hp'
    rw [setEntry_fst] at hf
    rw [key p hp hf]; exact hp

theorem sameExcept_refl (k : Val) (l : List (Val × Val)) : sameExcept k l l :=
  ⟨fun _ hp _ => hp, fun _ hp _ => hp⟩

end MongoModel.Proofs.C14Lemmas
