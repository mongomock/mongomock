/-
  C19 (a) — the reference protocol, ANY number of threads: an inductive invariant of the
  protocol machine relating the two counters and the five locks to the positions of the threads
  (`MutexInv`), proved preserved by every action of every thread; exclusion, release-on-raise,
  no failing release and deadlock-freedom are corollaries.

  Each clause of the invariant speaks of one lock or counter and of the number of threads whose
  position class lies in one or two sets (`Counts`).  An instruction touches one lock or counter;
  the clauses about the others survive because the step does not move the thread into or out of
  their sets (`blind`), which is checked by evaluation on the two classes.
-/
import Proofs.C19Lift
namespace MongoModel.RWLock

/-- the positions of the reference protocol (release after a raise = normal release) -/
inductive K
  | out | ra0 | ra1 | ra2 | ra3 | ra4 | ra5 | ra6 | ra7 | rb | rr0 | rr1 | rr2 | rr3
  | wa0 | wa1 | wa2 | wa3 | wa4 | wb | wr0 | wr1 | wr2 | wr3 | wr4 | bad
  deriving DecidableEq, Repr

def kOf : Phase → K
  | .out => .out
  | .acq false 0 => .ra0 | .acq false 1 => .ra1 | .acq false 2 => .ra2 | .acq false 3 => .ra3
  | .acq false 4 => .ra4 | .acq false 5 => .ra5 | .acq false 6 => .ra6 | .acq false 7 => .ra7
  | .body false => .rb
  | .rel false _ 0 => .rr0 | .rel false _ 1 => .rr1 | .rel false _ 2 => .rr2
  | .rel false _ 3 => .rr3
  | .acq true 0 => .wa0 | .acq true 1 => .wa1 | .acq true 2 => .wa2 | .acq true 3 => .wa3
  | .acq true 4 => .wa4
  | .body true => .wb
  | .rel true _ 0 => .wr0 | .rel true _ 1 => .wr1 | .rel true _ 2 => .wr2 | .rel true _ 3 => .wr3
  | .rel true _ 4 => .wr4
  | _ => .bad

/-- number of threads at positions of class `k` -/
def cnt (pos : List Phase) (k : K) : Nat := pos.countP fun p => kOf p == k

/-- two different threads at positions of classes in a set: the set's count is at least 2 -/
theorem cnt_two {pos : List Phase} {t u : Nat} {p q : Phase} (ht : pos[t]? = some p)
    (hu : pos[u]? = some q) (hne : t ≠ u) (f : K → Bool) (hp : f (kOf p) = true)
    (hq : f (kOf q) = true) : 2 ≤ pos.countP (fun x => f (kOf x)) :=
  countP_two (fun x => f (kOf x)) pos t u p q ht hu hne hp hq

/-- `S` counts the threads whose class satisfies `f` -/
def Counts (S : List Phase → Nat) (f : K → Bool) : Prop :=
  ∀ pos, S pos = pos.countP fun p => f (kOf p)

theorem cnt_counts (k : K) : Counts (cnt · k) (· == k) := fun _ => rfl

section
variable {S : List Phase → Nat} {f g : K → Bool} {pos : List Phase} {t : Nat} {p p' : Phase}

theorem Counts.congr (hS : Counts S f) (h : ∀ k, f k = g k) : Counts S g :=
  funext h ▸ hS

theorem Counts.add (hS : Counts S f) (k : K) (hk : f k = false) :
    Counts (fun pos => S pos + cnt pos k) fun x => f x || x == k := by
  intro pos
  simp only [hS pos, cnt]
  induction pos with
  | nil => rfl
  | cons p ps ih =>
    simp only [List.countP_cons, ← ih]
    by_cases h : kOf p = k
    · simp [h, hk]; omega
    · simp [h]; omega

/-- the effect of thread `t` moving from `p` to `p'` -/
theorem Counts.set (hS : Counts S f) (hp : pos[t]? = some p) (p' : Phase) :
    S (pos.set t p') + (f (kOf p)).toNat = S pos + (f (kOf p')).toNat := by
  obtain ⟨ht, rfl⟩ := List.getElem?_eq_some_iff.1 hp
  have h1 : (if f (kOf pos[t]) = true then 1 else 0) ≤ pos.countP fun p => f (kOf p) :=
    List.boole_getElem_le_countP (p := fun p => f (kOf p)) ht
  rw [hS, hS, List.countP_set ht]
  revert h1
  cases f (kOf pos[t]) <;> cases f (kOf p') <;>
    simp only [Bool.toNat_true, Bool.toNat_false, if_true, if_false, Bool.false_eq_true] <;> omega

theorem Counts.same (hS : Counts S f) (hp : pos[t]? = some p) (h : f (kOf p) = f (kOf p')) :
    S (pos.set t p') = S pos := by
  have := hS.set hp p'; rw [h] at this; omega

theorem Counts.inc (hS : Counts S f) (hp : pos[t]? = some p) (h : f (kOf p) = false)
    (h' : f (kOf p') = true) : S (pos.set t p') = S pos + 1 := by
  have := hS.set hp p'; rw [h, h'] at this; exact this

theorem Counts.dec (hS : Counts S f) (hp : pos[t]? = some p) (h : f (kOf p) = true)
    (h' : f (kOf p') = false) : S (pos.set t p') + 1 = S pos := by
  have := hS.set hp p'; rw [h, h'] at this; exact this

theorem Counts.one_le (hS : Counts S f) (hp : pos[t]? = some p) (h : f (kOf p) = true) :
    1 ≤ S pos :=
  hS pos ▸ List.countP_pos_iff.2 ⟨p, List.mem_of_getElem? hp, h⟩

theorem Counts.exists (hS : Counts S f) (h : 1 ≤ S pos) :
    ∃ (t : Nat) (p : Phase), pos[t]? = some p ∧ f (kOf p) = true := by
  obtain ⟨q, hq, hf⟩ := List.countP_pos_iff.1 (hS pos ▸ h)
  obtain ⟨u, hu, rfl⟩ := List.getElem_of_mem hq
  exact ⟨u, _, List.getElem?_eq_getElem hu, hf⟩

theorem Counts.all_out (hS : Counts S f) (hf : f .out = false)
    (h : pos.all (· == .out) = true) : S pos = 0 := by
  rw [hS, List.countP_eq_zero]
  intro p hp
  simp only [List.all_eq_true, beq_iff_eq] at h
  rw [h p hp]; simp [kOf, hf]

end

theorem lock_setLock_self {lk : Locks} (h : lk.locks.length = 5) (l : LockId) (x : LockSt) :
    (lk.setLock l x).lock l = x := by
  have : l.idx < lk.locks.length := by rw [h]; cases l <;> decide
  simp [Locks.setLock, Locks.lock, this]

theorem lock_setLock_ne {l l' : LockId} (lk : Locks) (x : LockSt) (h : l ≠ l') :
    (lk.setLock l x).lock l' = lk.lock l' := by
  have : l.idx ≠ l'.idx := by cases l <;> cases l' <;> first | exact absurd rfl h | decide
  simp [Locks.setLock, Locks.lock, List.getElem?_set_ne this]

theorem setLock_len (lk : Locks) (l : LockId) (x : LockSt) :
    (lk.setLock l x).locks.length = lk.locks.length := by simp [Locks.setLock]

theorem setLock_rc (lk : Locks) (l : LockId) (x : LockSt) : (lk.setLock l x).rc = lk.rc := rfl
theorem setLock_wc (lk : Locks) (l : LockId) (x : LockSt) : (lk.setLock l x).wc = lk.wc := rfl

theorem setCtr_lock (lk : Locks) (c : Ctr) (v : Int) (l : LockId) :
    (lk.setCtr c v).lock l = lk.lock l := by cases c <;> rfl

/-- an `acquire` by a thread that does not own the lock already goes through iff the lock is
    free -/
theorem acqRes_eq {re : List Bool} {lk : Locks} {t : Nat} {l : LockId}
    (h : isReentrant re l = true → (lk.lock l).owner = t + 1 → (lk.lock l).count = 0) :
    acqRes re lk t l = if (lk.lock l).count = 0
      then .ok (lk.setLock l ⟨if isReentrant re l then t + 1 else 0, 1⟩) else .blocked := by
  unfold acqRes acquire
  by_cases hc : (lk.lock l).count = 0
  · cases isReentrant re l <;> simp [hc]
  · cases hr : isReentrant re l
    · simp [hc]
    · have : ¬ (lk.lock l).owner = t + 1 := fun ho => hc (h hr ho)
      simp [hc, this]

/-- `l` is held exactly once by thread `t` (or is a held plain lock) -/
def HeldBy (re : List Bool) (lk : Locks) (t : Nat) (l : LockId) : Prop :=
  (isReentrant re l = true ∧ lk.lock l = ⟨t + 1, 1⟩) ∨
  (isReentrant re l = false ∧ (lk.lock l).count ≠ 0)

theorem relRes_eq {re : List Bool} {lk : Locks} {t : Nat} {l : LockId} (h : HeldBy re lk t l) :
    relRes re lk t l = .ok (lk.setLock l {}) := by
  unfold relRes release
  rcases h with ⟨hr, hl⟩ | ⟨hr, hc⟩
  · simp [hr, hl]
  · simp [hr, hc]

theorem rel_ok {re : List Bool} {lk lk' : Locks} {t : Nat} {l : LockId}
    (h : protoOp re lk t (.rel l) = some (.ok lk')) : release re lk t l = some lk' := by
  simp only [protoOp, relRes, Option.some.injEq] at h
  split at h <;> simp at h
  subst h; assumption

theorem rel_error {re : List Bool} {lk : Locks} {t : Nat} {l : LockId}
    (h : protoOp re lk t (.rel l) = some .error) : release re lk t l = none := by
  simp only [protoOp, relRes, Option.some.injEq] at h
  split at h <;> simp at h
  assumption

abbrev lRq := LockId.readersQueue
abbrev lNr := LockId.noReaders
abbrev lNw := LockId.noWriters
abbrev lRm := LockId.readMutex
abbrev lWm := LockId.writeMutex

/-- threads holding `readers_queue`, the read-switch mutex, the write-switch mutex -/
def sRq (pos : List Phase) : Nat :=
  cnt pos .ra1 + cnt pos .ra2 + cnt pos .ra3 + cnt pos .ra4 + cnt pos .ra5 + cnt pos .ra6
    + cnt pos .ra7
def sRm (pos : List Phase) : Nat :=
  cnt pos .ra3 + cnt pos .ra4 + cnt pos .ra5 + cnt pos .rr1 + cnt pos .rr2 + cnt pos .rr3
def sWm (pos : List Phase) : Nat :=
  cnt pos .wa1 + cnt pos .wa2 + cnt pos .wa3 + cnt pos .wr2 + cnt pos .wr3 + cnt pos .wr4
/-- threads counted by the read / write counter -/
def sRc (pos : List Phase) : Nat :=
  cnt pos .ra4 + cnt pos .ra5 + cnt pos .ra6 + cnt pos .ra7 + cnt pos .rb + cnt pos .rr0
    + cnt pos .rr1
def sWc (pos : List Phase) : Nat :=
  cnt pos .wa2 + cnt pos .wa3 + cnt pos .wa4 + cnt pos .wb + cnt pos .wr0 + cnt pos .wr1
    + cnt pos .wr2
/-- `no_writers`: held by a writer in its section, or by the group of readers past the switch -/
def sWnw (pos : List Phase) : Nat := cnt pos .wb + cnt pos .wr0
def sRp (pos : List Phase) : Nat :=
  cnt pos .ra5 + cnt pos .ra6 + cnt pos .ra7 + cnt pos .rb + cnt pos .rr0 + cnt pos .rr1
    + cnt pos .rr2
/-- `no_readers`: held by a reader in its entry section, or by the group of writers -/
def sRnr (pos : List Phase) : Nat :=
  cnt pos .ra2 + cnt pos .ra3 + cnt pos .ra4 + cnt pos .ra5 + cnt pos .ra6
def sWp (pos : List Phase) : Nat :=
  cnt pos .wa3 + cnt pos .wa4 + cnt pos .wb + cnt pos .wr0 + cnt pos .wr1 + cnt pos .wr2
    + cnt pos .wr3

def holdsRq : K → Bool
  | .ra1 | .ra2 | .ra3 | .ra4 | .ra5 | .ra6 | .ra7 => true
  | _ => false
def holdsRm : K → Bool
  | .ra3 | .ra4 | .ra5 | .rr1 | .rr2 | .rr3 => true
  | _ => false
def holdsWm : K → Bool
  | .wa1 | .wa2 | .wa3 | .wr2 | .wr3 | .wr4 => true
  | _ => false

/-- `mutex_inv`: counters and lock holders are determined by the positions of the threads -/
structure MutexInv (s : PState) : Prop where
  len : s.lk.locks.length = 5
  valid : cnt s.pos .bad = 0
  rq_le : sRq s.pos ≤ 1
  rq_free : sRq s.pos = 0 → s.lk.lock lRq = ⟨0, 0⟩
  rq_own : ∀ t p, s.pos[t]? = some p → holdsRq (kOf p) = true → s.lk.lock lRq = ⟨t + 1, 1⟩
  rm_le : sRm s.pos ≤ 1
  rm_free : sRm s.pos = 0 → s.lk.lock lRm = ⟨0, 0⟩
  rm_own : ∀ t p, s.pos[t]? = some p → holdsRm (kOf p) = true → s.lk.lock lRm = ⟨t + 1, 1⟩
  wm_le : sWm s.pos ≤ 1
  wm_free : sWm s.pos = 0 → s.lk.lock lWm = ⟨0, 0⟩
  wm_own : ∀ t p, s.pos[t]? = some p → holdsWm (kOf p) = true → s.lk.lock lWm = ⟨t + 1, 1⟩
  rc : s.lk.rc = Int.ofNat (sRc s.pos)
  wc : s.lk.wc = Int.ofNat (sWc s.pos)
  nw_le : sWnw s.pos + min 1 (sRp s.pos) ≤ 1
  nw : s.lk.lock lNw = ⟨0, sWnw s.pos + min 1 (sRp s.pos)⟩
  nr_le : sRnr s.pos + min 1 (sWp s.pos) ≤ 1
  nr : s.lk.lock lNr = ⟨0, sRnr s.pos + min 1 (sWp s.pos)⟩

/-! Each of the nine sums counts the threads whose class lies in a set: the sets of the three
    mutexes are `holdsRq`, `holdsRm`, `holdsWm`, those of the other six follow.  A move of one
    thread is followed through the sets (`Counts.set`); the sums are what `omega` sees where
    clauses are played against each other class by class (`read_switch`, `inv_exclusion`,
    `inv_no_deadlock`), which needs the individual `cnt pos k`. -/

def inRc : K → Bool
  | .ra4 | .ra5 | .ra6 | .ra7 | .rb | .rr0 | .rr1 => true
  | _ => false
def inWc : K → Bool
  | .wa2 | .wa3 | .wa4 | .wb | .wr0 | .wr1 | .wr2 => true
  | _ => false
def inWnw : K → Bool
  | .wb | .wr0 => true
  | _ => false
def inRp : K → Bool
  | .ra5 | .ra6 | .ra7 | .rb | .rr0 | .rr1 | .rr2 => true
  | _ => false
def inRnr : K → Bool
  | .ra2 | .ra3 | .ra4 | .ra5 | .ra6 => true
  | _ => false
def inWp : K → Bool
  | .wa3 | .wa4 | .wb | .wr0 | .wr1 | .wr2 | .wr3 => true
  | _ => false

theorem sRq_counts : Counts sRq holdsRq :=
  (cnt_counts .ra1 |>.add .ra2 rfl |>.add .ra3 rfl |>.add .ra4 rfl |>.add .ra5 rfl
    |>.add .ra6 rfl |>.add .ra7 rfl).congr fun k => by cases k <;> rfl
theorem sRm_counts : Counts sRm holdsRm :=
  (cnt_counts .ra3 |>.add .ra4 rfl |>.add .ra5 rfl |>.add .rr1 rfl |>.add .rr2 rfl
    |>.add .rr3 rfl).congr fun k => by cases k <;> rfl
theorem sWm_counts : Counts sWm holdsWm :=
  (cnt_counts .wa1 |>.add .wa2 rfl |>.add .wa3 rfl |>.add .wr2 rfl |>.add .wr3 rfl
    |>.add .wr4 rfl).congr fun k => by cases k <;> rfl
theorem sRc_counts : Counts sRc inRc :=
  (cnt_counts .ra4 |>.add .ra5 rfl |>.add .ra6 rfl |>.add .ra7 rfl |>.add .rb rfl
    |>.add .rr0 rfl |>.add .rr1 rfl).congr fun k => by cases k <;> rfl
theorem sWc_counts : Counts sWc inWc :=
  (cnt_counts .wa2 |>.add .wa3 rfl |>.add .wa4 rfl |>.add .wb rfl |>.add .wr0 rfl
    |>.add .wr1 rfl |>.add .wr2 rfl).congr fun k => by cases k <;> rfl
theorem sWnw_counts : Counts sWnw inWnw :=
  (cnt_counts .wb |>.add .wr0 rfl).congr fun k => by cases k <;> rfl
theorem sRp_counts : Counts sRp inRp :=
  (cnt_counts .ra5 |>.add .ra6 rfl |>.add .ra7 rfl |>.add .rb rfl |>.add .rr0 rfl
    |>.add .rr1 rfl |>.add .rr2 rfl).congr fun k => by cases k <;> rfl
theorem sRnr_counts : Counts sRnr inRnr :=
  (cnt_counts .ra2 |>.add .ra3 rfl |>.add .ra4 rfl |>.add .ra5 rfl |>.add .ra6 rfl).congr
    fun k => by cases k <;> rfl
theorem sWp_counts : Counts sWp inWp :=
  (cnt_counts .wa3 |>.add .wa4 rfl |>.add .wb rfl |>.add .wr0 rfl |>.add .wr1 rfl
    |>.add .wr2 rfl |>.add .wr3 rfl).congr fun k => by cases k <;> rfl

/-- instantiate the count-update equation `h : ∀ k, cnt pos' k + [kOf p = k] = cnt pos k +
    [kOf p' = k]` at every class and evaluate the brackets -/
macro "inst_cnt" h:ident : tactic => `(tactic| (
  have c_out := $h K.out; have c_ra0 := $h K.ra0; have c_ra1 := $h K.ra1
  have c_ra2 := $h K.ra2; have c_ra3 := $h K.ra3; have c_ra4 := $h K.ra4
  have c_ra5 := $h K.ra5; have c_ra6 := $h K.ra6; have c_ra7 := $h K.ra7
  have c_rb := $h K.rb; have c_rr0 := $h K.rr0; have c_rr1 := $h K.rr1
  have c_rr2 := $h K.rr2; have c_rr3 := $h K.rr3; have c_wa0 := $h K.wa0
  have c_wa1 := $h K.wa1; have c_wa2 := $h K.wa2; have c_wa3 := $h K.wa3
  have c_wa4 := $h K.wa4; have c_wb := $h K.wb; have c_wr0 := $h K.wr0
  have c_wr1 := $h K.wr1; have c_wr2 := $h K.wr2; have c_wr3 := $h K.wr3
  have c_wr4 := $h K.wr4; have c_bad := $h K.bad
  simp only [kOf, reduceCtorEq, if_true, if_false, Nat.add_zero] at c_out c_ra0 c_ra1 c_ra2 c_ra3 c_ra4 c_ra5 c_ra6 c_ra7 c_rb c_rr0 c_rr1 c_rr2 c_rr3 c_wa0 c_wa1 c_wa2 c_wa3 c_wa4 c_wb c_wr0 c_wr1 c_wr2 c_wr3 c_wr4 c_bad))

section
variable {S A B : List Phase → Nat} {f a b : K → Bool} {x x' : LockSt} {pos : List Phase}
  {t : Nat} {p p' : Phase} {v : Int}

/-- a mutex in state `x` is held by the thread whose class satisfies `f`, if there is one -/
structure Held (S : List Phase → Nat) (f : K → Bool) (x : LockSt) (pos : List Phase) : Prop where
  counts : Counts S f
  le : S pos ≤ 1
  free : S pos = 0 → x = ⟨0, 0⟩
  own : ∀ t p, pos[t]? = some p → f (kOf p) = true → x = ⟨t + 1, 1⟩

theorem Held.count (h : Held S f x pos) : x.count = S pos := by
  rcases Nat.eq_zero_or_pos (S pos) with h0 | h1
  · rw [h.free h0, h0]
  · obtain ⟨u, q, hu, hq⟩ := h.counts.exists h1
    rw [h.own u q hu hq]; exact Nat.le_antisymm h1 h.le

/-- a thread at a class outside `f` does not own the mutex -/
theorem Held.not_mine (h : Held S f x pos) (hp : pos[t]? = some p) (hf : f (kOf p) = false) :
    x.owner = t + 1 → x.count = 0 := by
  intro ho
  rcases Nat.eq_zero_or_pos (S pos) with h0 | h1
  · rw [h.free h0]
  · obtain ⟨u, q, hu, hq⟩ := h.counts.exists h1
    rw [h.own u q hu hq] at ho
    obtain rfl : u = t := by simpa using ho
    rw [hu] at hp
    cases hp; rw [hq] at hf; cases hf

theorem own_set (old : ∀ u q, pos[u]? = some q → f (kOf q) = true → x = ⟨u + 1, 1⟩)
    (hnew : f (kOf p') = true → x' = ⟨t + 1, 1⟩)
    (hkeep : ∀ u, u ≠ t → x = ⟨u + 1, 1⟩ → x' = ⟨u + 1, 1⟩) :
    ∀ u q, (pos.set t p')[u]? = some q → f (kOf q) = true → x' = ⟨u + 1, 1⟩ := by
  intro u q hq hh
  rw [List.getElem?_set] at hq
  split at hq
  · subst t
    split at hq
    · cases hq; exact hnew hh
    · cases hq
  · exact hkeep u (Ne.symm ‹_›) (old u q hq hh)

theorem Held.same (h : Held S f x pos) (hp : pos[t]? = some p) (hf : f (kOf p) = f (kOf p'))
    (hx : x' = x) : Held S f x' (pos.set t p') := by
  subst hx
  refine ⟨h.counts, ?_, ?_, own_set h.own (fun h' => h.own t p hp (hf ▸ h')) fun _ _ e => e⟩
  · rw [h.counts.same hp hf]; exact h.le
  · rw [h.counts.same hp hf]; exact h.free

theorem Held.acquire (h : Held S f x pos) (hp : pos[t]? = some p) (hf : f (kOf p) = false)
    (hf' : f (kOf p') = true) (h0 : x.count = 0) : Held S f ⟨t + 1, 1⟩ (pos.set t p') := by
  have hS := h.counts.inc hp hf hf'
  rw [h.count] at h0
  refine ⟨h.counts, by omega, fun h => by omega, own_set h.own (fun _ => rfl) fun u _ hu => ?_⟩
  rw [h.free h0] at hu; cases hu

theorem Held.release (h : Held S f x pos) (hp : pos[t]? = some p) (hf : f (kOf p) = true)
    (hf' : f (kOf p') = false) : Held S f ⟨0, 0⟩ (pos.set t p') := by
  have hS := h.counts.dec hp hf hf'
  have hle := h.le
  refine ⟨h.counts, by omega, fun _ => rfl, own_set h.own (fun h' => ?_) fun u hut hu => ?_⟩
  · rw [hf'] at h'; cases h'
  · rw [h.own t p hp hf] at hu
    cases hu; exact absurd rfl hut

/-- a plain lock in state `x` is held by a thread at a class in `a`, or on behalf of the group of
    threads at classes in `b` -/
structure SharedLock (A : List Phase → Nat) (a : K → Bool) (B : List Phase → Nat) (b : K → Bool)
    (x : LockSt) (pos : List Phase) : Prop where
  countsA : Counts A a
  countsB : Counts B b
  le : A pos + min 1 (B pos) ≤ 1
  eq : x = ⟨0, A pos + min 1 (B pos)⟩

theorem SharedLock.same (h : SharedLock A a B b x pos) (hp : pos[t]? = some p)
    (ha : a (kOf p) = a (kOf p')) (hb : b (kOf p) = b (kOf p')) (hx : x' = x) :
    SharedLock A a B b x' (pos.set t p') := by
  subst hx
  refine ⟨h.countsA, h.countsB, ?_, ?_⟩
  · rw [h.countsA.same hp ha, h.countsB.same hp hb]; exact h.le
  · rw [h.countsA.same hp ha, h.countsB.same hp hb]; exact h.eq

theorem SharedLock.held (h : SharedLock A a B b x pos) (hp : pos[t]? = some p)
    (hab : (a (kOf p) || b (kOf p)) = true) : x.count ≠ 0 := by
  rw [h.eq]
  rcases Bool.or_eq_true_iff.1 hab with hk | hk
  · have := h.countsA.one_le hp hk; show A pos + min 1 (B pos) ≠ 0; omega
  · have := h.countsB.one_le hp hk; show A pos + min 1 (B pos) ≠ 0; omega

/-- the moving thread takes the free lock, for itself or as the first of its group -/
theorem SharedLock.acquire (h : SharedLock A a B b x pos) (hp : pos[t]? = some p)
    (hk : (a (kOf p')).toNat + (b (kOf p')).toNat = (a (kOf p)).toNat + (b (kOf p)).toNat + 1)
    (h0 : x.count = 0) : SharedLock A a B b ⟨0, 1⟩ (pos.set t p') := by
  have hA := h.countsA.set hp p'
  have hB := h.countsB.set hp p'
  rw [h.eq] at h0
  have h0 : A pos + min 1 (B pos) = 0 := h0
  have : A (pos.set t p') + min 1 (B (pos.set t p')) = 1 := by omega
  exact ⟨h.countsA, h.countsB, by omega, by rw [this]⟩

/-- the moving thread gives back the lock it holds for itself -/
theorem SharedLock.release (h : SharedLock A a B b x pos) (hp : pos[t]? = some p)
    (ha : a (kOf p) = true) (ha' : a (kOf p') = false) (hb : b (kOf p) = b (kOf p')) :
    SharedLock A a B b ⟨0, 0⟩ (pos.set t p') := by
  have hA := h.countsA.dec hp ha ha'
  have hB := h.countsB.same hp hb
  have hle := h.le
  have : A (pos.set t p') + min 1 (B (pos.set t p')) = 0 := by omega
  exact ⟨h.countsA, h.countsB, by omega, by rw [this]⟩

/-- a thread joins or leaves a group that has other members -/
theorem SharedLock.pass (h : SharedLock A a B b x pos) (hp : pos[t]? = some p)
    (ha : a (kOf p) = a (kOf p')) (hB : 1 ≤ B pos) (hB' : 1 ≤ B (pos.set t p')) :
    SharedLock A a B b x (pos.set t p') := by
  have hA := h.countsA.same hp ha
  have : A (pos.set t p') + min 1 (B (pos.set t p')) = A pos + min 1 (B pos) := by omega
  exact ⟨h.countsA, h.countsB, this ▸ h.le, this ▸ h.eq⟩

/-- `if counter == 1: lock.acquire()`, the counter `v` counting the group and the thread itself:
    the branch not taken -/
theorem SharedLock.join (h : SharedLock A a B b x pos) (hp : pos[t]? = some p)
    (ha : a (kOf p) = a (kOf p')) (hb : b (kOf p) = false) (hb' : b (kOf p') = true) {C : Nat}
    (hv : v = Int.ofNat C) (hC : C = B pos + 1) (h1 : v ≠ 1) :
    SharedLock A a B b x (pos.set t p') := by
  have := h.countsB.inc hp hb hb'
  subst hv
  exact h.pass hp ha (by simp only [Int.ofNat_eq_natCast] at h1; omega) (by omega)

/-- `if counter == 0: lock.release()`, the counter `v` counting the group without the thread
    itself: the branch not taken -/
theorem SharedLock.leave (h : SharedLock A a B b x pos) (hp : pos[t]? = some p)
    (ha : a (kOf p) = a (kOf p')) (hb : b (kOf p) = true) (hb' : b (kOf p') = false) {C : Nat}
    (hv : v = Int.ofNat C) (hC : B pos = C + 1) (h0 : v ≠ 0) :
    SharedLock A a B b x (pos.set t p') := by
  have := h.countsB.dec hp hb hb'
  subst hv
  exact h.pass hp ha (by omega) (by simp only [Int.ofNat_eq_natCast] at h0; omega)

/-- the same, the branch taken: the last of the group gives back the group's lock -/
theorem SharedLock.leave_last (h : SharedLock A a B b x pos) (hp : pos[t]? = some p)
    (ha : a (kOf p) = a (kOf p')) (hb : b (kOf p) = true) (hb' : b (kOf p') = false) {C : Nat}
    (hv : v = Int.ofNat C) (hC : B pos = C + 1) (h0 : v = 0) :
    SharedLock A a B b ⟨0, 0⟩ (pos.set t p') := by
  have hA := h.countsA.same hp ha
  have hB := h.countsB.dec hp hb hb'
  have hle := h.le
  subst hv
  simp only [Int.ofNat_eq_natCast] at h0
  have : A (pos.set t p') + min 1 (B (pos.set t p')) = 0 := by omega
  exact ⟨h.countsA, h.countsB, by omega, by rw [this]⟩

theorem ctr_same (hS : Counts S f) (hp : pos[t]? = some p) (hf : f (kOf p) = f (kOf p'))
    (h : v = Int.ofNat (S pos)) : v = Int.ofNat (S (pos.set t p')) := by
  rw [hS.same hp hf]; exact h

theorem ctr_inc (hS : Counts S f) (hp : pos[t]? = some p) (hf : f (kOf p) = false)
    (hf' : f (kOf p') = true) (h : v = Int.ofNat (S pos)) :
    v + 1 = Int.ofNat (S (pos.set t p')) := by
  rw [hS.inc hp hf hf', h]; rfl

theorem ctr_dec (hS : Counts S f) (hp : pos[t]? = some p) (hf : f (kOf p) = true)
    (hf' : f (kOf p') = false) (h : v = Int.ofNat (S pos)) :
    v - 1 = Int.ofNat (S (pos.set t p')) := by
  rw [h, ← hS.dec hp hf hf']; simp

end

section
variable {s : PState}

theorem MutexInv.heldRq (h : MutexInv s) : Held sRq holdsRq (s.lk.lock lRq) s.pos :=
  ⟨sRq_counts, h.rq_le, h.rq_free, h.rq_own⟩
theorem MutexInv.heldRm (h : MutexInv s) : Held sRm holdsRm (s.lk.lock lRm) s.pos :=
  ⟨sRm_counts, h.rm_le, h.rm_free, h.rm_own⟩
theorem MutexInv.heldWm (h : MutexInv s) : Held sWm holdsWm (s.lk.lock lWm) s.pos :=
  ⟨sWm_counts, h.wm_le, h.wm_free, h.wm_own⟩
theorem MutexInv.sharedNw (h : MutexInv s) :
    SharedLock sWnw inWnw sRp inRp (s.lk.lock lNw) s.pos := ⟨sWnw_counts, sRp_counts, h.nw_le, h.nw⟩
theorem MutexInv.sharedNr (h : MutexInv s) :
    SharedLock sRnr inRnr sWp inWp (s.lk.lock lNr) s.pos := ⟨sRnr_counts, sWp_counts, h.nr_le, h.nr⟩

theorem MutexInv.of_clauses {lk : Locks} {pos : List Phase} (len : lk.locks.length = 5)
    (valid : cnt pos .bad = 0) (rq : Held sRq holdsRq (lk.lock lRq) pos)
    (rm : Held sRm holdsRm (lk.lock lRm) pos) (wm : Held sWm holdsWm (lk.lock lWm) pos)
    (rc : lk.rc = Int.ofNat (sRc pos)) (wc : lk.wc = Int.ofNat (sWc pos))
    (nw : SharedLock sWnw inWnw sRp inRp (lk.lock lNw) pos)
    (nr : SharedLock sRnr inRnr sWp inWp (lk.lock lNr) pos) : MutexInv ⟨lk, pos⟩ :=
  ⟨len, valid, rq.le, rq.free, rq.own, rm.le, rm.free, rm.own, wm.le, wm.free, wm.own, rc, wc,
    nw.le, nw.eq, nr.le, nr.eq⟩

end

/-- the invariant's clause about lock `l` in state `x` -/
def Clause : LockId → LockSt → List Phase → Prop
  | .readersQueue => Held sRq holdsRq
  | .readMutex => Held sRm holdsRm
  | .writeMutex => Held sWm holdsWm
  | .noWriters => SharedLock sWnw inWnw sRp inRp
  | .noReaders => SharedLock sRnr inRnr sWp inWp

/-- the class sets of the clause about `l` do not tell `k` from `k'` -/
def blind : LockId → K → K → Bool
  | .readersQueue, k, k' => holdsRq k == holdsRq k'
  | .readMutex, k, k' => holdsRm k == holdsRm k'
  | .writeMutex, k, k' => holdsWm k == holdsWm k'
  | .noWriters, k, k' => inWnw k == inWnw k' && inRp k == inRp k'
  | .noReaders, k, k' => inRnr k == inRnr k' && inWp k == inWp k'

def allLocks (q : LockId → Bool) : Bool := q lNr && q lNw && q lRq && q lRm && q lWm

theorem allLocks_spec {q : LockId → Bool} (h : allLocks q = true) (l : LockId) : q l = true := by
  simp only [allLocks, Bool.and_eq_true] at h
  obtain ⟨⟨⟨⟨h1, h2⟩, h3⟩, h4⟩, h5⟩ := h
  cases l <;> assumption

/-- nor do those of the clauses about the other locks and about malformed positions -/
def blindLocks (l? : Option LockId) (k k' : K) : Bool :=
  allLocks (fun l => some l == l? || blind l k k') && (k == .bad) == (k' == .bad)

section
variable {s : PState} {t : Nat} {p p' : Phase}

theorem Clause.same {l : LockId} {x x' : LockSt} {pos : List Phase} (h : Clause l x pos)
    (hp : pos[t]? = some p) (hb : blind l (kOf p) (kOf p') = true) (hx : x' = x) :
    Clause l x' (pos.set t p') := by
  cases l <;> simp only [blind, Bool.and_eq_true, beq_iff_eq] at hb
  · exact SharedLock.same h hp hb.1 hb.2 hx
  · exact SharedLock.same h hp hb.1 hb.2 hx
  · exact Held.same h hp hb hx
  · exact Held.same h hp hb hx
  · exact Held.same h hp hb hx

theorem MutexInv.clause (h : MutexInv s) : ∀ l, Clause l (s.lk.lock l) s.pos
  | .readersQueue => h.heldRq
  | .readMutex => h.heldRm
  | .writeMutex => h.heldWm
  | .noWriters => h.sharedNw
  | .noReaders => h.sharedNr

/-- thread `t` moves from `p` to `p'` and sets lock `l` to `x`: the clause about `l` is proved
    afresh, the others survive if their class sets are blind to the move -/
theorem MutexInv.setLock (hinv : MutexInv s) (hp : s.pos[t]? = some p) (l : LockId) {x : LockSt}
    (hl : Clause l x (s.pos.set t p'))
    (hb : (blindLocks (some l) (kOf p) (kOf p') && inRc (kOf p) == inRc (kOf p') &&
      inWc (kOf p) == inWc (kOf p')) = true) :
    MutexInv ⟨s.lk.setLock l x, s.pos.set t p'⟩ := by
  simp only [blindLocks, Bool.and_eq_true, beq_iff_eq] at hb
  obtain ⟨⟨⟨hb, hbad⟩, hrc⟩, hwc⟩ := hb
  have hcl : ∀ l', Clause l' ((s.lk.setLock l x).lock l') (s.pos.set t p') := by
    intro l'
    by_cases e : l = l'
    · rw [← e, lock_setLock_self hinv.len]; exact hl
    · have := allLocks_spec hb l'
      simp only [Bool.or_eq_true, beq_iff_eq, Option.some.injEq, Ne.symm e, false_or] at this
      exact (hinv.clause l').same hp this (lock_setLock_ne _ _ e)
  exact .of_clauses ((setLock_len ..).trans hinv.len)
    (((cnt_counts .bad).same hp hbad).trans hinv.valid) (hcl lRq) (hcl lRm) (hcl lWm)
    (ctr_same sRc_counts hp hrc hinv.rc) (ctr_same sWc_counts hp hwc hinv.wc) (hcl lNw) (hcl lNr)

theorem setLock_lock (lk : Locks) (l : LockId) : lk.setLock l (lk.lock l) = lk := by
  cases lk with | mk xs rc wc =>
  simp only [Locks.setLock, Locks.lock, Locks.mk.injEq, and_true]
  by_cases h : l.idx < xs.length
  · simp [List.getD_eq_getElem?_getD, h]
  · simp [List.set_eq_of_length_le (Nat.le_of_not_lt h)]

/-- the same for a step that leaves the locks as they are -/
theorem MutexInv.keep (hinv : MutexInv s) (hp : s.pos[t]? = some p) (l : LockId)
    (hl : Clause l (s.lk.lock l) (s.pos.set t p'))
    (hb : (blindLocks (some l) (kOf p) (kOf p') && inRc (kOf p) == inRc (kOf p') &&
      inWc (kOf p) == inWc (kOf p')) = true) : MutexInv ⟨s.lk, s.pos.set t p'⟩ :=
  setLock_lock s.lk l ▸ hinv.setLock hp l hl hb

/-- the step sets a counter -/
theorem MutexInv.setCtr (hinv : MutexInv s) (hp : s.pos[t]? = some p) (c : Ctr) (v : Int)
    (hb : blindLocks none (kOf p) (kOf p') = true)
    (hrc : (s.lk.setCtr c v).rc = Int.ofNat (sRc (s.pos.set t p')))
    (hwc : (s.lk.setCtr c v).wc = Int.ofNat (sWc (s.pos.set t p'))) :
    MutexInv ⟨s.lk.setCtr c v, s.pos.set t p'⟩ := by
  simp only [blindLocks, Bool.and_eq_true, beq_iff_eq] at hb
  have hcl := fun l => (hinv.clause l).same hp (allLocks_spec hb.1 l) (setCtr_lock s.lk c v l)
  exact .of_clauses ((setCtr_len ..).trans hinv.len)
    (((cnt_counts .bad).same hp hb.2).trans hinv.valid) (hcl lRq) (hcl lRm) (hcl lWm) hrc hwc
    (hcl lNw) (hcl lNr)

end

/-- the reference protocol as a table: position, instruction, next position -/
theorem instr_cases {motive : Phase → Instr → Phase → Prop}
    (ra0 : motive (.acq false 0) (.acq lRq) (.acq false 1))
    (ra1 : motive (.acq false 1) (.acq lNr) (.acq false 2))
    (ra2 : motive (.acq false 2) (.acq lRm) (.acq false 3))
    (ra3 : motive (.acq false 3) (.inc .readCtr) (.acq false 4))
    (ra4 : motive (.acq false 4) (.acqIf .readCtr 1 lNw) (.acq false 5))
    (ra5 : motive (.acq false 5) (.rel lRm) (.acq false 6))
    (ra6 : motive (.acq false 6) (.rel lNr) (.acq false 7))
    (ra7 : motive (.acq false 7) (.rel lRq) (.body false))
    (rr0 : ∀ r, motive (.rel false r 0) (.acq lRm) (.rel false r 1))
    (rr1 : ∀ r, motive (.rel false r 1) (.dec .readCtr) (.rel false r 2))
    (rr2 : ∀ r, motive (.rel false r 2) (.relIf .readCtr 0 lNw) (.rel false r 3))
    (rr3 : ∀ r, motive (.rel false r 3) (.rel lRm) .out)
    (wa0 : motive (.acq true 0) (.acq lWm) (.acq true 1))
    (wa1 : motive (.acq true 1) (.inc .writeCtr) (.acq true 2))
    (wa2 : motive (.acq true 2) (.acqIf .writeCtr 1 lNr) (.acq true 3))
    (wa3 : motive (.acq true 3) (.rel lWm) (.acq true 4))
    (wa4 : motive (.acq true 4) (.acq lNw) (.body true))
    (wr0 : ∀ r, motive (.rel true r 0) (.rel lNw) (.rel true r 1))
    (wr1 : ∀ r, motive (.rel true r 1) (.acq lWm) (.rel true r 2))
    (wr2 : ∀ r, motive (.rel true r 2) (.dec .writeCtr) (.rel true r 3))
    (wr3 : ∀ r, motive (.rel true r 3) (.relIf .writeCtr 0 lNr) (.rel true r 4))
    (wr4 : ∀ r, motive (.rel true r 4) (.rel lWm) .out)
    {p : Phase} {ins : Instr} (hi : instrAt referenceProtocol p = some ins) :
    motive p ins (nextPos referenceProtocol p) := by
  cases p with
  | out => cases hi
  | body w => cases hi
  | acq w j =>
    cases w
    · rcases j with _ | _ | _ | _ | _ | _ | _ | _ | _ <;> cases hi <;> assumption
    · rcases j with _ | _ | _ | _ | _ | _ <;> cases hi <;> assumption
  | rel w r j =>
    cases w
    · rcases j with _ | _ | _ | _ | _ <;> cases r <;> cases hi <;> apply_assumption
    · rcases j with _ | _ | _ | _ | _ | _ <;> cases r <;> cases hi <;> apply_assumption

/-- a position without an instruction is outside, inside a section body, or malformed -/
theorem instr_none {p : Phase} (hi : instrAt referenceProtocol p = none) :
    p = .out ∨ (∃ w, p = .body w) ∨ kOf p = .bad := by
  cases p with
  | out => exact .inl rfl
  | body w => exact .inr (.inl ⟨w, rfl⟩)
  | acq w j =>
    obtain ⟨j, rfl⟩ := Nat.exists_eq_add_of_le' (List.getElem?_eq_none_iff.1 hi)
    cases w <;> exact .inr (.inr rfl)
  | rel w r j =>
    obtain ⟨j, rfl⟩ := Nat.exists_eq_add_of_le' (List.getElem?_eq_none_iff.1 hi)
    cases w <;> cases r <;> exact .inr (.inr rfl)

/-- thread `t` does not own the lock that `ins` acquires, and holds the one it releases -/
def Fits (re : List Bool) (lk : Locks) (t : Nat) : Instr → Prop
  | .acq l | .acqIf _ _ l =>
    isReentrant re l = true → (lk.lock l).owner = t + 1 → (lk.lock l).count = 0
  | .rel l | .relIf _ _ l => HeldBy re lk t l
  | _ => True

section
variable {re : List Bool} {lk lk' : Locks} {t : Nat} {l : LockId} {c : Ctr} {k : Int}

theorem Fits.no_error {ins : Instr} (h : Fits re lk t ins) :
    protoOp re lk t ins ≠ some .error := by
  cases ins <;> simp only [protoOp, ne_eq, Option.some.injEq, reduceCtorEq, not_false_eq_true]
  case acq l => rw [acqRes_eq h]; split <;> nofun
  case rel l => rw [relRes_eq h]; nofun
  case acqIf c k l => rw [acqRes_eq h]; split <;> (try split) <;> nofun
  case relIf c k l => rw [relRes_eq h]; split <;> nofun

theorem Fits.acq_ok (h : Fits re lk t (.acq l)) (ho : protoOp re lk t (.acq l) = some (.ok lk')) :
    (lk.lock l).count = 0 ∧ lk' = lk.setLock l ⟨if isReentrant re l then t + 1 else 0, 1⟩ := by
  simp only [protoOp, acqRes_eq h, Option.some.injEq] at ho
  split at ho
  · exact ⟨‹_›, (PRes.ok.inj ho).symm⟩
  · cases ho

theorem Fits.rel_ok (h : Fits re lk t (.rel l)) (ho : protoOp re lk t (.rel l) = some (.ok lk')) :
    lk' = lk.setLock l {} := by
  simp only [protoOp, relRes_eq h, Option.some.injEq, PRes.ok.injEq] at ho
  exact ho.symm

theorem Fits.acqIf_ok (h : Fits re lk t (.acqIf c k l))
    (ho : protoOp re lk t (.acqIf c k l) = some (.ok lk')) :
    (lk.ctr c = k ∧ (lk.lock l).count = 0 ∧
      lk' = lk.setLock l ⟨if isReentrant re l then t + 1 else 0, 1⟩) ∨
    (lk.ctr c ≠ k ∧ lk' = lk) := by
  simp only [protoOp, acqRes_eq h, Option.some.injEq, beq_iff_eq] at ho
  split at ho
  · split at ho
    · exact .inl ⟨‹_›, ‹_›, (PRes.ok.inj ho).symm⟩
    · cases ho
  · exact .inr ⟨‹_›, (PRes.ok.inj ho).symm⟩

theorem Fits.relIf_ok (h : Fits re lk t (.relIf c k l))
    (ho : protoOp re lk t (.relIf c k l) = some (.ok lk')) :
    (lk.ctr c = k ∧ lk' = lk.setLock l {}) ∨ (lk.ctr c ≠ k ∧ lk' = lk) := by
  simp only [protoOp, relRes_eq h, Option.some.injEq, beq_iff_eq] at ho
  split at ho
  · exact .inl ⟨‹_›, (PRes.ok.inj ho).symm⟩
  · exact .inr ⟨‹_›, (PRes.ok.inj ho).symm⟩

end

section
variable {s : PState} {t : Nat} {p : Phase} {ins : Instr}

theorem fits_at (hinv : MutexInv s) (hp : s.pos[t]? = some p)
    (hi : instrAt referenceProtocol p = some ins) :
    Fits referenceProtocol.reentrant s.lk t ins := by
  revert hp
  apply instr_cases (motive := fun p ins _ =>
    s.pos[t]? = some p → Fits referenceProtocol.reentrant s.lk t ins) (hi := hi)
  -- `no_readers` and `no_writers` are plain locks: nobody owns them
  case ra1 | ra4 | wa2 | wa4 => exact fun _ => nofun
  case ra3 | wa1 => exact fun _ => trivial
  case rr1 | wr2 => exact fun _ _ => trivial
  case ra0 => exact fun hp _ => hinv.heldRq.not_mine hp rfl
  case ra2 => exact fun hp _ => hinv.heldRm.not_mine hp rfl
  case rr0 => exact fun _ hp _ => hinv.heldRm.not_mine hp rfl
  case wa0 => exact fun hp _ => hinv.heldWm.not_mine hp rfl
  case wr1 => exact fun _ hp _ => hinv.heldWm.not_mine hp rfl
  case ra7 => exact fun hp => .inl ⟨rfl, hinv.rq_own _ _ hp rfl⟩
  case ra5 => exact fun hp => .inl ⟨rfl, hinv.rm_own _ _ hp rfl⟩
  case rr3 => exact fun _ hp => .inl ⟨rfl, hinv.rm_own _ _ hp rfl⟩
  case wa3 => exact fun hp => .inl ⟨rfl, hinv.wm_own _ _ hp rfl⟩
  case wr4 => exact fun _ hp => .inl ⟨rfl, hinv.wm_own _ _ hp rfl⟩
  case ra6 => exact fun hp => .inr ⟨rfl, hinv.sharedNr.held hp rfl⟩
  case wr3 => exact fun _ hp => .inr ⟨rfl, hinv.sharedNr.held hp rfl⟩
  case rr2 | wr0 => exact fun _ hp => .inr ⟨rfl, hinv.sharedNw.held hp rfl⟩

end

/-- inside the read switch the counter is one ahead of the group of readers on the way in, one
    behind on the way out -/
theorem MutexInv.read_switch {s : PState} (hinv : MutexInv s) :
    (1 ≤ cnt s.pos .ra4 → sRc s.pos = sRp s.pos + 1) ∧
    (1 ≤ cnt s.pos .rr2 → sRp s.pos = sRc s.pos + 1) := by
  have := hinv.rm_le
  simp only [sRc, sRp, sRm] at this ⊢
  omega

theorem MutexInv.write_switch {s : PState} (hinv : MutexInv s) :
    (1 ≤ cnt s.pos .wa2 → sWc s.pos = sWp s.pos + 1) ∧
    (1 ≤ cnt s.pos .wr3 → sWp s.pos = sWc s.pos + 1) := by
  have := hinv.wm_le
  simp only [sWc, sWp, sWm] at this ⊢
  omega

section
variable {s : PState} {t : Nat} {p : Phase} {ins : Instr}

theorem mutexInv_op {lk' : Locks} (hinv : MutexInv s) (hp : s.pos[t]? = some p)
    (hi : instrAt referenceProtocol p = some ins)
    (ho : protoOp referenceProtocol.reentrant s.lk t ins = some (.ok lk')) :
    MutexInv ⟨lk', s.pos.set t (nextPos referenceProtocol p)⟩ := by
  have hfit := fits_at hinv hp hi
  revert hp hfit ho
  -- row by row: what the instruction did to its lock or counter, the clause about that one
  -- proved afresh, and the check that the other clauses are blind to the move
  apply instr_cases (motive := fun p ins p' => s.pos[t]? = some p →
    protoOp referenceProtocol.reentrant s.lk t ins = some (.ok lk') →
    Fits referenceProtocol.reentrant s.lk t ins → MutexInv ⟨lk', s.pos.set t p'⟩) (hi := hi)
  case ra0 =>
    intro hp ho hfit
    obtain ⟨h0, rfl⟩ := hfit.acq_ok ho
    exact hinv.setLock hp lRq (hinv.heldRq.acquire hp rfl rfl h0) rfl
  case ra1 =>
    intro hp ho hfit
    obtain ⟨h0, rfl⟩ := hfit.acq_ok ho
    exact hinv.setLock hp lNr (hinv.sharedNr.acquire hp rfl h0) rfl
  case ra2 =>
    intro hp ho hfit
    obtain ⟨h0, rfl⟩ := hfit.acq_ok ho
    exact hinv.setLock hp lRm (hinv.heldRm.acquire hp rfl rfl h0) rfl
  case ra3 =>
    intro hp ho _
    cases ho
    exact hinv.setCtr hp .readCtr _ rfl (ctr_inc sRc_counts hp rfl rfl hinv.rc)
      (ctr_same sWc_counts hp rfl hinv.wc)
  case ra4 =>
    intro hp ho hfit
    have hC := hinv.read_switch.1 ((cnt_counts .ra4).one_le hp rfl)
    rcases hfit.acqIf_ok ho with ⟨_, h0, rfl⟩ | ⟨h1, rfl⟩
    · exact hinv.setLock hp lNw (hinv.sharedNw.acquire hp rfl h0) rfl
    · exact hinv.keep hp lNw (hinv.sharedNw.join hp rfl rfl rfl hinv.rc hC h1) rfl
  case ra5 =>
    intro hp ho hfit
    cases hfit.rel_ok ho
    exact hinv.setLock hp lRm (hinv.heldRm.release hp rfl rfl) rfl
  case ra6 =>
    intro hp ho hfit
    cases hfit.rel_ok ho
    exact hinv.setLock hp lNr (hinv.sharedNr.release hp rfl rfl rfl) rfl
  case ra7 =>
    intro hp ho hfit
    cases hfit.rel_ok ho
    exact hinv.setLock hp lRq (hinv.heldRq.release hp rfl rfl) rfl
  case rr0 =>
    intro r hp ho hfit
    obtain ⟨h0, rfl⟩ := hfit.acq_ok ho
    exact hinv.setLock hp lRm (hinv.heldRm.acquire hp rfl rfl h0) rfl
  case rr1 =>
    intro r hp ho _
    cases ho
    exact hinv.setCtr hp .readCtr _ rfl (ctr_dec sRc_counts hp rfl rfl hinv.rc)
      (ctr_same sWc_counts hp rfl hinv.wc)
  case rr2 =>
    intro r hp ho hfit
    have hC := hinv.read_switch.2 ((cnt_counts .rr2).one_le hp rfl)
    rcases hfit.relIf_ok ho with ⟨h0, rfl⟩ | ⟨h0, rfl⟩
    · exact hinv.setLock hp lNw (hinv.sharedNw.leave_last hp rfl rfl rfl hinv.rc hC h0) rfl
    · exact hinv.keep hp lNw (hinv.sharedNw.leave hp rfl rfl rfl hinv.rc hC h0) rfl
  case rr3 =>
    intro r hp ho hfit
    cases hfit.rel_ok ho
    exact hinv.setLock hp lRm (hinv.heldRm.release hp rfl rfl) rfl
  case wa0 =>
    intro hp ho hfit
    obtain ⟨h0, rfl⟩ := hfit.acq_ok ho
    exact hinv.setLock hp lWm (hinv.heldWm.acquire hp rfl rfl h0) rfl
  case wa1 =>
    intro hp ho _
    cases ho
    exact hinv.setCtr hp .writeCtr _ rfl (ctr_same sRc_counts hp rfl hinv.rc)
      (ctr_inc sWc_counts hp rfl rfl hinv.wc)
  case wa2 =>
    intro hp ho hfit
    have hC := hinv.write_switch.1 ((cnt_counts .wa2).one_le hp rfl)
    rcases hfit.acqIf_ok ho with ⟨_, h0, rfl⟩ | ⟨h1, rfl⟩
    · exact hinv.setLock hp lNr (hinv.sharedNr.acquire hp rfl h0) rfl
    · exact hinv.keep hp lNr (hinv.sharedNr.join hp rfl rfl rfl hinv.wc hC h1) rfl
  case wa3 =>
    intro hp ho hfit
    cases hfit.rel_ok ho
    exact hinv.setLock hp lWm (hinv.heldWm.release hp rfl rfl) rfl
  case wa4 =>
    intro hp ho hfit
    obtain ⟨h0, rfl⟩ := hfit.acq_ok ho
    exact hinv.setLock hp lNw (hinv.sharedNw.acquire hp rfl h0) rfl
  case wr0 =>
    intro r hp ho hfit
    cases hfit.rel_ok ho
    exact hinv.setLock hp lNw (hinv.sharedNw.release hp rfl rfl rfl) rfl
  case wr1 =>
    intro r hp ho hfit
    obtain ⟨h0, rfl⟩ := hfit.acq_ok ho
    exact hinv.setLock hp lWm (hinv.heldWm.acquire hp rfl rfl h0) rfl
  case wr2 =>
    intro r hp ho _
    cases ho
    exact hinv.setCtr hp .writeCtr _ rfl (ctr_same sRc_counts hp rfl hinv.rc)
      (ctr_dec sWc_counts hp rfl rfl hinv.wc)
  case wr3 =>
    intro r hp ho hfit
    have hC := hinv.write_switch.2 ((cnt_counts .wr3).one_le hp rfl)
    rcases hfit.relIf_ok ho with ⟨h0, rfl⟩ | ⟨h0, rfl⟩
    · exact hinv.setLock hp lNr (hinv.sharedNr.leave_last hp rfl rfl rfl hinv.wc hC h0) rfl
    · exact hinv.keep hp lNr (hinv.sharedNr.leave hp rfl rfl rfl hinv.wc hC h0) rfl
  case wr4 =>
    intro r hp ho hfit
    cases hfit.rel_ok ho
    exact hinv.setLock hp lWm (hinv.heldWm.release hp rfl rfl) rfl

end

section
variable {S A B : List Phase → Nat} {f a b : K → Bool} {pos : List Phase}

theorem Held.of_all_out (hS : Counts S f) (hf : f .out = false)
    (h : pos.all (· == .out) = true) : Held S f ⟨0, 0⟩ pos :=
  have z := hS.all_out hf h
  ⟨hS, by omega, fun _ => rfl, fun _ _ hp hfp => by have := hS.one_le hp hfp; omega⟩

theorem SharedLock.of_all_out (hA : Counts A a) (hB : Counts B b) (ha : a .out = false)
    (hb : b .out = false) (h : pos.all (· == .out) = true) : SharedLock A a B b ⟨0, 0⟩ pos := by
  refine ⟨hA, hB, ?_, ?_⟩ <;> rw [hA.all_out ha h, hB.all_out hb h] <;> decide

end

theorem mutexInv_init (n : Nat) : MutexInv (pinit n) := by
  have h : (pinit n).pos.all (· == .out) = true := by simp [pinit]
  exact .of_clauses rfl ((cnt_counts .bad).all_out rfl h) (.of_all_out sRq_counts rfl h)
    (.of_all_out sRm_counts rfl h) (.of_all_out sWm_counts rfl h)
    (congrArg Int.ofNat (sRc_counts.all_out rfl h).symm)
    (congrArg Int.ofNat (sWc_counts.all_out rfl h).symm)
    (.of_all_out sWnw_counts sRp_counts rfl rfl h) (.of_all_out sRnr_counts sWp_counts rfl rfl h)

section
variable {s s' : PState} {t : Nat}

theorem mutexInv_begin (hinv : MutexInv s) (w : Bool) (hp : s.pos[t]? = some .out) :
    MutexInv (s.setPos t (beginPos referenceProtocol w)) := by
  -- the step touches no lock, `keep` wants one: `readers_queue` set to its own value, its clause
  -- unchanged since `out`, `ra0` and `wa0` lie outside `holdsRq`
  cases w <;> exact hinv.keep hp lRq (hinv.heldRq.same hp rfl rfl) rfl

theorem mutexInv_leave (hinv : MutexInv s) (w r : Bool) (hp : s.pos[t]? = some (.body w)) :
    MutexInv (s.setPos t (leavePos referenceProtocol w r)) := by
  -- as in `mutexInv_begin`: no lock is touched, and the bodies and `rr0`, `wr0` lie outside `holdsRq`
  cases w <;> cases r <;> exact hinv.keep hp lRq (hinv.heldRq.same hp rfl rfl) rfl

end

theorem mutexInv_step {s s' : PState} {t : Nat} {lab : Lab} (hinv : MutexInv s)
    (h : pstep referenceProtocol s t lab = some s') : MutexInv s' := by
  cases hp : s.pos[t]? with
  | none => simp [pstep, hp] at h
  | some p =>
    cases lab with
    | begin w =>
      simp only [pstep, hp] at h
      split at h
      · obtain rfl : p = .out := by simpa using ‹(p == .out) = true›
        cases h
        exact mutexInv_begin hinv w hp
      · cases h
    | leave r =>
      simp only [pstep, hp] at h
      split at h
      · cases h
        exact mutexInv_leave hinv _ r hp
      · cases h
    | op =>
      simp only [pstep, hp] at h
      split at h
      · cases h
      · rename_i ins hi
        have := (fits_at hinv hp hi).no_error
        split at h
        · cases h
          exact mutexInv_op hinv hp hi ‹_›
        · exact absurd ‹_› this
        · cases h

theorem mutexInv_reach {n : Nat} : ∀ s, PReach referenceProtocol n s → MutexInv s := by
  intro s hr
  induction hr with
  | init => exact mutexInv_init n
  | step _ hstep ih => exact mutexInv_step ih hstep

/-- the classes `out` and `wb` are those of the positions outside and inside a writer section
    only -/
theorem kOf_mid {p : Phase} (hout : p ≠ .out) (hbody : ∀ w, p ≠ .body w) :
    kOf p ≠ .out ∧ kOf p ≠ .wb := by
  cases hi : instrAt referenceProtocol p with
  | none =>
    rcases instr_none hi with h | ⟨w, h⟩ | h
    · exact absurd h hout
    · exact absurd h (hbody w)
    · rw [h]; exact ⟨nofun, nofun⟩
  | some ins =>
    apply instr_cases (motive := fun p _ _ => kOf p ≠ .out ∧ kOf p ≠ .wb) (hi := hi)
    all_goals first | exact ⟨nofun, nofun⟩ | exact fun _ => ⟨nofun, nofun⟩

theorem isWBody_eq (p : Phase) : isWBody p = (kOf p == .wb) := by
  cases p with
  | out => rfl
  | body w => cases w <;> rfl
  | acq w j => exact (beq_false_of_ne (kOf_mid (p := .acq w j) nofun nofun).2).symm
  | rel w r j => exact (beq_false_of_ne (kOf_mid (p := .rel w r j) nofun nofun).2).symm

theorem countP_isWBody (pos : List Phase) : pos.countP isWBody = cnt pos .wb := by
  unfold cnt; congr 1; funext p; exact isWBody_eq p

theorem countP_isBody_le (pos : List Phase) : pos.countP isBody ≤ cnt pos .wb + cnt pos .rb := by
  refine Nat.le_trans ?_ (Nat.le_of_eq (((cnt_counts .wb).add .rb rfl) pos).symm)
  refine List.countP_mono_left fun p _ h => ?_
  cases p with
  | body w => cases w <;> rfl
  | _ => cases h

theorem inv_exclusion {s : PState} (hinv : MutexInv s) :
    cnt s.pos .wb ≤ 1 ∧ (1 ≤ cnt s.pos .wb → cnt s.pos .rb = 0) := by
  have h := hinv.nw_le
  simp only [sWnw, sRp] at h
  constructor <;> omega

theorem ble_false {a b : Nat} (h : ¬ a ≤ b) : Nat.ble a b = false := by
  cases hb : Nat.ble a b with
  | false => rfl
  | true => exact absurd (Nat.le_of_ble_eq_true hb) h

theorem inv_not_violated {s : PState} (hinv : MutexInv s) : pexclusionViolated s = false := by
  have ⟨h1, h2⟩ := inv_exclusion hinv
  have hb := countP_isBody_le s.pos
  unfold pexclusionViolated
  rw [countP_isWBody]
  by_cases hw : 1 ≤ cnt s.pos .wb
  · have := h2 hw
    rw [ble_false (a := 2) (by omega)]; simp
  · rw [ble_false (a := 1) hw]; simp

theorem locks_eq {lk : Locks} (h : lk.locks.length = 5) :
    lk.locks = [lk.lock lNr, lk.lock lNw, lk.lock lRq, lk.lock lRm, lk.lock lWm] := by
  unfold Locks.lock
  match lk.locks, h with
  | [_, _, _, _, _], _ => rfl

/-- when every thread is outside its sections — however the sections ended — every lock is free
    and both counters are zero -/
theorem inv_not_leaked {s : PState} (hinv : MutexInv s) : pleaked s = false := by
  cases hall : s.pos.all (· == .out) with
  | false => simp [pleaked, hall]
  | true =>
    have hnw := hinv.nw; have hnr := hinv.nr; have hrc := hinv.rc; have hwc := hinv.wc
    rw [sWnw_counts.all_out rfl hall, sRp_counts.all_out rfl hall] at hnw
    rw [sRnr_counts.all_out rfl hall, sWp_counts.all_out rfl hall] at hnr
    rw [sRc_counts.all_out rfl hall] at hrc
    rw [sWc_counts.all_out rfl hall] at hwc
    have hfree : s.lk.free = true := by
      rw [Locks.free, locks_eq hinv.len, hnr, hnw, hinv.rq_free (sRq_counts.all_out rfl hall),
        hinv.rm_free (sRm_counts.all_out rfl hall), hinv.wm_free (sWm_counts.all_out rfl hall),
        hrc, hwc]
      rfl
    simp [pleaked, hfree]

theorem anyIdx_false {α} (p : Nat → α → Bool) (xs : List α) (i : Nat)
    (h : ∀ j x, xs[j]? = some x → p (i + j) x = false) : anyIdx p i xs = false :=
  Bool.eq_false_iff.2 fun ha =>
    let ⟨j, x, hx, hp⟩ := (anyIdx_iff p xs i).1 ha
    Bool.false_ne_true ((h j x hx).symm.trans hp)

theorem inv_no_error {s : PState} (hinv : MutexInv s) : prelError referenceProtocol s = false := by
  apply anyIdx_false
  intro j p hp
  rw [Nat.zero_add, relErrAt]
  cases hi : instrAt referenceProtocol p with
  | none => rfl
  | some ins => exact beq_false_of_ne (fits_at hinv hp hi).no_error

/-- what a thread whose pending instruction does not go through is waiting for -/
def Waits (lk : Locks) : Instr → Prop
  | .acq l => (lk.lock l).count ≠ 0
  | .acqIf c k l => lk.ctr c = k ∧ (lk.lock l).count ≠ 0
  | .rel _ | .inc _ | .dec _ | .relIf .. => False
  | _ => True

theorem acqRes_blocked {re : List Bool} {lk : Locks} {t : Nat} {l : LockId}
    (h : ∀ lk', acqRes re lk t l ≠ .ok lk') : (lk.lock l).count ≠ 0 := by
  intro h0
  unfold acqRes acquire at h
  cases hr : isReentrant re l <;> simp [hr, h0] at h

theorem waits_of_stuck {P : Protocol} {lk : Locks} {t : Nat} {p : Phase} {ins : Instr}
    (hi : instrAt P p = some ins) (h : canMoveAt P lk t p = false) : Waits lk ins := by
  have hm : ∀ r, protoOp P.reentrant lk t ins = some r → r = .blocked := by
    intro r hr
    cases p with
    | out => cases hi
    | body w => cases hi
    | acq w j => simp only [canMoveAt, hi, hr] at h; cases r <;> first | rfl | cases h
    | rel w r' j => simp only [canMoveAt, hi, hr] at h; cases r <;> first | rfl | cases h
  cases ins <;> simp only [Waits] <;> simp only [protoOp, Option.some.injEq, forall_eq'] at hm
  case acq l => exact acqRes_blocked fun lk' e => by rw [e] at hm; cases hm
  case rel l => unfold relRes at hm; split at hm <;> cases hm
  case inc c => cases hm
  case dec c => cases hm
  case acqIf c k l =>
    split at hm
    · exact ⟨eq_of_beq ‹_›, acqRes_blocked fun lk' e => by rw [e] at hm; cases hm⟩
    · cases hm
  case relIf c k l =>
    split at hm
    · unfold relRes at hm; split at hm <;> cases hm
    · cases hm

/-- what the locks look like when a thread at a position of class `k` cannot move -/
def blockedCond (lk : Locks) : K → Prop
  | .out => True
  | .ra0 => (lk.lock lRq).count ≠ 0
  | .ra1 => (lk.lock lNr).count ≠ 0
  | .ra2 | .rr0 => (lk.lock lRm).count ≠ 0
  | .ra4 => lk.rc = 1 ∧ (lk.lock lNw).count ≠ 0
  | .wa0 | .wr1 => (lk.lock lWm).count ≠ 0
  | .wa2 => lk.wc = 1 ∧ (lk.lock lNr).count ≠ 0
  | .wa4 => (lk.lock lNw).count ≠ 0
  | _ => False

theorem stuck_cond {s : PState} (hinv : MutexInv s) {t : Nat} {p : Phase}
    (hp : s.pos[t]? = some p) (h : canMoveAt referenceProtocol s.lk t p = false) :
    blockedCond s.lk (kOf p) := by
  cases hi : instrAt referenceProtocol p with
  | none =>
    rcases instr_none hi with rfl | ⟨w, rfl⟩ | hk
    · trivial
    · cases h
    · have := (cnt_counts .bad).one_le hp (beq_of_eq hk)
      rw [hinv.valid] at this; cases this
  | some ins =>
    have := waits_of_stuck hi h
    revert this
    apply instr_cases (motive := fun p ins _ => Waits s.lk ins → blockedCond s.lk (kOf p))
      (hi := hi)
    all_goals first | exact id | exact fun _ => id

theorem kOf_out {p : Phase} (h : kOf p = .out) : p = .out := by
  cases p with
  | out => rfl
  | body w => cases w <;> cases h
  | acq w j => exact absurd h (kOf_mid (p := .acq w j) nofun nofun).1
  | rel w r j => exact absurd h (kOf_mid (p := .rel w r j) nofun nofun).1

theorem blockedCond_free {lk : Locks} {k : K} (hb : blockedCond lk k)
    (hrq : (lk.lock lRq).count = 0) (hrm : (lk.lock lRm).count = 0)
    (hwm : (lk.lock lWm).count = 0) (hnw : (lk.lock lNw).count = 0)
    (hnr : (lk.lock lNr).count = 0) : k = .out := by
  cases k <;> first | rfl | exact hb.elim | exact absurd ‹_› hb | exact absurd ‹_› hb.2

/-- deadlock-freedom of the reference protocol for ANY number of threads: in a state satisfying
    the invariant, if some thread is in the middle of the protocol then one of those can move -/
theorem inv_no_deadlock {s : PState} (hinv : MutexInv s) :
    pdeadlocked referenceProtocol s = false := by
  cases hd : pdeadlocked referenceProtocol s with
  | false => rfl
  | true =>
    exfalso
    simp only [pdeadlocked, Bool.and_eq_true, List.any_eq_true, bne_iff_ne] at hd
    obtain ⟨⟨p0, hp0, hne0⟩, hall⟩ := hd
    have hstuck : ∀ t p, s.pos[t]? = some p → blockedCond s.lk (kOf p) := fun t p hp =>
      stuck_cond hinv hp (by simpa using (allIdx_iff _ _ _).1 hall t p hp)
    have stuckAt : ∀ k, cnt s.pos k = 0 ∨ blockedCond s.lk k := by
      intro k
      refine (Nat.eq_zero_or_pos _).imp_right fun h1 => ?_
      obtain ⟨t, p, hp, hp'⟩ := (cnt_counts k).exists h1
      exact eq_of_beq hp' ▸ hstuck t p hp
    have empty := fun k h => (stuckAt k).resolve_right h
    have hrq := hinv.heldRq.count; have hrm := hinv.heldRm.count; have hwm := hinv.heldWm.count
    have hnw : (s.lk.lock lNw).count = _ := congrArg LockSt.count hinv.nw
    have hnr : (s.lk.lock lNr).count = _ := congrArg LockSt.count hinv.nr
    have hrc := hinv.rc; have hwc := hinv.wc
    -- only the nine classes whose instruction can block are populated
    simp only [Int.ofNat_eq_natCast, sRq, sRm, sWm, sRc, sWc, sWnw, sRp, sRnr, sWp, empty .ra3 id,
      empty .ra5 id, empty .ra6 id, empty .ra7 id, empty .rb id, empty .rr1 id, empty .rr2 id, empty .rr3 id, empty .wa1 id,
      empty .wa3 id, empty .wb id, empty .wr0 id, empty .wr2 id, empty .wr3 id, empty .wr4 id, Nat.add_zero,
      Nat.zero_add] at hrq hrm hwm hnw hnr hrc hwc
    -- The order is the proof.  Each lock is shown free from the emptiness of the classes that
    -- hold it, and then the classes waiting for it are empty too: `ra4` (a reader blocked at the
    -- switch has `rc = 1`: no reader is past it, `no_writers` would be free) → `read_mutex` → `rr0`, `ra2`
    -- → `no_writers` → `wa4`; `wa2` likewise → `write_mutex` → `wr1` → `no_readers` → `ra1`; last
    -- `readers_queue`, leaving `ra0`.
    have z_ra4 := (stuckAt .ra4).elim id fun (h : _ = 1 ∧ (s.lk.lock lNw).count ≠ 0) => by omega
    have fRm : (s.lk.lock lRm).count = 0 := by omega
    have z_rr0 := empty .rr0 (· fRm)
    have z_ra2 := empty .ra2 (· fRm)
    have fNw : (s.lk.lock lNw).count = 0 := by omega
    have z_wa4 := empty .wa4 (· fNw)
    have z_wa2 := (stuckAt .wa2).elim id fun (h : _ = 1 ∧ (s.lk.lock lNr).count ≠ 0) => by omega
    have fWm : (s.lk.lock lWm).count = 0 := by omega
    have z_wr1 := empty .wr1 (· fWm)
    have fNr : (s.lk.lock lNr).count = 0 := by omega
    have z_ra1 := empty .ra1 (· fNr)
    obtain ⟨u, hu, rfl⟩ := List.getElem_of_mem hp0
    exact hne0 (kOf_out (blockedCond_free (hstuck u _ (List.getElem?_eq_getElem hu))
      (by omega) fRm fWm fNw fNr))

theorem reference_good (n : Nat) : PGood referenceProtocol n := by
  intro s hr
  have hinv := mutexInv_reach s hr
  refine ⟨?_, inv_no_deadlock hinv⟩
  simp only [pbad, inv_not_violated hinv, inv_no_error hinv, inv_not_leaked hinv, Bool.or_self]

end MongoModel.RWLock
