/-
  Proofs.C03ExtKeys — the oracle's key equality `keyEq` is an equivalence (the tie of the BSON
  order), `distinctKeys` lists one representative per class (the first), and on a key-sorted list
  the runs of `itertools.groupby` are the oracle's groups `specGroups`; sorting first and
  grouping, or grouping and sorting the groups, is the same thing.
-/
import Proofs.C03GroupKeys
import Spec.PipelineExt

namespace MongoModel.Pipe.Proofs
open MongoModel MongoModel.Pipe MongoModel.Spec.Pipe MongoModel.Spec.Order MongoModel.Proofs.C11

/-- a reason list that is empty says its condition holds -/
theorem of_ite_nil {c : Bool} {x : String} (h : (if c then [] else [x]) = []) : c = true := by
  cases c <;> simp at h ⊢

theorem keyEq_eq_tie (a b : Val) : keyEq a b = tie valLt a b := rfl

theorem keyEq_refl (a : Val) : keyEq a a = true := tie_self strictWeak_valLt a

theorem keyEq_symm (a b : Val) : keyEq a b = keyEq b a := by
  simp [keyEq, Bool.and_comm]

theorem keyEq_trans {a b c : Val} (h1 : keyEq a b = true) (h2 : keyEq b c = true) :
    keyEq a c = true := by
  simp only [keyEq, Bool.and_eq_true, Bool.not_eq_true'] at h1 h2 ⊢
  exact ⟨strictWeak_valLt.negTrans c b a h2.1 h1.1, strictWeak_valLt.negTrans a b c h1.2 h2.2⟩

theorem keyEq_congr_left {a b : Val} (h : keyEq a b = true) (x : Val) : keyEq a x = keyEq b x :=
  Bool.eq_iff_iff.mpr ⟨keyEq_trans (keyEq_symm a b ▸ h), keyEq_trans h⟩

theorem distinctKeys_sublist : ∀ (l : List Val), (distinctKeys l).Sublist l
  | [] => List.Sublist.slnil
  | k :: r => by
    simp only [distinctKeys]
    exact (List.filter_sublist.trans (distinctKeys_sublist r)).cons_cons k

theorem mem_distinctKeys_iff : ∀ (l : List Val) (k : Val),
    k ∈ distinctKeys l ↔ (l.filter (keyEq k)).head? = some k
  | [], k => by simp [distinctKeys]
  | a :: r, k => by
    simp only [distinctKeys, List.mem_cons, List.mem_filter, List.filter_cons]
    cases hka : keyEq k a with
    | true =>
      have hak : keyEq a k = true := by rw [keyEq_symm]; exact hka
      simp only [hak, Bool.not_true, Bool.false_eq_true, and_false, or_false, if_true,
        List.head?_cons, Option.some.injEq]
      exact eq_comm
    | false =>
      have hak : keyEq a k = false := by rw [keyEq_symm]; exact hka
      have hne : k ≠ a := by
        intro e; subst e; rw [keyEq_refl] at hka; cases hka
      simp only [hne, false_or, hak, Bool.not_false, and_true, Bool.false_eq_true, if_false]
      exact mem_distinctKeys_iff r k

theorem distinctKeys_pairwise : ∀ (l : List Val),
    (distinctKeys l).Pairwise (fun a b => keyEq a b = false)
  | [] => List.Pairwise.nil
  | k :: r => by
    simp only [distinctKeys]
    refine List.pairwise_cons.mpr ⟨?_, (distinctKeys_pairwise r).sublist List.filter_sublist⟩
    intro x hx
    simpa using (List.mem_filter.mp hx).2

theorem distinctKeys_cover : ∀ (l : List Val) (v : Val), v ∈ l →
    ∃ x ∈ distinctKeys l, keyEq x v = true
  | [], _, h => by simp at h
  | k :: r, v, h => by
    simp only [distinctKeys]
    cases hkv : keyEq k v with
    | true => exact ⟨k, List.mem_cons_self, hkv⟩
    | false =>
      rcases List.mem_cons.mp h with rfl | h
      · rw [keyEq_refl] at hkv; cases hkv
      · obtain ⟨x, hx, hxv⟩ := distinctKeys_cover r v h
        refine ⟨x, List.mem_cons_of_mem _ (List.mem_filter.mpr ⟨hx, ?_⟩), hxv⟩
        cases hkx : keyEq k x with
        | false => rfl
        | true => rw [keyEq_trans hkx hxv] at hkv; cases hkv

theorem distinctKeys_filter (k : Val) : ∀ (l : List Val),
    distinctKeys (l.filter (fun x => !keyEq k x)) = (distinctKeys l).filter (fun x => !keyEq k x)
  | [] => rfl
  | a :: r => by
    have ih := distinctKeys_filter k r
    cases hka : keyEq k a with
    | true =>
      simp only [List.filter_cons, hka, Bool.not_true, Bool.false_eq_true, if_false, distinctKeys,
        ih, List.filter_filter]
      apply List.filter_congr
      intro x _
      rw [← keyEq_congr_left hka x]
      cases keyEq k x <;> rfl
    | false =>
      simp only [List.filter_cons, hka, Bool.not_false, if_true, distinctKeys, ih,
        List.filter_filter]
      congr 1
      apply List.filter_congr
      intro x _
      exact Bool.and_comm _ _

theorem specGroups_nil : specGroups [] = [] := rfl

theorem specGroups_cons (k d : Val) (rest : List (Val × Val)) :
    specGroups ((k, d) :: rest) =
      (k, d :: (rest.filter (fun p => keyEq k p.1)).map (·.2)) ::
        specGroups (rest.filter (fun p => !keyEq k p.1)) := by
  simp only [specGroups, List.map_cons, distinctKeys, List.filter_cons, keyEq_refl, if_true,
    List.cons.injEq, true_and]
  have e : (rest.filter (fun p => !keyEq k p.1)).map (·.1) =
      (rest.map (·.1)).filter (fun x => !keyEq k x) := by
    rw [List.filter_map]; rfl
  rw [e, distinctKeys_filter]
  apply List.map_congr_left
  intro x hx
  have hkx : keyEq k x = false := by simpa using (List.mem_filter.mp hx).2
  have hxk : keyEq x k = false := by rw [keyEq_symm]; exact hkx
  simp only [hxk, Bool.false_eq_true, if_false, List.filter_filter]
  congr 2
  apply List.filter_congr
  intro p _
  cases hxp : keyEq x p.1 with
  | false => rfl
  | true =>
    cases hkp : keyEq k p.1 with
    | false => rfl
    | true =>
      have := keyEq_trans hkp (by rw [keyEq_symm]; exact hxp)
      rw [hkx] at this; cases this

theorem mem_specGroups (kds : List (Val × Val)) (g : Val × List Val) :
    g ∈ specGroups kds ↔
      (((kds.map (·.1)).filter (keyEq g.1)).head? = some g.1 ∧
        g.2 = (kds.filter (fun p => keyEq g.1 p.1)).map (·.2)) := by
  simp only [specGroups, List.mem_map]
  constructor
  · rintro ⟨k, hk, rfl⟩
    exact ⟨(mem_distinctKeys_iff _ k).1 hk, rfl⟩
  · rintro ⟨h1, h2⟩
    exact ⟨g.1, (mem_distinctKeys_iff _ g.1).2 h1, by rw [← h2]⟩

theorem specGroups_pairwise (kds : List (Val × Val)) :
    (specGroups kds).Pairwise (fun a b => keyEq a.1 b.1 = false) := by
  simp only [specGroups]
  rw [List.pairwise_map]
  exact distinctKeys_pairwise _

/-! ### on a sorted list the runs of `groupby` are the oracle's groups -/

theorem groupRuns_sorted_eq_spec : ∀ (n : Nat) (l : List (Val × Val)), l.length ≤ n →
    (∀ p ∈ l, groupKeyOk p.1 = true) → Sorted (fun a b : Val × Val => valLt a.1 b.1) l →
    groupRuns l = specGroups l
  | _, [], _, _, _ => rfl
  | 0, _ :: _, hn, _, _ => by simp at hn
  | n + 1, (k, d) :: rest, hn, hK, hs => by
    have hKk : groupKeyOk k = true := hK (k, d) List.mem_cons_self
    have hKr : ∀ p ∈ rest, groupKeyOk p.1 = true := fun p hp => hK p (List.mem_cons_of_mem _ hp)
    have hs' : Sorted (fun a b : Val × Val => valLt a.1 b.1) rest := (List.pairwise_cons.mp hs).2
    have hk : ∀ p ∈ rest, valLt p.1 k = false := (List.pairwise_cons.mp hs).1
    have heq : ∀ p ∈ rest, pyEq k p.1 = keyEq k p.1 :=
      fun p hp => pyEq_eq_tie _ _ hKk (hKr p hp)
    obtain ⟨c1, c2⟩ := takeWhile_congr_mem rest heq
    obtain ⟨t1, t2⟩ := sorted_takeWhile_filter strictWeak_valLt k rest hs' hk
    rw [groupRuns_cons, specGroups_cons, c1, c2]
    have t1' : rest.takeWhile (fun p => keyEq k p.1) = rest.filter (fun p => keyEq k p.1) := t1
    have t2' : rest.dropWhile (fun p => keyEq k p.1) = rest.filter (fun p => !keyEq k p.1) := t2
    rw [t1', t2']
    congr 1
    -- the recursive call is on a filter of `rest`, not on a tail: `n` bounds the length
    have hsub : (rest.filter (fun p => !keyEq k p.1)).Sublist rest := List.filter_sublist
    exact groupRuns_sorted_eq_spec n _ (by have := hsub.length_le; simp at hn; omega)
      (fun p hp => hKr p (hsub.subset hp)) (hs'.sublist hsub)

/-! ### sorting commutes with grouping -/

theorem strictWeak_groups : StrictWeak (fun a b : Val × List Val => valLt a.1 b.1) :=
  ⟨fun a b h => strictWeak_valLt.asymm a.1 b.1 h,
   fun a b c h1 h2 => strictWeak_valLt.negTrans a.1 b.1 c.1 h1 h2⟩

theorem specGroups_nodup (kds : List (Val × Val)) : (specGroups kds).Nodup := by
  refine (specGroups_pairwise kds).imp ?_
  intro a b h e
  subst e
  rw [keyEq_refl] at h; cases h

/-- the oracle's groups do not depend on the order of documents with different keys: a stable
    rearrangement gives the same groups, possibly listed in another order -/
theorem specGroups_perm_of_stable (kds kds' : List (Val × Val))
    (hst : ∀ k : Val, kds'.filter (fun p => keyEq k p.1) = kds.filter (fun p => keyEq k p.1)) :
    (specGroups kds').Perm (specGroups kds) := by
  rw [List.perm_ext_iff_of_nodup (specGroups_nodup _) (specGroups_nodup _)]
  intro g
  rw [mem_specGroups, mem_specGroups, hst g.1]
  have e : ∀ l : List (Val × Val), (l.map (·.1)).filter (keyEq g.1) =
      (l.filter (fun p => keyEq g.1 p.1)).map (·.1) := by
    intro l; rw [List.filter_map]; rfl
  rw [e kds', e kds, hst g.1]

theorem specGroups_isort (kds : List (Val × Val)) :
    specGroups (isort (fun a b : Val × Val => valLt a.1 b.1) kds) =
      isort (fun a b : Val × List Val => valLt a.1 b.1) (specGroups kds) := by
  set ltp := fun a b : Val × Val => valLt a.1 b.1 with hltp
  set ltg := fun a b : Val × List Val => valLt a.1 b.1 with hltg
  have hst : ∀ k : Val, (isort ltp kds).filter (fun p => keyEq k p.1) =
      kds.filter (fun p => keyEq k p.1) := fun k =>
    isort_stable strictWeak_pairs kds (k, Val.null)
  have hperm := specGroups_perm_of_stable kds (isort ltp kds) hst
  -- both sides are strictly ascending in the key
  have strict : ∀ l : List (Val × List Val), Sorted ltg l →
      l.Pairwise (fun a b => keyEq a.1 b.1 = false) →
      l.Pairwise (fun a b => ltg a b = true) := by
    intro l h1 h2
    refine (h1.and h2).imp ?_
    rintro a b ⟨h3, h4⟩
    simp only [keyEq, Bool.and_eq_false_iff, Bool.not_eq_false'] at h4
    rcases h4 with h4 | h4
    · exact h4
    · have h3' : valLt b.1 a.1 = false := h3
      rw [h3'] at h4; cases h4
  have s1 : Sorted ltg (specGroups (isort ltp kds)) := by
    simp only [specGroups, Sorted]
    rw [List.pairwise_map]
    have : Sorted valLt ((isort ltp kds).map (·.1)) := by
      simp only [Sorted]; rw [List.pairwise_map]
      exact isort_sorted strictWeak_pairs kds
    exact this.sublist (distinctKeys_sublist _)
  have p2 : (isort ltg (specGroups kds)).Pairwise (fun a b => keyEq a.1 b.1 = false) :=
    ((isort_perm ltg (specGroups kds)).pairwise_iff (fun {a b} h => by
      rw [keyEq_symm]; exact h)).2 (specGroups_pairwise kds)
  refine List.Perm.eq_of_pairwise (le := fun a b => ltg a b = true) ?_
    (strict _ s1 (specGroups_pairwise _))
    (strict _ (isort_sorted strictWeak_groups _) p2)
    (hperm.trans (isort_perm ltg _).symm)
  intro a b _ _ h1 h2
  have := strictWeak_groups.asymm a b h1
  have h2' : valLt b.1 a.1 = true := h2
  rw [h2'] at this; cases this

/-- the runs of `groupby` after the sort of `$group` are the oracle's groups in key order -/
theorem groupRuns_isort (kds : List (Val × Val)) (hK : ∀ p ∈ kds, groupKeyOk p.1 = true) :
    groupRuns (isort (fun a b : Val × Val => valLt a.1 b.1) kds) =
      isort (fun a b : Val × List Val => valLt a.1 b.1) (specGroups kds) := by
  rw [← specGroups_isort]
  exact groupRuns_sorted_eq_spec _ _ (Nat.le_refl _)
    (fun p hp => hK p ((isort_perm _ _).mem_iff.1 hp)) (isort_sorted strictWeak_pairs kds)

end MongoModel.Pipe.Proofs
