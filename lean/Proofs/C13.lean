/-
  Proofs.C13 — the statements of Props/C13 that need no walk through the update loop: each is an
  unfolding (`updateOut`; `equalities` as `keep` of C13Seed; `applyUpdate` on a one-operator
  update).  `exColl` is the collection the examples of Props/C13 run on.  The theorems
  about the loop and the upsert branch (`Proofs.C13.upsert_*`, `no_upsert_no_insert`) are in
  Proofs/C13Loop.lean.
-/
import Spec.Single
import Spec.Match
import Spec.UpsertExt
import Proofs.C13Seed
import Proofs.C13Loop

namespace MongoModel.Proofs.C13
open MongoModel MongoModel.Spec

theorem upsert_result (r : UpdateResult) (id : Val) (h : r.upserted = some id) :
    updateOut r = .doc [("matched", .int 0), ("modified", .int r.nModified), ("upserted", id)] := by
  unfold updateOut
  rw [h]
  rfl

theorem seed_plain_equalities (ss : Fields) (hk : ss.all (fun kv => !kv.1.toList.contains '.' && !kv.1.startsWith "$") = true)
    (hd : (dkeys ss).Nodup) :
    expandDots (equalities ss) = .ok (equalities ss) ∧
    (∀ k v, dget k ss = some v → isScalar v = true → dget k (equalities ss) = some v) ∧
    (∀ k ops, dget k ss = some (.doc ops) → isOps ops = true → dget "$eq" ops = none →
        dget k (equalities ss) = none) ∧
    (∀ k x, dget k ss = some (.doc [("$eq", x)]) → dget k (equalities ss) = some x) := by
  have hkv : ∀ kv ∈ ss, kv.1.toList.contains '.' = false ∧ kv.1.startsWith "$" = false := by
    intro kv hm
    have := List.all_eq_true.1 hk kv hm
    simp only [Bool.and_eq_true, Bool.not_eq_true'] at this
    exact this
  refine ⟨?_, C13Lemmas.seed_plain ss hk hd⟩
  have he : equalities ss = C13Lemmas.keep ss [] := by
    unfold equalities
    rw [C13Lemmas.discard_is_keep ss (fun kv hm => (hkv kv hm).2)]
  rw [he]
  exact C13Lemmas.expandDots_keep_plain ss (fun kv hm => (hkv kv hm).1)

theorem seed_expands_dots (a b : String) (v : Val)
    (ha : a.toList.contains '.' = false) (hb : b.toList.contains '.' = false) :
    expandDots [(a ++ "." ++ b, v)] = .ok [(a, .doc [(b, v)])] := by
  open C13Lemmas in
  rw [expandDots_eq]
  simp only [List.foldlM_cons, List.foldlM_nil, edStep, splitDots_two a b ha hb]
  have hj : joinDots [a] = a := rfl
  have hne : ¬ a = a ++ "." ++ b := by
    intro e
    have := congrArg String.length e
    have h1 : (".":String).length = 1 := rfl
    simp only [String.length_append, h1] at this
    omega
  simp [expandOne, dget, dset, bind, Except.bind, pure, Except.pure, Except.map, hj, hne]

theorem setOnInsert_only_on_insert (spec now body : Val) (d : Val) :
    applyUpdate spec (.doc [("$setOnInsert", body)]) now false d = .ok d ∧
    applyUpdate spec (.doc [("$setOnInsert", body)]) now true d =
      applyUpdate spec (.doc [("$set", body)]) now true d ∧
    (positionalUpdate [("$setOnInsert", body)] = false →
      applyUpdate spec (.doc [("$setOnInsert", body)]) now true d = updateFields .set now body d) := by
  have hp : positionalUpdate [("$set", body)] = positionalUpdate [("$setOnInsert", body)] := rfl
  have e1 : ∀ wi whole first, applyOps spec now wi whole [("$setOnInsert", body)] first d =
      if wi then (updateFields .set now body d).bind (fun d' => .ok d') else .ok d := by
    intro wi whole first; cases wi <;> rfl
  have e2 : ∀ wi whole first sub, applyOpsPos spec now wi whole [("$setOnInsert", body)] first sub d =
      if wi then (posFields .set now spec body d sub).bind (fun r => .ok r.1) else .ok d := by
    intro wi whole first sub; cases wi <;> rfl
  have e3 : ∀ wi whole first, applyOps spec now wi whole [("$set", body)] first d =
      (updateFields .set now body d).bind (fun d' => .ok d') := fun _ _ _ => rfl
  have e4 : ∀ wi whole first sub, applyOpsPos spec now wi whole [("$set", body)] first sub d =
      (posFields .set now spec body d sub).bind (fun r => .ok r.1) := fun _ _ _ _ => rfl
  have eu : ∀ (k : String) (wi : Bool), applyUpdate spec (.doc [(k, body)]) now wi d =
      if positionalUpdate [(k, body)] then applyOpsPos spec now wi [(k, body)] [(k, body)] true .nil d
      else applyOps spec now wi [(k, body)] [(k, body)] true d := fun _ _ => rfl
  refine ⟨?_, ?_, ?_⟩
  · rw [eu, e1, e2]; split <;> rfl
  · rw [eu, eu, hp, e1, e2, e3, e4]; rfl
  · intro hpos
    rw [eu, hpos, e1]
    cases updateFields .set now body d <;> rfl

def exColl : Coll := { docs := [(.int 1, .doc [("_id", .int 1), ("a", .int 1)])] }

theorem exColl_hyps : expire 0 exColl = .ok exColl ∧ exColl.docs ≠ [] ∧ exColl.ttlIndexes = [] ∧
    IdInv exColl ∧ GoodKeys exColl := by
  refine ⟨rfl, by simp [exColl], rfl, ⟨?_, ?_⟩, ?_⟩
  · simp [KeysDistinct, exColl]
  · intro p hp
    simp only [exColl, List.mem_singleton] at hp
    subst hp
    exact ⟨.int 1, rfl, by decide +kernel⟩
  · intro p hp
    simp only [exColl, List.mem_singleton] at hp
    subst hp
    exact ⟨C05Lemmas.scalar_symm' _ rfl, by decide +kernel⟩

end MongoModel.Proofs.C13
