/-
  Proofs.C04Date — the civil-date functions behind the date-part operators: `civilFromDays` is
  inverted by `daysFromCivil` for every day number, and every part lies in its range. The year
  of the 400-year era is analysed once, in `yoe_of_digits`, for this direction and for the other
  one in Proofs.C04Parts.
-/
import Proofs.C04Cmp

namespace MongoModel.Proofs.C04
open MongoModel MongoModel.Expr

theorem ediv_emod_of_eq {n b q r : Int} (h : n = q * b + r) (h0 : 0 ≤ r) (h1 : r < b) :
    n / b = q ∧ n % b = r :=
  (Int.ediv_emod_unique (Int.lt_of_le_of_lt h0 h1)).2
    ⟨by rw [h, Int.mul_comm, Int.add_comm], h0, h1⟩

/-- A span of four blocks of `b`, the last of them one longer (the 400 years in centuries, four
    years in years): quotient and remainder, the last unit counted into the last block. -/
theorem four_blocks (b n : Int) (hb : 0 < b) (h0 : 0 ≤ n) (h1 : n ≤ 4 * b) :
    ∃ q r, 0 ≤ q ∧ q ≤ 3 ∧ 0 ≤ r ∧ (r < b ∨ r = b ∧ q = 3) ∧ n = b * q + r := by
  rcases Int.lt_or_eq_of_le h1 with h | rfl
  · exact ⟨n / b, n % b, Int.ediv_nonneg h0 (Int.le_of_lt hb),
      Int.le_of_lt_add_one (Int.ediv_lt_of_lt_mul hb h), Int.emod_nonneg _ (Int.ne_of_gt hb),
      .inl (Int.emod_lt_of_pos _ hb), (Int.mul_ediv_add_emod n b).symm⟩
  · exact ⟨3, b, by omega, by omega, Int.le_of_lt hb, .inr ⟨rfl, rfl⟩, by omega⟩

/-- The year of the era from the day of the era written in mixed radix: `q` centuries of 36524
    days, `a` four-year blocks of 1461, `t` years of 365 and the day `doy` of the (March-based)
    year, which is 365 only in the last year of a block, and not in the last block of a century
    unless it is the last century. Both directions of the conversion rest on this. -/
theorem yoe_of_digits (q a t doy doe : Int) (hq0 : 0 ≤ q) (hq1 : q ≤ 3) (ha0 : 0 ≤ a)
    (ha1 : a ≤ 24) (ht0 : 0 ≤ t) (ht1 : t ≤ 3) (hd0 : 0 ≤ doy)
    (hd1 : doy ≤ 364 ∨ (doy = 365 ∧ t = 3 ∧ (a ≠ 24 ∨ q = 3)))
    (hdoe : doe = 36524 * q + 1461 * a + 365 * t + doy) :
    doe ≤ 146096 ∧
      (doe - doe / 1460 + doe / 36524 - doe / 146096) / 365 = 100 * q + 4 * a + t := by
  have hr : 1461 * a + 365 * t + doy < 36524 ∨ (q = 3 ∧ a = 24 ∧ t = 3 ∧ doy = 365) := by omega
  rcases hr with hr | ⟨rfl, rfl, rfl, rfl⟩
  · -- 36524 = 25 * 1460 + 24 and 1461 = 1460 + 1: dividing by 1460 leaves `24 * q + a` days
    -- over, so the last quotient is 0 on day 0 and 1 on day 365 and never more; the numerator is
    -- `365 * (100 * q + 4 * a + t) + doy` less that quotient. (The quotients are rewritten, not
    -- kept as hypotheses: `omega` is slow with them in the context.)
    rw [show doe / 146096 = 0 by omega, show doe / 36524 = q by omega,
      show doe / 1460 = 25 * q + a + (24 * q + a + 365 * t + doy) / 1460 by omega, hdoe]
    omega
  · -- the last day of the era, where the last two quotients are 4 and 1
    subst hdoe; decide

theorem yoe_of_doe (yoe doy doe : Int) (h0 : 0 ≤ yoe) (h1 : yoe ≤ 399) (d0 : 0 ≤ doy)
    (hleap : doy ≤ 364 ∨ (doy = 365 ∧ yoe % 4 = 3 ∧ (yoe % 100 ≠ 99 ∨ yoe = 399)))
    (hdoe : doe = yoe * 365 + yoe / 4 - yoe / 100 + doy) :
    doe ≤ 146096 ∧ (doe - doe / 1460 + doe / 36524 - doe / 146096) / 365 = yoe := by
  rw [show yoe = 100 * (yoe / 100) + 4 * (yoe % 100 / 4) + yoe % 4 by omega]
  exact yoe_of_digits (yoe / 100) (yoe % 100 / 4) (yoe % 4) doy doe (by omega) (by omega)
    (by omega) (by omega) (by omega) (by omega) d0 (by omega) (by omega)

theorem yoe_doy (doe yoe : Int) (h0 : 0 ≤ doe) (h1 : doe ≤ 146096)
    (hy : (doe - doe / 1460 + doe / 36524 - doe / 146096) / 365 = yoe) :
    0 ≤ yoe ∧ yoe ≤ 399 ∧ 0 ≤ doe - (365 * yoe + yoe / 4 - yoe / 100) ∧
      doe - (365 * yoe + yoe / 4 - yoe / 100) ≤ 365 := by
  obtain ⟨q, r, hq0, hq1, hr0, hr1, hr⟩ := four_blocks 36524 doe (by omega) h0 h1
  obtain ⟨t, d, ht0, ht1, hd0, hd1, hd⟩ :=
    four_blocks 365 (r % 1461) (by omega) (by omega) (by omega)
  rw [(yoe_of_digits q (r / 1461) t d doe hq0 hq1 (by omega) (by omega) ht0 ht1 hd0 (by omega)
    (by omega)).2] at hy
  have h4 : yoe / 4 = 25 * q + r / 1461 := by omega
  have h100 : yoe / 100 = q := by omega
  omega

/-- month in 1..12 and day in 1..31, for every day number -/
theorem civil_ranges (z : Int) :
    1 ≤ (civilFromDays z).2.1 ∧ (civilFromDays z).2.1 ≤ 12 ∧
    1 ≤ (civilFromDays z).2.2 ∧ (civilFromDays z).2.2 ≤ 31 := by
  obtain ⟨-, -, d0, d1⟩ := yoe_doy ((z + 719468) % 146097) _ (by omega) (by omega) rfl
  simp only [civilFromDays]
  generalize (z + 719468) % 146097 - _ = doy at d0 d1 ⊢
  split <;> omega

theorem roundtrip_core (era doe yoe doy mp : Int)
    (hy0 : 0 ≤ yoe) (hy1 : yoe ≤ 399) (hd0 : 0 ≤ doy) (hd1 : doy ≤ 365)
    (hdoy : doy = doe - (365 * yoe + yoe / 4 - yoe / 100))
    (hmp : mp = (5 * doy + 2) / 153) :
    daysFromCivil (yoe + era * 400 + (if (if mp < 10 then mp + 3 else mp - 9) ≤ 2 then 1 else 0))
      (if mp < 10 then mp + 3 else mp - 9) (doy - (153 * mp + 2) / 5 + 1)
      = era * 146097 + doe - 719468 := by
  obtain ⟨e1, e2⟩ := ediv_emod_of_eq (Int.add_comm yoe (era * 400)) hy0 (Int.lt_add_one_iff.2 hy1)
  simp only [daysFromCivil]
  by_cases hlt : mp < 10
  · simp only [if_pos hlt, if_neg (by omega : ¬ mp + 3 ≤ 2), if_pos (by omega : mp + 3 > 2),
      Int.add_zero, e1, e2]
    omega
  · simp only [if_neg hlt, if_pos (by omega : mp - 9 ≤ 2), if_neg (by omega : ¬ mp - 9 > 2),
      Int.add_sub_cancel, e1, e2]
    omega

/-- **civil_roundtrip**: converting a day number to (year, month, day) and back is the identity -/
theorem civil_roundtrip (z : Int) :
    daysFromCivil (civilFromDays z).1 (civilFromDays z).2.1 (civilFromDays z).2.2 = z := by
  have h0 : 0 ≤ (z + 719468) % 146097 := by omega
  have h1 : (z + 719468) % 146097 ≤ 146096 := by omega
  obtain ⟨y0, y1, d0, d1⟩ := yoe_doy _ _ h0 h1 rfl
  have := roundtrip_core ((z + 719468) / 146097) ((z + 719468) % 146097) _ _ _ y0 y1 d0 d1 rfl rfl
  simp only [civilFromDays]
  rw [this]
  omega

/-! ### ranges of the date parts -/

theorem usOfDay_range (us : Int) : 0 ≤ usOfDay us ∧ usOfDay us < 86400000000 := by
  simp only [usOfDay, usPerDay]; omega

/-- hour 0..23, minute and second 0..59, millisecond 0..999, day of week 1..7, month 1..12,
    day of month 1..31 — for every instant -/
theorem datePart_ranges (us : Int) :
    (∃ h, datePart "$hour" us = .ok (.int h) ∧ 0 ≤ h ∧ h ≤ 23) ∧
    (∃ m, datePart "$minute" us = .ok (.int m) ∧ 0 ≤ m ∧ m ≤ 59) ∧
    (∃ s, datePart "$second" us = .ok (.int s) ∧ 0 ≤ s ∧ s ≤ 59) ∧
    (∃ ms, datePart "$millisecond" us = .ok (.int ms) ∧ 0 ≤ ms ∧ ms ≤ 999) ∧
    (∃ w, datePart "$dayOfWeek" us = .ok (.int w) ∧ 1 ≤ w ∧ w ≤ 7) ∧
    (∃ m, datePart "$month" us = .ok (.int m) ∧ 1 ≤ m ∧ m ≤ 12) ∧
    (∃ d, datePart "$dayOfMonth" us = .ok (.int d) ∧ 1 ≤ d ∧ d ≤ 31) := by
  have hr := usOfDay_range us
  have hc := civil_ranges (dayOf us)
  refine ⟨⟨usOfDay us / 3600000000, by simp [datePart], by omega⟩,
    ⟨usOfDay us / 60000000 % 60, by simp [datePart], by omega⟩,
    ⟨usOfDay us / 1000000 % 60, by simp [datePart], by omega⟩,
    ⟨usOfDay us % 1000000 / 1000, by simp [datePart], by omega⟩,
    ⟨(dayOf us + 4) % 7 + 1, by simp [datePart], by omega⟩,
    ⟨(civilFromDays (dayOf us)).2.1, by simp [datePart], hc.1, hc.2.1⟩,
    ⟨(civilFromDays (dayOf us)).2.2, by simp [datePart], hc.2.2.1, hc.2.2.2⟩⟩

/-- the time of day is recovered from its parts -/
theorem time_parts_recompose (us : Int) :
    usOfDay us = (usOfDay us / 3600000000) * 3600000000 + (usOfDay us / 60000000 % 60) * 60000000
      + (usOfDay us / 1000000 % 60) * 1000000 + usOfDay us % 1000000 := by
  have := usOfDay_range us
  omega

/-- and the instant from the day number and the time of day -/
theorem day_time_recompose (us : Int) : us = dayOf us * usPerDay + usOfDay us := by
  simp only [dayOf, usOfDay, usPerDay]; omega

end MongoModel.Proofs.C04
