/-
  Proofs.C13ExtPaths — the seed of any filter: `_discard_operators` keeps the equality conditions
  (`Spec.equalities`), `_expand_dots` puts each of them at its path — or raises when one of them
  lies below another — and a dropped condition leaves nothing at its path unless an equality
  condition reaches there.
-/
import Proofs.C13ExtConflict

namespace MongoModel.Proofs.C13Ext
open MongoModel MongoModel.Spec MongoModel.Proofs.C13Lemmas

theorem noDollarKeys_iff {ss : Fields} :
    noDollarKeys ss = true ↔ ∀ kv ∈ ss, kv.1.startsWith "$" = false := by
  simp [noDollarKeys, List.all_eq_true]

theorem equalities_eq_keep (ss : Fields) (hnd : noDollarKeys ss = true) : equalities ss = keep ss [] := by
  unfold equalities
  rw [discard_is_keep ss (noDollarKeys_iff.1 hnd)]

/-- which conditions survive: exactly the ones `_discard_operators` does not drop, each with what
    is left of its value -/
theorem mem_equalities (ss : Fields) (hnd : noDollarKeys ss = true) (hk : (dkeys ss).Nodup)
    (k : String) (w : Val) :
    (k, w) ∈ equalities ss ↔ ∃ v, (k, v) ∈ ss ∧ (discardOps v).2 = false ∧ w = (discardOps v).1 := by
  rw [equalities_eq_keep ss hnd]
  have hkn : (dkeys (keep ss [])).Nodup := keep_nodup ss [] (by simp [dkeys])
  constructor
  · intro hm
    have hg := dget_of_mem_nodup hkn hm
    have hks : k ∈ dkeys ss := by
      rcases keep_keys ss [] k (List.mem_map.2 ⟨(k, w), hm, rfl⟩) with h | h
      · simp [dkeys] at h
      · exact h
    obtain ⟨kv, hkv, e⟩ := List.mem_map.1 hks
    obtain ⟨k', v⟩ := kv
    simp only at e; subst e
    rw [dget_keep k' v ss [] hk (dget_of_mem_nodup hk hkv)] at hg
    cases hd : (discardOps v).2 with
    | true => simp [hd, dget] at hg
    | false =>
      simp only [hd, Bool.false_eq_true, if_false, Option.some.injEq] at hg
      exact ⟨v, hkv, hd, hg.symm⟩
  · rintro ⟨v, hkv, hd, rfl⟩
    apply dget_mem
    rw [dget_keep k v ss [] hk (dget_of_mem_nodup hk hkv), hd]
    rfl

/-- a path incomparable with every key reads in the expansion as it did before -/
theorem fold_frame (q : List String) : ∀ (ss : Fields) (st st' : Fields × List String × List String),
    ss.foldlM edStep st = .ok st' → (∀ b ∈ ss, Incomp (splitDots b.1) q) →
    getPath q (.doc st'.1) = getPath q (.doc st.1)
  | [], st, st', h, _ => by
    simp only [List.foldlM_nil, pure, Except.pure] at h
    cases h; rfl
  | kv :: ss, st, st', h, hi => by
    rw [List.foldlM_cons] at h
    cases h1 : edStep st kv with
    | error e => rw [h1] at h; cases h
    | ok st1 =>
      rw [h1] at h
      simp only [bind, Except.bind] at h
      obtain ⟨_, _, hex, _, _⟩ := edStep_ok st st1 kv h1
      rw [fold_frame q ss st1 st' h (fun b hb => hi b (List.mem_cons_of_mem _ hb))]
      exact expandOne_frame _ _ kv.2 _ _ _ _ q hex (hi kv (List.mem_cons_self ..))

theorem expand_nothing (ss ex : Fields) (h : expandDots ss = .ok ex) (q : List String) (hq : q ≠ [])
    (hi : ∀ b ∈ ss, Incomp (splitDots b.1) q) : getPath q (.doc ex) = none := by
  rw [expandDots_eq] at h
  cases hf : ss.foldlM edStep ([], [], []) with
  | error e => rw [hf] at h; cases h
  | ok st' =>
    rw [hf] at h
    cases h
    rw [fold_frame q ss _ st' hf hi]
    cases q with
    | nil => exact absurd rfl hq
    | cons a t => exact getPath_empty_doc a t

theorem upsertSeed_eq (ss : Fields) (idv : Val) (hnd : noDollarKeys (dset "_id" idv ss) = true) :
    upsertSeed ss idv = (expandDots (equalities (dset "_id" idv ss))).map Val.doc := by
  unfold upsertSeed
  rw [equalities_eq_keep _ hnd, discard_is_keep _ (noDollarKeys_iff.1 hnd)]

end MongoModel.Proofs.C13Ext
