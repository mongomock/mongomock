/-
  Proofs.C10Keys — store keys: distinct, symmetric, reflexive; deleting by `_id` removes exactly
  the entries the `_id`s came from.
-/
import Proofs.C05Eq
import Proofs.C10Scan

namespace MongoModel.Proofs.C10Lemmas
open MongoModel MongoModel.Spec

/-- `KeysDistinct` on a list of entries -/
def DK (l : List (Val × Val)) : Prop := l.Pairwise (fun a b => pyEq a.1 b.1 = false)

/-- `GoodKeys` on a list of entries -/
def GK (l : List (Val × Val)) : Prop := ∀ p ∈ l, SymmVal p.1 ∧ pyEq p.1 p.1 = true

/-- `KeyIsId` on a list of entries -/
def KI (l : List (Val × Val)) : Prop := ∀ p ∈ l, ∃ id, idOf p.2 = some id ∧ pyEq p.1 id = true

/-- Python `==` is transitive (on every value of the universe) -/
theorem pyEq_trans : ∀ a b c : Val, pyEq a b = true → pyEq b c = true → pyEq a c = true :=
  C05Lemmas.pyEq_trans

theorem DK.sublist {l l' : List (Val × Val)} (h : DK l) (hs : l'.Sublist l) : DK l' :=
  List.Pairwise.sublist hs h

theorem GK.subset {l l' : List (Val × Val)} (h : GK l) (hs : ∀ p ∈ l', p ∈ l) : GK l' :=
  fun p hp => h p (hs p hp)

theorem KI.subset {l l' : List (Val × Val)} (h : KI l) (hs : ∀ p ∈ l', p ∈ l) : KI l' :=
  fun p hp => h p (hs p hp)

/-- two entries with `==` keys are the same entry -/
theorem mem_eq_of_pyEq {l : List (Val × Val)} (hd : DK l) (hg : GK l) {p q : Val × Val}
    (hp : p ∈ l) (hq : q ∈ l) (h : pyEq p.1 q.1 = true) : p = q := by
  induction l with
  | nil => cases hp
  | cons a l ih =>
    have hd' := List.pairwise_cons.1 hd
    have hg' : GK l := hg.subset (fun p hp => List.mem_cons_of_mem _ hp)
    rcases List.mem_cons.1 hp with rfl | hp'
    · rcases List.mem_cons.1 hq with rfl | hq'
      · rfl
      · rw [hd'.1 q hq'] at h; cases h
    · rcases List.mem_cons.1 hq with rfl | hq'
      · have := hd'.1 p hp'
        rw [(hg q (List.mem_cons_self ..)).1 p.1, h] at this
        cases this
      · exact ih hd'.2 hg' hp' hq'

/-- a member is what `lookup` finds under its key -/
theorem find_of_mem {l : List (Val × Val)} (hd : DK l) (hg : GK l) {p : Val × Val} (hp : p ∈ l) :
    l.find? (fun q => pyEq q.1 p.1) = some p := by
  cases hf : l.find? (fun q => pyEq q.1 p.1) with
  | none =>
    have := List.find?_eq_none.1 hf p hp
    simp [(hg p hp).2] at this
  | some q =>
    have hq := List.mem_of_find?_eq_some hf
    have hqp : pyEq q.1 p.1 = true := by
      have := List.find?_some hf
      exact this
    rw [mem_eq_of_pyEq hd hg hq hp hqp]

theorem foldl_delDoc_docs (keys : List Val) (c : Coll) :
    (keys.foldl (fun acc k => acc.delDoc k) c).docs =
      c.docs.filter (fun p => !keys.any (fun k => pyEq p.1 k)) := by
  induction keys generalizing c with
  | nil =>
    simp only [List.foldl_nil, List.any_nil, Bool.not_false]
    exact (List.filter_eq_self.2 (fun _ _ => rfl)).symm
  | cons k ks ih =>
    rw [List.foldl_cons, ih]
    simp only [Coll.delDoc, List.filter_filter]
    apply List.filter_congr
    intro p _
    simp only [List.any_cons, Bool.not_or]
    exact Bool.and_comm _ _

theorem idOf_eq : (fun d : Val => match d with | .doc fs => dget "_id" fs | _ => none) = idOf := by
  funext d; cases d <;> rfl

/-- the `_id`s of entries stored under their `_id`: one per entry, `==` to the entry's key -/
theorem ids_of (vs : List (Val × Val)) (hk : KI vs) (hg : GK vs) :
    ((vs.map (·.2)).filterMap idOf).length = vs.length ∧
    ∀ p : Val × Val, SymmVal p.1 →
      ((vs.map (·.2)).filterMap idOf).any (fun k => pyEq p.1 k) =
        vs.any (fun q => pyEq q.1 p.1) := by
  induction vs with
  | nil => simp
  | cons q vs ih =>
    obtain ⟨id, hid, hq⟩ := hk q (List.mem_cons_self ..)
    obtain ⟨ih1, ih2⟩ := ih (hk.subset (fun p hp => List.mem_cons_of_mem _ hp))
      (hg.subset (fun p hp => List.mem_cons_of_mem _ hp))
    rw [List.map_cons, List.filterMap_cons_some hid]
    refine ⟨by simp only [List.length_cons, ih1], ?_⟩
    intro p hp
    rw [List.any_cons, List.any_cons, ih2 p hp]
    congr 1
    have hsq := (hg q (List.mem_cons_self ..)).1
    rw [Bool.eq_iff_iff]
    constructor
    · intro h
      have h1 : pyEq id q.1 = true := by rw [← hsq id]; exact hq
      rw [hsq p.1]
      exact pyEq_trans _ _ _ h h1
    · intro h
      rw [hsq p.1] at h
      exact pyEq_trans _ _ _ h hq

/-- removing the entries `==` to a sublist of entries removes exactly as many -/
theorem remove_sublist_length {l vs : List (Val × Val)} (hs : vs.Sublist l) (hd : DK l) (hg : GK l) :
    (l.filter (fun p => !vs.any (fun q => pyEq q.1 p.1))).length + vs.length = l.length := by
  induction hs with
  | slnil => rfl
  | @cons vs l a hs ih =>
    have hd' := List.pairwise_cons.1 hd
    have hg' : GK l := hg.subset (fun p hp => List.mem_cons_of_mem _ hp)
    have ha : vs.any (fun q => pyEq q.1 a.1) = false := by
      rw [List.any_eq_false]
      intro q hq
      rw [← (hg a (List.mem_cons_self ..)).1 q.1, hd'.1 q (hs.subset hq)]
      simp
    rw [List.filter_cons, ha]
    simp only [Bool.not_false, if_true, List.length_cons]
    have := ih hd'.2 hg'
    omega
  | @cons_cons vs l a hs ih =>
    have hd' := List.pairwise_cons.1 hd
    have hg' : GK l := hg.subset (fun p hp => List.mem_cons_of_mem _ hp)
    have haa := (hg a (List.mem_cons_self ..)).2
    rw [List.filter_cons]
    simp only [List.any_cons, haa, Bool.true_or, Bool.not_true, Bool.false_eq_true, if_false,
      List.length_cons]
    have hc : l.filter (fun p => !(pyEq a.1 p.1 || vs.any (fun q => pyEq q.1 p.1))) =
        l.filter (fun p => !vs.any (fun q => pyEq q.1 p.1)) := by
      apply List.filter_congr
      intro p hp
      rw [hd'.1 p hp, Bool.false_or]
    rw [hc]
    have := ih hd'.2 hg'
    omega

/-- the whole of a delete: entries `vs` (a sublist of the store, stored under their `_id`s) are
    the victims -/
theorem delete_victims (c1 : Coll) (vs : List (Val × Val)) (hs : vs.Sublist c1.docs)
    (hd : DK c1.docs) (hg : GK c1.docs) (hk : KI c1.docs) :
    let keys := (vs.map (·.2)).filterMap idOf
    keys.length = vs.length ∧
    (keys.foldl (fun acc k => acc.delDoc k) c1).docs =
      c1.docs.filter (fun p => !vs.any (fun q => pyEq q.1 p.1)) ∧
    (keys.foldl (fun acc k => acc.delDoc k) c1).docs.length + vs.length = c1.docs.length := by
  intro keys
  have hkeys : keys = (vs.map (·.2)).filterMap idOf := rfl
  obtain ⟨h1, h2⟩ := ids_of vs (hk.subset (fun p hp => hs.subset hp))
    (hg.subset (fun p hp => hs.subset hp))
  have hdocs : (keys.foldl (fun acc k => acc.delDoc k) c1).docs =
      c1.docs.filter (fun p => !vs.any (fun q => pyEq q.1 p.1)) := by
    rw [foldl_delDoc_docs, hkeys]
    apply List.filter_congr
    intro p hp
    rw [h2 p (hg p hp).1]
  refine ⟨by rw [hkeys, h1], hdocs, ?_⟩
  rw [hdocs]
  exact remove_sublist_length hs hd hg

end MongoModel.Proofs.C10Lemmas
