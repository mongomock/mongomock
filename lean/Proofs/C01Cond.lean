/-
  Proofs.C01Cond — one condition `path: c` of D: the matcher's `applyKey` against the oracle's
  `condHolds` on the reached values.
-/
import Proofs.C01Leaf

namespace MongoModel.Proofs.C01Lemmas
open MongoModel MongoModel.Spec

theorem bind_and_true (r : R Bool) :
    (do let here ← r; let more ← (Except.ok true : R Bool); pure (here && more)) = r := by
  rcases r with _ | b
  · rfl
  · cases b <;> rfl

theorem opsHold_single (op : String) (sv : Val) (cs : List (Option Val)) (hop : op ∈ leafOps) :
    opsHold [(op, sv)] cs = leafHolds op sv cs := by
  obtain ⟨_, _, h1, h2, h3⟩ := leafOps_spec hop
  cases sv <;> simp only [opsHold, h1, h2, h3, decide_false, Bool.or_false, Bool.false_eq_true,
    ↓reduceIte] <;> exact bind_and_true _

theorem ne_of_not_dollar {k lit : String} (h : k.startsWith "$" = false)
    (hl : lit.startsWith "$" = true) : k ≠ lit := by
  intro e; subst e; rw [h] at hl; cases hl

theorem all_congr' {α} {f g : α → Bool} {xs : List α} (h : ∀ x, x ∈ xs → f x = g x) :
    xs.all f = xs.all g := by
  induction xs with
  | nil => rfl
  | cons x xs ih =>
    simp only [List.all_cons]
    rw [h x (by simp), ih (fun x hm => h x (by simp [hm]))]

/-- what the matcher computes for `{$all: vs}` alone under a key, given the candidates -/
theorem applyKey_all (vs : List Val) (key : String) (d : Val) (cs : List (Option Val))
    (hck : candsKey key d = .ok cs) :
    applyKey (.doc [("$all", .arr vs)]) key d = allOp (.arr vs) (.list cs) := by
  have hck' : checkUnknownOps ["$all"] = .ok () := by decide +kernel
  rw [applyKey.eq_1]
  simp only [hck, bind, Except.bind, dkeys, List.map_cons, List.map_nil, pyEq_doc_one,
    String.reduceEq, decide_false, Bool.false_and, Bool.false_eq_true, ↓reduceIte,
    List.contains_cons, List.contains_nil, beq_self_eq_true, allPre, List.length_cons,
    List.length_nil, Bool.and_self, hck', String.reduceBEq, Bool.or_false, Bool.and_false,
    ite_self]
  rcases allOp (.arr vs) (.list cs) with e | b
  · rfl
  · cases b <;> rfl

theorem allItems_plain (vs : List Val) (a : AllArg) (hel : vs.any isElemItem = false) :
    allItems vs a = .ok (vs.map (fun x => pyInOpt x a.forced)) := by
  induction vs with
  | nil => rfl
  | cons v vs ih =>
    simp only [List.any_cons, Bool.or_eq_false_iff] at hel
    have ih' := ih hel.2
    cases v with
    | doc fs =>
      have : dhas "$elemMatch" fs = false := by simpa [isElemItem] using hel.1
      rw [allItems.eq_2]
      simp [this, ih', bind, Except.bind, pure, Except.pure]
    | _ =>
      rw [allItems.eq_3 _ _ _ (by intro fs e; cases e)]
      simp [ih', bind, Except.bind, pure, Except.pure]

theorem allHold_plain (vs : List Val) (cs : List (Option Val)) (hel : vs.any isElemItem = false) :
    allHold vs cs = .ok (vs.all (fun x => (eqLeaf x).holds cs)) := by
  induction vs with
  | nil => rfl
  | cons v vs ih =>
    simp only [List.any_cons, Bool.or_eq_false_iff] at hel
    rw [allHold.eq_3 _ _ _ (by
      intro gs e; subst e
      have := hel.1
      simp [isElemItem, dhas, dget] at this), ih hel.2]
    rfl

theorem isArrCand_inv : ∀ {c : Option Val}, isArrCand c = true → ∃ ys, c = some (.arr ys)
  | some (.arr ys), _ => ⟨ys, rfl⟩

/-- membership of one `$all` item among candidates none of which is an array -/
theorem pyInOpt_flat (nb : Bool) (x : Val) (cs : List (Option Val)) (hx : Clean nb x)
    (hsd : smallDocs x = true) (hna : x.isArr = false) (hcs : CandsAll (Clean nb) cs)
    (ha : cs.any isArrCand = false) : pyInOpt x cs = (eqLeaf x).holds cs := by
  refine any_congr' (fun c hm => ?_)
  rw [← opEq_eq nb x c hx hsd hna (hcs c hm)]
  have hc : isArrCand c = false := by simpa using List.any_eq_false.mp ha c hm
  cases c with
  | none => cases x <;> rfl
  | some v => cases v <;> first | rfl | cases hc

/-- membership of one `$all` item among the elements of the only candidate, an array -/
theorem pyInOpt_arr (nb : Bool) (x : Val) (ys : List Val) (hx : Clean nb x)
    (hsd : smallDocs x = true) (hna : x.isArr = false) (hys : Clean nb (.arr ys)) :
    pyInOpt x (ys.map some) = (eqLeaf x).holds [some (.arr ys)] := by
  have h := opEq_eq nb x (some (.arr ys)) hx hsd hna (by intro v hv; cases hv; exact hys)
  simp only [Leaf.holds, List.any_cons, List.any_nil, Bool.or_false]
  rw [← h]
  simp [pyInOpt, opEq, hna, operatorEq, List.any_map, Function.comp_def]

/-- the candidates as `_all_op` sees them, in D — unchanged when none is an array, the elements
    of the array when it is the only candidate — hold an item exactly when the rules say so -/
theorem allArgNorm_inD (nb : Bool) (cs : List (Option Val)) (hcs : CandsAll (Clean nb) cs)
    (hmc : ¬ (decide (cs.length > 1) && cs.any isArrCand) = true) :
    ∃ a, allArgNorm (.list cs) = .ok a ∧ ∀ x, Clean nb x → smallDocs x = true →
      x.isArr = false → pyInOpt x a.forced = (eqLeaf x).holds cs := by
  cases ha : cs.any isArrCand with
  | false =>
    refine ⟨_, allArgNorm.eq_2 _ ?_, fun x h1 h2 h3 => pyInOpt_flat nb x cs h1 h2 h3 hcs ha⟩
    rintro ys r ⟨rfl⟩
    simp [isArrCand] at ha
  | true =>
    match cs, hcs, hmc, ha with
    | [c], hcs, _, ha =>
      obtain ⟨ys, rfl⟩ := isArrCand_inv (by simpa using ha)
      exact ⟨.list (ys.map some), by simp [allArgNorm, chainFlatten, Except.map],
        fun x h1 h2 h3 => pyInOpt_arr nb x ys h1 h2 h3 (hcs _ (by simp) _ rfl)⟩
    | _ :: _ :: _, _, hmc, ha => simp [ha] at hmc

theorem cond_all (nb : Bool) (sv : Val) (key : String) (d : Val) (cs : List (Option Val))
    (hck : candsKey key d = .ok cs) (hr : allReasons sv cs = [])
    (hs : Clean nb sv) (hcs : CandsAll (Clean nb) cs) :
    ∃ b, applyKey (.doc [("$all", sv)]) key d = .ok b ∧ opsHold [("$all", sv)] cs = .ok b := by
  cases sv with
  | arr vs =>
    simp only [allReasons, List.append_eq_nil_iff] at hr
    obtain ⟨⟨hr12, hr3⟩, hr4⟩ := hr
    obtain ⟨hna, hsd⟩ := eq_operand (List.append_eq_nil_iff.mpr hr12)
    have hel : vs.any isElemItem = false := Bool.eq_false_iff.mpr (not_of_ite_nil hr3)
    obtain ⟨a, hn, hin⟩ := allArgNorm_inD nb cs hcs (not_of_ite_nil hr4)
    refine ⟨!vs.isEmpty && vs.all (fun x => (eqLeaf x).holds cs), ?_, ?_⟩
    · rw [applyKey_all vs key d cs hck, allOp.eq_1]
      cases hve : vs.isEmpty with
      | true => rfl
      | false =>
        simp only [Bool.false_eq_true, ↓reduceIte, Bool.not_false, Bool.true_and, hn, bind,
          Except.bind, allItems_plain vs _ hel, pure, Except.pure, List.all_map, Function.comp_def,
          id]
        refine congrArg _ (all_congr' fun x hm => ?_)
        exact hin x ((hered_clean nb).arr vs x hs hm) (hered_smallDocs.arr vs x hsd hm)
          (by simpa using List.any_eq_false.mp hna x hm)
    · simp only [opsHold, ↓reduceIte, allHold_plain vs cs hel]
      cases vs.isEmpty <;> simp [bind, Except.bind, pure, Except.pure]
  | _ => cases hr

/-- a one-field document operand without `$` key: implicit equality -/
theorem applyKey_plain_doc (k : String) (v : Val) (key : String) (d : Val)
    (cs : List (Option Val)) (hk : k.startsWith "$" = false) (hck : candsKey key d = .ok cs) :
    applyKey (.doc [(k, v)]) key d = .ok (cs.any (plainMatch (.doc [(k, v)]))) := by
  have n (lit : String) (hl : lit.startsWith "$" = true) : (lit == k) = false :=
    beq_eq_false_iff_ne.mpr (ne_of_not_dollar hk hl).symm
  obtain ⟨h', e⟩ := candLoop_pos _ (plainMatch (.doc [(k, v)])) cs (fun _ _ => rfl) false
  rw [applyKey.eq_1]
  simp only [hck, bind, Except.bind, dkeys, List.map_cons, List.map_nil, pyEq_doc_one, isOpsFilter,
    List.all_cons, List.all_nil, hk, pure, Except.pure, List.contains_cons, List.contains_nil,
    Bool.or_false, n "$ne" (by decide +kernel), n "$nin" (by decide +kernel),
    n "$all" (by decide +kernel),
    decide_eq_false (ne_of_not_dollar hk (show "$exists".startsWith "$" = true by decide +kernel)),
    Bool.false_and, Bool.and_false, Bool.false_eq_true, ↓reduceIte, Bool.not_true, Bool.or_self, e,
    List.any_cons, List.any_nil, bne, BEq.comm (a := k), Bool.not_false, Bool.and_self,
    Bool.or_true, Bool.and_true, Bool.not_not]

/-- the empty document operand: implicit equality with `{}` -/
theorem applyKey_plain_empty (key : String) (d : Val) (cs : List (Option Val))
    (hck : candsKey key d = .ok cs) :
    applyKey (.doc []) key d = .ok (cs.any (plainMatch (.doc []))) := by
  have hpe : pyEq (Val.doc []) (Val.doc [("$exists", Val.bool false)]) = false := rfl
  obtain ⟨h', e⟩ := candLoop_pos _ (plainMatch (.doc [])) cs (fun _ _ => rfl) false
  rw [applyKey.eq_1]
  simp only [hck, bind, Except.bind, dkeys, List.map_nil, hpe, isOpsFilter, List.isEmpty_nil,
    Bool.not_true, Bool.false_and, List.contains_nil, Bool.false_eq_true, ↓reduceIte, pure,
    Except.pure, Bool.or_self, e, Bool.true_or, Bool.or_true, Bool.and_true, Bool.not_not]

theorem applyKey_plain_nondoc (c : Val) (key : String) (d : Val) (cs : List (Option Val))
    (hc : ∀ fs, c = .doc fs → False) (hck : candsKey key d = .ok cs) :
    applyKey c key d = .ok (cs.any (plainMatch c)) := by
  obtain ⟨h', e⟩ := candLoop_pos _ (plainMatch c) cs (fun _ _ => rfl) false
  rw [applyKey.eq_2 _ _ _ hc]
  simp only [hck, bind, Except.bind, pure, Except.pure, e]

theorem plain_any_eq (nb : Bool) (c : Val) (cs : List (Option Val)) (hc : Clean nb c)
    (hsd : smallDocs c = true) (hcs : CandsAll (Clean nb) cs) :
    cs.any (plainMatch c) = (eqLeaf c).holds cs :=
  any_congr' (fun dv hm => plainMatch_eq nb c dv hc hsd (hcs dv hm))

/-- one operator of D under a key: a leaf operator or `$all` -/
theorem cond_op (nb : Bool) (op : String) (sv : Val) (key : String) (d : Val)
    (cs : List (Option Val)) (hck : candsKey key d = .ok cs) (hr : opReasons op sv cs = [])
    (hs : Clean nb sv) (hcs : CandsAll (Clean nb) cs) :
    operatorMapKeys.contains op = true ∧ op.startsWith "$" = true ∧
      ∃ b, applyKey (.doc [(op, sv)]) key d = .ok b ∧ opsHold [(op, sv)] cs = .ok b := by
  by_cases hall : op = "$all"
  · subst hall
    have : opReasons "$all" sv cs = allReasons sv cs := by
      unfold opReasons
      simp only [String.reduceEq, decide_false, Bool.or_self, Bool.false_eq_true, ↓reduceIte]
    exact ⟨by decide, by decide +kernel, cond_all nb sv key d cs hck (this ▸ hr) hs hcs⟩
  · obtain ⟨hop, b, h1, h2⟩ := spec_single nb op sv cs hall hr hs hcs
    exact ⟨(leafOps_spec hop).2.1, (leafOps_spec hop).1, b,
      by rw [applyKey_single op sv key d hop, hck]; exact h1,
      by rw [opsHold_single op sv cs hop]; exact h2⟩

theorem cond_not (nb : Bool) (op sv) (key : String) (d : Val)
    (cs : List (Option Val)) (hck : candsKey key d = .ok cs) (hne : cs ≠ [])
    (hr : opReasons op sv cs = [])
    (hs : Clean nb sv) (hcs : CandsAll (Clean nb) cs) :
    ∃ b, applyKey (.doc [("$not", .doc [(op, sv)])]) key d = .ok b ∧
      opsHold [("$not", .doc [(op, sv)])] cs = .ok b := by
  obtain ⟨hom, hdl, b, h1, h2⟩ := cond_op nb op sv key d cs hck hr hs hcs
  refine ⟨!b, ?_, ?_⟩
  · rw [not_eq_neg key [(op, sv)] d cs hck hne (by
      simp only [List.all_cons, List.all_nil, hom, Bool.true_or, Bool.and_self]), h1]; rfl
  · simp only [opsHold, isOps, List.isEmpty_cons, Bool.not_false, List.all_cons, List.all_nil,
      hdl, Bool.and_self, ↓reduceIte, h2]
    rw [bind_and_true]; rfl

theorem cond_plain (nb : Bool) (c : Val) (key : String) (d : Val) (cs : List (Option Val))
    (happ : applyKey c key d = .ok (cs.any (plainMatch c)))
    (hspec : condHolds c cs = .ok ((eqLeaf c).holds cs))
    (hr : operandReasons c = []) (hc : Clean nb c) (hcs : CandsAll (Clean nb) cs) :
    ∃ b, applyKey c key d = .ok b ∧ condHolds c cs = .ok b :=
  ⟨_, by rw [happ, plain_any_eq nb c cs hc (operandReasons_nil hr) hcs], hspec⟩

/-- every condition of D: the matcher and the oracle give the same answer, without raising -/
theorem cond_spec (nb : Bool) (c : Val) (key : String) (d : Val) (cs : List (Option Val))
    (hck : candsKey key d = .ok cs) (hr : condReasons c cs = []) (hc : Clean nb c)
    (hcs : CandsAll (Clean nb) cs) :
    ∃ b, applyKey c key d = .ok b ∧ condHolds c cs = .ok b := by
  cases c with
  | doc fs =>
    unfold condReasons at hr
    dsimp only at hr
    by_cases hops : isOps fs = true
    · rw [if_pos hops] at hr
      rw [show condHolds (.doc fs) cs = opsHold fs cs by rw [condHolds, if_pos hops]]
      -- the shapes not listed here and in the `match sv` below (no or several operators; a `$not`
      -- operand that is not a one-field document) turn `condReasons` into a cons, against `hr`
      match fs, hr, hc with
      | [(op, sv)], hr, hc =>
        have hsv : Clean nb sv := (hered_clean nb).doc _ op sv hc (by simp)
        dsimp only at hr
        by_cases hn : op = "$not"
        · subst hn
          rw [if_pos rfl] at hr
          match sv, hr, hsv with
          | .doc [(op', sv')], hr, hsv =>
            have hsv' : Clean nb sv' := (hered_clean nb).doc _ op' sv' hsv (by simp)
            dsimp only at hr
            by_cases hd : op'.startsWith "$" = true
            · rw [if_pos hd] at hr
              obtain ⟨hr1, hr2⟩ := List.append_eq_nil_iff.mp hr
              by_cases hn' : op' = "$not"
              · rw [if_pos hn'] at hr1; cases hr1
              · rw [if_neg hn'] at hr1
                refine cond_not nb op' sv' key d cs hck ?_ hr1 hsv' hcs
                rintro rfl; cases hr2
            · rw [if_neg hd] at hr; cases hr
        · rw [if_neg hn] at hr
          exact (cond_op nb op sv key d cs hck hr hsv hcs).2.2
    · have hdk : ¬ hasDollarKey fs = true := fun h => by rw [if_neg hops, if_pos h] at hr; cases hr
      rw [if_neg hops, if_neg hdk] at hr
      have hspec : condHolds (.doc fs) cs = .ok ((eqLeaf (.doc fs)).holds cs) := by
        rw [condHolds, if_neg hops, if_neg hdk]
      match fs, hdk, hr, hc, hspec with
      | [], _, hr, hc, hspec =>
        exact cond_plain nb _ key d cs (applyKey_plain_empty key d cs hck) hspec hr hc hcs
      | [(k, v)], hdk, hr, hc, hspec =>
        exact cond_plain nb _ key d cs
          (applyKey_plain_doc k v key d cs (by simpa [hasDollarKey] using hdk) hck) hspec hr hc hcs
      | _ :: _ :: _, _, hr, _, _ => simp [operandReasons, smallDocs] at hr
  | _ =>
    exact cond_plain nb _ key d cs (applyKey_plain_nondoc _ key d cs nofun hck) rfl hr hc hcs

end MongoModel.Proofs.C01Lemmas
