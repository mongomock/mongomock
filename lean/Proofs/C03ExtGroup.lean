/-
  Proofs.C03ExtGroup — `$group` against the oracle `specGroupStage` / `specGroupStageSorted` of
  Spec/PipelineExt.lean on the domain `groupReasons = []`.
-/
import Proofs.C03ExtAcc
import Proofs.C03Spec
import Proofs.C04

namespace MongoModel.Pipe.Proofs
open MongoModel MongoModel.Pipe MongoModel.Spec MongoModel.Spec.Pipe MongoModel.Spec.Order
  MongoModel.Proofs.C11 MongoModel.Expr

/-! ### expressions: the C04 theorem -/

/-- inside the C04 domain the code computes the value the oracle reads -/
theorem evalExpr_of_value {e d : Val} {r : Option Val} (hD : exprReasons e d = [])
    (hv : exprValue e d = some r) : evalExpr d e = .ok r := by
  rw [Proofs.C04.eval_eq_spec e d (List.isEmpty_iff.mpr hD)]
  unfold exprValue at hv
  split at hv
  · cases hv; assumption
  · cases hv

theorem exprTags_nil (e : Val) (docs : List Val) (h : exprTags e docs = []) :
    ∀ d ∈ docs, exprReasons e d = [] :=
  fun d hd => (tag_nil _ _).1 (List.flatMap_eq_nil_iff.mp h d hd)

theorem mapOpt_cons_some {α β} {f : α → Option β} {x : α} {xs : List α} {ys : List β}
    (h : mapOpt f (x :: xs) = some ys) :
    ∃ y r, f x = some y ∧ mapOpt f xs = some r ∧ ys = y :: r := by
  unfold mapOpt at h
  split at h
  · exact ⟨_, _, ‹_›, ‹_›, (Option.some.inj h).symm⟩
  · cases h

theorem keyed_eq_spec (idExpr : Val) : ∀ (docs : List Val) (kds : List (Val × Val)),
    (∀ d ∈ docs, exprReasons idExpr d = []) → specKeyed idExpr docs = some kds →
    keyed idExpr docs = .ok kds
  | [], kds, _, h => by cases h; rfl
  | d :: ds, kds, hD, h => by
    obtain ⟨y, r, h1, h2, rfl⟩ := mapOpt_cons_some h
    obtain ⟨rv, hv, rfl⟩ := Option.map_eq_some_iff.mp h1
    obtain ⟨hd, hds⟩ := List.forall_mem_cons.mp hD
    simp only [keyed, groupKey, evalExpr_of_value hd hv, keyed_eq_spec idExpr ds r hds h2]
    cases rv <;> rfl

theorem accValues_eq_spec (fl : Bool) (e : Val) :
    ∀ (g : List Val) (vals : List (Option Val)),
    (∀ d ∈ g, exprReasons e d = []) → mapOpt (exprValue e) g = some vals →
    accValues fl e g = .ok (seenValues fl vals)
  | [], vals, _, h => by cases h; cases fl <;> rfl
  | d :: ds, vals, hD, h => by
    obtain ⟨y, r, h1, h2, rfl⟩ := mapOpt_cons_some h
    obtain ⟨hd, hds⟩ := List.forall_mem_cons.mp hD
    simp only [accValues, evalExpr_of_value hd h1, accValues_eq_spec fl e ds r hds h2]
    cases y <;> cases fl <;> rfl

theorem accumulate_eq_spec : ∀ (options : Fields) (g : List Val) (fs : Fields),
    accFieldReasons options g = [] → specAccFields options g = some fs →
    accumulate options g = .ok fs ∧ ∀ kv ∈ fs, kv.1 ≠ "_id"
  | [], g, fs, _, hs => by cases hs; exact ⟨rfl, nofun⟩
  | (name, spec) :: rest, g, fs, hD, hs => by
    unfold accFieldReasons at hD
    unfold specAccFields at hs
    by_cases hn : name = "_id"
    · rw [if_pos hn] at hD hs
      simpa only [accumulate, hn, if_true] using accumulate_eq_spec rest g fs hD hs
    · rw [if_neg hn] at hD hs
      split at hs
      · rename_i op e
        split at hs
        · rename_i vals r hv hr
          obtain ⟨v, ha, rfl⟩ := Option.map_eq_some_iff.mp hs
          simp only [List.append_eq_nil_iff, hv] at hD
          obtain ⟨⟨htags, hacc⟩, hD2⟩ := hD
          obtain ⟨ih1, ih2⟩ := accumulate_eq_spec rest g r hD2 hr
          refine ⟨?_, ?_⟩
          · simp only [accumulate, hn, if_false,
              accValues_eq_spec _ e g vals (exprTags_nil e g htags) hv,
              accApply_eq_spec op vals v hacc ha, ih1]
          · intro kv hkv
            rcases List.mem_cons.mp hkv with rfl | h
            · exact hn
            · exact ih2 kv h
        · cases hs
      · cases hs

theorem idLast_group (k : Val) (fs : Fields) (h : ∀ kv ∈ fs, kv.1 ≠ "_id") :
    Spec.Proj.idLast (.doc (("_id", k) :: fs)) = .doc (dset "_id" k fs) := by
  rw [dset_absent fun hm => let ⟨kv, hkv, e⟩ := List.mem_map.1 hm; h kv hkv e]
  have e1 : fs.filter (fun kv => kv.1 != "_id") = fs := by
    rw [List.filter_eq_self]; intro kv hkv; simpa using h kv hkv
  have e2 : fs.filter (fun kv => kv.1 == "_id") = [] := by
    rw [List.filter_eq_nil_iff]; intro kv hkv; simpa using h kv hkv
  simp [Spec.Proj.idLast, e1, e2]

theorem emitGroups_eq_spec (options : Fields) : ∀ (rs : List (Val × List Val)) (s : List Val),
    (∀ r ∈ rs, accFieldReasons options r.2 = []) → specGroupDocs options rs = some s →
    emitGroups options rs = .ok (s.map Spec.Proj.idLast)
  | [], s, _, hs => by cases hs; rfl
  | (k, g) :: rest, s, hD, hs => by
    obtain ⟨y, r, h1, h2, rfl⟩ := mapOpt_cons_some hs
    obtain ⟨fs, hf, rfl⟩ := Option.map_eq_some_iff.mp h1
    obtain ⟨hg, hrest⟩ := List.forall_mem_cons.mp hD
    obtain ⟨a1, a2⟩ := accumulate_eq_spec options g fs hg hf
    simp only [emitGroups, a1, List.map_cons, idLast_group k fs a2,
      emitGroups_eq_spec options rest r hrest h2]

/-- the runs of the sorted keyed documents, emitted: the oracle's groups in key order -/
theorem emit_sorted_runs (options : Fields) (kds : List (Val × Val)) (sd : List Val)
    (hK : ∀ p ∈ kds, groupKeyOk p.1 = true)
    (hD : (specGroups kds).flatMap (fun g => accFieldReasons options g.2) = [])
    (hs : specGroupDocs options (isort (fun a b => valLt a.1 b.1) (specGroups kds)) = some sd) :
    emitGroups options (groupRuns (isort (fun a b : Val × Val => valLt a.1 b.1) kds)) =
      .ok (sd.map Spec.Proj.idLast) := by
  rw [groupRuns_isort kds hK]
  exact emitGroups_eq_spec options _ sd
    (fun r hr => List.flatMap_eq_nil_iff.mp hD r ((isort_perm _ _).mem_iff.1 hr)) hs

theorem keyReasons_nil (k : Val) (h : Spec.Pipe.keyReasons k = []) : groupKeyOk k = true := by
  cases k with
  | bool _ | doc _ => cases h
  | _ => exact of_ite_nil (x := "keyscope") h

theorem specKeyed_null : ∀ (docs : List Val),
    specKeyed .null docs = some (docs.map (fun x => (Val.null, x)))
  | [] => rfl
  | d :: ds => by
    have ih := specKeyed_null ds
    unfold specKeyed at ih ⊢
    rw [mapOpt, ih]; rfl

theorem specGroups_single (d : Val) (ds : List Val) :
    specGroups ((d :: ds).map (fun x => (Val.null, x))) = [(Val.null, d :: ds)] := by
  have e1 : (ds.map (fun x => (Val.null, x))).filter (fun p => keyEq Val.null p.1) =
      ds.map (fun x => (Val.null, x)) := by
    rw [List.filter_eq_self]; intro p hp
    obtain ⟨x, _, rfl⟩ := List.mem_map.mp hp
    exact keyEq_refl _
  have e2 : (ds.map (fun x => (Val.null, x))).filter (fun p => !keyEq Val.null p.1) = [] := by
    rw [List.filter_eq_nil_iff]; intro p hp
    obtain ⟨x, _, rfl⟩ := List.mem_map.mp hp
    simp [keyEq_refl]
  rw [List.map_cons, specGroups_cons, e1, e2]
  simp [specGroups_nil, Function.comp_def]

theorem specAccNames_sub : ∀ op ∈ specAccNames, op ∈ accNames := by
  simp only [specAccNames, accNames, List.mem_cons, List.not_mem_nil, or_false]
  rintro op (rfl | rfl | rfl | rfl | rfl | rfl | rfl | rfl) <;>
    simp only [String.reduceEq, or_true, or_false]

/-- the accumulator specifications the oracle reads pass the code's up-front validation -/
theorem validateAccs_of_specsOk : ∀ (options : Fields), accSpecsOk options = true →
    validateAccs options = .ok ()
  | [], _ => rfl
  | (name, spec) :: rest, h => by
    unfold accSpecsOk at h
    unfold validateAccs
    rw [Bool.and_eq_true] at h
    have ih := validateAccs_of_specsOk rest h.2
    by_cases hn : name = "_id"
    · rw [if_pos hn]; exact ih
    · have h1 := h.1
      simp only [hn, decide_false, Bool.false_or] at h1
      rw [if_neg hn]
      split at h1
      · rename_i op _
        have : accNames.contains op = true :=
          List.contains_iff_mem.mpr (specAccNames_sub _ (List.contains_iff_mem.mp h1))
        simp only [List.all_cons, List.all_nil, Bool.and_true, this, if_true, ih]
      · cases h1

/-- **`$group` = the oracle's sorted representative** on the domain -/
theorem group_eq_spec_sorted (opts : Val) (docs s : List Val)
    (hD : groupReasons opts docs = []) (hs : specGroupStageSorted opts docs = some s) :
    groupStage opts docs = .ok s := by
  match opts, hD, hs with
  | .doc options, hD, hs =>
    simp only [groupReasons, specGroupStageSorted] at hD hs
    have hok : accSpecsOk options = true := by
      cases h : accSpecsOk options with
      | true => rfl
      | false => simp [h] at hs
    simp only [hok, Bool.not_true, Bool.false_eq_true, if_false] at hs
    rw [groupStage_valid options docs (validateAccs_of_specsOk options hok)]
    cases hid : dget "_id" options with
    | none => simp [hid] at hs
    | some idExpr =>
      simp only [hid, List.append_eq_nil_iff] at hD hs
      obtain ⟨htags, hrest⟩ := hD
      cases hk : specKeyed idExpr docs with
      | none => simp [hk] at hs
      | some kds =>
        simp only [hk, Option.bind_some, List.append_eq_nil_iff] at hs hrest
        obtain ⟨hkeys, haccs⟩ := hrest
        obtain ⟨sd, hsd, rfl⟩ := Option.map_eq_some_iff.mp hs
        cases hnull : Expr.isNull idExpr with
        | false =>
          have hK : ∀ p ∈ kds, groupKeyOk p.1 = true := fun p hp =>
            keyReasons_nil _ (List.flatMap_eq_nil_iff.mp hkeys p hp)
          have hshallow : kds.all (fun kd => keyShallow kd.1) = true :=
            List.all_eq_true.mpr fun p hp => keyShallow_of_ok _ (hK p hp)
          simp only [groupBody, hid, hnull, Bool.not_false, if_true,
            keyed_eq_spec idExpr docs kds (exprTags_nil idExpr docs htags) hk, hshallow,
            Bool.not_true, Bool.false_eq_true, if_false, group_sort_eq kds hK]
          exact emit_sorted_runs options kds sd hK haccs hsd
        | true =>
          -- a null `_id`: one group over a non-empty input, none over no input
          cases idExpr <;> cases hnull
          rw [specKeyed_null] at hk
          cases hk
          have hg : isort (fun a b => valLt a.1 b.1) (specGroups (docs.map (fun x => (Val.null, x)))) =
              (if docs.isEmpty then [] else [(Val.null, docs)]) := by
            cases docs with
            | nil => rfl
            | cons d ds => rw [specGroups_single]; rfl
          simp only [groupBody, hid, Expr.isNull, Bool.not_true, Bool.false_eq_true, if_false, ← hg]
          exact emitGroups_eq_spec options _ sd (fun r hr =>
            List.flatMap_eq_nil_iff.mp haccs r ((isort_perm _ _).mem_iff.1 hr)) hsd

/-! ### … and up to the order of the groups -/

theorem mapOpt_of_forall₂ {α β} {f : α → Option β} : ∀ {l : List α} {s : List β},
    List.Forall₂ (fun x y => f x = some y) l s → mapOpt f l = some s
  | _, _, .nil => rfl
  | _, _, .cons h t => by rw [mapOpt, h, mapOpt_of_forall₂ t]

theorem mapOpt_perm {α β} (f : α → Option β) {l l' : List α} (hp : l'.Perm l) (s : List β)
    (h : mapOpt f l = some s) : ∃ s', mapOpt f l' = some s' ∧ s'.Perm s := by
  obtain ⟨s', h1, h2⟩ := List.perm_comp_forall₂ hp (mapOpt_some h)
  exact ⟨s', mapOpt_of_forall₂ h1, h2⟩

/-- the sorted representative holds the oracle's documents, in another order -/
theorem specGroupStageSorted_perm (opts : Val) (docs s : List Val)
    (hs : specGroupStage opts docs = some s) :
    ∃ s' : List Val, specGroupStageSorted opts docs = some (s'.map Spec.Proj.idLast) ∧ s'.Perm s := by
  cases opts with
  | doc options =>
    simp only [specGroupStage] at hs
    have hok : accSpecsOk options = true := by
      cases h : accSpecsOk options with
      | true => rfl
      | false => simp [h] at hs
    simp only [hok, Bool.not_true, Bool.false_eq_true, if_false] at hs
    cases hid : dget "_id" options with
    | none => simp [hid] at hs
    | some idExpr =>
      cases hk : specKeyed idExpr docs with
      | none => simp [hid, hk] at hs
      | some kds =>
        simp only [hid, hk, Option.bind_some] at hs
        obtain ⟨s', h1, h2⟩ := mapOpt_perm _
          (isort_perm (fun a b : Val × List Val => valLt a.1 b.1) (specGroups kds)) s hs
        refine ⟨s', ?_, h2⟩
        simp only [specGroupStageSorted, hok, Bool.not_true, Bool.false_eq_true, if_false, hid, hk,
          Option.bind_some]
        have : specGroupDocs options (isort (fun a b => valLt a.1 b.1) (specGroups kds)) = some s' := h1
        rw [this]; rfl
  | _ => simp [specGroupStage] at hs

end MongoModel.Pipe.Proofs
