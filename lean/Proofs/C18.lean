/-
  Proofs.C18 — the theory behind Props/C18.lean (datetime normalisation).

  `patch` and `makeAware` are one traversal, `mapDates f`: containers rebuilt, `f` at every
  datetime, every other leaf kept.  Such a map keeps `shape`, maps `datesOf`, commutes with access;
  a value is determined by its shape and its datetimes (`eq_of_shape_dates`), and `AllDates P`
  speaks of `datesOf` only (`allDates_iff_dates`).  So a fact about either map at any depth comes
  down to a fact about one datetime.
-/
import MongoModel.DateTime
import MongoModel.Filter
import MongoModel.Store
import Proofs.Basics

namespace MongoModel.Proofs.C18
open MongoModel

theorem floorMs_mod (x : Int) : floorMs x % 1000 = 0 := Int.mul_emod_left _ _

theorem floorMs_of_mod {x : Int} (h : x % 1000 = 0) : floorMs x = x :=
  Int.ediv_mul_cancel_of_emod_eq_zero h

theorem floorMs_idem (x : Int) : floorMs (floorMs x) = floorMs x := floorMs_of_mod (floorMs_mod x)

theorem floorMs_eq_iff (x y : Int) : floorMs x = floorMs y ↔ x / 1000 = y / 1000 :=
  Int.mul_eq_mul_right_iff (by decide)

theorem floorMs_le (x : Int) : floorMs x ≤ x ∧ x < floorMs x + 1000 :=
  ⟨Int.ediv_mul_le x (by decide), by
    have := Int.lt_ediv_add_one_mul_self x (b := 1000) (by decide)
    rwa [Int.add_mul, Int.one_mul] at this⟩

/-! ### `AllDates`: a statement about members, and about `datesOf` -/

theorem allDatesF_iff (P : DatePred) : ∀ fs : Fields,
    AllDatesF P fs ↔ ∀ kv ∈ fs, AllDates P kv.2
  | [] => iff_of_true trivial (List.forall_mem_nil _)
  | _ :: r =>
    (and_congr_right' (allDatesF_iff P r)).trans
      (List.forall_mem_cons (p := fun kv : String × Val => AllDates P kv.2)).symm

theorem allDatesL_iff (P : DatePred) : ∀ xs : List Val,
    AllDatesL P xs ↔ ∀ x ∈ xs, AllDates P x
  | [] => iff_of_true trivial (List.forall_mem_nil _)
  | _ :: r =>
    (and_congr_right' (allDatesL_iff P r)).trans (List.forall_mem_cons (p := AllDates P)).symm

mutual
  theorem allDates_iff_dates (P : DatePred) : ∀ v : Val,
      AllDates P v ↔ ∀ d ∈ datesOf v, P d.1 d.2
    | .date u o =>
      (List.forall_mem_singleton (p := fun d : Int × Option Int => P d.1 d.2) (a := (u, o))).symm
    | .doc fs => allDatesF_iff_dates P fs
    | .arr xs => allDatesL_iff_dates P xs
    | .null | .bool _ | .int _ | .dbl _ _ | .str _ | .oid _ =>
      iff_of_true trivial (List.forall_mem_nil _)
  theorem allDatesF_iff_dates (P : DatePred) : ∀ fs : Fields,
      AllDatesF P fs ↔ ∀ d ∈ datesOfF fs, P d.1 d.2
    | [] => iff_of_true trivial (List.forall_mem_nil _)
    | (_, v) :: r =>
      (and_congr (allDates_iff_dates P v) (allDatesF_iff_dates P r)).trans
        List.forall_mem_append.symm
  theorem allDatesL_iff_dates (P : DatePred) : ∀ xs : List Val,
      AllDatesL P xs ↔ ∀ d ∈ datesOfL xs, P d.1 d.2
    | [] => iff_of_true trivial (List.forall_mem_nil _)
    | x :: r =>
      (and_congr (allDates_iff_dates P x) (allDatesL_iff_dates P r)).trans
        List.forall_mem_append.symm
end

theorem allDates_mono {P Q : DatePred} (h : ∀ u o, P u o → Q u o) (v : Val)
    (hv : AllDates P v) : AllDates Q v :=
  (allDates_iff_dates Q v).2 fun d hd => h _ _ ((allDates_iff_dates P v).1 hv d hd)

theorem allDatesF_mono {P Q : DatePred} (h : ∀ u o, P u o → Q u o) : ∀ fs : Fields,
    AllDatesF P fs → AllDatesF Q fs :=
  fun fs => allDates_mono h (.doc fs)

theorem allDatesL_mono {P Q : DatePred} (h : ∀ u o, P u o → Q u o) : ∀ xs : List Val,
    AllDatesL P xs → AllDatesL Q xs :=
  fun xs => allDates_mono h (.arr xs)

mutual
  theorem allDatesB_iff (p : Int → Option Int → Bool) : ∀ v : Val,
      allDatesB p v = true ↔ AllDates (fun u o => p u o = true) v
    | .date _ _ => Iff.rfl
    | .doc fs => allDatesFB_iff p fs
    | .arr xs => allDatesLB_iff p xs
    | .null | .bool _ | .int _ | .dbl _ _ | .str _ | .oid _ => iff_of_true rfl trivial
  theorem allDatesFB_iff (p : Int → Option Int → Bool) : ∀ fs : Fields,
      allDatesFB p fs = true ↔ AllDatesF (fun u o => p u o = true) fs
    | [] => iff_of_true rfl trivial
    | (_, v) :: r =>
      (Bool.and_eq_true_iff).trans (and_congr (allDatesB_iff p v) (allDatesFB_iff p r))
  theorem allDatesLB_iff (p : Int → Option Int → Bool) : ∀ xs : List Val,
      allDatesLB p xs = true ↔ AllDatesL (fun u o => p u o = true) xs
    | [] => iff_of_true rfl trivial
    | x :: r =>
      (Bool.and_eq_true_iff).trans (and_congr (allDatesB_iff p x) (allDatesLB_iff p r))
end

/-- the executable check decides `AllDates P` when `p` decides `P` -/
theorem allDatesB_iff_of {p : Int → Option Int → Bool} {P : DatePred}
    (h : ∀ u o, p u o = true ↔ P u o) (v : Val) : allDatesB p v = true ↔ AllDates P v :=
  (allDatesB_iff p v).trans
    ⟨allDates_mono (fun u o => (h u o).1) v, allDates_mono (fun u o => (h u o).2) v⟩

theorem normalB_iff (u : Int) (o : Option Int) : normalB u o = true ↔ Normal u o := by
  cases o <;> simp [normalB, Normal]

theorem allNormalB_iff (v : Val) : allDatesB normalB v = true ↔ AllDates Normal v :=
  allDatesB_iff_of normalB_iff v

/-! ### a value is its shape and its datetimes -/

mutual
  /-- put datetimes back into a shape, in document order; what is left of the list is returned -/
  def refill : Val → List (Int × Option Int) → Val × List (Int × Option Int)
    | .date _ _, d :: ds => (.date d.1 d.2, ds)
    | .doc fs, ds => (refillF fs ds).map .doc id
    | .arr xs, ds => (refillL xs ds).map .arr id
    | v, ds => (v, ds)
  def refillF : Fields → List (Int × Option Int) → Fields × List (Int × Option Int)
    | [], ds => ([], ds)
    | (k, v) :: r, ds => (refillF r (refill v ds).2).map ((k, (refill v ds).1) :: ·) id
  def refillL : List Val → List (Int × Option Int) → List Val × List (Int × Option Int)
    | [], ds => ([], ds)
    | x :: r, ds => (refillL r (refill x ds).2).map ((refill x ds).1 :: ·) id
end

mutual
  /-- `refill` inverts `shape` and `datesOf`: the two together lose nothing -/
  theorem refill_shape : ∀ (v : Val) (t : List (Int × Option Int)),
      refill (shape v) (datesOf v ++ t) = (v, t)
    | .doc fs => fun t => congrArg (Prod.map Val.doc id) (refillF_shape fs t)
    | .arr xs => fun t => congrArg (Prod.map Val.arr id) (refillL_shape xs t)
    | .date _ _ | .null | .bool _ | .int _ | .dbl _ _ | .str _ | .oid _ => fun _ => rfl
  theorem refillF_shape : ∀ (fs : Fields) (t : List (Int × Option Int)),
      refillF (shapeFields fs) (datesOfF fs ++ t) = (fs, t)
    | [] => fun _ => rfl
    | (_, v) :: r => fun t => by
      rw [shapeFields, datesOfF, List.append_assoc, refillF, refill_shape v, refillF_shape r t]; rfl
  theorem refillL_shape : ∀ (xs : List Val) (t : List (Int × Option Int)),
      refillL (shapeList xs) (datesOfL xs ++ t) = (xs, t)
    | [] => fun _ => rfl
    | x :: r => fun t => by
      rw [shapeList, datesOfL, List.append_assoc, refillL, refill_shape x, refillL_shape r t]; rfl
end

theorem eq_of_shape_dates (a b : Val) (hs : shape a = shape b) (hd : datesOf a = datesOf b) :
    a = b := by
  have h := refill_shape a []
  rw [hs, hd, refill_shape b []] at h
  exact (congrArg Prod.fst h).symm

theorem eq_of_shapeF_dates : ∀ fs gs : Fields, shapeFields fs = shapeFields gs →
    datesOfF fs = datesOfF gs → fs = gs :=
  fun fs gs hs hd => Val.doc.inj (eq_of_shape_dates (.doc fs) (.doc gs) (congrArg Val.doc hs) hd)

theorem eq_of_shapeL_dates : ∀ xs ys : List Val, shapeList xs = shapeList ys →
    datesOfL xs = datesOfL ys → xs = ys :=
  fun xs ys hs hd => Val.arr.inj (eq_of_shape_dates (.arr xs) (.arr ys) (congrArg Val.arr hs) hd)

mutual
  theorem length_datesOf_shape : ∀ v : Val, (datesOf (shape v)).length = (datesOf v).length
    | .doc fs => length_datesOfF_shape fs
    | .arr xs => length_datesOfL_shape xs
    | .date _ _ | .null | .bool _ | .int _ | .dbl _ _ | .str _ | .oid _ => rfl
  theorem length_datesOfF_shape : ∀ fs : Fields,
      (datesOfF (shapeFields fs)).length = (datesOfF fs).length
    | [] => rfl
    | (_, v) :: r => by
      rw [shapeFields, datesOfF, datesOfF, List.length_append, List.length_append,
        length_datesOf_shape v, length_datesOfF_shape r]
  theorem length_datesOfL_shape : ∀ xs : List Val,
      (datesOfL (shapeList xs)).length = (datesOfL xs).length
    | [] => rfl
    | x :: r => by
      rw [shapeList, datesOfL, datesOfL, List.length_append, List.length_append,
        length_datesOf_shape x, length_datesOfL_shape r]
end

theorem datesOfF_length_of_shape : ∀ fs gs : Fields, shapeFields fs = shapeFields gs →
    (datesOfF fs).length = (datesOfF gs).length :=
  fun fs gs h => by rw [← length_datesOfF_shape fs, h, length_datesOfF_shape]

theorem datesOfL_length_of_shape : ∀ xs ys : List Val, shapeList xs = shapeList ys →
    (datesOfL xs).length = (datesOfL ys).length :=
  fun xs ys h => by rw [← length_datesOfL_shape xs, h, length_datesOfL_shape]

/-- what a rebuilding map does to one datetime (wall-clock µs, offset) -/
abbrev DateFn := Int × Option Int → Int × Option Int

mutual
  /-- containers rebuilt, `f` at every datetime, every other leaf kept: the common form of `patch`
      and `makeAware` -/
  def mapDates (f : DateFn) : Val → Val
    | .date u o => .date (f (u, o)).1 (f (u, o)).2
    | .doc fs => .doc (mapDatesF f fs)
    | .arr xs => .arr (mapDatesL f xs)
    | v => v
  def mapDatesF (f : DateFn) : Fields → Fields
    | [] => []
    | (k, v) :: r => (k, mapDates f v) :: mapDatesF f r
  def mapDatesL (f : DateFn) : List Val → List Val
    | [] => []
    | x :: r => mapDates f x :: mapDatesL f r
end

mutual
  theorem shape_mapDates (f : DateFn) : ∀ v : Val, shape (mapDates f v) = shape v
    | .doc fs => congrArg Val.doc (shapeFields_mapDatesF f fs)
    | .arr xs => congrArg Val.arr (shapeList_mapDatesL f xs)
    | .date _ _ | .null | .bool _ | .int _ | .dbl _ _ | .str _ | .oid _ => rfl
  theorem shapeFields_mapDatesF (f : DateFn) : ∀ fs : Fields,
      shapeFields (mapDatesF f fs) = shapeFields fs
    | [] => rfl
    | (_, v) :: r =>
      List.cons_eq_cons.2 ⟨congrArg (Prod.mk _) (shape_mapDates f v), shapeFields_mapDatesF f r⟩
  theorem shapeList_mapDatesL (f : DateFn) : ∀ xs : List Val,
      shapeList (mapDatesL f xs) = shapeList xs
    | [] => rfl
    | x :: r => List.cons_eq_cons.2 ⟨shape_mapDates f x, shapeList_mapDatesL f r⟩
end

mutual
  theorem datesOf_mapDates (f : DateFn) : ∀ v : Val, datesOf (mapDates f v) = (datesOf v).map f
    | .doc fs => datesOfF_mapDatesF f fs
    | .arr xs => datesOfL_mapDatesL f xs
    | .date _ _ | .null | .bool _ | .int _ | .dbl _ _ | .str _ | .oid _ => rfl
  theorem datesOfF_mapDatesF (f : DateFn) : ∀ fs : Fields,
      datesOfF (mapDatesF f fs) = (datesOfF fs).map f
    | [] => rfl
    | (_, v) :: r => by
      rw [mapDatesF, datesOfF, datesOfF, List.map_append, datesOf_mapDates f v,
        datesOfF_mapDatesF f r]
  theorem datesOfL_mapDatesL (f : DateFn) : ∀ xs : List Val,
      datesOfL (mapDatesL f xs) = (datesOfL xs).map f
    | [] => rfl
    | x :: r => by
      rw [mapDatesL, datesOfL, datesOfL, List.map_append, datesOf_mapDates f x,
        datesOfL_mapDatesL f r]
end

theorem mapDatesF_eq_map (f : DateFn) : ∀ fs : Fields,
    mapDatesF f fs = fs.map fun kv => (kv.1, mapDates f kv.2)
  | [] => rfl
  | _ :: r => congrArg (List.cons _) (mapDatesF_eq_map f r)

theorem mapDatesL_eq_map (f : DateFn) : ∀ xs : List Val, mapDatesL f xs = xs.map (mapDates f)
  | [] => rfl
  | _ :: r => congrArg (List.cons _) (mapDatesL_eq_map f r)

theorem dget_mapDatesF (f : DateFn) (k : String) : ∀ fs : Fields,
    dget k (mapDatesF f fs) = (dget k fs).map (mapDates f)
  | [] => rfl
  | (k', v) :: r => by
    by_cases h : k' = k <;> simp [mapDatesF, dget, h, dget_mapDatesF f k r]

/-- the datetimes of the result are those of the input through `f`, so `Q` holds of all of them
    iff `Q ∘ f` holds of all the input's -/
theorem allDates_mapDates (Q : DatePred) (f : DateFn) (v : Val) :
    AllDates Q (mapDates f v) ↔ ∀ d ∈ datesOf v, Q (f d).1 (f d).2 := by
  rw [allDates_iff_dates, datesOf_mapDates]; exact List.forall_mem_map

/-- a traversal that fixes every datetime of a value fixes the value -/
theorem mapDates_eq_self {f : DateFn} {v : Val} (h : ∀ d ∈ datesOf v, f d = d) :
    mapDates f v = v :=
  eq_of_shape_dates _ _ (shape_mapDates f v)
    (by rw [datesOf_mapDates, List.map_congr_left h, List.map_id'])

theorem mapDates_comp (g f : DateFn) (v : Val) : mapDates g (mapDates f v) = mapDates (g ∘ f) v :=
  eq_of_shape_dates _ _ (by simp only [shape_mapDates]) (by simp only [datesOf_mapDates, List.map_map])

/-! ### `patch` is the traversal with the millisecond floor of the UTC instant -/

def normDate : DateFn := fun d => (floorMs (dateUtc d.1 d.2), none)

mutual
  theorem patch_eq : ∀ v : Val, patch v = mapDates normDate v
    | .doc fs => congrArg Val.doc (patchFields_eq fs)
    | .arr xs => congrArg Val.arr (patchList_eq xs)
    | .date _ _ | .null | .bool _ | .int _ | .dbl _ _ | .str _ | .oid _ => rfl
  theorem patchFields_eq : ∀ fs : Fields, patchFields fs = mapDatesF normDate fs
    | [] => rfl
    | (_, v) :: r => List.cons_eq_cons.2 ⟨congrArg (Prod.mk _) (patch_eq v), patchFields_eq r⟩
  theorem patchList_eq : ∀ xs : List Val, patchList xs = mapDatesL normDate xs
    | [] => rfl
    | x :: r => List.cons_eq_cons.2 ⟨patch_eq x, patchList_eq r⟩
end

theorem normDate_of_normal : ∀ {d : Int × Option Int}, d.2 = none → d.1 % 1000 = 0 → normDate d = d
  | (_, _), rfl, hm => congrArg (·, none) (floorMs_of_mod hm)

theorem patch_normal : ∀ v : Val, AllDates Normal (patch v) := fun v => by
  rw [patch_eq]; exact (allDates_mapDates ..).2 fun _ _ => ⟨rfl, floorMs_mod _⟩

theorem patchFields_normal : ∀ fs : Fields, AllDatesF Normal (patchFields fs) :=
  fun fs => patch_normal (.doc fs)

theorem patchList_normal : ∀ xs : List Val, AllDatesL Normal (patchList xs) :=
  fun xs => patch_normal (.arr xs)

theorem patch_fixes_normal : ∀ v : Val, AllDates Normal v → patch v = v := fun v h => by
  rw [patch_eq]
  exact mapDates_eq_self fun d hd =>
    have hn := (allDates_iff_dates Normal v).1 h d hd
    normDate_of_normal hn.1 hn.2

theorem patchFields_fixes_normal : ∀ fs : Fields, AllDatesF Normal fs → patchFields fs = fs :=
  fun fs h => Val.doc.inj (patch_fixes_normal (.doc fs) h)

theorem patchList_fixes_normal : ∀ xs : List Val, AllDatesL Normal xs → patchList xs = xs :=
  fun xs h => Val.arr.inj (patch_fixes_normal (.arr xs) h)

/-- the result is normal, and normal values are fixed -/
theorem patch_idem : ∀ v : Val, patch (patch v) = patch v :=
  fun v => patch_fixes_normal _ (patch_normal v)

theorem patchFields_idem : ∀ fs : Fields, patchFields (patchFields fs) = patchFields fs :=
  fun fs => Val.doc.inj (patch_idem (.doc fs))

theorem patchList_idem : ∀ xs : List Val, patchList (patchList xs) = patchList xs :=
  fun xs => Val.arr.inj (patch_idem (.arr xs))

/-- the normal form is exactly the set of fixed points -/
theorem patch_fixed_iff (v : Val) : patch v = v ↔ AllDates Normal v :=
  ⟨fun h => h ▸ patch_normal v, patch_fixes_normal v⟩

theorem shapeFields_patch : ∀ fs : Fields, shapeFields (patchFields fs) = shapeFields fs :=
  fun fs => by rw [patchFields_eq]; exact shapeFields_mapDatesF _ fs

theorem shapeList_patch : ∀ xs : List Val, shapeList (patchList xs) = shapeList xs :=
  fun xs => by rw [patchList_eq]; exact shapeList_mapDatesL _ xs

theorem datesOfF_patch : ∀ fs : Fields,
    datesOfF (patchFields fs) = (datesOfF fs).map (fun d => (floorMs (dateUtc d.1 d.2), none)) :=
  fun fs => by rw [patchFields_eq]; exact datesOfF_mapDatesF _ fs

theorem datesOfL_patch : ∀ xs : List Val,
    datesOfL (patchList xs) = (datesOfL xs).map (fun d => (floorMs (dateUtc d.1 d.2), none)) :=
  fun xs => by rw [patchList_eq]; exact datesOfL_mapDatesL _ xs

theorem patchFields_eq_map (fs : Fields) : patchFields fs = fs.map (fun kv => (kv.1, patch kv.2)) := by
  simp only [patchFields_eq, mapDatesF_eq_map, patch_eq]

theorem patchList_eq_map (xs : List Val) : patchList xs = xs.map patch := by
  rw [patchList_eq, mapDatesL_eq_map, ← funext patch_eq]

theorem dget_patchFields (k : String) (fs : Fields) :
    dget k (patchFields fs) = (dget k fs).map patch := by
  rw [patchFields_eq, dget_mapDatesF, ← funext patch_eq]

theorem dkeys_patchFields (fs : Fields) : dkeys (patchFields fs) = dkeys fs := by
  simp [dkeys, patchFields_eq_map, List.map_map, Function.comp_def]

/-- `patchDT` is the store's name for `patch` -/
theorem patchDT_doc (fs : Fields) : patchDT (.doc fs) = .doc (patchFields fs) := rfl

theorem length_patchFields (fs : Fields) : (patchFields fs).length = fs.length := by
  simp [patchFields_eq_map]

/-! ### `patch` identifies exactly the datetimes of one millisecond -/

theorem patch_instant (u : Int) (o : Option Int) (u' : Int) (o' : Option Int) :
    patch (.date u o) = patch (.date u' o') ↔ sameMillisecond (.date u o) (.date u' o') := by
  simp [patch, sameMillisecond, msOf, floorMs_eq_iff]

/-- the stored value denotes the millisecond of the input -/
theorem patch_keeps_ms (u : Int) (o : Option Int) :
    sameMillisecond (patch (.date u o)) (.date u o) :=
  -- `x / 1000 * 1000 / 1000 = x / 1000` for the UTC instant `x`
  Int.mul_ediv_cancel _ (by decide)

/-- the stored wall clock is the UTC instant of the input, rounded down by less than 1 ms -/
theorem patch_date_bounds (u : Int) (o : Option Int) :
    ∃ m, patch (.date u o) = .date m none ∧ m % 1000 = 0 ∧ m ≤ dateUtc u o ∧ dateUtc u o < m + 1000 :=
  ⟨floorMs (dateUtc u o), by simp [patch], floorMs_mod _, (floorMs_le _).1, (floorMs_le _).2⟩

mutual
  theorem patch_eq_of_sameMs : ∀ a b : Val, SameMs a b → patch a = patch b
    | .date u o => fun _ h => by
      obtain ⟨u', o', rfl, hm⟩ := h; exact (patch_instant u o u' o').2 hm
    | .doc fs => fun _ h => by
      obtain ⟨gs, rfl, hf⟩ := h; exact congrArg Val.doc (patchFields_eq_of_sameMs fs gs hf)
    | .arr xs => fun _ h => by
      obtain ⟨ys, rfl, hl⟩ := h; exact congrArg Val.arr (patchList_eq_of_sameMs xs ys hl)
    | .null | .bool _ | .int _ | .dbl _ _ | .str _ | .oid _ => fun b h =>
      (congrArg patch (h : b = _)).symm
  theorem patchFields_eq_of_sameMs : ∀ fs gs : Fields, SameMsF fs gs → patchFields fs = patchFields gs
    | [] => fun gs h => (congrArg patchFields (h : gs = _)).symm
    | (_, v) :: r => fun _ h => by
      obtain ⟨v', r', rfl, hv, hr⟩ := h
      exact List.cons_eq_cons.2
        ⟨congrArg (Prod.mk _) (patch_eq_of_sameMs v v' hv), patchFields_eq_of_sameMs r r' hr⟩
  theorem patchList_eq_of_sameMs : ∀ xs ys : List Val, SameMsL xs ys → patchList xs = patchList ys
    | [] => fun ys h => (congrArg patchList (h : ys = _)).symm
    | x :: r => fun _ h => by
      obtain ⟨y, r', rfl, hx, hr⟩ := h
      exact List.cons_eq_cons.2 ⟨patch_eq_of_sameMs x y hx, patchList_eq_of_sameMs r r' hr⟩
end

/-- only a value without datetimes is patched to one, and then it is left as it is -/
theorem eq_of_patch_eq_of_no_dates {a b : Val} (hd : datesOf a = []) (h : patch a = patch b) :
    b = a := by
  rw [patch_fixes_normal a ((allDates_iff_dates _ a).2 (hd ▸ List.forall_mem_nil _)), patch_eq] at h
  refine eq_of_shape_dates b a (by rw [h, shape_mapDates]) ?_
  rw [h, datesOf_mapDates, List.map_eq_nil_iff] at hd
  rw [hd, h, datesOf_mapDates, hd]; rfl

mutual
  /-- `patch` keeps the constructor, so `b` is of the kind of `a` -/
  theorem sameMs_of_patch_eq : ∀ a b : Val, patch a = patch b → SameMs a b
    | .date u o => fun b h => by
      cases b with
      | date u' o' => exact ⟨u', o', rfl, (patch_instant u o u' o').1 h⟩
      | _ => contradiction
    | .doc fs => fun b h => by
      cases b with
      | doc gs => exact ⟨gs, rfl, sameMsF_of_patch_eq fs gs (Val.doc.inj h)⟩
      | _ => contradiction
    | .arr xs => fun b h => by
      cases b with
      | arr ys => exact ⟨ys, rfl, sameMsL_of_patch_eq xs ys (Val.arr.inj h)⟩
      | _ => contradiction
    | .null | .bool _ | .int _ | .dbl _ _ | .str _ | .oid _ => fun _ h =>
      eq_of_patch_eq_of_no_dates rfl h
  theorem sameMsF_of_patch_eq : ∀ fs gs : Fields, patchFields fs = patchFields gs → SameMsF fs gs
    | [], [], _ => rfl
    | (_, v) :: r, (_, v') :: r', h => by
      obtain ⟨hkv, hr⟩ := List.cons.inj h
      obtain ⟨rfl, hv⟩ := Prod.mk.inj hkv
      exact ⟨v', r', rfl, sameMs_of_patch_eq v v' hv, sameMsF_of_patch_eq r r' hr⟩
  theorem sameMsL_of_patch_eq : ∀ xs ys : List Val, patchList xs = patchList ys → SameMsL xs ys
    | [], [], _ => rfl
    | x :: r, y :: r', h =>
      ⟨y, r', rfl, sameMs_of_patch_eq x y (List.cons.inj h).1,
        sameMsL_of_patch_eq r r' (List.cons.inj h).2⟩
end

theorem patch_eq_iff_sameMs (a b : Val) : patch a = patch b ↔ SameMs a b :=
  ⟨sameMs_of_patch_eq a b, patch_eq_of_sameMs a b⟩

theorem sameMs_patch (v : Val) : SameMs v (patch v) :=
  sameMs_of_patch_eq v (patch v) (patch_idem v).symm

/-! ### `makeAware` is the traversal that keeps the wall clock and sets the offset to 0 -/

def awareDate : DateFn := fun d => (d.1, some 0)

mutual
  theorem makeAware_eq : ∀ v : Val, makeAware v = mapDates awareDate v
    | .doc fs => congrArg Val.doc (makeAwareFields_eq fs)
    | .arr xs => congrArg Val.arr (makeAwareList_eq xs)
    | .date _ _ | .null | .bool _ | .int _ | .dbl _ _ | .str _ | .oid _ => rfl
  theorem makeAwareFields_eq : ∀ fs : Fields, makeAwareFields fs = mapDatesF awareDate fs
    | [] => rfl
    | (_, v) :: r =>
      List.cons_eq_cons.2 ⟨congrArg (Prod.mk _) (makeAware_eq v), makeAwareFields_eq r⟩
  theorem makeAwareList_eq : ∀ xs : List Val, makeAwareList xs = mapDatesL awareDate xs
    | [] => rfl
    | x :: r => List.cons_eq_cons.2 ⟨makeAware_eq x, makeAwareList_eq r⟩
end

theorem makeAware_utc : ∀ v : Val, AllDates AwareUtc (makeAware v) := fun v => by
  rw [makeAware_eq]; exact (allDates_mapDates ..).2 fun _ _ => rfl

theorem makeAwareFields_utc : ∀ fs : Fields, AllDatesF AwareUtc (makeAwareFields fs) :=
  fun fs => makeAware_utc (.doc fs)

theorem makeAwareList_utc : ∀ xs : List Val, AllDatesL AwareUtc (makeAwareList xs) :=
  fun xs => makeAware_utc (.arr xs)

theorem shapeFields_makeAware : ∀ fs : Fields, shapeFields (makeAwareFields fs) = shapeFields fs :=
  fun fs => by rw [makeAwareFields_eq]; exact shapeFields_mapDatesF _ fs

theorem shapeList_makeAware : ∀ xs : List Val, shapeList (makeAwareList xs) = shapeList xs :=
  fun xs => by rw [makeAwareList_eq]; exact shapeList_mapDatesL _ xs

theorem datesOfF_makeAware : ∀ fs : Fields,
    datesOfF (makeAwareFields fs) = (datesOfF fs).map (fun d => (d.1, some 0)) :=
  fun fs => by rw [makeAwareFields_eq]; exact datesOfF_mapDatesF _ fs

theorem datesOfL_makeAware : ∀ xs : List Val,
    datesOfL (makeAwareList xs) = (datesOfL xs).map (fun d => (d.1, some 0)) :=
  fun xs => by rw [makeAwareList_eq]; exact datesOfL_mapDatesL _ xs

theorem makeAwareFields_eq_map :
    ∀ fs : Fields, makeAwareFields fs = fs.map (fun kv => (kv.1, makeAware kv.2)) := fun fs => by
  simp only [makeAwareFields_eq, mapDatesF_eq_map, makeAware_eq]

theorem makeAwareList_eq_map (xs : List Val) : makeAwareList xs = xs.map makeAware := by
  rw [makeAwareList_eq, mapDatesL_eq_map, ← funext makeAware_eq]

theorem dget_makeAwareFields (k : String) (fs : Fields) :
    dget k (makeAwareFields fs) = (dget k fs).map makeAware := by
  rw [makeAwareFields_eq, dget_mapDatesF, ← funext makeAware_eq]

theorem dkeys_makeAwareFields (fs : Fields) : dkeys (makeAwareFields fs) = dkeys fs := by
  simp [dkeys, makeAwareFields_eq_map, List.map_map, Function.comp_def]

theorem getElem?_makeAwareList (xs : List Val) (i : Nat) :
    (makeAwareList xs)[i]? = (xs[i]?).map makeAware := by
  simp [makeAwareList_eq_map]

theorem dateUtc_zero (u : Int) : dateUtc u (some 0) = u := by simp [dateUtc]

theorem normDate_awareDate : ∀ {d : Int × Option Int}, d.2 = none →
    normDate (awareDate d) = normDate d
  | (_, _), rfl => congrArg (fun x => (floorMs x, none)) (dateUtc_zero _)

/-- writing back what a tz_aware client read gives the stored value again -/
theorem patch_makeAware : ∀ v : Val, AllDates Normal v → patch (makeAware v) = v := fun v h => by
  rw [patch_eq, makeAware_eq, mapDates_comp]
  refine mapDates_eq_self fun d hd => ?_
  have hn := (allDates_iff_dates Normal v).1 h d hd
  exact (normDate_awareDate hn.1).trans (normDate_of_normal hn.1 hn.2)

theorem patchFields_makeAware : ∀ fs : Fields, AllDatesF Normal fs →
    patchFields (makeAwareFields fs) = fs :=
  fun fs h => Val.doc.inj (patch_makeAware (.doc fs) h)

theorem patchList_makeAware : ∀ xs : List Val, AllDatesL Normal xs →
    patchList (makeAwareList xs) = xs :=
  fun xs h => Val.arr.inj (patch_makeAware (.arr xs) h)

/-- for naive inputs the UTC instants are kept, position by position -/
theorem makeAware_same_instant (v : Val) (h : AllDates Naive v) :
    (datesOf (makeAware v)).map (fun d => dateUtc d.1 d.2)
      = (datesOf v).map (fun d => dateUtc d.1 d.2) := by
  rw [makeAware_eq, datesOf_mapDates, List.map_map]
  refine List.map_congr_left fun d hd => (dateUtc_zero d.1).trans ?_
  rw [show d.2 = none from (allDates_iff_dates Naive v).1 h d hd]; rfl

end MongoModel.Proofs.C18
