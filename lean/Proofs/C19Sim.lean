/-
  C19 — the interpreter refines the lock-protocol machine: for conformant code the projection
  of every reachable state of `RWLock.step` is reachable for `pstep` (`sim`), so what the
  certificates / the invariant establish for the protocol machine holds for every program.
  First, once for all the files of C19: what one action does to the state (`step_cases`,
  `exec_proto`, `exec_spec`).
-/
import MongoModel.RWLockConf
import Proofs.C19Cert
namespace MongoModel.RWLock

/-- what `step` does to the threads other than the acting one after a change of `_documents` -/
def mark (b : Bool) : Thread → Thread := if b then markDirty else id

theorem mark_pc (b : Bool) (th : Thread) : (mark b th).pc = th.pc := by
  cases b
  · rfl
  · show (markDirty th).pc = _; unfold markDirty; split <;> rfl

theorem mark_fault (b : Bool) (th : Thread) : (mark b th).fault = th.fault := by
  cases b
  · rfl
  · show (markDirty th).fault = _; unfold markDirty; split <;> rfl

theorem mark_noIter (b : Bool) {th : Thread} (h : th.dIt = none) : mark b th = th := by
  cases b
  · rfl
  · show markDirty th = _; unfold markDirty; rw [h]

theorem step_eq {cfg : Cfg} {s : State} {t : Nat} {th : Thread} {ins : TInstr} {e : Eff}
    (hth : s.ths[t]? = some th) (hins : (cfg.code t)[th.pc]? = some ins)
    (he : exec cfg (cfg.code t) s.sh th t ins.op = some e) :
    step cfg s t = some { sh := e.sh, ths := (s.ths.set t e.th).map (mark e.mutated) } := by
  simp only [step, hth, hins, he]
  cases e.mutated <;> simp [mark]

theorem step_cases {cfg : Cfg} {s s' : State} {t : Nat} (h : step cfg s t = some s') :
    ∃ th ins e, s.ths[t]? = some th ∧ (cfg.code t)[th.pc]? = some ins ∧
      exec cfg (cfg.code t) s.sh th t ins.op = some e ∧ t < s.ths.length ∧
      s' = { sh := e.sh, ths := (s.ths.set t e.th).map (mark e.mutated) } := by
  have h0 := h
  unfold step at h
  split at h
  · cases h
  · rename_i th hth
    simp only at h
    split at h
    · cases h
    · rename_i ins hins
      split at h
      · cases h
      · rename_i e he
        exact ⟨th, ins, e, hth, hins, he, (List.getElem?_eq_some_iff.1 hth).1,
          Option.some.inj (h0.symm.trans (step_eq hth hins he))⟩

/-- thread `u` after the step: the acting thread has the new record, the others keep theirs,
    up to the dirty mark -/
theorem step_get {s : State} {t : Nat} (ht : t < s.ths.length) (th' : Thread) (b : Bool) (u : Nat) :
    ((s.ths.set t th').map (mark b))[u]? =
      (if t = u then some th' else s.ths[u]?).map (mark b) := by
  rw [List.getElem?_map, List.getElem?_set, if_pos ht]

theorem tagAt_eq_phaseAt (cfg : Cfg) (s : State) (t : Nat) (th : Thread)
    (h : s.ths[t]? = some th) : phaseAt cfg s t = tagAt (cfg.code t) th.pc := by
  simp only [phaseAt, h, tagAt]
  cases (cfg.code t)[th.pc]? <;> rfl

theorem proj_pos_get (cfg : Cfg) (s : State) (u : Nat) :
    (proj cfg s).pos[u]? = (s.ths[u]?).map fun th => tagAt (cfg.code u) th.pc := by
  simp only [proj, tids, List.getElem?_map]
  rcases Nat.lt_or_ge u s.ths.length with hu | hu
  · rw [List.getElem?_range hu, List.getElem?_eq_getElem hu]
    exact congrArg some (tagAt_eq_phaseAt cfg s u _ (List.getElem?_eq_getElem hu))
  · rw [List.getElem?_eq_none hu, List.getElem?_eq_none (by simpa using hu)]; rfl

theorem protoOp_none_of_not_proto {re lk t ins} (h : isProto ins = false) :
    protoOp re lk t ins = none := by
  cases ins <;> first | rfl | cases h

theorem protoOp_some_of_proto {re lk t ins} (h : isProto ins = true) :
    ∃ r, protoOp re lk t ins = some r := by
  cases ins <;> simp [isProto] at h <;> exact ⟨_, rfl⟩

/-- a protocol instruction changes the lock state and moves on, or (a failing release) raises -/
theorem exec_proto {cfg : Cfg} {code sh th t ins e} (hp : isProto ins = true)
    (he : exec cfg code sh th t ins = some e) :
    (∃ lk', protoOp cfg.reentrant sh.lk t ins = some (.ok lk') ∧
        e = { sh := { sh with lk := lk' }, th := th.next }) ∨
    (protoOp cfg.reentrant sh.lk t ins = some .error ∧
        e = { sh := sh, th := th.raise code (some .lockError), raised := some .runtimeError }) := by
  obtain ⟨r, hr⟩ := protoOp_some_of_proto (re := cfg.reentrant) (lk := sh.lk) (t := t) hp
  unfold exec at he
  rw [hr] at he
  cases r with
  | blocked => cases he
  | ok lk' => exact Or.inl ⟨lk', hr, (Option.some.inj he).symm⟩
  | error => exact Or.inr ⟨hr, (Option.some.inj he).symm⟩

theorem exec_dict {cfg : Cfg} {code sh th t ins} (hp : isProto ins = false) :
    exec cfg code sh th t ins = dictOp cfg code sh th ins := by
  unfold exec
  rw [protoOp_none_of_not_proto hp]

theorem raise_pc (th : Thread) (code : Code) (f : Option Fault) :
    (th.raise code f).pc = raiseTarget code th.pc := rfl

theorem raise_fault (th : Thread) (code : Code) (f : Option Fault) (g : Fault)
    (h : (th.raise code f).fault = some g) : th.fault = some g ∨ f = some g := by
  simp only [Thread.raise] at h
  cases hf : th.fault with
  | none => rw [hf] at h; exact Or.inr h
  | some x => rw [hf] at h; exact Or.inl h

theorem setDict_lk (sh : Shared) (d : Dict) (v : List Nat) : (sh.setDict d v).lk = sh.lk := by
  cases d <;> rfl

theorem setDict_docs (sh : Shared) (d : Dict) (v : List Nat) (h : d ≠ .docs) :
    (sh.setDict d v).docs = sh.docs := by
  cases d <;> first | rfl | exact absurd rfl h

/-- the instructions that raise on their own account, and what they raise -/
def declaredRaise : Instr → Exc → Bool
  | .getItem .., .keyError => true
  | .delItem .., .keyError => true
  | .setItem _ .collHead, .keyError => true
  | .yield _, .thrown => true
  | _, _ => false

theorem keyVal_none {th : Thread} {k : Key} (h : keyVal th k = none) : k = .collHead := by
  cases k <;> first | rfl | cases h

theorem raise_some_fault (th : Thread) (code : Code) (f : Fault) :
    ∃ g, (th.raise code (some f)).fault = some g := by
  simp only [Thread.raise]
  cases th.fault with
  | none => exact ⟨f, rfl⟩
  | some x => exact ⟨x, rfl⟩

/-- what one instruction does, fact by fact.  One that is not of the lock protocol leaves the
    locks alone and goes to one of `succPcs`; only `mutatesDocs` instructions change
    `_documents`; a `_documents` iterator is made by `iterBegin` and survives along `keepPcs`
    only; where a recorded fault comes from; what is raised is declared or recorded as a fault -/
structure ExecFacts (cfg : Cfg) (code : Code) (sh : Shared) (th : Thread) (t : Nat) (ins : Instr)
    (e : Eff) : Prop where
  silent : isProto ins = false → e.sh.lk = sh.lk ∧ e.th.pc ∈ succPcs code th.pc ins
  docs : mutatesDocs ins = false → e.sh.docs = sh.docs ∧ e.mutated = false
  dIt : ∀ {p n d}, e.th.dIt = some (p, n, d) →
    (ins = .iterBegin .docs ∧ e.th.pc = th.pc + 1 ∧ d = false) ∨
    (∃ p', th.dIt = some (p', n, d) ∧
      (isProto ins = true ∨ e.th.pc ∈ keepPcs code th.pc ins))
  fault : ∀ {f}, e.th.fault = some f → th.fault = some f ∨
    (f = .docsMutated ∧ ∃ p n, th.dIt = some (p, n, true)) ∨
    (f = .ttlChangedSize ∧ ins = .iterNext .ttl) ∨
    (f = .expiryKeyError ∧ ∃ d k, ins = .delItem d k true) ∨
    (f = .lockError ∧ protoOp cfg.reentrant sh.lk t ins = some .error)
  raised : ∀ {x}, e.raised = some x → declaredRaise ins x = true ∨ ∃ g, e.th.fault = some g

theorem exec_spec {cfg : Cfg} {code sh th t ins e} (he : exec cfg code sh th t ins = some e) :
    ExecFacts cfg code sh th t ins e := by
  by_cases hp : isProto ins = true
  · rcases exec_proto hp he with ⟨lk', _, rfl⟩ | ⟨herr, rfl⟩
    · exact ⟨fun h => (nomatch hp.symm.trans h), fun _ => ⟨rfl, rfl⟩,
        fun hd => Or.inr ⟨_, hd, Or.inl hp⟩, Or.inl, fun hx => (nomatch hx)⟩
    · exact ⟨fun h => (nomatch hp.symm.trans h), fun _ => ⟨rfl, rfl⟩, fun hd => (nomatch hd),
        fun hf => (raise_fault _ _ _ _ hf).imp id fun h1 =>
          Or.inr (Or.inr (Or.inr ⟨(Option.some.inj h1).symm, herr⟩)),
        fun _ => Or.inr (raise_some_fault ..)⟩
  · rw [exec_dict (by simpa using hp)] at he
    cases ins <;> simp only [dictOp] at he <;> (repeat' split at he) <;> cases he <;>
      exact
        ⟨fun _ => ⟨(by first | rfl | exact setDict_lk ..),
          (by first | exact .head _ | exact .tail _ (.head _) | exact .tail _ (.tail _ (.head _)))⟩,
         fun hm => (by
          first
          | exact ⟨rfl, rfl⟩
          | exact ⟨setDict_docs _ _ _ (by rintro rfl; cases hm),
              beq_false_of_ne (by rintro rfl; cases hm)⟩),
         fun hd => (by
          first
          | exact Or.inr ⟨_, hd, Or.inr (.head _)⟩
          | exact Or.inr ⟨_, hd, Or.inr (.tail _ (.head _))⟩
          | cases hd; done
          | cases hd; exact Or.inl ⟨rfl, rfl, rfl⟩
          | cases ‹th.dIt = none›.symm.trans hd
          | cases hd; exact Or.inr ⟨_, by assumption, Or.inr (.head _)⟩),
         fun hf => (by
          first
          | exact Or.inl hf
          | exact (raise_fault _ _ _ _ hf).elim Or.inl (fun h1 => by
              cases h1 <;> subst_vars <;> first
              | exact Or.inr (Or.inl ⟨rfl, _, _, by assumption⟩)
              | exact Or.inr (Or.inr (Or.inl ⟨rfl, rfl⟩))
              | exact Or.inr (Or.inr (Or.inr (Or.inl ⟨rfl, _, _, rfl⟩))))),
         fun hx => (by
          cases hx <;> first
          | exact Or.inl rfl
          | exact Or.inr (raise_some_fault ..)
          | cases keyVal_none ‹_›; exact Or.inl rfl)⟩

theorem proj_step {cfg : Cfg} {s s' : State} {t : Nat} (h : step cfg s t = some s') :
    ∃ th ins e, s.ths[t]? = some th ∧ (cfg.code t)[th.pc]? = some ins ∧
      exec cfg (cfg.code t) s.sh th t ins.op = some e ∧
      (proj cfg s).pos[t]? = some ins.ph ∧
      proj cfg s' = { lk := e.sh.lk,
                      pos := (proj cfg s).pos.set t (tagAt (cfg.code t) e.th.pc) } := by
  obtain ⟨th, ins, e, hth, hins, he, ht, rfl⟩ := step_cases h
  refine ⟨th, ins, e, hth, hins, he, ?_, ?_⟩
  · rw [proj_pos_get, hth, Option.map_some, tagAt, hins]
  · refine congrArg (PState.mk e.sh.lk) (?_ : (proj cfg _).pos = _)
    refine List.ext_getElem? fun u => ?_
    have hl : t < (proj cfg s).pos.length := by simpa [proj, tids] using ht
    rw [List.getElem?_set, if_pos hl, proj_pos_get, proj_pos_get, step_get ht, Option.map_map]
    by_cases hu : t = u <;> simp [hu, Function.comp_def, mark_pc]

theorem conformsAt_of {P : Protocol} {code : Code} (h : conformant P code = true) {pc : Nat}
    {i : TInstr} (hi : code[pc]? = some i) : conformsAt P code pc i = true := by
  simp only [conformant, Bool.and_eq_true] at h
  simpa using (allIdx_iff _ _ _).1 h.2 pc i hi

/-- what holds of all codes of `cfg` (and of the empty code) holds of the code of any thread -/
theorem code_all {cfg : Cfg} {p : Code → Bool} (hnil : p [] = true)
    (h : cfg.codes.all p = true) (t : Nat) : p (cfg.code t) = true := by
  unfold Cfg.code
  rw [List.getD_eq_getElem?_getD]
  cases hc : cfg.codes[t]? with
  | none => exact hnil
  | some c => exact List.all_eq_true.1 h c (List.mem_of_getElem? hc)

theorem conf_code {P : Protocol} {cfg : Cfg} (h : cfg.conformant P = true) (t : Nat) :
    conformant P (cfg.code t) = true := by
  simp only [Cfg.conformant, Bool.and_eq_true] at h
  exact code_all rfl h.2 t

theorem conf_re {P : Protocol} {cfg : Cfg} (h : cfg.conformant P = true) :
    cfg.reentrant = P.reentrant := by
  simp only [Cfg.conformant, Bool.and_eq_true, beq_iff_eq] at h
  exact h.1

theorem set_same {α} (xs : List α) (t : Nat) (a : α) (h : xs[t]? = some a) : xs.set t a = xs := by
  obtain ⟨ht, rfl⟩ := List.getElem?_eq_some_iff.1 h
  exact List.set_getElem_self ht

/-- from `out`, any position that is `out` or the start of an acquire is reachable -/
theorem reach_outOrBegin {P : Protocol} {n : Nat} {s : PState} {t : Nat} {q : Phase}
    (hr : PReach P n s) (hp : s.pos[t]? = some .out) (hq : outOrBegin P q = true) :
    PReach P n (s.setPos t q) := by
  have hb : ∀ w, PReach P n (s.setPos t (beginPos P w)) := fun w =>
    PReach.step hr (show pstep P s t (.begin w) = _ by simp [pstep, hp])
  simp only [outOrBegin, Bool.or_eq_true, beq_iff_eq] at hq
  rcases hq with (rfl | rfl) | rfl
  · rw [PState.setPos, set_same _ _ _ hp]; exact hr
  · exact hb false
  · exact hb true

theorem sim_step {P : Protocol} {cfg : Cfg} {n : Nat} (hc : cfg.conformant P = true)
    {s s' : State} {t : Nat} (hr : PReach P n (proj cfg s)) (h : step cfg s t = some s') :
    PReach P n (proj cfg s') := by
  obtain ⟨th, ins, e, hth, hins, he, hpos, hproj⟩ := proj_step h
  have hconf := conformsAt_of (conf_code hc t) hins
  rw [hproj]
  unfold conformsAt at hconf
  by_cases hp : isProto ins.op = true
  · simp only [hp, if_true, Bool.and_eq_true, beq_iff_eq] at hconf
    obtain ⟨⟨hi, hnext⟩, hraise⟩ := hconf
    rcases exec_proto hp he with ⟨lk', ho, rfl⟩ | ⟨ho, rfl⟩ <;> rw [conf_re hc] at ho <;>
      replace ho : protoOp P.reentrant (proj cfg s).lk t ins.op = _ := ho
    · -- the protocol instruction executes
      rw [show (th.next).pc = th.pc + 1 from rfl, hnext]
      exact PReach.step hr (show pstep P _ t .op = _ by simp [pstep, hpos, hi, ho])
    · -- a release fails: the exception leaves the call
      have h1 : PReach P n ((proj cfg s).setPos t .out) :=
        PReach.step hr (show pstep P _ t .op = _ by simp [pstep, hpos, hi, ho])
      have hl := (List.getElem?_eq_some_iff.1 hpos).1
      have := reach_outOrBegin (t := t) h1 (by simp [PState.setPos, hl]) hraise
      simp only [PState.setPos, List.set_set] at this
      exact this
  · have hp' : isProto ins.op = false := by simpa using hp
    simp only [hp', Bool.false_eq_true, if_false, Bool.and_eq_true, List.all_eq_true] at hconf
    obtain ⟨hlk, hpc⟩ := (exec_spec he).silent hp'
    have hsil := hconf.2 _ hpc
    rw [hlk]
    simp only [silentOK, Bool.or_eq_true, beq_iff_eq] at hsil
    rcases hsil with heq | hsil
    · -- the position does not change
      rw [← heq, set_same _ _ _ hpos]
      exact hr
    · split at hsil
      · rename_i hph
        exact reach_outOrBegin hr (hph ▸ hpos) hsil
      · rename_i w hph
        rw [hph] at hpos
        have hl : ∀ r, PReach P n ((proj cfg s).setPos t (leavePos P w r)) := fun r =>
          PReach.step hr (show pstep P _ t (.leave r) = _ by simp [pstep, hpos])
        simp only [Bool.or_eq_true, beq_iff_eq] at hsil
        rcases hsil with hq | hq <;> rw [hq] <;> exact hl _
      · cases hsil

theorem reach_positions {P : Protocol} {n : Nat} {lk : Locks} : ∀ (qs pre : List Phase),
    (∀ q ∈ qs, outOrBegin P q = true) →
    PReach P n { lk := lk, pos := pre ++ List.replicate qs.length .out } →
    PReach P n { lk := lk, pos := pre ++ qs }
  | [], pre, _, h => by simpa using h
  | q :: qs, pre, hq, h => by
    have h1 := reach_outOrBegin (t := pre.length) h (by simp [List.replicate_succ])
      (hq q (by simp))
    have := reach_positions qs (pre ++ [q]) (fun x hx => hq x (by simp [hx]))
      (by simpa [PState.setPos, List.replicate_succ] using h1)
    simpa using this

theorem proj_init (cfg : Cfg) :
    proj cfg (initState cfg) =
      { lk := Locks.init,
        pos := (List.range cfg.codes.length).map fun t => tagAt (cfg.code t) 0 } := by
  refine congrArg (PState.mk _) (?_ : (proj cfg _).pos = _)
  refine List.ext_getElem? fun u => ?_
  rw [proj_pos_get]
  simp only [initState, List.getElem?_map]
  rcases Nat.lt_or_ge u cfg.codes.length with hu | hu
  · rw [List.getElem?_range hu, List.getElem?_eq_getElem hu]; rfl
  · rw [List.getElem?_eq_none hu, List.getElem?_eq_none (by simpa using hu)]; rfl

/-- the projection of every reachable state of the interpreter is reachable for the protocol
    machine -/
theorem sim {P : Protocol} {cfg : Cfg} (hc : cfg.conformant P = true) :
    ∀ s, Reach cfg s → PReach P cfg.codes.length (proj cfg s) := by
  intro s hr
  induction hr with
  | init =>
    rw [proj_init]
    have := reach_positions (P := P) (n := cfg.codes.length) (lk := Locks.init)
      ((List.range cfg.codes.length).map fun t => tagAt (cfg.code t) 0) [] (fun q hq => by
        obtain ⟨t, _, rfl⟩ := List.mem_map.1 hq
        have := conf_code hc t
        simp only [conformant, Bool.and_eq_true] at this
        exact this.1) (by simpa [pinit] using PReach.init)
    simpa using this
  | step _ hstep ih => exact sim_step hc ih hstep

end MongoModel.RWLock
