/-
  Proofs.C03Basic — the loops of MongoModel.Pipeline (`filterR`, `mapR`, `flatMapR`) as list
  operations, the fold structure of `runPipeline`, and `$facet`.
-/
import MongoModel.Pipeline
import Mathlib.Data.List.Forall2

namespace MongoModel.Pipe.Proofs
open MongoModel MongoModel.Pipe

/-- a branch that cannot give `v` was not taken (peels a guard off a handler without a case split
    over the whole of it, which is slow to check) -/
theorem of_ite_left_ne {α} {c : Prop} [Decidable c] {x y v : α}
    (h : (if c then x else y) = v) (hx : x ≠ v) : ¬c ∧ y = v := by
  split at h
  · exact absurd h hx
  · exact ⟨‹_›, h⟩

theorem of_ite_right_ne {α} {c : Prop} [Decidable c] {x y v : α}
    (h : (if c then x else y) = v) (hy : y ≠ v) : c ∧ x = v := by
  split at h
  · exact ⟨‹_›, h⟩
  · exact absurd h hy

theorem filterR_ok {p : Val → R Bool} : ∀ {xs ys : List Val}, filterR p xs = .ok ys →
    ys = xs.filter (fun x => p x == .ok true)
  | [], _, h => by cases h; rfl
  | x :: xs, _, h => by
    unfold filterR at h
    split at h
    · cases h
    next b hb =>
    split at h
    · cases h
    next zs hz =>
    cases h
    rw [List.filter_cons, hb, ← filterR_ok hz]
    cases b <;> rfl

theorem filterR_sub {p : Val → R Bool} {xs ys : List Val} (h : filterR p xs = .ok ys) :
    ys.Sublist xs ∧ ∀ x, x ∈ ys ↔ x ∈ xs ∧ p x = .ok true := by
  rw [filterR_ok h]; exact ⟨List.filter_sublist, by simp⟩

theorem filterR_congr {p q : Val → R Bool} : ∀ (xs : List Val), (∀ x ∈ xs, p x = q x) →
    filterR p xs = filterR q xs
  | [], _ => rfl
  | x :: xs, h => by
    rw [filterR, filterR, h x List.mem_cons_self,
      filterR_congr xs fun y hy => h y (List.mem_cons_of_mem _ hy)]

theorem mapR_ok_iff {α β} {f : α → R β} {xs : List α} {ys : List β} :
    mapR f xs = .ok ys ↔ List.Forall₂ (fun x y => f x = .ok y) xs ys := by
  refine ⟨fun h => ?_, fun h => ?_⟩
  · induction xs generalizing ys with
    | nil => cases h; exact .nil
    | cons x xs ih =>
      unfold mapR at h
      split at h
      · cases h
      next y hy =>
      split at h
      · cases h
      next zs hz => cases h; exact .cons hy (ih hz)
  · induction h with
    | nil => rfl
    | cons h1 _ ih => rw [mapR, h1, ih]

theorem mapR_length {α β} {f : α → R β} {xs : List α} {ys : List β} (h : mapR f xs = .ok ys) :
    ys.length = xs.length :=
  (mapR_ok_iff.1 h).length_eq.symm

/-- output `i` is `f` of input `i`, and of nothing else -/
theorem mapR_get {α β} {f : α → R β} {xs : List α} {ys : List β} (h : mapR f xs = .ok ys)
    (i : Nat) (x : α) (hx : xs[i]? = some x) : ∃ y, ys[i]? = some y ∧ f x = .ok y := by
  induction mapR_ok_iff.1 h generalizing i with
  | nil => cases hx
  | cons h1 _ ih =>
    cases i with
    | zero => cases hx; exact ⟨_, rfl, h1⟩
    | succ n => exact ih (mapR_ok_iff.2 ‹_›) n hx

theorem flatMapR_ok {f : Val → R (List Val)} : ∀ {xs ys : List Val}, flatMapR f xs = .ok ys →
    ∃ parts, List.Forall₂ (fun x p => f x = .ok p) xs parts ∧ ys = parts.flatten
  | [], _, h => by cases h; exact ⟨[], .nil, rfl⟩
  | x :: xs, _, h => by
    unfold flatMapR at h
    split at h
    · cases h
    next p hp =>
    split at h
    · cases h
    next zs hz =>
    cases h
    obtain ⟨ps, hps, rfl⟩ := flatMapR_ok hz
    exact ⟨p :: ps, .cons hp hps, rfl⟩

theorem flatMapR_ok_of (f : Val → R (List Val)) (g : Val → List Val) : ∀ (docs : List Val),
    (∀ d ∈ docs, f d = .ok (g d)) → flatMapR f docs = .ok (docs.flatMap g)
  | [], _ => rfl
  | d :: ds, h => by
    rw [flatMapR, h d List.mem_cons_self,
      flatMapR_ok_of f g ds fun x hx => h x (List.mem_cons_of_mem _ hx)]
    rfl

/-! ### the pipeline is a fold -/

theorem runPipeline_append (db : Db) : ∀ (p q : List Val) (docs : List Val),
    runPipeline db (p ++ q) docs =
      (match runPipeline db p docs with
       | .error e => .error e
       | .ok mid => runPipeline db q mid)
  | [], q, docs => rfl
  | st :: p, q, docs => by
    simp only [List.cons_append, runPipeline]
    cases runStage db st docs with
    | error e => rfl
    | ok d' => exact runPipeline_append db p q d'

theorem runPipeline_eq_foldlM (db : Db) : ∀ (p : List Val) (docs : List Val),
    runPipeline db p docs = p.foldlM (fun ds st => runStage db st ds) docs
  | [], docs => rfl
  | st :: p, docs => by
    simp only [runPipeline, List.foldlM_cons, bind, Except.bind]
    cases runStage db st docs with
    | error e => rfl
    | ok d' => exact runPipeline_eq_foldlM db p d'

theorem runStage_single (db : Db) (op : String) (opts : Val) (docs : List Val) :
    runStage db (.doc [(op, opts)]) docs = runOp db op opts docs := by
  simp only [runStage, runOps]

theorem runOp_simple (db : Db) (op : String) (opts : Val) (docs : List Val) (h : op ≠ "$facet") :
    runOp db op opts docs = simpleStage db op opts docs := by
  cases opts <;> simp only [runOp, h, if_false]

theorem facetBranches_ok (db : Db) : ∀ (gs : Fields) (docs : List Val) (out : Fields),
    facetBranches db gs docs = .ok out →
    List.Forall₂ (fun (g o : String × Val) => ∃ p r, g = (o.1, .arr p) ∧ o.2 = .arr r ∧
      runPipeline db p docs = .ok r) gs out
  | [], docs, out, h => by cases h; exact .nil
  | (title, v) :: rest, docs, out, h => by
    cases v with
    | arr p =>
      rw [facetBranches] at h
      split at h
      · cases h
      next o hp =>
      split at h
      · cases h
      next r hr =>
      cases h
      exact .cons ⟨p, o, rfl, rfl, hp⟩ (facetBranches_ok db rest docs r hr)
    | _ => cases h

end MongoModel.Pipe.Proofs
