/-
  Proofs.C03Bucket — `$bucket`, whatever its options: the runs of the sorted (bucket id, document)
  pairs hold every input document exactly once.
-/
import Proofs.C03Group

namespace MongoModel.Pipe.Proofs
open MongoModel MongoModel.Pipe MongoModel.Proofs.C11

theorem bucketGo_flatten (cur : BKey) : ∀ (acc : List Val) (l : List (BKey × Val)),
    (bucketGo cur acc l).flatMap (·.2) = acc.reverse ++ l.map (·.2)
  | acc, [] => by simp [bucketGo]
  | acc, (k, d) :: rest => by
    rw [bucketGo]
    split
    · rw [bucketGo_flatten cur (d :: acc) rest, List.reverse_cons, List.append_assoc]; rfl
    · rw [List.flatMap_cons, bucketGo_flatten k [d] rest]; rfl

theorem bucketRuns_flatten : ∀ (l : List (BKey × Val)),
    (bucketRuns l).flatMap (·.2) = l.map (·.2)
  | [] => rfl
  | (k, d) :: rest => by simp [bucketRuns, bucketGo_flatten]

theorem bucketKeyed_ok (c : BucketCfg) : ∀ (docs : List Val) (kds : List (BKey × Val)),
    bucketKeyed c docs = .ok kds → kds.map (·.2) = docs
  | [], kds, h => by cases h; rfl
  | d :: ds, kds, h => by
    unfold bucketKeyed at h
    split at h
    · cases h
    split at h
    · cases h
    next r hr => cases h; exact congrArg (d :: ·) (bucketKeyed_ok c ds r hr)

/-- whatever the options, when `$bucket` answers, its output is one document per bucket
    (`accumulate` of the bucket's documents, `_id` = the bucket id) and the buckets together hold
    every input document exactly once -/
theorem bucketStage_groups (o : Fields) (docs out : List Val)
    (h : bucketStage (.doc o) docs = .ok out) :
    ∃ (output : Fields) (rs : List (Val × List Val)),
      emitGroups output rs = .ok out ∧ (rs.flatMap (·.2)).Perm docs := by
  rw [bucketStage] at h
  replace h := (of_ite_left_ne h nofun).2
  -- `groupBy` and `boundaries` are there; then the checks on the boundaries and on `output`
  split at h
  · replace h := (of_ite_left_ne (of_ite_left_ne (of_ite_left_ne h nofun).2 nofun).2 nofun).2
    split at h
    · cases h
    next output _ =>
    split at h
    · cases h
    dsimp only at h
    split at h
    · cases h
    next kds hk =>
    split at h
    · cases h
    next sorted hs =>
    refine ⟨output, bucketRuns sorted, h, ?_⟩
    rw [bucketRuns_flatten, ← bucketKeyed_ok _ docs kds hk]
    exact (pySorted_perm _ _ _ _ hs).map _
  · cases h
  · cases h

end MongoModel.Pipe.Proofs
