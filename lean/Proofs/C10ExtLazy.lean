/-
  Proofs.C10ExtLazy — `update_one` evaluates the filter lazily (known finding `lazy-raise`): its
  target is the first document the matcher accepts, and nothing after it is looked at.
-/
import Spec.CountsExt
import Proofs.C10
import Proofs.C05

namespace MongoModel.Proofs.C10Ext
open MongoModel MongoModel.Spec
open MongoModel.Proofs.C10Lemmas MongoModel.Proofs.C09Lemmas

/-- `update_one` (no upsert) that succeeds: its target is the first stored document the matcher
    accepts; the documents after it are not evaluated -/
theorem update_one_lazy (cfg : Cfg) (now : Int) (c c1 c' : Coll) (fs : Fields) (u : Val)
    (res : UpdateResult)
    (he : expire now c = .ok c1) (hk : KeysDistinct c) (hg : GoodKeys c)
    (h : applyUpdateColl cfg now c (.doc fs) u false false = (c', .ok res)) :
    (∃ pre q post, c1.docs = pre ++ q :: post ∧ selectDocs (patchDT (.doc fs)) pre = .ok [] ∧
      filterApplies (patchDT (.doc fs)) q.2 = .ok true ∧ res.n = 1) ∨
    (selectDocs (patchDT (.doc fs)) c1.docs = .ok [] ∧ res.n = 0) := by
  obtain ⟨dfs, c2, c3, m, up, _, he', hloop, h⟩ := applyUpdateColl_ok h
  cases he.symm.trans he'
  rw [afterLoop_plain _ _ _ _ _ _ _ _ _ _ rfl] at h
  cases h
  have hinv := MongoModel.Proofs.C10.linv_start now c c1 he hk hg
  rw [C18.patchDT_doc]
  rcases loop_one now _ _ _ c1.ttlIndexes c1.docs c1 0 0 _ m up hinv.dk hinv hloop with
    ⟨pre, q, post, _, h1, h2, h3, _, _, rfl, _⟩ | ⟨h1, _, rfl, _⟩
  · exact .inl ⟨pre, q, post, h1, h2, h3, rfl⟩
  · exact .inr ⟨h1, rfl⟩

/-! The witness of the known finding `lazy-raise`: on `cLazy` with the filter `fLazy` the natural
statement `Props.C10.update_one_selection_defined_full` is false. -/

def cLazy : Coll :=
  { docs := [(.int 1, .doc [("_id", .int 1), ("c", .int 3)]),
             (.int 2, .doc [("_id", .int 2), ("c", .int 4)])] }

/-- `{$or: [{c: 3}, {c: {$in: 1}}]}`: the second branch raises, but only where the first fails -/
def fLazy : Fields := [("$or", .arr [.doc [("c", .int 3)], .doc [("c", .doc [("$in", .int 1)])]])]

theorem cLazy_inv : IdInv cLazy := by
  refine ⟨?_, ?_⟩
  · unfold KeysDistinct cLazy
    simp only [List.pairwise_cons, List.mem_cons, List.not_mem_nil, or_false, forall_eq,
      List.Pairwise.nil, and_true, false_imp_iff, implies_true]
    decide
  · intro p hp
    simp only [cLazy, List.mem_cons, List.not_mem_nil, or_false] at hp
    rcases hp with rfl | rfl
    · exact ⟨_, rfl, by decide⟩
    · exact ⟨_, rfl, by decide⟩

theorem cLazy_good : GoodKeys cLazy := fun p hp => by
  simp only [cLazy, List.mem_cons, List.not_mem_nil, or_false] at hp
  rcases hp with rfl | rfl
  · exact ⟨MongoModel.Proofs.C05.scalar_symm _ rfl, by decide⟩
  · exact ⟨MongoModel.Proofs.C05.scalar_symm _ rfl, by decide⟩

theorem update_one_selection_defined_false :
    ¬ (∀ (cfg : Cfg) (now : Int) (c c1 c' : Coll) (fs : Fields) (u : Val) (res : UpdateResult),
        expire now c = .ok c1 → c1.docs ≠ [] → IdInv c → GoodKeys c →
        applyUpdateColl cfg now c (.doc fs) u false false = (c', .ok res) →
        ∃ sel, selectDocs (patchDT (.doc fs)) c1.docs = .ok sel ∧ res.n = min sel.length 1) := by
  intro H
  have k1 : (match applyUpdateColl {} 0 cLazy (.doc fLazy) (.doc [("$set", .doc [("x", .int 1)])])
      false false with
      | (_, .ok _) => true
      | _ => false) = true := by decide +kernel
  have k2 : (match selectDocs (patchDT (.doc fLazy)) cLazy.docs with
      | .error _ => true
      | _ => false) = true := by decide +kernel
  generalize hx : applyUpdateColl {} 0 cLazy (.doc fLazy) (.doc [("$set", .doc [("x", .int 1)])])
    false false = x at k1
  obtain ⟨c', r⟩ := x
  cases r with
  | error e => simp at k1
  | ok res =>
    obtain ⟨sel, hs, _⟩ := H {} 0 cLazy cLazy c' fLazy _ res rfl (by simp [cLazy]) cLazy_inv
      cLazy_good hx
    rw [hs] at k2
    simp at k2

end MongoModel.Proofs.C10Ext
