/-
  Proofs.C05Eq — Python `==` on the value universe: transitive everywhere; symmetric and
  reflexive on scalars and on hereditarily well-formed values (`wfVal`: what Python dicts and
  lists can be); `SymmVal` is closed under `==`.
-/
import Spec.StoreInv
import Proofs.Basics
import Mathlib.Tactic.LinearCombination
import Mathlib.Data.List.Perm.Subperm

namespace MongoModel.Proofs.C05Lemmas
open MongoModel MongoModel.Spec

theorem two_pow_pos (e : Nat) : (0 : Int) < (2 : Int) ^ e := Int.pow_pos (by decide)

theorem Num.eq_iff (a b : Num) : Num.eq a b = true ↔ a.m * (2 : Int) ^ b.e = b.m * (2 : Int) ^ a.e :=
  beq_iff_eq

theorem Num.eq_symm (a b : Num) : Num.eq a b = Num.eq b a := Num.eq_comm a b

theorem Num.eq_refl (a : Num) : Num.eq a a = true := (Num.eq_iff a a).2 rfl

theorem Num.eq_trans (a b c : Num) (h1 : Num.eq a b = true) (h2 : Num.eq b c = true) :
    Num.eq a c = true := by
  rw [Num.eq_iff] at *
  have hB := two_pow_pos b.e
  generalize (2 : Int) ^ a.e = A at *
  generalize (2 : Int) ^ b.e = B at *
  generalize (2 : Int) ^ c.e = C at *
  apply Int.eq_of_mul_eq_mul_right (Int.ne_of_gt hB)
  linear_combination C * h1 + A * h2

/-- the values with a numeric view -/
theorem num?_some {a : Val} {na : Num} (h : a.num? = some na) :
    (∃ b, a = .bool b) ∨ (∃ i, a = .int i) ∨ ∃ m e, a = .dbl m e := by
  cases a with
  | bool b => exact .inl ⟨b, rfl⟩
  | int i => exact .inr (.inl ⟨i, rfl⟩)
  | dbl m e => exact .inr (.inr ⟨m, e, rfl⟩)
  | _ => cases h

/-- on number-like values `==` is the comparison of the numeric views -/
theorem pyEq_num (a b : Val) (na nb : Num) (ha : a.num? = some na) (hb : b.num? = some nb) :
    pyEq a b = Num.eq na nb := by
  rcases num?_some ha with ⟨x, rfl⟩ | ⟨x, rfl⟩ | ⟨x, e, rfl⟩ <;>
    rcases num?_some hb with ⟨y, rfl⟩ | ⟨y, rfl⟩ | ⟨y, f, rfl⟩ <;>
    cases ha <;> cases hb <;> simp only [pyEq, Num.eq, Int.pow_zero, Int.mul_one]
  · cases x <;> cases y <;> rfl
  · exact Bool.eq_iff_iff.2 ⟨fun h => (eq_of_beq h).symm ▸ beq_self_eq_true _,
      fun h => (eq_of_beq h).symm ▸ beq_self_eq_true _⟩
  · exact Bool.eq_iff_iff.2 ⟨fun h => (eq_of_beq h).symm ▸ beq_self_eq_true _,
      fun h => (eq_of_beq h).symm ▸ beq_self_eq_true _⟩
  · exact Bool.eq_iff_iff.2 ⟨fun h => (eq_of_beq h).symm ▸ beq_self_eq_true _,
      fun h => (eq_of_beq h).symm ▸ beq_self_eq_true _⟩

theorem pyEq_num_left (a b : Val) (na : Num) (ha : a.num? = some na) (hb : b.num? = none) :
    pyEq a b = false := by
  rcases num?_some ha with ⟨x, rfl⟩ | ⟨x, rfl⟩ | ⟨x, e, rfl⟩ <;>
    rcases b with _|b|_|_|_|⟨_,_|_⟩|_|_|_ <;> first | rfl | cases hb

theorem pyEqFields_iff (fs gs : Fields) :
    pyEqFields fs gs = true ↔ ∀ k v, (k, v) ∈ fs → ∃ v', dget k gs = some v' ∧ pyEq v v' = true := by
  induction fs with
  | nil => simp [pyEqFields]
  | cons kv fs ih =>
    obtain ⟨k, v⟩ := kv
    simp only [pyEqFields, Bool.and_eq_true, ih]
    constructor
    · rintro ⟨h1, h2⟩ k' v' hm
      rcases List.mem_cons.mp hm with e | hm
      · cases e
        cases hd : dget k gs with
        | none => simp [hd] at h1
        | some w => exact ⟨w, rfl, by simpa [hd] using h1⟩
      · exact h2 k' v' hm
    · intro h
      refine ⟨?_, fun k' v' hm => h k' v' (List.mem_cons_of_mem _ hm)⟩
      obtain ⟨w, hw, he⟩ := h k v (by simp)
      simp [hw, he]

theorem pyEq_doc_iff (fs gs : Fields) :
    pyEq (.doc fs) (.doc gs) = true ↔ fs.length = gs.length ∧
      ∀ k v, (k, v) ∈ fs → ∃ v', dget k gs = some v' ∧ pyEq v v' = true := by
  simp only [pyEq, Bool.and_eq_true, beq_iff_eq, pyEqFields_iff]

/-- two dicts that compare equal, the keys of the first distinct, have the same keys: as many on
    both sides, and each of the first among those of the second (pigeonhole) -/
theorem dkeys_perm {fs gs : Fields} (hn : (dkeys fs).Nodup) (hl : fs.length = gs.length)
    (hf : ∀ k v, (k, v) ∈ fs → ∃ v', dget k gs = some v' ∧ pyEq v v' = true) :
    (dkeys fs).Perm (dkeys gs) := by
  have hsub : dkeys fs ⊆ dkeys gs := by
    intro x hx
    obtain ⟨v, hv⟩ := dget_of_mem_dkeys hx
    obtain ⟨v', hv', _⟩ := hf x v (dget_mem hv)
    exact mem_dkeys_of_dget hv'
  exact (List.subperm_of_subset hn hsub).perm_of_length_le (by simp [dkeys, hl])

theorem pyEq_doc_left (fs : Fields) (b : Val) (h : pyEq (.doc fs) b = true) : ∃ gs, b = .doc gs := by
  cases b <;> first | exact ⟨_, rfl⟩ | cases h

theorem pyEq_arr_left (xs : List Val) (b : Val) (h : pyEq (.arr xs) b = true) : ∃ ys, b = .arr ys := by
  cases b <;> first | exact ⟨_, rfl⟩ | cases h

theorem pyEqList_trans (xs : List Val)
    (ih : ∀ x, x ∈ xs → ∀ b c, pyEq x b = true → pyEq b c = true → pyEq x c = true) :
    ∀ ys zs, pyEqList xs ys = true → pyEqList ys zs = true → pyEqList xs zs = true := by
  induction xs with
  | nil => intro ys zs h1 h2; cases ys <;> first | exact h2 | cases h1
  | cons x xs ih2 =>
    intro ys zs h1 h2
    cases ys with
    | nil => cases h1
    | cons y ys =>
      cases zs with
      | nil => cases h2
      | cons z zs =>
        simp only [pyEqList, Bool.and_eq_true] at *
        exact ⟨ih x (by simp) y z h1.1 h2.1,
          ih2 (fun x hm => ih x (List.mem_cons_of_mem _ hm)) ys zs h1.2 h2.2⟩

theorem scalar_symm' (v : Val) (h : isScalar v = true) : SymmVal v := by
  have bc : ∀ {α : Type} [BEq α] [LawfulBEq α] (a b : α), (a == b) = (b == a) := fun a b =>
    Bool.eq_iff_iff.2 ⟨fun h => (eq_of_beq h).symm ▸ beq_self_eq_true _,
      fun h => (eq_of_beq h).symm ▸ beq_self_eq_true _⟩
  intro w
  rcases v with _|a|_|_|_|⟨_,_|_⟩|_|_|_ <;> rcases w with _|b|_|_|_|⟨_,_|_⟩|_|_|_ <;>
    first | rfl | exact bc _ _ | exact Num.eq_symm _ _ | cases h

theorem scalar_refl (v : Val) (h : isScalar v = true) : pyEq v v = true := by
  rcases v with _|a|_|_|_|⟨_,_|_⟩|_|_|_ <;>
    first | rfl | exact beq_self_eq_true _ | exact Num.eq_refl _ | cases h

theorem pyEq_num_right (a b : Val) (nb : Num) (ha : a.num? = none) (hb : b.num? = some nb) :
    pyEq a b = false := by
  have hs : isScalar b = true := by
    rcases num?_some hb with ⟨_, rfl⟩ | ⟨_, rfl⟩ | ⟨_, _, rfl⟩ <;> rfl
  rw [← scalar_symm' b hs a]
  exact pyEq_num_left b a nb hb ha

theorem pyEq_trans_num (a b c : Val) (na : Num) (ha : a.num? = some na)
    (h1 : pyEq a b = true) (h2 : pyEq b c = true) : pyEq a c = true := by
  cases hb : b.num? with
  | none => rw [pyEq_num_left a b na ha hb] at h1; cases h1
  | some nb =>
    cases hc : c.num? with
    | none => rw [pyEq_num_left b c nb hb hc] at h2; cases h2
    | some nc =>
      rw [pyEq_num a b na nb ha hb] at h1
      rw [pyEq_num b c nb nc hb hc] at h2
      rw [pyEq_num a c na nc ha hc]
      exact Num.eq_trans na nb nc h1 h2

theorem pyEq_trans : ∀ a b c : Val, pyEq a b = true → pyEq b c = true → pyEq a c = true := by
  intro a
  induction a using Val.ind with
  | hnull =>
    intro b c h1 h2
    cases b <;> first | exact h2 | cases h1
  | hbool x => intro b c; exact pyEq_trans_num _ b c _ rfl
  | hint x => intro b c; exact pyEq_trans_num _ b c _ rfl
  | hdbl m e => intro b c; exact pyEq_trans_num _ b c _ rfl
  | hstr s =>
    intro b c h1 h2
    cases b <;> first | cases h1 | skip
    cases eq_of_beq (α := String) h1; exact h2
  | hoid n =>
    intro b c h1 h2
    cases b <;> first | cases h1 | skip
    cases eq_of_beq (α := Nat) h1; exact h2
  | hdate u o =>
    intro b c h1 h2
    rcases o with _|o <;> rcases b with _|b|_|_|_|⟨_,_|_⟩|_|_|_ <;> first | cases h1 | skip
    · cases eq_of_beq (α := Int) h1; exact h2
    · rcases c with _|c|_|_|_|⟨_,_|_⟩|_|_|_ <;> first | cases h2 | skip
      have e1 := eq_of_beq (α := Int) h1
      have e2 := eq_of_beq (α := Int) h2
      exact beq_iff_eq.2 (e1.trans e2)
  | hdoc fs ih =>
    intro b c h1 h2
    obtain ⟨gs, rfl⟩ := pyEq_doc_left fs b h1
    obtain ⟨hs, rfl⟩ := pyEq_doc_left gs c h2
    rw [pyEq_doc_iff] at *
    refine ⟨h1.1.trans h2.1, fun k v hm => ?_⟩
    obtain ⟨v', hv', e1⟩ := h1.2 k v hm
    obtain ⟨v'', hv'', e2⟩ := h2.2 k v' (dget_mem hv')
    exact ⟨v'', hv'', ih k v hm v' v'' e1 e2⟩
  | harr xs ih =>
    intro b c h1 h2
    obtain ⟨ys, rfl⟩ := pyEq_arr_left xs b h1
    obtain ⟨zs, rfl⟩ := pyEq_arr_left ys c h2
    simp only [pyEq] at *
    exact pyEqList_trans xs ih ys zs h1 h2

theorem symm_closed {a b : Val} (ha : SymmVal a) (h : pyEq a b = true) : SymmVal b := by
  intro w
  have hba : pyEq b a = true := by rw [← ha b]; exact h
  rw [Bool.eq_iff_iff]
  constructor
  · intro hbw
    have h1 : pyEq a w = true := pyEq_trans a b w h hbw
    rw [ha w] at h1
    exact pyEq_trans w a b h1 h
  · intro hwb
    have h1 : pyEq w a = true := pyEq_trans w b a hwb hba
    rw [← ha w] at h1
    exact pyEq_trans b a w hba h1

theorem symm_refl_of {a b : Val} (ha : SymmVal a) (h : pyEq a b = true) : pyEq a a = true :=
  pyEq_trans a b a h (by rw [← ha b]; exact h)

theorem symm_doc_empty : SymmVal (.doc []) := by
  intro w
  rcases w with _|b|_|_|_|⟨_,_|_⟩|_|gs|_ <;> first | rfl | skip
  cases gs <;> simp [pyEq, pyEqFields]

theorem symm_doc_single (k : String) (v : Val) (hv : SymmVal v) : SymmVal (.doc [(k, v)]) := by
  intro w
  rcases w with _|b|_|_|_|⟨_,_|_⟩|_|gs|_ <;> first | rfl | skip
  match gs with
  | [] => rfl
  | [(k', v')] =>
    simp only [pyEq, pyEqFields, dget, List.length_singleton, Bool.and_true]
    by_cases e : k' = k
    · subst e; simp [hv v']
    · have e' : ¬ k = k' := fun h => e h.symm
      simp [e, e']
  | _ :: _ :: _ => simp [pyEq]

theorem refl_doc_single (k : String) (v : Val) (hv : pyEq v v = true) :
    pyEq (.doc [(k, v)]) (.doc [(k, v)]) = true := by
  simp [pyEq, pyEqFields, dget, hv]

/-! ### hereditarily well-formed values

Groundwork for the scope limit `embedded-id-multifield`: on `wfVal` values `==` IS reflexive and
symmetric.  Not used by the C05 theorems, which would also need `wfVal` preserved by every update
operator; C06 uses it for index keys. -/

theorem wfFields_mem {fs : Fields} (h : wfFields fs = true) {k : String} {v : Val}
    (hm : (k, v) ∈ fs) : wfVal v = true := by
  induction fs with
  | nil => cases hm
  | cons kv fs ih =>
    obtain ⟨k', v'⟩ := kv
    simp only [wfFields, Bool.and_eq_true] at h
    rcases List.mem_cons.mp hm with e | hm
    · cases e; exact h.1
    · exact ih h.2 hm

theorem wfList_mem {xs : List Val} (h : wfList xs = true) {x : Val} (hm : x ∈ xs) :
    wfVal x = true := by
  induction xs with
  | nil => cases hm
  | cons y xs ih =>
    simp only [wfList, Bool.and_eq_true] at h
    rcases List.mem_cons.mp hm with e | hm
    · subst e; exact h.1
    · exact ih h.2 hm

theorem wfVal_doc {fs : Fields} (h : wfVal (.doc fs) = true) :
    (dkeys fs).Nodup ∧ wfFields fs = true := by
  simpa [wfVal] using h

theorem pyEqList_refl (xs : List Val) (ih : ∀ x ∈ xs, pyEq x x = true) : pyEqList xs xs = true := by
  induction xs with
  | nil => rfl
  | cons x xs ih2 =>
    simp only [pyEqList, Bool.and_eq_true]
    exact ⟨ih x (by simp), ih2 (fun y hy => ih y (List.mem_cons_of_mem _ hy))⟩

theorem pyEq_refl_wf : ∀ v : Val, wfVal v = true → pyEq v v = true := by
  intro v
  induction v using Val.ind with
  | hdoc fs ih =>
    intro h
    obtain ⟨hn, hf⟩ := wfVal_doc h
    rw [pyEq_doc_iff]
    exact ⟨rfl, fun k v hm => ⟨v, dget_of_mem_nodup hn hm, ih k v hm (wfFields_mem hf hm)⟩⟩
  | harr xs ih =>
    intro h
    simp only [wfVal] at h
    simp only [pyEq]
    exact pyEqList_refl xs (fun x hx => ih x hx (wfList_mem h hx))
  | _ => intro _; exact scalar_refl _ rfl

theorem pyEqList_symm (xs : List Val)
    (ih : ∀ x ∈ xs, ∀ b, wfVal x = true → wfVal b = true → pyEq x b = true → pyEq b x = true) :
    ∀ ys, wfList xs = true → wfList ys = true → pyEqList xs ys = true → pyEqList ys xs = true := by
  induction xs with
  | nil => intro ys _ _ h; cases ys <;> first | rfl | cases h
  | cons x xs ih2 =>
    intro ys hx hy h
    cases ys with
    | nil => cases h
    | cons y ys =>
      simp only [pyEqList, wfList, Bool.and_eq_true] at *
      exact ⟨ih x (by simp) y hx.1 hy.1 h.1,
        ih2 (fun z hz => ih z (List.mem_cons_of_mem _ hz)) ys hx.2 hy.2 h.2⟩

theorem pyEq_symm_wf_imp : ∀ a b : Val, wfVal a = true → wfVal b = true →
    pyEq a b = true → pyEq b a = true := by
  intro a
  induction a using Val.ind with
  | hdoc fs ih =>
    intro b ha hb h
    obtain ⟨gs, rfl⟩ := pyEq_doc_left fs b h
    obtain ⟨hnf, hwf⟩ := wfVal_doc ha
    obtain ⟨hng, hwg⟩ := wfVal_doc hb
    rw [pyEq_doc_iff] at h ⊢
    obtain ⟨hl, hf⟩ := h
    refine ⟨hl.symm, fun k w hm => ?_⟩
    have hk : k ∈ dkeys fs := (dkeys_perm hnf hl hf).symm.subset (mem_dkeys_of_dget (dget_of_mem_nodup hng hm))
    obtain ⟨v, hv⟩ := dget_of_mem_dkeys hk
    obtain ⟨v', hv', he⟩ := hf k v (dget_mem hv)
    rw [dget_of_mem_nodup hng hm] at hv'; cases hv'
    exact ⟨v, hv, ih k v (dget_mem hv) w (wfFields_mem hwf (dget_mem hv)) (wfFields_mem hwg hm) he⟩
  | harr xs ih =>
    intro b ha hb h
    obtain ⟨ys, rfl⟩ := pyEq_arr_left xs b h
    simp only [wfVal] at ha hb
    simp only [pyEq] at h ⊢
    exact pyEqList_symm xs ih ys ha hb h
  | _ => intro b _ _ h; rw [← scalar_symm' _ rfl b]; exact h

theorem pyEq_symm_wf (a b : Val) (ha : wfVal a = true) (hb : wfVal b = true) :
    pyEq a b = pyEq b a := by
  rw [Bool.eq_iff_iff]
  exact ⟨pyEq_symm_wf_imp a b ha hb, pyEq_symm_wf_imp b a hb ha⟩

end MongoModel.Proofs.C05Lemmas
