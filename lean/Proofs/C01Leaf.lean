/-
  Proofs.C01Leaf — each leaf test of the matcher against the leaf predicate of the oracle.
-/
import Proofs.BsonClass
import Proofs.C01Basic

namespace MongoModel.Proofs.C01Lemmas
open MongoModel MongoModel.Spec MongoModel.Proofs.Bson

/-- a candidate whose value (when present) satisfies `Q` -/
def OptAll (Q : Val → Prop) (dv : Option Val) : Prop := ∀ v, dv = some v → Q v

/-- the candidates all satisfy `Q` -/
def CandsAll (Q : Val → Prop) (cs : List (Option Val)) : Prop := ∀ c, c ∈ cs → OptAll Q c

theorem any_congr' {α} {f g : α → Bool} {xs : List α} (h : ∀ x, x ∈ xs → f x = g x) :
    xs.any f = xs.any g := by
  induction xs with
  | nil => rfl
  | cons x xs ih =>
    simp only [List.any_cons]
    rw [h x (by simp), ih (fun x hm => h x (by simp [hm]))]

theorem bsonEq_arr_nonarr (xs : List Val) (sv : Val) (h : sv.isArr = false) :
    bsonEq (.arr xs) sv = false := by
  cases sv <;> first | rfl | cases h

theorem bsonEq_nonarr_arr (xs : List Val) (sv : Val) (h : sv.isArr = false) :
    bsonEq sv (.arr xs) = false := by
  cases sv <;> first | rfl | cases h

theorem plainMatch_eq (nb : Bool) (s : Val) (dv : Option Val) (hs : Clean nb s)
    (hsd : smallDocs s = true) (hdv : OptAll (Clean nb) dv) :
    plainMatch s dv = (eqLeaf s).holdsOn dv := by
  cases dv with
  | none => cases s <;> rfl
  | some v =>
    have hv : Clean nb v := hdv v rfl
    have hgen : pyEq v s = bsonEq v s := pyEq_bsonEq nb v s hv hs (Or.inr hsd)
    cases v with
    | arr xs =>
      simp only [plainMatch, Leaf.holdsOn, eqLeaf, Bool.true_and, pyIn]
      rw [pyEq_bsonEq' nb (.arr xs) s hv hs hsd, Bool.or_comm]
      congr 1
      exact any_congr' (fun x hm =>
        pyEq_bsonEq nb x s ((hered_clean nb).arr xs x hv hm) hs (Or.inr hsd))
    | _ => exact hgen

theorem opEq_eq (nb : Bool) (s : Val) (dv : Option Val) (hs : Clean nb s)
    (hsd : smallDocs s = true) (hna : s.isArr = false) (hdv : OptAll (Clean nb) dv) :
    opEq dv s = (eqLeaf s).holdsOn dv := by
  cases dv with
  | none => cases s <;> rfl
  | some v =>
    have hv : Clean nb v := hdv v rfl
    have hgen : pyEq v s = bsonEq v s := pyEq_bsonEq nb v s hv hs (Or.inr hsd)
    cases v with
    | arr xs =>
      simp only [opEq, hna, operatorEq, Leaf.holdsOn, eqLeaf, Bool.true_and,
        bsonEq_arr_nonarr xs s hna, Bool.false_or, Bool.false_eq_true, ↓reduceIte]
      exact any_congr' (fun x hm =>
        pyEq_bsonEq nb x s ((hered_clean nb).arr xs x hv hm) hs (Or.inr hsd))
    | _ => exact hgen

theorem pyEq_null_right (x : Val) :
    pyEq x .null = (match x with | .null => true | _ => false) := by
  cases x with
  | date u o => cases o <;> rfl
  | _ => rfl

theorem pyIn_eq (nb : Bool) (x : Val) (vs : List Val) (hx : Clean nb x)
    (hvs : Clean nb (.arr vs)) (hsd : smallDocs (.arr vs) = true) :
    pyIn x vs = vs.any (bsonEq x) :=
  any_congr' (fun s hm =>
    pyEq_bsonEq' nb x s hx ((hered_clean nb).arr vs s hvs hm) (hered_smallDocs.arr vs s hsd hm))

theorem opIn_eq (nb : Bool) (vs : List Val) (dv : Option Val) (hvs : Clean nb (.arr vs))
    (hsd : smallDocs (.arr vs) = true) (hna : vs.any Val.isArr = false)
    (hdv : OptAll (Clean nb) dv) :
    opIn dv (.arr vs) = .ok ((inLeaf vs).holdsOn dv) := by
  cases dv with
  | none =>
    have : pyIn .null vs = vs.any (fun v => match v with | .null => true | _ => false) :=
      any_congr' (fun x _ => pyEq_null_right x)
    simp only [opIn, Option.isNone_none, Bool.true_and, this, Leaf.holdsOn, inLeaf]
    cases vs.any _ <;> rfl
  | some v =>
    have hv : Clean nb v := hdv v rfl
    cases v with
    | arr xs =>
      have h1 : vs.any (bsonEq (.arr xs)) = false :=
        List.any_eq_false.mpr fun s hm =>
          ne_true_of_eq_false (bsonEq_arr_nonarr xs s (by simpa using List.any_eq_false.mp hna s hm))
      simp only [opIn, Option.isNone_some, Bool.false_and, Bool.false_eq_true, ↓reduceIte,
        forceList, List.any_map, Leaf.holdsOn, inLeaf, h1, Bool.false_or, Bool.true_and]
      exact congrArg _ (any_congr' fun x hm =>
        pyIn_eq nb x vs ((hered_clean nb).arr xs x hv hm) hvs hsd)
    | _ =>
      simp only [opIn, Option.isNone_some, Bool.false_and, Bool.false_eq_true, ↓reduceIte,
        forceList, List.any_cons, List.any_nil, Bool.or_false, Leaf.holdsOn, inLeaf]
      exact congrArg _ (pyIn_eq nb _ vs hv hvs hsd)

/-- operands the ordering operators are specified on in D: scalars other than ObjectIds and
    aware datetimes -/
def CmpOperand (sv : Val) : Prop := orderable sv = true ∧ hasAware sv = false

theorem CmpOperand.notArr {sv : Val} (h : CmpOperand sv) : sv.isArr = false := by
  cases sv <;> first | rfl | cases h.1

theorem CmpOperand.tc_ne_arr {sv : Val} (h : CmpOperand sv) (xs : List Val) :
    (Val.arr xs).tc ≠ sv.tc := by
  cases sv <;> first | cases h.1; done | (intro e; cases e)

theorem cmpLeaf_of_tc_ne (op : CmpOp) {x sv : Val} (h : x.tc ≠ sv.tc) :
    (cmpLeaf op sv).onVal x = false := by
  simp only [cmpLeaf, beq_false_of_ne h, Bool.false_and]

/-- two values of one class are compared as the rules say; two of different classes are not
    related by an ordering operator -/
theorem bsonCompare_eq (op : CmpOp) (x sv : Val) (hx : hasAware x = false)
    (hsv : CmpOperand sv) :
    bsonCompare op x sv false = .ok ((cmpLeaf op sv).onVal x) := by
  by_cases h : x.tc = sv.tc
  · cases sv with
    | null => cases tc_null h; rfl
    | bool b => obtain ⟨b', rfl⟩ := tc_bool h; rfl
    | int i => rcases tc_num h with ⟨j, rfl⟩ | ⟨m, e, rfl⟩ <;> rfl
    | dbl m e => rcases tc_num h with ⟨j, rfl⟩ | ⟨m', e', rfl⟩ <;> rfl
    | str s => obtain ⟨s', rfl⟩ := tc_str h; rfl
    | date u o =>
      obtain ⟨u', o', rfl⟩ := tc_date h
      cases o with
      | some _ => cases hsv.2
      | none => cases o' with
        | some _ => cases hx
        | none => rfl
    | _ => cases hsv.1
  · rw [bsonCompare_of_tc_ne op false h, cmpLeaf_of_tc_ne op h]; rfl

theorem anyM_ok {α} (f : α → R Bool) (g : α → Bool) (xs : List α)
    (h : ∀ x, x ∈ xs → f x = .ok (g x)) : anyM f xs = .ok (xs.any g) := by
  induction xs with
  | nil => rfl
  | cons x xs ih =>
    simp only [anyM, h x (by simp), bind, Except.bind, List.any_cons]
    cases g x
    · simpa using ih (fun x hm => h x (by simp [hm]))
    · rfl

theorem cmpLeaf_elems (op : CmpOp) (sv : Val) : (cmpLeaf op sv).elems = true := rfl

theorem opCmp_eq (op : CmpOp) (sv : Val) (dv : Option Val) (hsv : CmpOperand sv)
    (hdv : OptAll (fun v => hasAware v = false) dv) :
    opCmp op dv sv = .ok ((cmpLeaf op sv).holdsOn dv) := by
  cases dv with
  | none =>
    -- a missing field: compared as null against a null operand, no match otherwise
    cases sv <;> cases op <;> rfl
  | some v =>
    have hv : hasAware v = false := hdv v rfl
    cases v with
    | arr xs =>
      simp only [opCmp, hsv.notArr, Bool.false_eq_true, ↓reduceIte, Leaf.holdsOn,
        cmpLeaf_of_tc_ne op (hsv.tc_ne_arr xs), Bool.false_or, cmpLeaf_elems, Bool.true_and]
      exact anyM_ok _ _ xs (fun x hm =>
        bsonCompare_eq op x sv (hered_hasAware.arr xs x hv hm) hsv)
    | _ => exact bsonCompare_eq op _ sv hv hsv

theorem opSize_eq (n : Int) (dv : Option Val) :
    opSize dv (.int n) = (sizeLeaf n).holdsOn dv := by
  cases dv with
  | none => rfl
  | some v =>
    cases v with
    | arr xs => exact (BEq.comm (a := n)).trans (Bool.or_false _).symm
    | _ => rfl

theorem singleOp_exists_eq (sv : Val) (cs : List (Option Val)) :
    singleOp "$exists" sv cs =
      if (pyEq sv (.bool false) && cs.isEmpty) = true then .ok true
      else .ok (cs.any fun dv => sv.truthy == dv.isSome) := by
  simp only [singleOp, oneOp, decide_true, Bool.true_and, String.reduceEq, decide_false,
    Bool.or_self, Bool.not_false]
  obtain ⟨h', e⟩ := candLoop_pos _ (fun dv => sv.truthy == dv.isSome) cs
    (fun c _ => congrFun (leafOp_exists sv) c) false
  simp only [e, Except.map, verdict, Bool.or_true, Bool.and_true, Bool.not_not]

theorem leafHolds_eq (sv : Val) (cs : List (Option Val)) :
    leafHolds "$eq" sv cs = .ok ((eqLeaf sv).holds cs) := by
  unfold leafHolds; simp only [↓reduceIte]
theorem leafHolds_ne (sv : Val) (cs : List (Option Val)) :
    leafHolds "$ne" sv cs = .ok (!(eqLeaf sv).holds cs) := by
  unfold leafHolds; simp only [String.reduceEq, ↓reduceIte]
theorem leafHolds_cmp (o : CmpOp) (sv : Val) (cs : List (Option Val)) :
    leafHolds (cmpName o) sv cs = cmpHolds o sv cs := by
  unfold leafHolds; cases o <;> simp only [cmpName, String.reduceEq, ↓reduceIte]
theorem leafHolds_in (vs : List Val) (cs : List (Option Val)) :
    leafHolds "$in" (.arr vs) cs = .ok ((inLeaf vs).holds cs) := by
  unfold leafHolds; simp only [String.reduceEq, ↓reduceIte]
theorem leafHolds_nin (vs : List Val) (cs : List (Option Val)) :
    leafHolds "$nin" (.arr vs) cs = .ok (!(inLeaf vs).holds cs) := by
  unfold leafHolds; simp only [String.reduceEq, ↓reduceIte]
theorem leafHolds_exists (sv : Val) (cs : List (Option Val)) :
    leafHolds "$exists" sv cs = .ok (sv.truthy == cs.any Option.isSome) := by
  unfold leafHolds; simp only [String.reduceEq, ↓reduceIte]
theorem leafHolds_size (n : Int) (cs : List (Option Val)) :
    leafHolds "$size" (.int n) cs = .ok ((sizeLeaf n).holds cs) := by
  unfold leafHolds; simp only [String.reduceEq, ↓reduceIte]

/-- a positive operator whose test on every candidate is the oracle's leaf predicate -/
theorem singleOp_leaf (l : Leaf) (op : String) (sv : Val) (cs : List (Option Val))
    (hp : PositiveOp op) (hg : ∀ c ∈ cs, leafOp op sv c = .ok (l.holdsOn c)) :
    singleOp op sv cs = .ok (l.holds cs) :=
  oneOp_pos _ l.holdsOn op sv cs hp hg

theorem spec_eq (nb : Bool) (sv : Val) (cs : List (Option Val)) (hs : Clean nb sv)
    (hsd : smallDocs sv = true) (hna : sv.isArr = false) (hcs : CandsAll (Clean nb) cs) :
    singleOp "$eq" sv cs = .ok ((eqLeaf sv).holds cs) :=
  singleOp_leaf _ _ sv cs (by simp [PositiveOp]) fun c hc => by
    rw [leafOp_eq]; exact congrArg _ (opEq_eq nb sv c hs hsd hna (hcs c hc))

theorem spec_in (nb : Bool) (vs : List Val) (cs : List (Option Val)) (hs : Clean nb (.arr vs))
    (hsd : smallDocs (.arr vs) = true) (hna : vs.any Val.isArr = false)
    (hcs : CandsAll (Clean nb) cs) :
    singleOp "$in" (.arr vs) cs = .ok ((inLeaf vs).holds cs) :=
  singleOp_leaf _ _ _ cs (by simp [PositiveOp]) fun c hc => by
    rw [leafOp_in]; exact opIn_eq nb vs c hs hsd hna (hcs c hc)

theorem spec_cmp (o : CmpOp) (sv : Val) (cs : List (Option Val)) (hsv : CmpOperand sv)
    (hcs : CandsAll (fun v => hasAware v = false) cs) :
    singleOp (cmpName o) sv cs = .ok ((cmpLeaf o sv).holds cs) :=
  singleOp_leaf _ _ sv cs (by cases o <;> simp [PositiveOp, cmpName])
    fun c hc => by rw [leafOp_cmp]; exact opCmp_eq o sv c hsv (hcs c hc)

theorem spec_exists (sv : Val) (cs : List (Option Val))
    (h : (sv.truthy = true ∧ pyEq sv (.bool false) = false) ∨
         (sv.truthy = false ∧ pyEq sv (.bool false) = true ∧ cs.length ≤ 1)) :
    singleOp "$exists" sv cs = .ok (sv.truthy == cs.any Option.isSome) := by
  rw [singleOp_exists_eq]
  rcases h with ⟨ht, hp⟩ | ⟨ht, hp, hl⟩
  · simp [ht, hp]
  · simp only [ht, hp, Bool.true_and]
    match cs, hl with
    | [], _ => simp
    | [c], _ => simp
    | _ :: _ :: _, hl => simp at hl

/-- a domain condition written as a list of reasons: no reason, so the excluded case is absent -/
theorem not_of_ite_nil {c : Prop} [Decidable c] {x : String}
    (h : (if c then [x] else []) = []) : ¬ c :=
  fun hc => by rw [if_pos hc] at h; cases h

theorem operandReasons_nil {c : Val} (h : operandReasons c = []) : smallDocs c = true :=
  Decidable.byContradiction fun hc => by rw [operandReasons, if_neg hc] at h; cases h

/-- an operand free of the exclusion classes `arrayoperand` (as `isArr` sees it) and
    `docoperand` -/
theorem eq_operand {a : Bool} {sv : Val}
    (hr : (if a then ["arrayoperand"] else []) ++ operandReasons sv = []) :
    a = false ∧ smallDocs sv = true :=
  ⟨Bool.eq_false_iff.mpr (not_of_ite_nil (List.append_eq_nil_iff.mp hr).1),
   operandReasons_nil (List.append_eq_nil_iff.mp hr).2⟩

/-- every leaf operator of D: the matcher and the oracle give the same answer, without raising -/
theorem spec_single (nb : Bool) (op : String) (sv : Val) (cs : List (Option Val))
    (hall : op ≠ "$all")
    (hr : opReasons op sv cs = []) (hs : Clean nb sv) (hcs : CandsAll (Clean nb) cs) :
    op ∈ leafOps ∧ ∃ b, singleOp op sv cs = .ok b ∧ leafHolds op sv cs = .ok b := by
  unfold opReasons at hr
  by_cases h : (op = "$eq" || op = "$ne") = true
  · rw [if_pos h] at hr
    obtain ⟨hna, hsd⟩ := eq_operand hr
    have he := spec_eq nb sv cs hs hsd hna hcs
    rcases (by simpa using h : op = "$eq" ∨ op = "$ne") with rfl | rfl
    · exact ⟨by simp [leafOps], _, he, leafHolds_eq sv cs⟩
    · exact ⟨by simp [leafOps], _, by rw [singleOp_ne, he]; rfl, leafHolds_ne sv cs⟩
  rw [if_neg h] at hr
  by_cases h : (op = "$gt" || op = "$gte" || op = "$lt" || op = "$lte") = true
  · rw [if_pos h] at hr
    have hsv : CmpOperand sv := ⟨(by cases sv <;> first | rfl | cases hr), hs.2⟩
    obtain ⟨o, rfl⟩ : ∃ o, op = cmpName o := by
      rcases (by simpa using h : ((op = "$gt" ∨ op = "$gte") ∨ op = "$lt") ∨ op = "$lte") with
        ((h | h) | h) | h
      · exact ⟨.gt, h⟩
      · exact ⟨.gte, h⟩
      · exact ⟨.lt, h⟩
      · exact ⟨.lte, h⟩
    refine ⟨(by cases o <;> simp [leafOps, cmpName]), _,
      spec_cmp o sv cs hsv fun c hc v hv => (hcs c hc v hv).2, ?_⟩
    rw [leafHolds_cmp, cmpHolds, if_pos hsv.1]
  rw [if_neg h] at hr
  by_cases h : (op = "$in" || op = "$nin") = true
  · rw [if_pos h] at hr
    cases sv with
    | arr vs =>
      obtain ⟨hna, hsd⟩ := eq_operand hr
      have hi := spec_in nb vs cs hs hsd hna hcs
      rcases (by simpa using h : op = "$in" ∨ op = "$nin") with rfl | rfl
      · exact ⟨by simp [leafOps], _, hi, leafHolds_in vs cs⟩
      · exact ⟨by simp [leafOps], _, by rw [singleOp_nin, hi]; rfl, leafHolds_nin vs cs⟩
    | _ => cases hr
  rw [if_neg h] at hr
  by_cases h : op = "$exists"
  · subst h
    rw [if_pos rfl] at hr
    refine ⟨by simp [leafOps], _, spec_exists sv cs ?_, leafHolds_exists sv cs⟩
    cases sv with
    | bool b =>
      cases b
      · exact .inr ⟨rfl, rfl, by simpa using not_of_ite_nil hr⟩
      · exact .inl ⟨rfl, rfl⟩
    | int i =>
      by_cases hi : i = 0
      · subst hi; exact .inr ⟨rfl, rfl, by simpa using not_of_ite_nil hr⟩
      · exact .inl ⟨by simpa [Val.truthy] using hi, beq_false_of_ne (Ne.symm hi)⟩
    | _ => cases hr
  rw [if_neg h] at hr
  by_cases h : op = "$size"
  · subst h
    rw [if_pos rfl] at hr
    cases sv with
    | int n =>
      exact ⟨by simp [leafOps], _, singleOp_leaf _ _ _ cs (by simp [PositiveOp])
        fun c _ => by rw [leafOp_size]; exact congrArg _ (opSize_eq n c), leafHolds_size n cs⟩
    | _ => cases hr
  rw [if_neg h, if_neg hall] at hr
  cases hr

end MongoModel.Proofs.C01Lemmas
