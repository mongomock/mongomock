/-
  Proofs.C17Server — one server store of the model and one store of the oracle: what a lookup
  finds after each update (`rename_collection` included), unique keys, listings, and the
  relation `RelS` between the two with the updates that preserve it.
-/
import Proofs.C17Coll
-- no lemma below needs it, but the elaboration of a statement in Props/C17 depends on its being imported
import Mathlib.Data.List.Nodup

namespace MongoModel.Proofs.C17
open MongoModel MongoModel.Catalog MongoModel.Spec.Catalog

theorem db_setDb (s : Server) (d d' : String) (db : DbStore) :
    (s.setDb d db).db d' = if d' = d then db else s.db d' := by
  unfold Server.db Server.setDb
  rw [alGet?_upsert]; split <;> rfl

theorem coll_setDb (s : Server) (d d' n : String) (db : DbStore) :
    (s.setDb d db).coll d' n = if d' = d then (alGet? n db).getD Coll.empty else s.coll d' n := by
  unfold Server.coll
  rw [db_setDb]; split <;> rfl

theorem db_setColl (s : Server) (d n d' : String) (c : Coll) :
    (s.setColl d n c).db d' = if d' = d then alUpsert n c (s.db d) else s.db d' := by
  unfold Server.setColl; rw [db_setDb]

theorem coll_setColl (s : Server) (d n d' n' : String) (c : Coll) :
    (s.setColl d n c).coll d' n' = if (d', n') = (d, n) then c else s.coll d' n' := by
  unfold Server.setColl
  rw [coll_setDb]
  by_cases hd : d' = d
  · subst hd
    rw [if_pos rfl, alGet?_upsert]
    by_cases hn : n' = n
    · subst hn; rw [if_pos rfl, if_pos rfl]; rfl
    · rw [if_neg hn, if_neg (fun e => hn (Prod.mk.inj e).2)]; rfl
  · rw [if_neg hd, if_neg (fun e => hd (Prod.mk.inj e).1)]

/-- the lazy creation done by a read changes no lookup -/
theorem coll_touch (s : Server) (d n d' n' : String) :
    (s.setColl d n (s.coll d n)).coll d' n' = s.coll d' n' := by
  rw [coll_setColl]; split
  · rename_i h; cases h; rfl
  · rfl

theorem db_touchDb (s : Server) (d d' : String) : (s.touchDb d).db d' = s.db d' := by
  unfold Server.touchDb; rw [db_setDb]; split
  · rename_i h; rw [h]
  · rfl

theorem coll_touchDb (s : Server) (d d' n : String) : (s.touchDb d).coll d' n = s.coll d' n := by
  unfold Server.coll; rw [db_touchDb]

/-- a store that does not count as created is the empty store, so after `dropAll` every lookup
    in the database finds the empty store -/
theorem coll_dropAll (s : Server) (d d' n : String) :
    (s.setDb d (dropAll (s.db d))).coll d' n = if d' = d then Coll.empty else s.coll d' n := by
  rw [coll_setDb]
  split
  · unfold dropAll
    rw [alGet?_mapVal (fun _ (c : Coll) => if c.isCreated then Coll.empty else c)]
    cases alGet? n (s.db d) with
    | none => rfl
    | some c =>
      show (if c.isCreated = true then Coll.empty else c) = Coll.empty
      split
      · rfl
      · rename_i h; exact (isCreated_false_iff c).mp (Bool.eq_false_iff.mpr h)
  · rfl

theorem coll_renameIn (s : Server) (d n n' d' m : String) :
    (s.setDb d (renameIn (s.db d) n n')).coll d' m =
      if (d', m) = (d, n') then s.coll d n else if (d', m) = (d, n) then Coll.empty
      else s.coll d' m := by
  rw [coll_setDb]
  by_cases hd : d' = d
  · subst hd
    unfold renameIn
    rw [if_pos rfl, alGet?_upsert, alGet?_erase]
    by_cases h1 : m = n'
    · subst h1; rw [if_pos rfl, if_pos rfl]; rfl
    · rw [if_neg h1, if_neg (fun e => h1 (Prod.mk.inj e).2)]
      by_cases h2 : m = n
      · subst h2; rw [if_pos rfl, if_pos rfl]; rfl
      · rw [if_neg h2, if_neg (fun e => h2 (Prod.mk.inj e).2)]; rfl
  · rw [if_neg hd, if_neg (fun e => hd (Prod.mk.inj e).1), if_neg (fun e => hd (Prod.mk.inj e).1)]

theorem coll_created_isSome {sv : Server} {d n : String} (h : (sv.coll d n).isCreated = true) :
    (alGet? n (sv.db d)).isSome = true := by
  unfold Server.coll at h
  cases hg : alGet? n (sv.db d) with
  | none => rw [hg] at h; cases h
  | some c => rfl

/-! ### keys are unique, as in a dict -/

theorem mem_upsert {α β : Type} [DecidableEq α] {k : α} {v : β} {l : List (α × β)} {p : α × β}
    (h : p ∈ alUpsert k v l) : p = (k, v) ∨ p ∈ l := by
  induction l with
  | nil => exact Or.inl (List.mem_singleton.mp h)
  | cons q r ih =>
    unfold alUpsert at h
    split at h
    · rcases List.mem_cons.mp h with h | h
      · exact Or.inl h
      · exact Or.inr (List.mem_cons_of_mem _ h)
    · rcases List.mem_cons.mp h with h | h
      · exact Or.inr (h ▸ List.mem_cons_self)
      · exact (ih h).imp_right (List.mem_cons_of_mem _)

theorem wfs_nil : WFs [] := ⟨List.nodup_nil, fun _ h => nomatch h⟩

theorem wfdb_db {s : Server} (h : WFs s) (d : String) : WFdb (s.db d) := by
  unfold Server.db
  cases hg : alGet? d s with
  | none => exact List.nodup_nil
  | some db => exact h.2 _ (alGet?_mem hg)

theorem wfs_setDb {s : Server} (h : WFs s) (d : String) {db : DbStore} (hdb : WFdb db) :
    WFs (s.setDb d db) :=
  ⟨nodup_upsert _ _ _ h.1, fun p hp => (mem_upsert hp).elim (fun e => e ▸ hdb) (h.2 p)⟩

theorem wfs_setColl {s : Server} (h : WFs s) (d n : String) (c : Coll) : WFs (s.setColl d n c) :=
  wfs_setDb h d (nodup_upsert _ _ _ (wfdb_db h d))

theorem wfs_touchDb {s : Server} (h : WFs s) (d : String) : WFs (s.touchDb d) :=
  wfs_setDb h d (wfdb_db h d)

theorem wfs_dropAll {s : Server} (h : WFs s) (d : String) : WFs (s.setDb d (dropAll (s.db d))) :=
  wfs_setDb h d (by
    unfold WFdb dropAll
    rw [alKeys_mapVal (fun _ (c : Coll) => if c.isCreated then Coll.empty else c)]
    exact wfdb_db h d)

theorem wfs_renameIn {s : Server} (h : WFs s) (d n n' : String) :
    WFs (s.setDb d (renameIn (s.db d) n n')) :=
  wfs_setDb h d (nodup_upsert _ _ _ (nodup_erase _ _ (wfdb_db h d)))

/-! ### `rename_collection` in lookup form -/

/-- `rename_collection` goes through: the new name is valid and is not the old one, the source
    exists, and the target does not exist or is to be dropped -/
def renameOk (n n' : String) (src tgt dropTarget : Bool) : Bool :=
  validName n' && n != n' && src && (!tgt || dropTarget)

/-- what the key `k` finds once `k0` has been renamed to `k1` (if `ok`), where `f` says what each
    key found before and `e` is what an absent key finds -/
def moved {β : Type} (ok : Bool) (k0 k1 : Ns) (f : Ns → β) (e : β) (k : Ns) : β :=
  if ok then (if k = k1 then f k0 else if k = k0 then e else f k) else f k

theorem moved_map {β γ : Type} (g : β → γ) (ok : Bool) (k0 k1 : Ns) (f : Ns → β) (e : β) (k : Ns) :
    g (moved ok k0 k1 f e k) = moved ok k0 k1 (fun k => g (f k)) (g e) k := by
  unfold moved; rw [apply_ite g, apply_ite g, apply_ite g]

theorem moved_ind {β : Type} {P : β → Prop} {f : Ns → β} {e : β} (hf : ∀ k, P (f k)) (he : P e)
    (ok : Bool) (k0 k1 k : Ns) : P (moved ok k0 k1 f e k) := by
  cases ok
  · exact hf k
  · show P (if k = k1 then f k0 else if k = k0 then e else f k)
    by_cases h1 : k = k1
    · rw [if_pos h1]; exact hf k0
    · rw [if_neg h1]
      by_cases h0 : k = k0
      · rw [if_pos h0]; exact he
      · rw [if_neg h0]; exact hf k

theorem moved_new {β : Type} (k0 k1 : Ns) (f : Ns → β) (e : β) : moved true k0 k1 f e k1 = f k0 := by
  unfold moved; rw [if_pos rfl, if_pos rfl]

theorem moved_old {β : Type} {k0 k1 : Ns} (f : Ns → β) (e : β) (h : k0 ≠ k1) :
    moved true k0 k1 f e k0 = e := by
  unfold moved; rw [if_pos rfl, if_neg h, if_pos rfl]

theorem moved_of_ne {β : Type} (ok : Bool) {k0 k1 k : Ns} (f : Ns → β) (e : β) (h0 : k ≠ k0)
    (h1 : k ≠ k1) : moved ok k0 k1 f e k = f k := by
  unfold moved; rw [if_neg h1, if_neg h0, ite_self]

/-- `DatabaseStore.rename` on a store `sx` that finds what `sv` finds, except nothing under the new
    name -/
theorem coll_moved {sv sx : Server} {d n n' : String} (hne : n ≠ n')
    (hx : ∀ d' m, sx.coll d' m = if (d', m) = (d, n') then Coll.empty else sv.coll d' m)
    (d' m : String) :
    (sx.setDb d (renameIn (sx.db d) n n')).coll d' m =
      moved true (d, n) (d, n') (fun k => sv.coll k.1 k.2) Coll.empty (d', m) := by
  rw [coll_renameIn, hx d n, hx d' m, if_neg (fun e => hne (Prod.mk.inj e).2)]
  show _ = if (d', m) = (d, n') then sv.coll d n else if (d', m) = (d, n) then Coll.empty
    else sv.coll d' m
  by_cases h : (d', m) = (d, n')
  · rw [if_pos h, if_pos h]
  · rw [if_neg h, if_neg h, if_neg h]

/-- the model's `rename_collection` on a server store: when it goes through, the new name finds
    what the old one found and the old name finds the empty store; no other lookup changes, and
    a refused call changes none -/
theorem renameStep_spec (sv : Server) (d n n' : String) (dt : Bool) :
    (WFs sv → WFs (Catalog.renameStep sv d n n' dt).1) ∧
    (Catalog.renameStep sv d n n' dt).2 =
      (if renameOk n n' (sv.coll d n).isCreated (sv.coll d n').isCreated dt then .ok
       else if validName n' then .err .opFail else .err .invalidName) ∧
    ∀ d' m, (Catalog.renameStep sv d n n' dt).1.coll d' m =
      moved (renameOk n n' (sv.coll d n).isCreated (sv.coll d n').isCreated dt) (d, n) (d, n')
        (fun k => sv.coll k.1 k.2) Coll.empty (d', m) := by
  -- `renameStep` is unfolded once, in `hr`; with the tests decided it computes on each path
  generalize hr : Catalog.renameStep sv d n n' dt = r
  unfold Catalog.renameStep at hr
  unfold renameOk
  cases hv : validName n'
  · rw [hv] at hr; cases hr; exact ⟨id, rfl, fun _ _ => rfl⟩
  by_cases hnn : n = n'
  · rw [hv, if_pos hnn] at hr; cases hr
    rw [hnn, bne_self_eq_false]
    exact ⟨id, rfl, fun _ _ => rfl⟩
  rw [hv, if_neg hnn] at hr
  dsimp only at hr
  -- the two lazy creations change no lookup
  have t1 : ∀ d' m, (sv.setColl d n (sv.coll d n)).coll d' m = sv.coll d' m := coll_touch sv d n
  have w1 : WFs sv → WFs (sv.setColl d n (sv.coll d n)) := fun h => wfs_setColl h _ _ _
  generalize sv.setColl d n (sv.coll d n) = s1 at hr t1 w1
  have t2 : ∀ d' m, (s1.setColl d n' (s1.coll d n')).coll d' m = sv.coll d' m := fun d' m => by
    rw [coll_touch, t1]
  have w2 : WFs sv → WFs (s1.setColl d n' (s1.coll d n')) := fun h => wfs_setColl (w1 h) _ _ _
  generalize s1.setColl d n' (s1.coll d n') = s2 at hr t2 w2
  rw [t1, t2] at hr
  cases hr
  rw [bne_iff_ne.mpr hnn]
  cases (sv.coll d n).isCreated
  · exact ⟨w1, rfl, t1⟩
  cases htgt : (sv.coll d n').isCreated
  · refine ⟨fun h => wfs_renameIn (w2 h) d n n', rfl, coll_moved hnn fun d' m => ?_⟩
    rw [t2]
    by_cases h : (d', m) = (d, n')
    · cases h; rw [if_pos rfl]; exact (isCreated_false_iff _).mp htgt
    · rw [if_neg h]
  cases dt
  · exact ⟨w2, rfl, t2⟩
  · exact ⟨fun h => wfs_renameIn (wfs_setColl (w2 h) _ _ _) d n n', rfl,
      coll_moved hnn fun d' m => by rw [coll_setColl, t2]⟩

theorem mem_createdColls_of_created {db : DbStore} {n : String}
    (hc : ((alGet? n db).getD Coll.empty).isCreated = true) : n ∈ createdColls db := by
  cases hg : alGet? n db with
  | none => rw [hg] at hc; cases hc
  | some c =>
    rw [hg] at hc
    exact List.mem_map.mpr ⟨(n, c), List.mem_filter.mpr ⟨alGet?_mem hg, hc⟩, rfl⟩

theorem mem_createdColls {db : DbStore} (h : WFdb db) (n : String) :
    n ∈ createdColls db ↔ ((alGet? n db).getD Coll.empty).isCreated = true := by
  refine ⟨fun hm => ?_, mem_createdColls_of_created⟩
  obtain ⟨⟨a, c⟩, hp, rfl⟩ := List.mem_map.mp hm
  obtain ⟨hp1, hp2⟩ := List.mem_filter.mp hp
  rw [alGet?_of_mem h hp1]; exact hp2

theorem nodup_createdColls {db : DbStore} (h : WFdb db) : (createdColls db).Nodup :=
  h.sublist ((List.filter_sublist (l := db)).map _)

theorem contains_createdColls {s : Server} (h : WFs s) (d n : String) :
    (createdColls (s.db d)).contains n = (s.coll d n).isCreated := by
  rw [Bool.eq_iff_iff, List.contains_iff_mem]
  exact mem_createdColls (wfdb_db h d) n

theorem mem_listColls {s : Server} (h : WFs s) (d n : String) :
    n ∈ s.listColls d ↔ (s.coll d n).isCreated = true ∧ isSystem n = false := by
  unfold Server.listColls
  rw [List.mem_filter, mem_createdColls (wfdb_db h d), Bool.not_eq_true']
  rfl

theorem nodup_listColls {s : Server} (h : WFs s) (d : String) : (s.listColls d).Nodup :=
  (nodup_createdColls (wfdb_db h d)).filter _

theorem listCollsFiltered_eq (s : Server) (d : String) (f : NameFilter) :
    s.listCollsFiltered d f = (s.listColls d).filter f.applies := by
  simp only [Server.listCollsFiltered, Server.listColls, List.filter_filter]

theorem dbCreated_iff {db : DbStore} (h : WFdb db) :
    dbCreated db = true ↔ ∃ n, ((alGet? n db).getD Coll.empty).isCreated = true := by
  unfold dbCreated
  rw [List.any_eq_true]
  constructor
  · rintro ⟨⟨a, c⟩, hp, hc⟩
    exact ⟨a, by rw [alGet?_of_mem h hp]; exact hc⟩
  · rintro ⟨n, hc⟩
    cases hg : alGet? n db with
    | none => rw [hg] at hc; cases hc
    | some c => rw [hg] at hc; exact ⟨(n, c), alGet?_mem hg, hc⟩

theorem mem_listDbs {s : Server} (h : WFs s) (d : String) :
    d ∈ s.listDbs ↔ ∃ n, (s.coll d n).isCreated = true := by
  unfold Server.listDbs
  constructor
  · intro hm
    obtain ⟨⟨a, db⟩, hp, rfl⟩ := List.mem_map.mp hm
    obtain ⟨hp1, hp2⟩ := List.mem_filter.mp hp
    unfold Server.coll Server.db
    rw [alGet?_of_mem h.1 hp1]
    exact (dbCreated_iff (h.2 _ hp1)).mp hp2
  · rintro ⟨n, hc⟩
    unfold Server.coll Server.db at hc
    cases hg : alGet? d s with
    | none => rw [hg] at hc; cases hc
    | some db =>
      rw [hg] at hc
      exact List.mem_map.mpr ⟨(d, db), List.mem_filter.mpr ⟨alGet?_mem hg,
        (dbCreated_iff (h.2 _ (alGet?_mem hg))).mpr ⟨n, hc⟩⟩, rfl⟩

theorem nodup_listDbs {s : Server} (h : WFs s) : s.listDbs.Nodup :=
  h.1.sublist ((List.filter_sublist (l := s)).map _)

theorem mem_dedupNames (l : List String) (a : String) : a ∈ dedupNames l ↔ a ∈ l := by
  induction l with
  | nil => rfl
  | cons b r ih =>
    unfold dedupNames
    split
    · rename_i hb
      rw [ih, List.mem_cons]
      exact ⟨Or.inr, fun h => h.elim (fun e => e ▸ List.contains_iff_mem.mp hb) id⟩
    · rw [List.mem_cons, List.mem_cons, ih]

theorem nodup_dedupNames (l : List String) : (dedupNames l).Nodup := by
  induction l with
  | nil => exact List.nodup_nil
  | cons b r ih =>
    unfold dedupNames
    split
    · exact ih
    · rename_i hb
      exact List.nodup_cons.mpr ⟨fun h => hb (List.contains_iff_mem.mpr ((mem_dedupNames r b).mp h)), ih⟩

theorem mem_slistColls (st : SStore) (d n : String) :
    n ∈ listColls st d ↔ (alGet? (d, n) st).isSome = true ∧ isSystem n = false := by
  unfold listColls
  rw [List.mem_filter, alGet?_isSome_iff, Bool.not_eq_true', List.mem_map]
  refine and_congr_left fun _ => ⟨?_, fun hk => ⟨(d, n), List.mem_filter.mpr ⟨hk, decide_eq_true rfl⟩, rfl⟩⟩
  rintro ⟨⟨a, b⟩, hf, rfl⟩
  obtain ⟨hk, ha⟩ := List.mem_filter.mp hf
  cases of_decide_eq_true ha
  exact hk

theorem nodup_slistColls {st : SStore} (h : SWF st) (d : String) : (listColls st d).Nodup := by
  unfold listColls
  refine List.Pairwise.filter _ (List.pairwise_map.mpr ((List.Pairwise.filter _ h).imp_of_mem ?_))
  intro x y hx hy hxy e
  have hx' := of_decide_eq_true (List.mem_filter.mp hx).2
  have hy' := of_decide_eq_true (List.mem_filter.mp hy).2
  exact hxy (Prod.ext (hx'.trans hy'.symm) e)

theorem mem_slistDbs (st : SStore) (d : String) :
    d ∈ listDbs st ↔ ∃ n, (alGet? (d, n) st).isSome = true := by
  unfold listDbs
  rw [mem_dedupNames, List.mem_map]
  constructor
  · rintro ⟨⟨a, b⟩, hk, rfl⟩; exact ⟨b, (alGet?_isSome_iff _ _).mpr hk⟩
  · rintro ⟨n, hk⟩; exact ⟨(d, n), (alGet?_isSome_iff _ _).mp hk, rfl⟩

theorem nodup_slistDbs (st : SStore) : (listDbs st).Nodup := nodup_dedupNames _

theorem alGet?_dropDb (st : SStore) (d d' n : String) :
    alGet? (d', n) (dropDb st d) = if d' = d then none else alGet? (d', n) st := by
  unfold dropDb
  rw [alGet?_filter_key (fun (k : Ns) => decide (k.1 ≠ d)) (d', n) st]
  by_cases h : d' = d <;> simp [h]

theorem alGet?_setOpt (st : SStore) (k k' : Ns) (o : Option SColl) :
    alGet? k' (setOpt st k o) = if k' = k then o else alGet? k' st := by
  cases o with
  | none => exact alGet?_erase k k' st
  | some c => exact alGet?_upsert k k' c st

theorem swf_setOpt {st : SStore} (h : SWF st) (k : Ns) (o : Option SColl) : SWF (setOpt st k o) := by
  cases o with
  | none => exact nodup_erase _ _ h
  | some c => exact nodup_upsert _ _ _ h

/-- the oracle's `rename_collection`, in the same form as `renameStep_spec` -/
theorem srenameStep_spec (st : SStore) (d n n' : String) (dt : Bool) :
    (SWF st → SWF (Spec.Catalog.renameStep st d n n' dt).1) ∧
    (Spec.Catalog.renameStep st d n n' dt).2 =
      (if renameOk n n' (alHas (d, n) st) (alHas (d, n') st) dt then .ok
       else if validName n' then .err .opFail else .err .invalidName) ∧
    ∀ k, alGet? k (Spec.Catalog.renameStep st d n n' dt).1 =
      moved (renameOk n n' (alHas (d, n) st) (alHas (d, n') st) dt) (d, n) (d, n')
        (fun k => alGet? k st) none k := by
  generalize hr : Spec.Catalog.renameStep st d n n' dt = r
  unfold Spec.Catalog.renameStep at hr
  unfold renameOk
  cases hv : validName n'
  · rw [hv] at hr; cases hr; exact ⟨id, rfl, fun _ => rfl⟩
  rw [hv] at hr
  rw [show alHas (d, n) st = (alGet? (d, n) st).isSome from rfl]
  cases hg : alGet? (d, n) st with
  | none =>
    rw [hg] at hr; cases hr
    rw [Option.isSome_none, Bool.and_false]
    exact ⟨id, rfl, fun _ => rfl⟩
  | some c =>
    rw [hg] at hr
    by_cases hnn : n = n'
    · dsimp only at hr
      rw [if_pos hnn] at hr; cases hr
      rw [hnn, bne_self_eq_false]
      exact ⟨id, rfl, fun _ => rfl⟩
    dsimp only at hr
    rw [if_neg hnn] at hr; cases hr
    rw [bne_iff_ne.mpr hnn]
    have mv : (SWF st → SWF (alUpsert (d, n') c (alErase (d, n) st))) ∧ ∀ k,
        alGet? k (alUpsert (d, n') c (alErase (d, n) st)) =
          moved true (d, n) (d, n') (fun k => alGet? k st) none k :=
      ⟨fun h => nodup_upsert _ _ _ (nodup_erase _ _ h), fun k => by
        rw [alGet?_upsert, alGet?_erase, ← hg]; rfl⟩
    cases alHas (d, n') st <;> cases dt
    · exact ⟨mv.1, rfl, mv.2⟩
    · exact ⟨mv.1, rfl, mv.2⟩
    · exact ⟨id, rfl, fun _ => rfl⟩
    · exact ⟨mv.1, rfl, mv.2⟩

/-! ### a server store of the model against a store of the oracle -/

/-- the two stores describe the same namespace: the collections that count as created in `sv`
    are exactly the ones that exist in `st`, with the same documents and indexes; keys are
    unique on both sides and existence is recorded in `sv` -/
structure RelS (sv : Server) (st : SStore) : Prop where
  wf : WFs sv
  recorded : ∀ d n, (sv.coll d n).recorded = true
  swf : SWF st
  get : ∀ d n, toS (sv.coll d n) = alGet? (d, n) st

theorem RelS.created {sv : Server} {st : SStore} (h : RelS sv st) (d n : String) :
    (sv.coll d n).isCreated = alHas (d, n) st := by
  unfold alHas; rw [← h.get, toS_isSome]

/-- a store with the same lookups (a lazy creation happened) stands in the same relation -/
theorem RelS.congr {sv sv' : Server} {st : SStore} (h : RelS sv st) (hw : WFs sv')
    (e : ∀ d n, sv'.coll d n = sv.coll d n) : RelS sv' st :=
  ⟨hw, fun d n => e d n ▸ h.recorded d n, h.swf, fun d n => e d n ▸ h.get d n⟩

theorem RelS.setColl {sv : Server} {st : SStore} (h : RelS sv st) (d n : String) {c : Coll}
    {o : Option SColl} (hc : c.recorded = true) (ho : toS c = o) :
    RelS (sv.setColl d n c) (setOpt st (d, n) o) :=
  ⟨wfs_setColl h.wf d n c,
   fun d' n' => by
    rw [coll_setColl]
    by_cases e : (d', n') = (d, n)
    · rw [if_pos e]; exact hc
    · rw [if_neg e]; exact h.recorded d' n',
   swf_setOpt h.swf _ _,
   fun d' n' => by
    rw [coll_setColl, alGet?_setOpt]
    by_cases e : (d', n') = (d, n)
    · rw [if_pos e, if_pos e]; exact ho
    · rw [if_neg e, if_neg e]; exact h.get d' n'⟩

theorem RelS.dropAll {sv : Server} {st : SStore} (h : RelS sv st) (d : String) :
    RelS (sv.setDb d (dropAll (sv.db d))) (dropDb st d) :=
  ⟨wfs_dropAll h.wf d,
   fun d' n => by
    rw [coll_dropAll]
    by_cases e : d' = d
    · rw [if_pos e]; rfl
    · rw [if_neg e]; exact h.recorded d' n,
   nodup_filter _ _ h.swf,
   fun d' n => by
    rw [coll_dropAll, alGet?_dropDb]
    by_cases e : d' = d
    · rw [if_pos e, if_pos e]; rfl
    · rw [if_neg e, if_neg e]; exact h.get d' n⟩

theorem RelS.renameStep {sv : Server} {st : SStore} (h : RelS sv st) (d n n' : String) (dt : Bool) :
    RelS (Catalog.renameStep sv d n n' dt).1 (Spec.Catalog.renameStep st d n n' dt).1 ∧
    (Catalog.renameStep sv d n n' dt).2 = (Spec.Catalog.renameStep st d n n' dt).2 := by
  obtain ⟨w, o, c⟩ := renameStep_spec sv d n n' dt
  obtain ⟨w', o', c'⟩ := srenameStep_spec st d n n' dt
  rw [← h.created, ← h.created] at o' c'
  refine ⟨⟨w h.wf, fun d' m => ?_, w' h.swf, fun d' m => ?_⟩, o.trans o'.symm⟩
  · rw [c]; exact moved_ind (P := fun c : Coll => c.recorded = true) (fun k => h.recorded k.1 k.2) rfl _ _ _ _
  · rw [c, c', moved_map toS]
    exact congrArg (fun f => moved _ _ _ f none _) (funext fun k => h.get k.1 k.2)

theorem RelS.listColls_perm {sv : Server} {st : SStore} (h : RelS sv st) (d : String) :
    (sv.listColls d).Perm (listColls st d) :=
  (List.perm_ext_iff_of_nodup (nodup_listColls h.wf d) (nodup_slistColls h.swf d)).mpr fun a => by
    rw [mem_listColls h.wf, mem_slistColls, h.created]; rfl

theorem RelS.listDbs_perm {sv : Server} {st : SStore} (h : RelS sv st) :
    sv.listDbs.Perm (listDbs st) :=
  (List.perm_ext_iff_of_nodup (nodup_listDbs h.wf) (nodup_slistDbs st)).mpr fun a => by
    rw [mem_listDbs h.wf, mem_slistDbs]; simp only [h.created]; rfl

/-! ### the abstraction function relates every well-formed store to an oracle store -/

theorem mem_absServer {sv : Server} {d n : String} {sc : SColl} :
    ((d, n), sc) ∈ absServer sv ↔ ∃ db c, (d, db) ∈ sv ∧ (n, c) ∈ db ∧ toS c = some sc := by
  simp only [absServer, absDb, List.mem_flatMap, List.mem_filterMap, Option.map_eq_some_iff,
    Prod.mk.injEq, Prod.exists]
  constructor
  · rintro ⟨d', db, h1, n', c, h2, sc', h3, ⟨rfl, rfl⟩, rfl⟩; exact ⟨db, c, h1, h2, h3⟩
  · rintro ⟨db, c, h1, h2, h3⟩; exact ⟨d, db, h1, n, c, h2, sc, h3, ⟨rfl, rfl⟩, rfl⟩

/-- `absServer` flattens the two levels of dicts into one list keyed by `(database, name)`; a key
    occurs once in it because key uniqueness is inherited from `WFs`: two blocks of the `flatMap`
    differ in the database name, two entries of one block in the collection name -/
theorem swf_absServer (sv : Server) (h : WFs sv) : SWF (absServer sv) := by
  unfold SWF alKeys absServer List.Nodup
  rw [List.pairwise_map, List.pairwise_flatMap]
  -- an entry of the block of `p` has `p`'s database name and one of `p`'s collection names
  have key : ∀ {p : String × DbStore} {x : Ns × SColl}, x ∈ absDb p.1 p.2 → x.1.1 = p.1 ∧ ∃ c, (x.1.2, c) ∈ p.2 := by
    intro p x hx
    obtain ⟨q, hq, e⟩ := List.mem_filterMap.mp hx
    obtain ⟨sc, _, rfl⟩ := Option.map_eq_some_iff.mp e
    exact ⟨rfl, q.2, hq⟩
  refine ⟨fun p hp => ?_, (List.pairwise_map.mp h.1).imp fun hne x hx y hy e =>
    hne ((key hx).1.symm.trans ((congrArg Prod.fst e).trans (key hy).1))⟩
  unfold absDb
  rw [List.pairwise_filterMap]
  refine (List.pairwise_map.mp (h.2 p hp)).imp fun hne b hb b' hb' e => ?_
  obtain ⟨_, _, rfl⟩ := Option.map_eq_some_iff.mp hb
  obtain ⟨_, _, rfl⟩ := Option.map_eq_some_iff.mp hb'
  exact hne (Prod.mk.inj e).2

theorem alGet?_absServer (sv : Server) (h : WFs sv) (d n : String) :
    alGet? (d, n) (absServer sv) = toS (sv.coll d n) := by
  apply Option.ext; intro sc
  constructor
  · intro hg
    obtain ⟨db, c, h1, h2, h3⟩ := mem_absServer.mp (alGet?_mem hg)
    unfold Server.coll Server.db
    rw [alGet?_of_mem h.1 h1]
    show toS ((alGet? n db).getD _) = _
    rw [alGet?_of_mem (h.2 _ h1) h2]; exact h3
  · intro ht
    refine alGet?_of_mem (swf_absServer sv h) (mem_absServer.mpr ?_)
    unfold Server.coll Server.db at ht
    cases h1 : alGet? d sv with
    | none => rw [h1] at ht; cases ht
    | some db =>
      rw [h1] at ht
      cases h2 : alGet? n db with
      | none => rw [show (some db).getD [] = db from rfl, h2] at ht; cases ht
      | some c =>
        rw [show (some db).getD [] = db from rfl, h2] at ht
        exact ⟨db, c, alGet?_mem h1, alGet?_mem h2, ht⟩

theorem relS_abs {sv : Server} (hw : WFs sv) (hr : ∀ d n, (sv.coll d n).recorded = true) :
    RelS sv (absServer sv) :=
  ⟨hw, hr, swf_absServer sv hw, fun d n => (alGet?_absServer sv hw d n).symm⟩

theorem relS_nil : RelS [] [] := ⟨wfs_nil, fun _ _ => rfl, List.nodup_nil, fun _ _ => rfl⟩

end MongoModel.Proofs.C17
