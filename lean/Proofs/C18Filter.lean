/-
  Proofs.C18Filter — normalisation commutes with path access at every depth, and equivalent
  datetime operands give the same query (model of the matcher: MongoModel.Filter).
-/
import Proofs.C18

namespace MongoModel.Proofs.C18
open MongoModel

/-! ### at every depth: `get_value_by_dot` commutes with a traversal -/

theorem getByDotParts_mapDates (f : DateFn) : ∀ (ps : List String) (v : Val),
    getByDotParts ps (mapDates f v) = (getByDotParts ps v).map (mapDates f)
  | [], _ => rfl
  | p :: ps, v => by
    cases v with
    | doc fs =>
      simp only [mapDates, getByDotParts, dget_mapDatesF]
      cases dget p fs with
      | none => rfl
      | some x => exact getByDotParts_mapDates f ps x
    | arr xs =>
      simp only [mapDates, getByDotParts, mapDatesL_eq_map, List.getElem?_map]
      cases pyInt? p with
      | none => rfl
      | some i =>
        dsimp only
        split
        · rfl
        · cases xs[i.toNat]? with
          | none => rfl
          | some x => exact getByDotParts_mapDates f ps x
    | _ => rfl

theorem pyInt?_zero : pyInt? "0" = some 0 := by decide
theorem pyInt?_one : pyInt? "1" = some 1 := by decide

/-- whatever datetime sits at the end of any path of the input, the `tz_aware` result holds the
    same wall clock, aware, offset 0, at the end of the same path -/
theorem makeAware_depth (ps : List String) (v : Val) (u : Int) (o : Option Int)
    (h : getByDotParts ps v = .ok (.date u o)) :
    getByDotParts ps (makeAware v) = .ok (.date u (some 0)) := by
  rw [makeAware_eq, getByDotParts_mapDates, h]; rfl

theorem patch_depth (ps : List String) (v : Val) (u : Int) (o : Option Int)
    (h : getByDotParts ps v = .ok (.date u o)) :
    getByDotParts ps (patch v) = .ok (.date (floorMs (dateUtc u o)) none) := by
  rw [patch_eq, getByDotParts_mapDates, h]; rfl

theorem patch_eq_of_sameMillisecond {a b : Val} (h : sameMillisecond a b) : patch a = patch b := by
  cases a with
  | date u o =>
    cases b with
    | date u' o' => exact (patch_instant u o u' o').2 h
    | _ => exact h.elim
  | _ => exact h.elim

theorem equivalent_operand_finds (k : String) (a b d : Val) (h : sameMillisecond a b) :
    filterApplies (patch (.doc [(k, a)])) d = filterApplies (patch (.doc [(k, b)])) d :=
  congrArg (fun x => filterApplies (.doc [(k, x)]) d) (patch_eq_of_sameMillisecond h)

/-- the datetime may sit anywhere in the filter (inside `$in` lists, under `$gt`, in
    `$elemMatch`, in `$and` / `$or` branches, in embedded-document operands) -/
theorem equivalent_filter_finds (f g d : Val) (h : SameMs f g) :
    filterApplies (patch f) d = filterApplies (patch g) d := by
  rw [patch_eq_of_sameMs f g h]

/-- the `$match` stage patches both sides (aggregate.py:1601-1606) -/
theorem equivalent_match_stage (f g d : Val) (h : SameMs f g) :
    filterApplies (patch f) (patch d) = filterApplies (patch g) (patch d) :=
  equivalent_filter_finds f g (patch d) h

/-- a key that `_Filterer.apply` treats as a field path -/
def plainKey (k : String) : Bool :=
  k != "$comment" && !logicalKeys.contains k && k != "$expr" && !topLevelOperators.contains k
    && !k.startsWith "$"

theorem applyFields_single_date (k : String) (m m' : Int) (d : Val) (hk : plainKey k = true)
    (hc : candsKey k d = .ok [some (.date m none)]) :
    applyFields [(k, .date m' none)] d = .ok (m == m') := by
  simp only [plainKey, Bool.and_eq_true, bne_iff_ne, ne_eq, Bool.not_eq_eq_eq_not, Bool.not_true]
    at hk
  obtain ⟨⟨⟨⟨h1, h2⟩, h3⟩, h4⟩, h5⟩ := hk
  have hp : pyEq (.date m none) (.date m' none) = (m == m') := rfl
  simp only [applyFields, h1, h2, h3, h4, h5, if_false, Bool.false_eq_true, applyKey, hc,
    plainMatch]
  cases hm : (m == m') <;> simp [candLoop, bind, Except.bind, pure, Except.pure, hp, hm]

/-- a document whose field `k` holds the stored form of `a` is found by the query `{k: b}` iff
    `b` denotes the same millisecond as `a` -/
theorem found_iff_same_millisecond (k : String) (u : Int) (o : Option Int) (u' : Int)
    (o' : Option Int) (d : Val) (hk : plainKey k = true)
    (hc : candsKey k d = .ok [some (patch (.date u o))]) :
    filterApplies (patch (.doc [(k, .date u' o')])) d
      = .ok (msOf u o == msOf u' o') := by
  simp only [patch] at hc
  simp only [filterApplies, applyVal, patch, patchFields]
  rw [applyFields_single_date k _ _ d hk hc]
  congr 1
  rw [Bool.eq_iff_iff]
  simp [msOf, floorMs_eq_iff]

end MongoModel.Proofs.C18
