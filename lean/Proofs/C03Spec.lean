/-
  Proofs.C03Spec — on the domain D (Spec/PipelineDomain.lean) every stage handler of the model
  answers what the oracle of Spec/Pipeline.lean answers.  `$match`, `$sort` and `$project` are
  not redone: D asks for the domains of C01, C11 and C12, and their theorems are applied.
-/
import Proofs.C03Stages
import Proofs.C03Docs
import Proofs.C03Project
import Props.C01
import Props.C12
import Proofs.C18
import Spec.PipelineDomain

namespace MongoModel.Pipe.Proofs
open MongoModel MongoModel.Pipe MongoModel.Spec.Pipe MongoModel.Proofs.C11

/-! ### values in stored form are fixed by the normalisation -/

theorem normalV_patch (v : Val) (h : normalV v = true) : patch v = v :=
  MongoModel.Proofs.C18.patch_fixes_normal v ((MongoModel.Proofs.C18.allNormalB_iff v).1 h)

theorem normal_patchFields : ∀ fs : Fields, allDatesFB normalB fs = true → patchFields fs = fs :=
  fun fs h => Val.doc.inj (normalV_patch (.doc fs) h)

theorem normal_patchList : ∀ xs : List Val, allDatesLB normalB xs = true → patchList xs = xs :=
  fun xs h => Val.arr.inj (normalV_patch (.arr xs) h)

/-! ### reading `… = []` off a list of reasons -/

theorem tag_nil (t : String) (rs : List String) : tag t rs = [] ↔ rs = [] := by
  simp [tag]

theorem ite_reason_nil {c : Prop} [Decidable c] (r : String) :
    (if c then [] else [r]) = [] ↔ c := by
  by_cases h : c <;> simp [h]

theorem matchAll_eq_spec (f : Val) : ∀ (docs s : List Val),
    (∀ d ∈ docs, Spec.reasons f d = []) → specMatchAll f docs = some s →
    filterR (filterApplies f) docs = .ok s
  | [], s, _, h => by cases h; rfl
  | d :: ds, s, hD, h => by
    have hd := MongoModel.Props.C01.matches_eq_spec_partial f d
      (List.isEmpty_iff.2 (hD d List.mem_cons_self))
    unfold specMatchAll at h
    split at h
    next b r hb hr =>
      cases h
      rw [filterR, hd, hb,
        matchAll_eq_spec f ds r (fun x hx => hD x (List.mem_cons_of_mem _ hx)) hr]
    · cases h

theorem match_eq_spec (f : Val) (docs s : List Val) (hf : normalV f = true)
    (hE : docs = [] → Spec.reasons f (.doc []) = [])
    (hD : ∀ d ∈ docs, normalV d = true ∧ Spec.reasons f d = []) (h : specMatch f docs = some s) :
    matchStage f docs = .ok s := by
  rw [matchStage_eq_findDocs f docs fun d hd => normalV_patch d (hD d hd).1]
  cases docs with
  | nil =>
    simp only [findDocs, normalV_patch f hf,
      MongoModel.Props.C01.matches_eq_spec_partial f _ (List.isEmpty_iff.2 (hE rfl))]
    simp only [specMatch] at h
    split at h <;> cases h
    simp only [*]
  | cons d ds =>
    simp only [findDocs, normalV_patch f hf]
    exact matchAll_eq_spec f _ s (fun x hx => (hD x hx).2) h

theorem specSortSpec_some : ∀ (fs : Fields) (spec : SortSpec), specSortSpec fs = some spec →
    fs = spec.map (fun kd => (kd.1, Val.int kd.2))
  | [], spec, h => by cases h; rfl
  | (k, v) :: r, spec, h => by
    cases v with
    | int i =>
      rw [specSortSpec] at h
      replace h := (of_ite_right_ne h nofun).2
      cases hr : specSortSpec r with
      | none => rw [hr] at h; cases h
      | some sp => rw [hr] at h; cases h; rw [specSortSpec_some r sp hr]; rfl
    | _ => cases h

theorem sort_eq_spec (fs : Fields) (spec : SortSpec) (docs : List Val)
    (hs : specSortSpec fs = some spec) (hD : Spec.Order.specReasons spec docs = []) :
    sortStage (.doc fs) docs = .ok (Spec.Order.sortDocs (some spec) docs) := by
  have hok := specOk_of_reasons spec docs hD
  rw [specSortSpec_some fs spec hs, sortStage, sortFields_int, aggSort_eq_spec spec docs hok,
    Spec.Order.sortDocs]
  cases hl : Spec.Order.loneNatural spec with
  | none => rfl
  | some dir =>
    -- a lone `$natural` key is outside the domain of the sort oracle
    cases loneNatural_some hl
    have := (hok _ (List.mem_singleton.mpr rfl)).1
    rw [natural_startsWithDollar] at this
    cases this

theorem count_eq_spec (s : String) (docs : List Val) (hn : countName s = true) :
    countStage (.str s) docs =
      .ok (if docs.isEmpty then [] else [.doc [(s, .int docs.length)]]) := by
  rw [countStage_eq, if_pos hn]

/-! ### `$unwind` on a top-level field -/

theorem nestedSet_eq_setNested : ∀ (parts : List String) (v : Val) (g : Fields),
    nestedSet g parts v = setNested parts v g
  | [], _, _ => rfl
  | [_], _, _ => rfl
  | k :: k' :: ks, v, g => by
    rw [nestedSet, setNested, nestedSet_eq_setNested (k' :: ks)]
    · cases dget k g with
      | none => rfl
      | some x => cases x <;> rfl
    · nofun

/-- what `setNested` writes can be read back along the same name … -/
theorem getNested_setNested : ∀ (ks : List String) (v : Val) (fs : Fields), ks ≠ [] →
    getNested ks (setNested ks v fs) = some v
  | [], _, _, h => absurd rfl h
  | [k], v, fs, _ => dget_dset_same k v fs
  | k :: k' :: ks, v, fs, _ => by
    simp only [getNested, setNested, dget_dset_same]
    exact getNested_setNested (k' :: ks) v _ nofun

/-- … and no other top-level field changes -/
theorem dget_setNested_other (k0 k : String) (h : k ≠ k0) : ∀ (ks : List String) (v : Val)
    (fs : Fields), dget k (setNested (k0 :: ks) v fs) = dget k fs
  | [], v, fs => dget_dset_other v h fs
  | k' :: ks, v, fs => dget_dset_other _ h fs

/-- the item (and the index, where one is asked for) written by the code = the oracle's fields -/
theorem unwindItem_any (f : String) (pres : Bool) (ix : Option String) (fs : Fields)
    (idx : Option Nat) (item : Val) (hf : splitDots f = [f]) :
    unwindItem ⟨f, pres, ix⟩ (.doc fs) idx item =
      .ok (.doc (withIndex ix (match idx with | some i => .int i | none => .null)
        (dset f item fs))) := by
  simp only [unwindItem, setByDot, hf, setByDotParts, withIndex]
  cases ix with
  | none => rfl
  | some n => simp only [setIndex, nestedSet_eq_setNested]; cases idx <;> rfl

theorem unwindItems_any (f : String) (pres : Bool) (ix : Option String) (fs : Fields)
    (hf : splitDots f = [f]) : ∀ (i : Nat) (xs : List Val),
      unwindItems ⟨f, pres, ix⟩ (.doc fs) i xs =
        .ok ((xs.zipIdx i).map (fun xi => .doc (withIndex ix (.int xi.2) (dset f xi.1 fs))))
  | _, [] => rfl
  | i, x :: xs => by
    simp only [unwindItems, unwindItem_any f pres ix fs _ x hf,
      unwindItems_any f pres ix fs hf (i + 1) xs, List.zipIdx_cons, List.map_cons]

theorem preserved_any (f : String) (pres : Bool) (ix : Option String) (fs : Fields) :
    preserved ⟨f, pres, ix⟩ (.doc fs) = .ok (.doc (withIndex ix .null fs)) := by
  cases ix with
  | none => rfl
  | some n => simp only [preserved, setIndex, withIndex, nestedSet_eq_setNested]

theorem unwindDoc_eq_spec (f : String) (pres : Bool) (ix : Option String) (fs : Fields)
    (hf : splitDots f = [f]) :
    unwindDoc ⟨f, pres, ix⟩ (.doc fs) = .ok (specUnwindDoc f pres ix (.doc fs)) := by
  simp only [unwindDoc, getByDot, hf, getByDotParts, specUnwindDoc]
  cases hg : dget f fs with
  | none => cases pres <;> simp [preserved_any, Except.map]
  | some v =>
    cases v with
    | null => cases pres <;> simp [preserved_any, Except.map]
    | arr xs =>
      cases xs with
      | nil =>
        cases pres
        · simp
        · simp [delByDot, hf, delByDotParts, dhas, hg, Except.map, preserved_any]
      | cons x r => simp only [unwindItems_any f pres ix fs hf 0 (x :: r)]
    | _ => simp [unwindItem_any f pres ix fs none _ hf, dset_self hg, Except.map]

theorem fieldRef_some (v : Val) (f : String) (h : fieldRef v = some f) :
    unwindPath v = .ok f ∧ splitDots f = [f] := by
  unfold fieldRef at h
  split at h
  next s =>
    split at h
    next r hr =>
      obtain ⟨hc, h⟩ := of_ite_left_ne h nofun
      cases h
      simp only [Bool.or_eq_true, not_or, Bool.not_eq_true] at hc
      exact ⟨by simp [unwindPath, hr], splitDots_nodot _ (by simpa using hc.1.2)⟩
    · cases h
  · cases h

theorem indexName_ne_empty (f n : String) (h : indexName f n = true) : n ≠ "" := by
  rintro rfl
  have hs : splitDots "" = [""] := by decide
  simp [indexName, hs] at h

/-- the options the oracle reads are the options the handler reads -/
theorem unwindArgs_some (opts : Val) (f : String) (pres : Bool) (ix : Option String)
    (h : unwindArgs opts = some (f, pres, ix)) :
    unwindOpts opts = .ok ⟨f, pres, ix⟩ ∧ splitDots f = [f] := by
  -- the bare form `"$f"`
  have bare : ∀ v, (fieldRef v).map (fun f => (f, false, none)) = some (f, pres, ix) →
      (unwindPath v).map (fun p => (⟨p, false, none⟩ : UnwindOpts)) = .ok ⟨f, pres, ix⟩ ∧
        splitDots f = [f] := by
    intro v h
    cases hfr : fieldRef v with
    | none => rw [hfr] at h; cases h
    | some f' =>
      rw [hfr] at h; cases h
      obtain ⟨hpath, hsplit⟩ := fieldRef_some v _ hfr
      exact ⟨by rw [hpath]; rfl, hsplit⟩
  cases opts with
  | doc o =>
    rw [unwindArgs] at h
    replace h := (of_ite_left_ne h nofun).2
    split at h
    next p hp =>
      cases hfr : fieldRef p with
      | none => rw [hfr] at h; cases h
      | some f' =>
        obtain ⟨hpath, hsplit⟩ := fieldRef_some p f' hfr
        rw [hfr] at h
        simp only [Option.bind_some] at h
        simp only [unwindOpts, hp, hpath]
        -- `preserveNullAndEmptyArrays` is a boolean or absent
        have key : ∀ ix', (match dget "preserveNullAndEmptyArrays" o with
              | none => some (f', false, ix')
              | some (.bool b) => some (f', b, ix')
              | some _ => none) = some (f, pres, ix) →
            f' = f ∧ ix' = ix ∧
              (match dget "preserveNullAndEmptyArrays" o with
               | some v => v.truthy | none => false) = pres := by
          intro ix' h
          split at h
          · cases h; simp only [*, and_self]
          · cases h; simp only [*, Val.truthy, and_self]
          · cases h
        split at h
        next hix =>
          obtain ⟨rfl, rfl, rfl⟩ := key _ h
          exact ⟨by simp only [hix]; rfl, hsplit⟩
        next n hix =>
          split at h
          next hn =>
            obtain ⟨rfl, rfl, rfl⟩ := key _ h
            exact ⟨by simp only [hix, indexName_ne_empty _ n hn, if_false]; rfl, hsplit⟩
          · cases h
        · cases h
    · cases h
  | str st => exact bare (.str st) h
  | _ => cases h

theorem unwind_eq_spec(opts : Val) (f : String) (pres : Bool) (ix : Option String)
    (docs : List Val)
    (ha : unwindArgs opts = some (f, pres, ix)) (hd : ∀ d ∈ docs, ∃ fs, d = .doc fs) :
    unwindStage opts docs = .ok (docs.flatMap (specUnwindDoc f pres ix)) := by
  obtain ⟨ho, hf⟩ := unwindArgs_some opts f pres ix ha
  simp only [unwindStage, ho]
  apply flatMapR_ok_of
  intro d hdm
  obtain ⟨fs, rfl⟩ := hd d hdm
  exact unwindDoc_eq_spec f pres ix fs hf

/-- the part of `aggProject` that does not look at the documents -/
def aggPrep : Val → R (PSpec × Bool)
  | .doc options =>
    if !(options.all (fun kv => isFlag kv.2)) then unmodelled
    else
      match aggFilterList options with
      | .error e => .error e
      | .ok (m, fl) =>
        if fl.isEmpty then .error .typeErr
        else
          match combineSpec true (fl.map (fun k => (splitDots k, Val.int 1))) with
          | .error e => .error e
          | .ok cs => .ok (cs, decide (m = .inc))
  | _ => unmodelled

theorem aggProject_prep (docs : List Val) (p : Val) :
    aggProject docs p =
      (match aggPrep p with
       | .error e => .error e
       | .ok (cs, b) => mapR (aggProjectDoc cs b) docs) := by
  cases p with
  | doc options =>
    simp only [aggProject, aggPrep, bind, Except.bind]
    split
    · rfl
    · cases aggFilterList options with
      | error e => rfl
      | ok mf =>
        obtain ⟨m, fl⟩ := mf
        simp only
        split
        · rfl
        · cases combineSpec true (List.map (fun k => (splitDots k, Val.int 1)) fl) with
          | error e => rfl
          | ok cs => simp only [mapM_eq_mapR]
  | _ => rfl

theorem mapOpt_some {α β} {f : α → Option β} : ∀ {xs : List α} {ys : List β},
    mapOpt f xs = some ys → List.Forall₂ (fun x y => f x = some y) xs ys
  | [], _, h => by cases h; exact .nil
  | x :: xs, _, h => by
    unfold mapOpt at h
    split at h
    next y r hx hr => cases h; exact .cons hx (mapOpt_some hr)
    · cases h

theorem project_eq_spec (options : Fields) (docs s : List Val)
    (hflags : options.all (fun kv => isFlag kv.2) = true)
    (h0 : Spec.Proj.aggReasons (.doc options) (.doc []) = [])
    (hD : ∀ d ∈ docs, Spec.Proj.aggReasons (.doc options) d = [])
    (hs : mapOpt (Spec.Proj.project (.doc options)) docs = some s) :
    projectStage (.doc options) docs = .ok s := by
  rw [projectStage_flags options docs hflags, aggProject_prep]
  -- the specification is accepted, since it is on the empty document
  obtain ⟨s0, _, hw⟩ := MongoModel.Proofs.C12.agg_exact (.doc options) (.doc []) h0
  rw [aggProject_prep] at hw
  cases hp : aggPrep (.doc options) with
  | error e => rw [hp] at hw; cases hw
  | ok cb =>
    apply mapR_ok_iff.2
    have hf := mapOpt_some hs
    clear hs hw
    induction hf with
    | nil => exact .nil
    | @cons d y ds ys hdy _ ih =>
      refine .cons ?_ (ih fun x hx => hD x (List.mem_cons_of_mem _ hx))
      obtain ⟨sd, h1, h2⟩ :=
        MongoModel.Proofs.C12.agg_exact (.doc options) d (hD d List.mem_cons_self)
      rw [h1] at hdy; cases hdy
      rw [aggProject_prep, hp] at h2
      cases (mapR_ok_iff.1 h2) with | cons h _ => exact h

/-! ### every stage the oracle speaks about, and pipelines of them -/

theorem stage_eq_spec (db : Db) (op : String) (opts : Val) (docs s : List Val)
    (hD : stageReasons op opts docs = []) (hs : specStage op opts docs = some s) :
    simpleStage db op opts docs = .ok s := by
  unfold specStage at hs
  unfold stageReasons at hD
  unfold simpleStage
  by_cases h1 : op = "$match"
  · rw [if_pos h1] at hs hD ⊢
    simp only [List.append_eq_nil_iff, List.flatMap_eq_nil_iff, tag_nil, ite_reason_nil] at hD
    refine match_eq_spec opts docs s hD.1.1 (fun he => ?_) hD.2 hs
    have := hD.1.2
    rwa [if_pos (List.isEmpty_iff.2 he), tag_nil] at this
  rw [if_neg h1] at hs hD ⊢
  by_cases h2 : op = "$sort"
  · rw [if_pos h2] at hs hD ⊢
    cases opts with
    | doc fs =>
      simp only at hD hs
      replace hs := (of_ite_left_ne hs nofun).2
      cases hsp : specSortSpec fs with
      | none => rw [hsp] at hs; cases hs
      | some spec =>
        rw [hsp] at hs hD
        cases hs
        exact sort_eq_spec fs spec docs hsp ((tag_nil _ _).1 hD)
    | _ => cases hs
  rw [if_neg h2] at hs hD ⊢
  by_cases h3 : op = "$skip"
  · rw [if_pos h3] at hs ⊢
    rw [skipStage_eq]
    cases hc : sliceCount opts with
    | none => rw [hc] at hs; cases hs
    | some k =>
      rw [hc] at hs
      obtain ⟨hk, hs⟩ := of_ite_right_ne hs nofun
      cases hs
      exact if_pos hk
  rw [if_neg h3] at hs ⊢
  by_cases h4 : op = "$limit"
  · rw [if_pos h4] at hs ⊢
    rw [limitStage_eq]
    cases hc : sliceCount opts with
    | none => rw [hc] at hs; cases hs
    | some k =>
      rw [hc] at hs
      obtain ⟨hk, hs⟩ := of_ite_right_ne hs nofun
      cases hs
      exact if_pos hk
  rw [if_neg h4] at hs ⊢
  rw [if_neg (by simp only [h3, h4, decide_false, Bool.or_self, Bool.false_eq_true,
    not_false_eq_true])] at hD
  by_cases h5 : op = "$count"
  · rw [if_pos h5] at hs ⊢
    cases opts with
    | str nm =>
      obtain ⟨hn, hs⟩ := of_ite_right_ne hs nofun
      cases hs
      exact count_eq_spec nm docs hn
    | _ => cases hs
  rw [if_neg h5] at hs hD ⊢
  by_cases h6 : op = "$project"
  · rw [if_pos h6] at hs hD ⊢
    cases opts with
    | doc options =>
      simp only [List.append_eq_nil_iff, List.flatMap_eq_nil_iff, tag_nil, ite_reason_nil] at hD
      exact project_eq_spec options docs s hD.1.1 hD.1.2 hD.2 hs
    | _ => cases hD
  rw [if_neg h6] at hs hD ⊢
  by_cases h7 : op = "$unwind"
  · rw [if_pos h7] at hs hD
    rw [if_neg (by rw [h7]; decide), if_pos h7]
    cases ha : unwindArgs opts with
    | none => rw [ha] at hs; cases hs
    | some a =>
      obtain ⟨f, pres, ix⟩ := a
      rw [ha] at hs hD
      cases hs
      refine unwind_eq_spec opts f pres ix docs ha fun d hd => ?_
      have := List.flatMap_eq_nil_iff.1 hD d hd
      cases d with
      | doc fs => exact ⟨fs, rfl⟩
      | _ => cases this
  · rw [if_neg h7] at hs; cases hs

/-- the oracle never speaks about `$facet`, so on D every stage is a simple one -/
theorem specStage_not_facet (opts : Val) (docs : List Val) : specStage "$facet" opts docs = none := by
  simp [specStage]

theorem pipeline_eq_spec (db : Db) : ∀ (p : List Val) (docs s : List Val),
    pipelineReasons p docs = [] → specPipeline p docs = some s → runPipeline db p docs = .ok s
  | [], docs, s, _, hs => by cases hs; rfl
  | st :: rest, docs, s, hD, hs => by
    -- the oracle speaks about one-field documents only
    rcases st with _ | _ | _ | _ | _ | _ | _ | fs | _ <;> try cases hs
    rcases fs with _ | ⟨⟨op, opts⟩, _ | _⟩ <;> try cases hs
    rw [pipelineReasons, List.append_eq_nil_iff] at hD
    rw [specPipeline] at hs
    cases hst : specStage op opts docs with
    | none => rw [hst] at hs; cases hs
    | some out =>
      rw [hst] at hs hD
      have hne : op ≠ "$facet" := by
        rintro rfl; rw [specStage_not_facet] at hst; cases hst
      rw [runPipeline, runStage_single, runOp_simple db op opts docs hne,
        stage_eq_spec db op opts docs out hD.1 hst]
      exact pipeline_eq_spec db rest out s hD.2 hs

/-! ### what MongoDB rejects, the code refuses -/

/-- a `$limit` / `$skip` / `$count` argument MongoDB refuses makes the handler raise
    OperationFailure, whatever the input -/
theorem argRejected_opFail (db : Db) (op : String) (opts : Val) (docs : List Val)
    (h : argRejected op opts = true) : simpleStage db op opts docs = .error .opFail := by
  unfold argRejected at h
  unfold simpleStage
  by_cases h1 : op = "$match"
  · subst h1; simp at h
  by_cases h2 : op = "$sort"
  · subst h2; simp at h
  rw [if_neg h1, if_neg h2]
  by_cases h3 : op = "$skip"
  · rw [if_pos h3, skipStage_eq]
    rw [if_neg (by rw [h3]; decide), if_pos h3] at h
    cases hc : sliceCount opts with
    | none => rfl
    | some n => rw [hc] at h; exact if_neg (Int.not_le.mpr (of_decide_eq_true h))
  rw [if_neg h3]
  by_cases h4 : op = "$limit"
  · rw [if_pos h4, limitStage_eq]
    rw [if_pos h4] at h
    cases hc : sliceCount opts with
    | none => rfl
    | some n => rw [hc] at h; exact if_neg (Int.not_lt.mpr (of_decide_eq_true h))
  rw [if_neg h4]
  rw [if_neg h4, if_neg h3] at h
  by_cases h5 : op = "$count"
  · rw [if_pos h5]
    rw [if_pos h5] at h
    cases opts with
    | str s => rw [countStage_eq, if_neg (by simpa using h)]
    | _ => rfl
  · rw [if_neg h5] at h; cases h

/-- a stage MongoDB rejects — not a one-field document, or a refused argument — makes the code
    raise (a Python error: the model does express these cases) -/
theorem runStage_rejected (db : Db) (st : Val) (docs : List Val) (h : stageRejected st = true) :
    ∃ e, e ≠ Err.unmodelled ∧ runStage db st docs = .error e := by
  cases st with
  | doc fs =>
    refine ⟨.opFail, nofun, ?_⟩
    rcases fs with _ | ⟨⟨op, opts⟩, _ | _⟩
    · rfl
    · have hne : op ≠ "$facet" := by rintro rfl; simp [stageRejected, argRejected] at h
      rw [runStage_single, runOp_simple db op opts docs hne]
      exact argRejected_opFail db op opts docs h
    · rfl
  | str s => rw [runStage]; split <;> refine ⟨_, ?_, rfl⟩ <;> nofun
  | arr xs => rw [runStage]; split <;> refine ⟨_, ?_, rfl⟩ <;> nofun
  | _ => exact ⟨.typeErr, nofun, rfl⟩

/-- a pipeline holding a rejected stage never answers documents -/
theorem runPipeline_rejected (db : Db) : ∀ (p docs : List Val), p.any stageRejected = true →
    ∀ out, runPipeline db p docs ≠ .ok out
  | [], _, h, _ => by cases h
  | st :: rest, docs, h, out => by
    rw [runPipeline]
    cases hr : runStage db st docs with
    | error e => nofun
    | ok docs' =>
      rw [List.any_cons, Bool.or_eq_true] at h
      rcases h with h | h
      · obtain ⟨e, _, he⟩ := runStage_rejected db st docs h
        rw [he] at hr; cases hr
      · exact runPipeline_rejected db rest docs' h out

theorem stageV_eq_spec (db : Db) (op : String) (opts : Val) (docs : List Val) (v : Verdict)
    (hD : stageReasons op opts docs = []) (hs : specStageV op opts docs = some v) :
    v.agrees (simpleStage db op opts docs) := by
  unfold specStageV at hs
  split at hs
  next hr =>
    cases hs
    rw [Verdict.agrees, argRejected_opFail db op opts docs hr]
    nofun
  · cases hst : specStage op opts docs with
    | none => rw [hst] at hs; cases hs
    | some s =>
      rw [hst] at hs; cases hs
      exact stage_eq_spec db op opts docs s hD hst

end MongoModel.Pipe.Proofs
