/-
  Proofs.C12Main — assembling `incl_exact` / `excl_exact`: from "no reason to be outside D"
  to "the find-path projection is the rule".
-/
import Proofs.C12Id

namespace MongoModel.Proofs.C12
open MongoModel MongoModel.Spec.Proj

theorem noCollision_noColl : ∀ ps : List Path, noCollision ps = true → NoColl ps
  | [], _ => List.Pairwise.nil
  | p :: r, h => by
    simp only [noCollision, Bool.and_eq_true, List.all_eq_true, Bool.not_eq_true'] at h
    refine List.Pairwise.cons ?_ (noCollision_noColl r h.2)
    intro q hq
    have := h.1 q hq
    constructor
    · intro hp; simp [List.isPrefixOf_iff_prefix.mpr hp] at this
    · intro hp; simp [List.isPrefixOf_iff_prefix.mpr hp] at this

theorem flagOf_cases {v : Val} {b : Bool} (h : flagOf v = some b) :
    v = .bool b ∨ (v = .int 1 ∧ b = true) ∨ (v = .int 0 ∧ b = false) := by
  cases v with
  | bool c => exact Or.inl (congrArg Val.bool (Option.some.inj h))
  | int i =>
    simp only [flagOf] at h
    split at h
    · next e => cases h; exact Or.inr (Or.inl ⟨by rw [e], rfl⟩)
    · split at h
      · next e => cases h; exact Or.inr (Or.inr ⟨by rw [e], rfl⟩)
      · cases h
  | _ => cases h

theorem flagOf_truthy {v : Val} {b : Bool} (hv : flagOf v = some b) : v.truthy = b := by
  rcases flagOf_cases hv with rfl | ⟨rfl, rfl⟩ | ⟨rfl, rfl⟩ <;> rfl

theorem flagOf_pyEq_one {v : Val} {b : Bool} (hv : flagOf v = some b) :
    pyEq v (.int 1) = b := by
  rcases flagOf_cases hv with rfl | ⟨rfl, rfl⟩ | ⟨rfl, rfl⟩ <;> first | rfl | (cases b <;> rfl)

theorem flagOf_pyEq_zero {v : Val} {b : Bool} (hv : flagOf v = some b) :
    pyEq v (.int 0) = !b := by
  rcases flagOf_cases hv with rfl | ⟨rfl, rfl⟩ | ⟨rfl, rfl⟩ <;> first | rfl | (cases b <;> rfl)

theorem flagOf_pyEq {v w : Val} {b : Bool} (hv : flagOf v = some b) (hw : flagOf w = some b) :
    pyEq v w = true := by
  rcases flagOf_cases hv with rfl | ⟨rfl, rfl⟩ | ⟨rfl, rfl⟩ <;>
  rcases flagOf_cases hw with rfl | ⟨rfl, h⟩ | ⟨rfl, h⟩ <;> first | rfl | contradiction | (cases b <;> first | rfl | contradiction)

theorem flagOf_notArr {v : Val} {b : Bool} (hv : flagOf v = some b) : v.isArr = false := by
  rcases flagOf_cases hv with rfl | ⟨rfl, _⟩ | ⟨rfl, _⟩ <;> rfl

theorem flagOf_notDoc {v : Val} {b : Bool} (hv : flagOf v = some b) : v.isDoc = false := by
  rcases flagOf_cases hv with rfl | ⟨rfl, _⟩ | ⟨rfl, _⟩ <;> rfl

theorem extractOps_plain : ∀ {l : Fields}, (∀ kv ∈ l, kv.2.isDoc = false) →
    extractOps l = .ok ([], l)
  | [], _ => rfl
  | (k, v) :: r, h => by
    have ih := extractOps_plain (l := r) (fun kv hkv => h kv (List.mem_cons_of_mem _ hkv))
    have h1 : v.isDoc = false := h (k, v) List.mem_cons_self
    cases v <;> first | contradiction | (simp only [extractOps, ih]; rfl)

theorem derase_eq_filter : ∀ {l : Fields}, (dkeys l).Nodup →
    derase "_id" l = l.filter (fun kv => kv.1 != "_id")
  | [], _ => rfl
  | (k, v) :: r, h => by
    simp only [dkeys, List.map_cons, List.nodup_cons] at h
    by_cases e : k = "_id"
    · subst e
      have : NoId r := fun kv hkv e' => h.1 (List.mem_map.mpr ⟨kv, hkv, e'⟩)
      simp [derase, noId_filter_ne this]
    · simp [derase, e, derase_eq_filter (l := r) h.2]

theorem allSome_map {α β} (f : α → Option β) : ∀ {l : List α} {out : List β},
    allSome (l.map f) = some out → l.map f = out.map some
  | [], out, h => by cases h; rfl
  | a :: r, out, h => by
    simp only [List.map_cons] at h ⊢
    cases hfa : f a with
    | none => rw [hfa] at h; cases h
    | some b =>
      simp only [hfa, allSome] at h
      cases hr : allSome (r.map f) with
      | none => rw [hr] at h; cases h
      | some out' =>
        rw [hr] at h; cases h
        rw [allSome_map f hr]; rfl

theorem mixedValues_flags {vs : List Val} {b : Bool} (h : ∀ v ∈ vs, flagOf v = some b) :
    mixedValues vs = .ok false := by
  have harr : vs.any Val.isArr = false := by
    simp only [List.any_eq_false]
    intro v hv; simp [flagOf_notArr (h v hv)]
  cases vs with
  | nil => simp [mixedValues]
  | cons v r =>
    have : r.all (pyEq v) = true := by
      simp only [List.all_eq_true]
      intro w hw
      exact flagOf_pyEq (h v (by simp)) (h w (by simp [hw]))
    simp [mixedValues, harr, this]

theorem applyOps_nil (doc dc : Fields) : applyProjOps doc [] dc = .ok dc := rfl

theorem maxLen_itemsOf_le (plain : Fields) : maxLen (itemsOf plain) ≤ maxLen (itemsOf plain) :=
  Nat.le_refl _

/-- `_id` listed last, on field lists -/
def idLastF (l : Fields) : Fields :=
  l.filter (fun kv => kv.1 != "_id") ++ l.filter (fun kv => kv.1 == "_id")

theorem idLast_doc (l : Fields) : idLast (.doc l) = .doc (idLastF l) := rfl

theorem idLastF_perm (l : Fields) : (idLastF l).Perm l := by
  unfold idLastF
  have := List.filter_append_perm (fun kv : String × Val => kv.1 != "_id") l
  refine List.Perm.trans ?_ this
  apply List.Perm.append_left
  apply List.Perm.of_eq
  apply List.filter_congr
  intro kv _
  cases h : kv.1 == "_id" <;> simp_all

/-- re-attaching `_id` to an inclusion copy -/
theorem attach_incl {fs : Fields} {ps : List Path} (hk : (dkeys fs).Nodup)
    (hid : tailsOf "_id" ps = []) :
    attachId fs (inclFields fs ps) = idLastF (inclFields fs (["_id"] :: ps)) := by
  have hno := incl_noId hid fs
  unfold idLastF attachId
  rw [incl_id_filter_ne hid, incl_id_filter_eq hid, filter_id_of_nodup hk]
  cases hg : dget "_id" fs with
  | none => simp
  | some v => simp [noId_dset v hno]

theorem drop_incl {fs : Fields} {ps : List Path} (hid : tailsOf "_id" ps = []) :
    derase "_id" (inclFields fs ps) = idLastF (inclFields fs ps) := by
  have hno := incl_noId hid fs
  unfold idLastF
  rw [noId_derase hno, noId_filter_ne hno, noId_filter_eq hno]; simp

theorem attach_excl {fs : Fields} {ps : List Path} (hid : tailsOf "_id" ps = []) :
    attachId fs (exclFields fs ps) = exclFields fs ps := by
  unfold attachId
  cases hg : dget "_id" fs with
  | none => rfl
  | some v =>
    have : dget "_id" (exclFields fs ps) = some v := by rw [excl_dget_id hid, hg]
    simp [dset_self this]

theorem incl_nil : ∀ fs : Fields, inclFields fs [] = []
  | [] => rfl
  | (k, v) :: rest => by simp only [inclFields, tailsOf, List.filterMap_nil, List.isEmpty_nil,
      if_true, incl_nil rest]

/-- `_id` popped from, or put back into, the copy by the plain fields -/
theorem id_step {fs : Fields} {ps : List Path} (b kid : Bool) (hk : (dkeys fs).Nodup)
    (hid : tailsOf "_id" ps = []) :
    (if (!kid) = true then derase "_id" (if b = true then inclFields fs ps else exclFields fs ps)
      else attachId fs (if b = true then inclFields fs ps else exclFields fs ps)) =
    if b = true then idLastF (inclFields fs (if kid = true then ["_id"] :: ps else ps))
    else exclFields fs (if kid = true then ps else ["_id"] :: ps) := by
  cases b <;> cases kid <;>
    simp only [Bool.not_true, Bool.not_false, Bool.false_eq_true, if_true, if_false,
      excl_id_erase hid hk, attach_excl hid, drop_incl hid, attach_incl hk hid]

/-- `_copy_only_fields` up to the operator fields, for plain fields `plain` that all carry the
    flag `b` and an `_id` entry (default 1) that reads as the flag `kid` -/
theorem base_plain {fs plain : Fields} {idv : Val} {b kid : Bool} (hk : (dkeys fs).Nodup)
    (hidv : flagOf idv = some kid) (hfl : ∀ kv ∈ plain, flagOf kv.2 = some b)
    (hempty : plain = [] → b = kid)
    (hnc : NoColl (plain.map (fun kv => splitDots kv.1)))
    (hnd : NoDollar (plain.map (fun kv => splitDots kv.1)))
    (hid : tailsOf "_id" (plain.map (fun kv => splitDots kv.1)) = []) :
    baseCopy fs plain idv false = .ok (
      if b = true then
        idLastF (inclFields fs (if kid = true then ["_id"] :: plain.map (fun kv => splitDots kv.1)
          else plain.map (fun kv => splitDots kv.1)))
      else exclFields fs (if kid = true then plain.map (fun kv => splitDots kv.1)
          else ["_id"] :: plain.map (fun kv => splitDots kv.1))) := by
  have hmix := mixedValues_flags (vs := plain.map (·.2)) (b := b) (by
    intro v hv
    obtain ⟨kv, hkv, e⟩ := List.mem_map.mp hv
    subst e; exact hfl kv hkv)
  rw [← id_step b kid hk hid]
  unfold baseCopy
  rw [hmix]
  cases plain with
  | nil =>
    -- no plain field: an empty inclusion, or an exclusion of nothing
    simp only [bind, Except.bind, pure, Except.pure, flagOf_pyEq_one hidv, flagOf_pyEq_zero hidv,
      ← hempty rfl, Bool.false_eq_true, if_false]
    cases b <;> simp only [List.map_nil, incl_nil, excl_nil, Bool.not_false, Bool.and_true,
      Bool.false_eq_true, if_true, if_false]
  | cons kv0 rest =>
    have hpaths : (itemsOf (kv0 :: rest)).map (·.1) = (kv0 :: rest).map (fun kv => splitDots kv.1) :=
      List.map_map
    obtain ⟨cs, hcs, hrep⟩ := combine_rep false _ (itemsOf (kv0 :: rest)) (Nat.le_refl _)
      (by
        intro it hit
        obtain ⟨kv, _, e⟩ := List.mem_map.mp hit
        subst e; exact splitDots_ne_nil _)
      (by rw [hpaths]; exact hnc)
    rw [hpaths] at hrep
    simp only [combineSpec, hcs, guard_ok hrep hnd, flagOf_truthy (hfl kv0 List.mem_cons_self),
      bind, Except.bind, pure, Except.pure, flagOf_pyEq_zero hidv, Bool.false_eq_true, if_false]
    cases b
    · rw [fpFields_excl fs cs _ hrep hnd]; rfl
    · rw [fpFields_incl fs cs _ hrep hnd]; rfl

theorem ite_single_nil {c : Prop} [Decidable c] {x : String} :
    (if c then [x] else ([] : List String)) = [] ↔ ¬ c := by
  by_cases h : c <;> simp [h]

structure SpecOk (fields : Fields) : Prop where
  noDoc : ∀ kv ∈ fields, kv.2.isDoc = false
  nodup : (dkeys fields).Nodup
  noColl : noCollision ((fields.filter (fun kv => kv.1 != "_id")).map (fun kv => splitDots kv.1))
    = true
  noDollar : NoDollar ((fields.filter (fun kv => kv.1 != "_id")).map (fun kv => splitDots kv.1))
  noIdPath : tailsOf "_id"
    ((fields.filter (fun kv => kv.1 != "_id")).map (fun kv => splitDots kv.1)) = []

theorem specOk_of_reasons {fields : Fields} (h : specReasons fields = []) : SpecOk fields := by
  unfold specReasons at h
  simp only [List.append_eq_nil_iff, ite_single_nil] at h
  obtain ⟨⟨⟨⟨⟨⟨⟨⟨h1, _⟩, _⟩, _⟩, h5⟩, h6⟩, _⟩, h8⟩, h9⟩ := h
  refine ⟨?_, ?_, ?_, ?_, ?_⟩
  · intro kv hkv
    cases hd : kv.2.isDoc with
    | false => rfl
    | true => exact absurd (List.any_eq_true.mpr ⟨kv, hkv, hd⟩) h1
  · have : nodupB (dkeys fields) = true := by simpa using h5
    exact (nodupB_iff _).mp this
  · simpa using h6
  · intro p hp hd
    apply h8
    simp only [List.any_eq_true]
    exact ⟨p, hp, "$", hd, by decide⟩
  · apply List.eq_nil_iff_forall_not_mem.mpr
    intro t ht
    apply h9
    simp only [List.any_eq_true]
    exact ⟨"_id" :: t, mem_tailsOf.mp ht, by simp⟩

theorem normDict_some {fields : Fields} {n : Norm} (hn : normDict fields = some n) :
    flagOf ((dget "_id" fields).getD (.int 1)) = some n.keepId ∧
    n.paths = (fields.filter (fun kv => kv.1 != "_id")).map (fun kv => splitDots kv.1) ∧
    (∀ kv ∈ fields.filter (fun kv => kv.1 != "_id"), flagOf kv.2 = some n.incl) ∧
    (fields.filter (fun kv => kv.1 != "_id") = [] → n.incl = n.keepId) := by
  unfold normDict at hn
  simp only at hn
  split at hn
  · rename_i idf flags hid hfl
    have hreads : flagOf ((dget "_id" fields).getD (.int 1)) = some (idf != some false) := by
      cases hg : dget "_id" fields with
      | none => simp only [hg] at hid; cases hid; rfl
      | some v =>
        simp only [hg] at hid
        cases hf : flagOf v with
        | none => rw [hf] at hid; cases hid
        | some x => rw [hf] at hid; cases hid; cases x <;> exact hf
    have hmap := allSome_map (fun kv : String × Val => flagOf kv.2) hfl
    split at hn
    · cases hn
    · split at hn
      · cases hn
        have he := List.map_eq_nil_iff.mp hmap
        rw [he]
        exact ⟨hreads, rfl, fun _ h => (List.not_mem_nil h).elim, fun _ => rfl⟩
      · rename_i b r
        split at hn
        · rename_i hall
          cases hn
          refine ⟨hreads, rfl, ?_, fun e => ?_⟩
          · intro kv hkv
            have : flagOf kv.2 ∈ (b :: r).map some := hmap ▸ List.mem_map_of_mem hkv
            obtain ⟨x, hx, e⟩ := List.mem_map.mp this
            rcases List.mem_cons.mp hx with e' | hx'
            · rw [← e, e']
            · rw [← e, beq_iff_eq.mp (List.all_eq_true.mp hall x hx')]
          · rw [e] at hmap; cases hmap
        · cases hn
  · cases hn

theorem mem_derase' {k : String} {kv : String × Val} {fs : Fields} (h : kv ∈ derase k fs) :
    kv ∈ fs := mem_derase h

/-- **the dict form**: on D, `_copy_only_fields` is the rule -/
theorem exact_dict {fs fields : Fields} {n : Norm} (hk : (dkeys fs).Nodup)
    (hs : specReasons fields = []) (hn : normDict fields = some n) :
    copyWithDict fs fields = .ok (if n.incl = true then idLastF (projectNorm n fs)
      else projectNorm n fs) := by
  have ok := specOk_of_reasons hs
  obtain ⟨hidv, hpaths, hfl, hempty⟩ := normDict_some hn
  have hx : extractOps (derase "_id" fields) = .ok ([], fields.filter (fun kv => kv.1 != "_id")) := by
    rw [extractOps_plain (fun kv hkv => ok.noDoc kv (mem_derase hkv)), derase_eq_filter ok.nodup]
  have hka : (!(dhas "_id" fields) && onlySlices []) = false := Bool.and_false _
  unfold copyWithDict
  simp only [hx, bind, Except.bind, hka]
  rw [base_plain hk hidv hfl hempty (noCollision_noColl _ ok.noColl) ok.noDollar ok.noIdPath]
  simp only [applyOps_nil, projectNorm, hpaths]
  cases n.incl <;> rfl

theorem fieldsListToDict_eq : ∀ (names : List Val) (acc fields : Fields),
    listToDict names = some fields → (dkeys (acc ++ fields)).Nodup →
    fieldsListToDict names acc = .ok (acc ++ fields)
  | [], acc, fields, h, _ => by cases h; simp [fieldsListToDict]
  | x :: r, acc, fields, h, hn => by
    cases x with
    | str s =>
      simp only [listToDict] at h
      cases hr : listToDict r with
      | none => rw [hr] at h; cases h
      | some fields' =>
        rw [hr] at h; cases h
        have hs : s ∉ dkeys acc := fun hm =>
          (List.nodup_append.mp (by simpa [dkeys] using hn)).2.2 s hm s (by simp) rfl
        simp only [fieldsListToDict, dset_absent hs]
        have := fieldsListToDict_eq r (acc ++ [(s, .int 1)]) fields' hr (by simpa using hn)
        simpa using this
    | _ => cases h

theorem reasons_dict {fields : Fields}
    (h : (let rs := specReasons fields
          if !rs.isEmpty then rs
          else match normDict fields with
            | none => ["malformed"]
            | some _ => []) = []) :
    specReasons fields = [] ∧ ∃ n, normDict fields = some n := by
  simp only at h
  split at h
  · next hne => rw [h] at hne; simp at hne
  · next hne =>
    have hs : specReasons fields = [] := by simpa using hne
    refine ⟨hs, ?_⟩
    split at h
    · cases h
    · next n hn => exact ⟨n, hn⟩

theorem exact_fields {fs fields : Fields} (hk : (dkeys fs).Nodup)
    (h : (let rs := specReasons fields
          if !rs.isEmpty then rs
          else match normDict fields with
            | none => ["malformed"]
            | some _ => []) = []) :
    ∃ n, normDict fields = some n ∧
      (copyWithDict fs fields).map Val.doc = .ok (if n.incl = true
        then idLast (.doc (projectNorm n fs)) else .doc (projectNorm n fs)) := by
  obtain ⟨hs, n, hn⟩ := reasons_dict h
  refine ⟨n, hn, ?_⟩
  rw [exact_dict hk hs hn]
  cases n.incl <;> simp [Except.map, idLast_doc]

theorem exact_main (p d : Val) (h : reasons p d = []) :
    ∃ s, project p d = some s ∧
      copyOnlyFields d p = .ok (if modeOf p = some true then idLast s else s) := by
  cases d with
  | doc fs =>
    simp only [reasons, List.append_eq_nil_iff, ite_single_nil] at h
    obtain ⟨hk0, h⟩ := h
    have hk : (dkeys fs).Nodup := by
      have : nodupB (dkeys fs) = true := by simpa using hk0
      exact (nodupB_iff _).mp this
    cases p with
    | null => exact ⟨.doc fs, rfl, by simp [copyOnlyFields, modeOf]⟩
    | doc fields =>
      cases fields with
      | nil => exact ⟨.doc fs, rfl, by simp [copyOnlyFields, modeOf]⟩
      | cons f r =>
        simp only [dictForm] at h
        obtain ⟨n, hn, hc⟩ := exact_fields hk h
        refine ⟨.doc (projectNorm n fs), by simp [project, hn], ?_⟩
        simp only [copyOnlyFields, modeOf, hn, Option.map_some, hc]
        cases n.incl <;> simp
    | arr names =>
      cases names with
      | nil => exact ⟨.doc fs, rfl, by simp [copyOnlyFields, modeOf]⟩
      | cons x xs =>
        simp only [dictForm] at h
        cases hl : listToDict (x :: xs) with
        | none => simp [hl] at h
        | some fields =>
          simp only [hl] at h
          obtain ⟨n, hn, hc⟩ := exact_fields hk h
          have hnd : (dkeys fields).Nodup := (specOk_of_reasons (reasons_dict h).1).nodup
          have hfl := fieldsListToDict_eq (x :: xs) [] fields hl (by simpa using hnd)
          refine ⟨.doc (projectNorm n fs), by simp [project, hl, hn], ?_⟩
          simp only [copyOnlyFields, modeOf, hl, hn, Option.bind_some, Option.map_some, hfl,
            List.nil_append, bind, Except.bind, hc]
          cases n.incl <;> simp
    | _ => simp [dictForm] at h
  | _ => simp [reasons] at h

end MongoModel.Proofs.C12
