/-
  C19 — `conformant` and `docsIterScoped` look up every successor of every instruction from the
  start of the code, which makes their evaluation on a concrete program quadratic in its length
  (and each step of a list walk is dear in the kernel).  Here: how `findFrom`, `tagAt`,
  `raiseTarget`, `succPcs` behave when code is put in front, and with that two one-pass forms of
  the two checks (`conformant_eq`, `docsIterScoped_eq`) that the evaluated scenarios of
  `Props/C19.lean` are computed through.
-/
import MongoModel.RWLockConf
namespace MongoModel.RWLock

theorem findFrom_acc (p : TInstr → Bool) : ∀ (xs : Code) (i acc k : Nat),
    findFrom p xs i (acc + k) = findFrom p xs i acc + k
  | [], _, _, _ => rfl
  | x :: xs, 0, acc, k => by
    simp only [findFrom]
    split
    · rfl
    · rw [Nat.add_right_comm]; exact findFrom_acc p xs 0 (acc + 1) k
  | x :: xs, i + 1, acc, k => by
    simp only [findFrom]
    rw [Nat.add_right_comm]; exact findFrom_acc p xs i (acc + 1) k

theorem findFrom_append (p : TInstr → Bool) (rest : Code) (j : Nat) : ∀ pre : Code,
    findFrom p (pre ++ rest) (pre.length + j) 0 = pre.length + findFrom p rest j 0
  | [] => by simp
  | x :: pre => by
    rw [List.cons_append, List.length_cons, Nat.add_right_comm]
    simp only [findFrom]
    rw [findFrom_acc p _ _ 0 1, findFrom_append p rest j pre]
    omega

theorem getElem?_append_add {α} (pre rest : List α) (j : Nat) :
    (pre ++ rest)[pre.length + j]? = rest[j]? := by
  rw [List.getElem?_append_right (Nat.le_add_right ..), Nat.add_sub_cancel_left]

theorem tagAt_append (pre rest : Code) (j : Nat) :
    tagAt (pre ++ rest) (pre.length + j) = tagAt rest j := by
  simp only [tagAt, getElem?_append_add]

theorem raiseTarget_append (pre rest : Code) (j : Nat) :
    raiseTarget (pre ++ rest) (pre.length + j) = pre.length + raiseTarget rest j := by
  simp only [raiseTarget, List.getD_eq_getElem?_getD, getElem?_append_add, Nat.add_assoc,
    findFrom_append]
  split <;> rfl

/-- the instructions that jump backwards -/
def isBack : Instr → Bool
  | .loopEnd _ | .snapEnd _ | .collEnd => true
  | _ => false

theorem succPcs_append (pre rest : Code) (j : Nat) {ins : Instr} (h : isBack ins = false) :
    succPcs (pre ++ rest) (pre.length + j) ins = (succPcs rest j ins).map (pre.length + ·) := by
  cases ins <;> first | cases h; done | simp [succPcs, raiseTarget_append, findFrom_append, Nat.add_assoc]

/-- an instruction that does not jump backwards conforms or not whatever stands before it -/
theorem conformsAt_append (P : Protocol) (pre rest : Code) (j : Nat) {i : TInstr}
    (h : isBack i.op = false) :
    conformsAt P (pre ++ rest) (pre.length + j) i = conformsAt P rest j i := by
  simp only [conformsAt, succPcs_append pre rest j h, raiseTarget_append, List.all_map,
    Nat.add_assoc, tagAt_append, Function.comp_def]

/-- the tag of the first instruction that starts a call (`out` if there is none): where a raise
    outside every section body leads -/
def startTag : Code → Phase
  | [] => .out
  | x :: xs => if x.start then x.ph else startTag xs

theorem tagAt_findFrom_start : ∀ xs : Code, tagAt xs (findFrom (·.start) xs 0 0) = startTag xs
  | [] => rfl
  | x :: xs => by
    simp only [findFrom, startTag]
    split
    · rfl
    · rw [findFrom_acc _ xs 0 0 1]; exact tagAt_findFrom_start xs

/-- a protocol instruction looks at the next instruction and at the start of the next call only -/
theorem conformsAt_proto (P : Protocol) (i : TInstr) (rest : Code) (hp : isProto i.op = true) :
    conformsAt P (i :: rest) 0 i = (instrAt P i.ph == some i.op &&
      tagAt rest 0 == nextPos P i.ph && outOrBegin P (startTag rest)) := by
  have ht : ∀ k, tagAt (i :: rest) (k + 1) = tagAt rest k := fun _ => rfl
  simp only [conformsAt, hp, if_true, ht, raiseTarget, List.getD_cons_zero]
  cases hph : i.ph <;> simp only [instrAt, findFrom, findFrom_acc _ rest 0 0 1, ht,
    tagAt_findFrom_start] <;> rfl

/-- the second component is `startTag` of the code not yet looked at -/
def conformsFrom (P : Protocol) (code : Code) : Nat → Code → Bool × Phase
  | _, [] => (true, .out)
  | pc, i :: rest =>
    let r := conformsFrom P code (Nat.add pc 1) rest
    ((if isProto i.op then
        instrAt P i.ph == some i.op && tagAt rest 0 == nextPos P i.ph && outOrBegin P r.2
      else if isBack i.op then conformsAt P code pc i else conformsAt P (i :: rest) 0 i) && r.1,
     if i.start then i.ph else r.2)

theorem conformsFrom_eq (P : Protocol) : ∀ rest pre : Code,
    conformsFrom P (pre ++ rest) pre.length rest =
      (allIdx (conformsAt P (pre ++ rest)) pre.length rest, startTag rest)
  | [], _ => rfl
  | i :: rest, pre => by
    have ih := conformsFrom_eq P rest (pre ++ [i])
    simp only [List.append_assoc, List.singleton_append, List.length_append, List.length_cons,
      List.length_nil] at ih
    simp only [allIdx, conformsFrom, startTag]
    rw [show Nat.add pre.length 1 = pre.length + (0 + 1) from rfl, ih]
    refine congrArg (fun b => (b && _, _)) ?_
    have hs := fun hb => conformsAt_append P pre (i :: rest) 0 (i := i) hb
    cases hp : isProto i.op
    · cases hb : isBack i.op
      · exact (hs hb).symm
      · rfl
    · rw [if_pos rfl, ← conformsAt_proto P i rest hp]
      exact (hs (by cases h : i.op <;> first | rfl | (rw [h] at hp; cases hp))).symm

theorem conformant_eq (P : Protocol) :
    conformant P = fun code => outOrBegin P (tagAt code 0) && (conformsFrom P code 0 code).1 :=
  funext fun code =>
    congrArg (fun x : Bool × Phase => outOrBegin P (tagAt code 0) && x.1)
      (conformsFrom_eq P code []).symm

theorem findBack_go (p : TInstr → Bool) (i : Nat) : ∀ (xs : Code) (j best : Nat),
    findBack.go p i xs j best = best ∨ (xs.take (i - j)).any p = true
  | [], _, _ => Or.inl rfl
  | x :: xs, j, best => by
    simp only [findBack.go]
    split
    · rw [show i - j = (i - (j + 1)) + 1 by omega, List.take_succ_cons, List.any_cons]
      rcases findBack_go p i xs (j + 1) (if p x then j else best) with h | h
      · rw [h]
        cases p x
        · exact Or.inl rfl
        · exact Or.inr rfl
      · exact Or.inr (by rw [h, Bool.or_true])
    · exact Or.inl rfl

theorem findFrom_found (p : TInstr → Bool) : ∀ (xs : Code) (i acc : Nat),
    findFrom p xs i acc = acc + xs.length ∨ (xs.drop i).any p = true
  | [], _, _ => Or.inl rfl
  | x :: xs, 0, acc => by
    simp only [findFrom, List.drop_zero, List.any_cons, List.length_cons]
    split
    · exact Or.inr (by simp [*])
    · rcases findFrom_found p xs 0 (acc + 1) with h | h
      · exact Or.inl (by omega)
      · exact Or.inr (by simpa using Or.inr h)
  | x :: xs, i + 1, acc => by
    simp only [findFrom, List.drop_succ_cons, List.length_cons]
    rcases findFrom_found p xs i (acc + 1) with h | h
    · exact Or.inl (by omega)
    · exact Or.inr h

/-- a pc inside a `_documents` loop is at an `iterNext docs`, or has one before it and a
    `loopEnd docs` at or after it -/
theorem inDocsLoop_between {pre rest : Code} {x : TInstr}
    (h : inDocsLoop (pre ++ x :: rest) pre.length = true) :
    (x.op == .iterNext .docs || (pre.any (·.op == .iterNext .docs) &&
      (x :: rest).any (·.op == .loopEnd .docs))) = true := by
  have hx : (pre ++ x :: rest)[pre.length]? = some x := by simp
  simp only [inDocsLoop, hx, Bool.or_eq_true, Bool.and_eq_true, decide_eq_true_eq] at h ⊢
  refine h.imp id fun ⟨⟨hb, he⟩, _⟩ => ⟨?_, ?_⟩
  · rcases findBack_go (fun x => x.op == .iterNext .docs) pre.length (pre ++ x :: rest) 0
      (pre ++ x :: rest).length with h0 | h0
    · rw [findBack, h0, List.length_append] at hb; omega
    · simpa using h0
  · rcases findFrom_found (fun x => x.op == .loopEnd .docs) (pre ++ x :: rest) pre.length 0 with
      h0 | h0
    · omega
    · simpa using h0

/-- `allIdx f`, with `f'` in place of `f` at the elements that do not satisfy `q` and have no
    `q` before them or no `r` at or after them; the second component: is there an `r` at all -/
def allIdxBetween {α} (q r : α → Bool) (f f' : Nat → α → Bool) : Bool → Nat → List α → Bool × Bool
  | _, _, [] => (true, false)
  | seen, i, x :: xs =>
    let t := allIdxBetween q r f f' (seen || q x) (Nat.add i 1) xs
    ((if q x || (seen && (r x || t.2)) then f i x else f' i x) && t.1, r x || t.2)

theorem allIdx_between {α} (q r : α → Bool) (f f' : Nat → α → Bool) (code : List α)
    (hf : ∀ pre x rest, code = pre ++ x :: rest →
      (q x || (pre.any q && (x :: rest).any r)) = false → f pre.length x = f' pre.length x) :
    ∀ rest pre, code = pre ++ rest →
      allIdxBetween q r f f' (pre.any q) pre.length rest = (allIdx f pre.length rest, rest.any r)
  | [], _, _ => rfl
  | x :: rest, pre, hc => by
    have ih := allIdx_between q r f f' code hf rest (pre ++ [x]) (by simp [hc])
    simp only [List.length_append, List.length_singleton, List.any_append, List.any_cons,
      List.any_nil, Bool.or_false] at ih
    simp only [allIdx, allIdxBetween]
    rw [show Nat.add pre.length 1 = pre.length + 1 from rfl, ih]
    refine congrArg (fun b => (b && _, _)) ?_
    split
    · rfl
    · rename_i h
      exact (hf pre x rest hc (by simpa using h)).symm

/-- outside the stretches from an `iterNext docs` to a `loopEnd docs` no pc is in a `_documents`
    loop: only an `iterBegin docs` needs a look there -/
def docsIterScoped' (code : Code) : Bool :=
  (allIdxBetween (·.op == .iterNext .docs) (·.op == .loopEnd .docs)
    (fun pc i => (!inDocsLoop code pc || (i.ph == .body false && !isProto i.op &&
        (keepPcs code pc i.op).all (inDocsLoop code))) &&
      (!(i.op == .iterBegin .docs) || inDocsLoop code (pc + 1)))
    (fun pc i => !(i.op == .iterBegin .docs) || inDocsLoop code (pc + 1)) false 0 code).1

theorem docsIterScoped_eq : docsIterScoped = docsIterScoped' := by
  funext code
  refine (congrArg Prod.fst (allIdx_between _ _ _ _ code (fun pre x rest hc hq => ?_) code [] rfl)).symm
  have : inDocsLoop code pre.length = false := Bool.eq_false_iff.2 fun h =>
    Bool.false_ne_true (hq.symm.trans (inDocsLoop_between (hc ▸ h)))
  simp [this]

end MongoModel.RWLock
