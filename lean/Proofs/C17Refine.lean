/-
  Proofs.C17Refine — the world: what a step does to stores and handle caches (`Frame`), the step
  refinement (on D, one step of the model and one step of the oracle keep the two states related
  and give equivalent outputs), and from it well-formedness of every reachable state and the
  refinement over whole histories.
-/
import Proofs.C17Server

namespace MongoModel.Proofs.C17
open MongoModel MongoModel.Catalog MongoModel.Spec.Catalog

theorem outEquiv_refl (o : Out) : OutEquiv o o := by
  cases o <;> simp [OutEquiv]

theorem outEquiv_of_eq {o o' : Out} (h : o = o') : OutEquiv o o' := h ▸ outEquiv_refl o

theorem upd_same {β : Type} (f : Nat → β) (k : Nat) (v : β) : upd f k v k = v := by simp [upd]
theorem upd_apply {β : Type} (f : Nat → β) (k i : Nat) (v : β) :
    upd f k v i = if i = k then v else f i := rfl

theorem store_setStore (w : World) (i j : Nat) (sv : Server) :
    (w.setStore i sv).store j = if j = i then sv else w.store j := rfl

theorem dbCache_setStore (w : World) (i : Nat) (sv : Server) :
    (w.setStore i sv).dbCache = w.dbCache := rfl
theorem collCache_setStore (w : World) (i : Nat) (sv : Server) :
    (w.setStore i sv).collCache = w.collCache := rfl

theorem obtainedDb_setStore (w : World) (i : Nat) (sv : Server) (h : DbH) :
    obtainedDb (w.setStore i sv) h = obtainedDb w h := rfl

theorem store_addDbCache (w : World) (c : Nat) (d : String) : (addDbCache w c d).store = w.store := by
  unfold addDbCache; cases (w.dbCache c).contains d <;> rfl

theorem collCache_addDbCache (w : World) (c : Nat) (d : String) :
    (addDbCache w c d).collCache = w.collCache := by
  unfold addDbCache; cases (w.dbCache c).contains d <;> rfl

theorem store_addCollCache (w : World) (c : Nat) (d n : String) :
    (addCollCache w c d n).store = w.store := by
  unfold addCollCache; cases (w.collCache c d).contains n <;> rfl

theorem dbCache_addCollCache (w : World) (c : Nat) (d n : String) :
    (addCollCache w c d n).dbCache = w.dbCache := by
  unfold addCollCache; cases (w.collCache c d).contains n <;> rfl

theorem mem_dbCache_addDbCache {w : World} {c' : Nat} {d' : String} (c : Nat) (d : String)
    (h : d' ∈ w.dbCache c') : d' ∈ (addDbCache w c d).dbCache c' := by
  unfold addDbCache
  cases (w.dbCache c).contains d
  · show d' ∈ upd w.dbCache c (w.dbCache c ++ [d]) c'
    unfold upd
    by_cases e : c' = c
    · rw [if_pos e]; exact List.mem_append_left _ (e ▸ h)
    · rw [if_neg e]; exact h
  · exact h

theorem mem_collCache_addCollCache {w : World} {c' : Nat} {d' n' : String} (c : Nat) (d n : String) :
    n' ∈ (addCollCache w c d n).collCache c' d' ↔ n' ∈ w.collCache c' d' ∨ (c' = c ∧ d' = d ∧ n' = n) := by
  unfold addCollCache
  cases hc : (w.collCache c d).contains n
  · show n' ∈ upd2 w.collCache c d (w.collCache c d ++ [n]) c' d' ↔ _
    unfold upd2
    by_cases e : c' = c ∧ d' = d
    · obtain ⟨rfl, rfl⟩ := e
      rw [if_pos ⟨rfl, rfl⟩, List.mem_append, List.mem_singleton]
      exact or_congr_right ⟨fun h => ⟨rfl, rfl, h⟩, fun h => h.2.2⟩
    · rw [if_neg e]; exact ⟨Or.inl, fun h => h.elim id fun h => absurd ⟨h.1, h.2.1⟩ e⟩
  · refine ⟨Or.inl, fun h => h.elim id ?_⟩
    rintro ⟨rfl, rfl, rfl⟩
    exact List.contains_iff_mem.mp hc

/-! ### the shape of a step -/

/-- `Frame P i w w'`: `w'` is `w` with possibly another server, one that satisfies `P`, in store
    slot `i`, and with handles added to the caches.  Every step of the model has this shape
    (`step_frame`), and that is all the frame properties need. -/
inductive Frame (P : Server → Prop) (i : Nat) (w : World) : World → Prop
  | refl : Frame P i w w
  | store {s' : Server} : P s' → Frame P i w (w.setStore i s')
  | addDb {w' : World} (c : Nat) (d : String) : Frame P i w w' → Frame P i w (addDbCache w' c d)
  | addColl {w' : World} (c : Nat) (d n : String) :
      Frame P i w w' → Frame P i w (addCollCache w' c d n)

/-- the conditionals of `step` -/
theorem Frame.ite {P : Server → Prop} {i : Nat} {w : World} {c : Prop} [Decidable c]
    {a b : World × Out} (ha : Frame P i w a.1) (hb : Frame P i w b.1) :
    Frame P i w (if c then a else b).1 := by
  by_cases h : c
  · rw [if_pos h]; exact ha
  · rw [if_neg h]; exact hb

/-- every store but the `i`-th is left alone, and that one holds a server satisfying `P` -/
theorem Frame.store_eq {P : Server → Prop} {i : Nat} {w w' : World} (h : Frame P i w w') (j : Nat) :
    w'.store j = w.store j ∨ (j = i ∧ P (w'.store j)) := by
  induction h with
  | refl => exact Or.inl rfl
  | @store s' hp =>
    by_cases e : j = i
    · exact Or.inr ⟨e, by rw [store_setStore, if_pos e]; exact hp⟩
    · exact Or.inl (if_neg e)
  | addDb c d _ ih => rw [store_addDbCache]; exact ih
  | addColl c d n _ ih => rw [store_addCollCache]; exact ih

theorem Frame.obtainedColl {P : Server → Prop} {i : Nat} {w w' : World} (h : Frame P i w w')
    {hc : CollH} (hob : obtainedColl w hc = true) : obtainedColl w' hc = true := by
  induction h with
  | refl => exact hob
  | store _ => exact hob
  | addDb c d _ ih =>
    unfold Catalog.obtainedColl obtainedDb at ih ⊢
    rw [collCache_addDbCache, Bool.and_eq_true, List.contains_iff_mem] at *
    exact ⟨mem_dbCache_addDbCache c d ih.1, ih.2⟩
  | addColl c d n _ ih =>
    unfold Catalog.obtainedColl obtainedDb at ih ⊢
    rw [dbCache_addCollCache, Bool.and_eq_true, List.contains_iff_mem, List.contains_iff_mem] at *
    exact ⟨ih.1, (mem_collCache_addCollCache c d n).mpr (Or.inl ih.2)⟩

/-- a step replaces at most the server store of its client and adds handles to the caches; a
    read replaces it by a store in which every lookup finds what it found -/
theorem step_frame (σ : Nat → Nat) (w : World) (op : Op) :
    Frame (fun s' => isRead op = true → ∀ d n, s'.coll d n = (w.store (σ (opClient op))).coll d n)
      (σ (opClient op)) w (Catalog.step σ w op).1 := by
  -- the `P s'` of a write: once `op` is a constructor that writes, `isRead op` reduces to `false`, so
  -- the hypothesis `isRead op = true` of `P` is `false = true` up to unfolding and `nr` is accepted
  have nr : ∀ {p : Prop}, false = true → p := fun h => absurd h Bool.false_ne_true
  cases op with
  | getDb c d => exact .ite .refl (.addDb _ _ (.store fun _ d' n => coll_touchDb _ d d' n))
  | getColl h n => exact .ite .refl (.ite .refl (.ite .refl (.addColl _ _ _ .refl)))
  | coll h o =>
    refine .ite .refl (.store fun hr d n => ?_)
    have : (collOp o ((w.store (σ h.client)).coll h.db h.coll)).1 =
        (w.store (σ h.client)).coll h.db h.coll := by
      cases o with
      | find => rfl
      | indexInformation => rfl
      | _ => exact nr hr
    rw [this]; exact coll_touch _ _ _ d n
  | collRename h n' dt => exact .ite .refl (.store nr)
  | createCollection h n => exact .ite .refl (.ite .refl (.ite .refl (.addColl _ _ _ (.store nr))))
  | dropCollection h t => cases t <;> exact .ite .refl (.store nr)
  | renameCollection h n n' dt => exact .ite .refl (.store nr)
  | listCollectionNames h f =>
    cases f with
    | none => exact .ite .refl .refl
    | some f => exact .ite .refl (.ite .refl .refl)
  | listDatabaseNames c => exact .refl
  | dropDatabase c t =>
    cases t with
    | byName d => exact .ite (.addDb _ _ (.store nr)) (.store nr)
    | byHandle h => exact .ite .refl (.ite (.addDb _ _ (.store nr)) (.store nr))

theorem rel_srv {w : World} {s : SWorld} (h : Rel w s) (i : Nat) : RelS (w.store i) (s i) :=
  ⟨h.1.1 i, h.1.2.2 i, h.2.1 i, h.2.2 i⟩

theorem rel_of_srv {w : World} {s : SWorld} (h : ∀ i, RelS (w.store i) (s i))
    (hc : ∀ c d n, n ∈ w.collCache c d → validName n = true) : Rel w s :=
  ⟨⟨fun i => (h i).wf, hc, fun i => (h i).recorded⟩, fun i => (h i).swf, fun i => (h i).get⟩

theorem rel_setStore {w : World} {s : SWorld} (hR : Rel w s) (i : Nat) {sv : Server} {st : SStore}
    (h : RelS sv st) : Rel (w.setStore i sv) (upd s i st) := by
  refine rel_of_srv (fun j => ?_) hR.1.2.1
  show RelS (upd w.store i sv j) (upd s i st j)
  unfold upd
  by_cases e : j = i
  · rw [if_pos e, if_pos e]; exact h
  · rw [if_neg e, if_neg e]; exact rel_srv hR j

theorem upd_self {β : Type} (f : Nat → β) (k : Nat) : upd f k (f k) = f := by
  funext i; unfold upd
  by_cases e : i = k
  · rw [if_pos e, e]
  · rw [if_neg e]

theorem rel_addDbCache {w : World} {s : SWorld} (hR : Rel w s) (c : Nat) (d : String) :
    Rel (addDbCache w c d) s :=
  rel_of_srv (fun i => store_addDbCache w c d ▸ rel_srv hR i)
    (fun c' d' n' hm => hR.1.2.1 c' d' n' (collCache_addDbCache w c d ▸ hm))

theorem rel_addCollCache {w : World} {s : SWorld} (hR : Rel w s) (c : Nat) (d n : String)
    (hv : validName n = true) : Rel (addCollCache w c d n) s :=
  rel_of_srv (fun i => store_addCollCache w c d n ▸ rel_srv hR i) (fun c' d' n' hm =>
    ((mem_collCache_addCollCache c d n).mp hm).elim (hR.1.2.1 c' d' n') (fun e => e.2.2 ▸ hv))

/-! ### the step, once the handles it uses are known to be obtained -/

theorem guard_obtained {α : Type} {b : Bool} (h : b = true) (x y : α) :
    (if !b then x else y) = y := by rw [h]; rfl

theorem step_coll (σ : Nat → Nat) (w : World) (h : CollH) (o : CollOp)
    (hob : obtainedColl w h = true) :
    Catalog.step σ w (.coll h o) =
      (w.setStore (σ h.client) ((w.store (σ h.client)).setColl h.db h.coll
        (collOp o ((w.store (σ h.client)).coll h.db h.coll)).1),
       (collOp o ((w.store (σ h.client)).coll h.db h.coll)).2) :=
  guard_obtained hob _ _

theorem step_rename (σ : Nat → Nat) (w : World) (h : DbH) (n n' : String) (dt : Bool)
    (hob : obtainedDb w h = true) :
    Catalog.step σ w (.renameCollection h n n' dt) =
      (w.setStore (σ h.client) (Catalog.renameStep (w.store (σ h.client)) h.db n n' dt).1,
       (Catalog.renameStep (w.store (σ h.client)) h.db n n' dt).2) :=
  guard_obtained hob _ _

theorem step_createCollection (σ : Nat → Nat) (w : World) (h : DbH) (n : String)
    (hob : obtainedDb w h = true) :
    Catalog.step σ w (.createCollection h n) =
      if !validName n then (w, .err .invalidName)
      else if (createdColls ((w.store (σ h.client)).db h.db)).contains n then (w, .err .collInvalid)
      else (addCollCache (w.setStore (σ h.client) ((w.store (σ h.client)).setColl h.db n
        { (w.store (σ h.client)).coll h.db n with forceCreated := true })) h.client h.db n, .ok) :=
  guard_obtained hob _ _

/-- `coll.rename(n')` is `coll.database.rename_collection(coll.name, n')` -/
theorem coll_rename_eq (σ : Nat → Nat) (w : World) (h : CollH) (n' : String) (dt : Bool)
    (hob : obtainedColl w h = true) :
    Catalog.step σ w (.collRename h n' dt) = Catalog.step σ w (.renameCollection h.dbh h.coll n' dt) :=
  (guard_obtained hob _ _).trans (step_rename σ w _ _ _ _ (Bool.and_eq_true_iff.mp hob).1).symm

theorem step_dropByName (σ : Nat → Nat) (w : World) (h : DbH) (n : String)
    (hob : obtainedDb w h = true) :
    Catalog.step σ w (.dropCollection h (.byName n)) =
      (w.setStore (σ h.client) ((w.store (σ h.client)).setColl h.db n Coll.empty), .ok) :=
  guard_obtained hob _ _

/-- only the name of a Collection argument is used -/
theorem step_dropByHandle (σ : Nat → Nat) (w : World) (h : DbH) (h' : CollH)
    (hob : obtainedDb w h = true) (hob' : obtainedColl w h' = true) :
    Catalog.step σ w (.dropCollection h (.byHandle h')) =
      Catalog.step σ w (.dropCollection h (.byName h'.coll)) := by
  rw [step_dropByName σ w h _ hob]
  show (if !obtainedDb w h || !obtainedColl w h' then _ else _) = _; rw [hob, hob']; rfl

theorem step_listColls (σ : Nat → Nat) (w : World) (h : DbH) (f : Option NameFilter)
    (hob : obtainedDb w h = true) :
    Catalog.step σ w (.listCollectionNames h f) =
      match f with
      | none => (w, .names ((w.store (σ h.client)).listColls h.db))
      | some f => if f.falsy then (w, .err .notImpl)
        else (w, .names ((w.store (σ h.client)).listCollsFiltered h.db f)) := by
  cases f <;> exact guard_obtained hob _ _

/-- only the name of a Database argument is used, whichever client made the handle -/
theorem step_dropDbByHandle (σ : Nat → Nat) (w : World) (c : Nat) (h : DbH)
    (hob : obtainedDb w h = true) :
    Catalog.step σ w (.dropDatabase c (.byHandle h)) = Catalog.step σ w (.dropDatabase c (.byName h.db)) :=
  guard_obtained hob _ _

theorem rename_refines (σ : Nat → Nat) {w : World} {s : SWorld} (hR : Rel w s) (h : DbH)
    (n n' : String) (dt : Bool) (hob : obtainedDb w h = true) :
    Rel (Catalog.step σ w (.renameCollection h n n' dt)).1
      (Spec.Catalog.step σ s (.renameCollection h n n' dt)).1 ∧
    OutEquiv (Catalog.step σ w (.renameCollection h n n' dt)).2
      (Spec.Catalog.step σ s (.renameCollection h n n' dt)).2 := by
  rw [step_rename σ w h n n' dt hob]
  have := (rel_srv hR (σ h.client)).renameStep h.db n n' dt
  exact ⟨rel_setStore hR _ this.1, outEquiv_of_eq this.2⟩

theorem dropByName_refines (σ : Nat → Nat) {w : World} {s : SWorld} (hR : Rel w s) (h : DbH)
    (n : String) (hob : obtainedDb w h = true) :
    Rel (Catalog.step σ w (.dropCollection h (.byName n))).1
      (Spec.Catalog.step σ s (.dropCollection h (.byName n))).1 ∧
    OutEquiv (Catalog.step σ w (.dropCollection h (.byName n))).2
      (Spec.Catalog.step σ s (.dropCollection h (.byName n))).2 := by
  rw [step_dropByName σ w h n hob]
  exact ⟨rel_setStore hR _ ((rel_srv hR _).setColl _ _ rfl rfl), outEquiv_refl _⟩

/-- a database none of whose collection stores counts as created holds empty stores only -/
theorem coll_of_not_dbCreated {sv : Server} {d : String} (h : dbCreated (sv.db d) = false)
    (n : String) : sv.coll d n = Coll.empty := by
  apply (isCreated_false_iff _).mp
  cases hc : (sv.coll d n).isCreated
  · rfl
  · unfold Server.coll at hc
    cases hg : alGet? n (sv.db d) with
    | none => rw [hg] at hc; cases hc
    | some c =>
      rw [hg] at hc
      have : dbCreated (sv.db d) = true := List.any_eq_true.mpr ⟨(n, c), alGet?_mem hg, hc⟩
      rw [h] at this; cases this

/-- `drop_database` on a name: whether or not the database counts as created, afterwards every
    lookup in it finds the empty store, as in the oracle -/
theorem dropDatabaseStep_refines (σ : Nat → Nat) {w : World} {s : SWorld} (c : Nat) (d : String)
    (hR : Rel w s) :
    Rel (dropDatabaseStep σ w c d).1 (upd s (σ c) (dropDb (s (σ c)) d)) ∧
    OutEquiv (dropDatabaseStep σ w c d).2 .ok := by
  have r1 : RelS ((w.store (σ c)).touchDb d) (s (σ c)) :=
    (rel_srv hR (σ c)).congr (wfs_touchDb (hR.1.1 _) d) (fun d' n => coll_touchDb _ d d' n)
  simp only [dropDatabaseStep]
  cases hc : dbCreated (((w.store (σ c)).touchDb d).db d)
  · refine ⟨rel_setStore hR _ ((r1.dropAll d).congr r1.wf fun d' n => ?_), outEquiv_refl _⟩
    rw [coll_dropAll]
    by_cases e : d' = d
    · rw [if_pos e, e]; exact coll_of_not_dbCreated hc n
    · rw [if_neg e]
  · exact ⟨rel_addDbCache (rel_setStore hR _ (r1.dropAll d)) c d, outEquiv_refl _⟩

theorem step_refines (σ : Nat → Nat) (w : World) (s : SWorld) (op : Op)
    (hR : Rel w s) (hD : inD σ w op = true) :
    Rel (Catalog.step σ w op).1 (Spec.Catalog.step σ s op).1 ∧
    OutEquiv (Catalog.step σ w op).2 (Spec.Catalog.step σ s op).2 := by
  have hob : handlesObtained w op = true := (Bool.and_eq_true_iff.mp hD).1
  cases op with
  | getDb c d =>
    show Rel (if (w.dbCache c).contains d then _ else _ : World × Out).1 _ ∧
      OutEquiv (if (w.dbCache c).contains d then _ else _ : World × Out).2 _
    cases (w.dbCache c).contains d
    · have := rel_setStore hR (σ c) ((rel_srv hR (σ c)).congr (wfs_touchDb (hR.1.1 _) d)
        (fun d' n => coll_touchDb _ d d' n))
      rw [upd_self] at this
      exact ⟨rel_addDbCache this c d, outEquiv_refl _⟩
    · exact ⟨hR, outEquiv_refl _⟩
  | getColl h n =>
    rw [show Catalog.step σ w (.getColl h n) = _ from guard_obtained hob _ _]
    cases hc : (w.collCache h.client h.db).contains n
    · show _ ∧ OutEquiv _ (if validName n then _ else _)
      cases hv : validName n
      · exact ⟨hR, outEquiv_refl _⟩
      · exact ⟨rel_addCollCache hR _ _ _ hv, outEquiv_refl _⟩
    · show _ ∧ OutEquiv _ (if validName n then _ else _)
      rw [hR.1.2.1 _ _ _ (List.contains_iff_mem.mp hc)]
      exact ⟨hR, outEquiv_refl _⟩
  | coll h o =>
    rw [step_coll σ w h o hob]
    have hc := collOp_refines o _ (hR.1.2.2 (σ h.client) h.db h.coll)
    rw [hR.2.2 (σ h.client) h.db h.coll] at hc
    exact ⟨rel_setStore hR _ ((rel_srv hR _).setColl _ _ hc.1 hc.2.1), outEquiv_of_eq hc.2.2⟩
  | collRename h n' dt =>
    rw [coll_rename_eq σ w h n' dt hob]
    exact rename_refines σ hR h.dbh h.coll n' dt (Bool.and_eq_true_iff.mp hob).1
  | renameCollection h n n' dt => exact rename_refines σ hR h n n' dt hob
  | createCollection h n =>
    rw [step_createCollection σ w h n hob, contains_createdColls (hR.1.1 _), (rel_srv hR _).created]
    show Rel _ (if !validName n then _ else if alHas (h.db, n) (s (σ h.client)) then _ else _ :
        SWorld × Out).1 ∧
      OutEquiv _ (if !validName n then _ else if alHas (h.db, n) (s (σ h.client)) then _ else _ :
        SWorld × Out).2
    cases hv : validName n
    · exact ⟨hR, outEquiv_refl _⟩
    cases hc : alHas (h.db, n) (s (σ h.client))
    · have he : (w.store (σ h.client)).coll h.db n = Coll.empty :=
        (isCreated_false_iff _).mp (((rel_srv hR _).created h.db n).trans hc)
      refine ⟨rel_addCollCache (rel_setStore hR _ ((rel_srv hR _).setColl (o := some ⟨[], []⟩) _ _
        (recorded_of_flag rfl) ?_)) _ _ _ hv, outEquiv_refl _⟩
      rw [he]; exact toS_flag _ _
    · exact ⟨hR, outEquiv_refl _⟩
  | dropCollection h t =>
    cases t with
    | byName n => exact dropByName_refines σ hR h n hob
    | byHandle h' =>
      have hob' := Bool.and_eq_true_iff.mp hob
      rw [step_dropByHandle σ w h h' hob'.1 hob'.2]
      exact dropByName_refines σ hR h h'.coll hob'.1
  | listCollectionNames h f =>
    rw [step_listColls σ w h f hob]
    cases f with
    | none => exact ⟨hR, (rel_srv hR _).listColls_perm _⟩
    | some f =>
      show Rel (if f.falsy then _ else _ : World × Out).1 _ ∧
        OutEquiv (if f.falsy then _ else _ : World × Out).2 _
      rw [show f.falsy = false from (Bool.not_eq_true' _).mp (Bool.and_eq_true_iff.mp hD).2,
        listCollsFiltered_eq]
      exact ⟨hR, ((rel_srv hR _).listColls_perm _).filter _⟩
  | listDatabaseNames c => exact ⟨hR, (rel_srv hR _).listDbs_perm⟩
  | dropDatabase c t =>
    cases t with
    | byName d => exact dropDatabaseStep_refines σ c d hR
    | byHandle h =>
      rw [step_dropDbByHandle σ w c h hob]
      exact dropDatabaseStep_refines σ c h.db hR

/-- a step outside the scope of the model (a handle that was never obtained, a listing filter
    with an empty name) is answered with an error and changes nothing -/
theorem step_outside_D (σ : Nat → Nat) (w : World) (op : Op) (h : inD σ w op = false) :
    (Catalog.step σ w op).1 = w := by
  have hg : ∀ {b : Bool} {x y : World × Out}, b = false → x.1 = w → (if !b then x else y).1 = w :=
    fun hb hx => by rw [hb]; exact hx
  cases op with
  | getDb c d => cases h
  | listDatabaseNames c => cases h
  | getColl hh n => exact hg ((Bool.and_true _).symm.trans h) rfl
  | coll hh o => exact hg ((Bool.and_true _).symm.trans h) rfl
  | collRename hh n' dt => exact hg ((Bool.and_true _).symm.trans h) rfl
  | createCollection hh n => exact hg ((Bool.and_true _).symm.trans h) rfl
  | renameCollection hh n n' dt => exact hg ((Bool.and_true _).symm.trans h) rfl
  | dropCollection hh t =>
    cases t with
    | byName n => exact hg ((Bool.and_true _).symm.trans h) rfl
    | byHandle h' =>
      have h : (obtainedDb w hh && obtainedColl w h') = false := (Bool.and_true _).symm.trans h
      show (if !obtainedDb w hh || !obtainedColl w h' then _ else _ : World × Out).1 = w
      rw [← Bool.not_and, h]; rfl
  | listCollectionNames hh f =>
    cases f with
    | none => exact hg ((Bool.and_true _).symm.trans h) rfl
    | some f =>
      show (if !obtainedDb w hh then _ else if f.falsy then _ else _ : World × Out).1 = w
      cases obtainedDb w hh
      · rfl
      · cases f.falsy <;> rfl
  | dropDatabase c t =>
    cases t with
    | byName d => cases h
    | byHandle hh => exact hg ((Bool.and_true _).symm.trans h) rfl

/-! ### every reachable state is well formed; whole histories -/

theorem rel_abs {w : World} (h : WF w) : Rel w (abs w) :=
  rel_of_srv (fun i => relS_abs (h.1 i) (h.2.2 i)) h.2.1

/-- two oracle states related to the same model state denote the same maps -/
theorem rel_functional {w : World} {s s' : SWorld} (h : Rel w s) (h' : Rel w s') : SEq s s' :=
  fun i (d, n) => (h.2.2 i d n).symm.trans (h'.2.2 i d n)

theorem rel_init : Rel World.init SWorld.init := rel_of_srv (fun _ => relS_nil) (fun _ _ _ h => nomatch h)

/-- every step keeps the state well formed (no domain hypothesis): in D because it keeps the
    state related to an oracle state, outside D because it changes nothing -/
theorem wf_step (σ : Nat → Nat) (w : World) (op : Op) (h : WF w) : WF (Catalog.step σ w op).1 := by
  cases hD : inD σ w op
  · rw [step_outside_D σ w op hD]; exact h
  · exact (step_refines σ w (abs w) op (rel_abs h) hD).1.1

theorem wf_run (σ : Nat → Nat) (ops : List Op) : ∀ (w : World), WF w → WF (Catalog.run σ w ops).1 := by
  induction ops with
  | nil => intro w h; exact h
  | cons op ops ih => intro w h; exact ih _ (wf_step σ w op h)

theorem run_refines (σ : Nat → Nat) (ops : List Op) : ∀ (w : World) (s : SWorld),
    Rel w s → histInD σ w ops = true →
    Rel (Catalog.run σ w ops).1 (Spec.Catalog.run σ s ops).1 ∧
    OutsEquiv (Catalog.run σ w ops).2 (Spec.Catalog.run σ s ops).2 := by
  induction ops with
  | nil => intro w s hR _; exact ⟨hR, trivial⟩
  | cons op ops ih =>
    intro w s hR hD
    have hD := Bool.and_eq_true_iff.mp hD
    have hs := step_refines σ w s op hR hD.1
    have := ih _ _ hs.1 hD.2
    exact ⟨this.1, hs.2, this.2⟩

end MongoModel.Proofs.C17
