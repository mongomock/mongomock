/-
  Proofs.C03Project — `$project`: on a plain inclusion / exclusion specification the stage of the
  pipeline model is the `aggProject` of MongoModel.Project (the function C12 proves equal to the
  find projection).
-/
import Proofs.C03Basic

namespace MongoModel.Pipe.Proofs
open MongoModel MongoModel.Pipe

theorem mapM_eq_mapR {α β} (f : α → R β) : ∀ l : List α, l.mapM f = mapR f l
  | [] => rfl
  | x :: xs => by
    simp only [List.mapM_cons, mapR, bind, Except.bind, pure, Except.pure, mapM_eq_mapR f xs]
    cases f x with
    | error e => rfl
    | ok y => cases mapR f xs <;> rfl

/-- `value in (0, 1, True, False)` (aggregate.py:1757) is `value == 0 or value == 1`: `True` /
    `False` are `1` / `0` -/
theorem isInclusionFlag_eq (v : Val) : Expr.isInclusionFlag v = isFlag v := by
  cases v with
  | int i =>
    show ((0 == i) || ((1 == i) || ((1 == i) || ((0 == i) || false)))) = ((i == 0) || (i == 1))
    rw [Bool.beq_comm (a := (0 : Int)), Bool.beq_comm (a := (1 : Int))]
    cases (i == 0) <;> cases (i == 1) <;> rfl
  | dbl m e =>
    show (Num.eq ⟨0, 0⟩ ⟨m, e⟩ || (Num.eq ⟨1, 0⟩ ⟨m, e⟩ || (Num.eq ⟨1, 0⟩ ⟨m, e⟩ ||
        (Num.eq ⟨0, 0⟩ ⟨m, e⟩ || false)))) = (Num.eq ⟨0, 0⟩ ⟨m, e⟩ || Num.eq ⟨1, 0⟩ ⟨m, e⟩)
    cases Num.eq ⟨0, 0⟩ ⟨m, e⟩ <;> cases Num.eq ⟨1, 0⟩ ⟨m, e⟩ <;> rfl
  | bool b => cases b <;> rfl
  | date u off => cases off <;> rfl
  | _ => rfl

/-- the method bookkeeping shared by the two loops -/
def methodStep (m : PMethod) (field : String) (value : Val) : R PMethod :=
  if m = .unset && (field != "_id" || value.truthy) then
    .ok (if value.truthy then .inc else .exc)
  else if m = .inc && !value.truthy && field != "_id" then .error .opFail
  else if m = .exc && value.truthy && (field != "_id" || !(pyEq value (.int 1))) then
    .error .opFail
  else .ok m

theorem projStep_flag (docs : List Val) (m : PMethod) (acc : List String) (field : String)
    (value : Val) (hv : isFlag value = true) :
    projStep docs ⟨m, acc, none⟩ field value =
      (match methodStep m field value with
       | .error e => .error e
       | .ok m' => .ok ⟨m', if field != "_id" then acc ++ [field] else acc, none⟩) := by
  unfold projStep methodStep
  simp only [isInclusionFlag_eq, hv, if_true]
  rfl

theorem aggScan_cons (field : String) (value : Val) (r : Fields) (m : PMethod) (acc : List String)
    (hv : isFlag value = true) :
    aggScan ((field, value) :: r) m acc =
      (match methodStep m field value with
       | .error e => .error e
       | .ok m' => aggScan r m' (if field != "_id" then acc ++ [field] else acc)) := by
  unfold methodStep
  simp only [aggScan, hv, Bool.not_true, Bool.false_eq_true, if_false]
  rfl

/-- on flag values the loop of the stage is the scan of `aggProject`, and computes nothing -/
theorem projLoop_flags (docs : List Val) : ∀ (options : Fields) (m : PMethod) (acc : List String),
    options.all (fun kv => isFlag kv.2) = true →
    projLoop docs options ⟨m, acc, none⟩ =
      (match aggScan options m acc with
       | .error e => .error e
       | .ok (m', fl) => .ok ⟨m', fl, none⟩)
  | [], m, acc, _ => rfl
  | (field, value) :: rest, m, acc, h => by
    simp only [List.all_cons, Bool.and_eq_true] at h
    obtain ⟨hv, hr⟩ := h
    rw [projLoop, projStep_flag docs m acc field value hv, aggScan_cons field value rest m acc hv]
    cases methodStep m field value with
    | error e => rfl
    | ok m' => exact projLoop_flags docs rest _ _ hr

/-- **`$project` with a plain inclusion / exclusion specification is `aggProject`** — the
    function `Props.C12.find_eq_agg` proves equal to the find projection -/
theorem projectStage_flags (options : Fields) (docs : List Val)
    (h : options.all (fun kv => isFlag kv.2) = true) :
    projectStage (.doc options) docs = aggProject docs (.doc options) := by
  have hl := projLoop_flags docs options (aggInitMethod options) [] h
  simp only [projectStage, projectStageOpt, aggProject, h, Bool.not_true, Bool.false_eq_true,
    if_false, aggFilterList, bind, Except.bind, pure, Except.pure]
  cases hs : aggScan options (aggInitMethod options) [] with
  | error e =>
    rw [hs] at hl
    have hl' : projLoop docs options { method := aggInitMethod options } = .error e := hl
    simp only [hl']
  | ok mf =>
    obtain ⟨m, fl⟩ := mf
    rw [hs] at hl
    have hl' : projLoop docs options { method := aggInitMethod options } = .ok ⟨m, fl, none⟩ := hl
    simp only [hl', beq_iff_eq, List.isEmpty_iff, Option.map_none]
    generalize (if decide (m = PMethod.inc) = !pyEq ((dget "_id" options).getD (Val.int 1)) (Val.int 0)
      then fl ++ ["_id"] else fl) = fl'
    cases fl' with
    | nil => simp
    | cons f r =>
      simp only [reduceCtorEq, if_false]
      cases hc : combineSpec true (List.map (fun k => (splitDots k, Val.int 1)) (f :: r)) with
      | error e => rfl
      | ok cs =>
        simp only [mapM_eq_mapR]
        cases mapR (aggProjectDoc cs (decide (m = PMethod.inc))) docs <;> rfl

end MongoModel.Pipe.Proofs
