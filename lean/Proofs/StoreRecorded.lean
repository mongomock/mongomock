/-
  Proofs.StoreRecorded — existence is recorded (`Coll.Recorded`: a collection that holds a
  document or an index has the created flag set) in every state a history reaches: an instance
  of `Carried`.  A document is stored through `__setitem__` or over one that is there, an index
  is registered by `create_index`, which both set the flag; only `drop()` resets it, and it leaves
  nothing behind.
-/
import Proofs.C05ExtStep

namespace MongoModel.Proofs.Recorded
open MongoModel MongoModel.Spec
open MongoModel.Proofs.C05Lemmas
open MongoModel.Proofs.ExtGen

/-- the flag was set, or it was left alone and nothing appeared -/
def Kept (c c' : Coll) : Prop :=
  c'.forceCreated = true ∨
  (c'.forceCreated = c.forceCreated ∧ (c'.docs ≠ [] → c.docs ≠ []) ∧
    (c'.indexes ≠ [] → c.indexes ≠ []))

theorem Kept.recorded {c c' : Coll} (h : Kept c c') (hr : c.Recorded) : c'.Recorded := by
  intro hne
  rcases h with h | ⟨f, d, i⟩
  · exact h
  · rw [f]
    exact hr (hne.imp d i)

theorem recorded_of_flag {c : Coll} (h : c.forceCreated = true) : c.Recorded := fun _ => h

theorem sublist_ne_nil {α : Type} {l l' : List α} (h : l'.Sublist l) : l' ≠ [] → l ≠ [] := by
  intro hne e; subst e; exact hne (List.sublist_nil.mp h)

theorem recorded_loss {c c' : Coll} (hr : c.Recorded) (hl : Loss c c') : c'.Recorded :=
  fun hne => hl.2.2 (hr (hne.imp (sublist_ne_nil hl.1) (sublist_ne_nil hl.2.1)))

/-- existence stays recorded through the store -/
theorem carried : Carried Coll.Recorded Coll.Recorded where
  weaken := id
  lossP := recorded_loss
  lossQ := recorded_loss
  update := by
    intro now c c' key cur new spec document nowV hr hl _ _ hu
    obtain ⟨q, hq, _⟩ := lookup_some c key _ hl
    refine recorded_of_flag ((loss_ensure hu).2.2 ?_)
    rw [setDoc_forceCreated]
    exact hr (.inl (List.ne_nil_of_mem hq))
  insert := fun _ _ _ hu => recorded_of_flag ((loss_ensure hu).2.2 rfl)
  index := fun _ _ _ => recorded_of_flag rfl
  drop := fun _ h => by rcases h with h | h <;> exact absurd rfl h

theorem recorded_stepColl (cfg : Cfg) (now : Int) (c : Coll) (op : Val) (hr : c.Recorded) :
    (stepColl cfg now c op).1.Recorded :=
  carried.of_stepColl cfg now c op hr

/-- every operation of the extended step keeps existence recorded -/
theorem recorded_stepX (cfg : Cfg) (now : Int) (c : Coll) (op : Val) (hr : c.Recorded) :
    (stepX cfg now c op).1.Recorded :=
  stepX_pres carried (fun _ => True) (fun _ h _ => h) now c op hr (fun _ _ => trivial)

theorem recorded_stepXS (cfg : Cfg) (s : St) (op : Val) (hr : s.c.Recorded) :
    (stepXS cfg s op).1.c.Recorded :=
  stepXS_pres carried (fun _ => True) (fun _ h _ => h) s op hr (fun _ _ => trivial)

end MongoModel.Proofs.Recorded
