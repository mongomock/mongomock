/-
  Proofs.C18Provenance — where can a datetime in a written document come from?

  A library of "provenance" lemmas: every container-building primitive an updater uses either
  *preserves* `AllDates P` (the result holds only datetimes that were in the arguments) or
  *inherits* it (a part of a value satisfying `AllDates P` satisfies it).  They are the ingredients
  of a proof, operator by operator, of the store-level invariant

      DateInv s := ∀ d ∈ s, AllDates Normal d

  Such a proof composes them: the operands were `patch`ed on entry (`patch_normal`), the stored
  document satisfies the invariant, the result is built from the two by `dset` / `derase` / list
  surgery.  Props/C18.lean, sections 6 and 7, has the plug for a state machine
  (`reachable_date_inv`).  No file carries the proof out for the updaters of MongoModel; the one
  composition done here is `writeAt` at the end, a generic dotted-path writer with null padding,
  not the model of any particular mongomock updater.
-/
import Proofs.C18

namespace MongoModel.Proofs.C18
open MongoModel

variable {P : DatePred}

theorem allDates_null : AllDates P .null := trivial
theorem allDates_bool (b : Bool) : AllDates P (.bool b) := trivial
theorem allDates_int (i : Int) : AllDates P (.int i) := trivial
theorem allDates_dbl (m : Int) (e : Nat) : AllDates P (.dbl m e) := trivial
theorem allDates_str (s : String) : AllDates P (.str s) := trivial
theorem allDates_oid (n : Nat) : AllDates P (.oid n) := trivial

/-- any value without a datetime in it (numbers produced by `$inc`, fresh ObjectIds, …) -/
theorem allDates_of_no_dates (v : Val) (h : datesOf v = []) : AllDates P v := by
  rw [allDates_iff_dates, h]; exact List.forall_mem_nil _

theorem allDates_doc_iff (fs : Fields) : AllDates P (.doc fs) ↔ ∀ kv ∈ fs, AllDates P kv.2 :=
  allDatesF_iff P fs

theorem allDates_arr_iff (xs : List Val) : AllDates P (.arr xs) ↔ ∀ x ∈ xs, AllDates P x :=
  allDatesL_iff P xs

theorem allDates_empty_doc : AllDates P (.doc []) := trivial
theorem allDates_empty_arr : AllDates P (.arr []) := trivial

/-! ### the master lemmas: a container built from members of good containers is good

`AllDates P (.doc fs)` is `AllDatesF P fs` and `AllDates P (.arr xs)` is `AllDatesL P xs` by
definition, so the lemmas below apply to documents and arrays as they stand. -/

/-- every element of `ys` is an element of `xs` or good by itself -/
theorem allDatesL_of_subset {xs ys : List Val} (hxs : AllDatesL P xs)
    (h : ∀ y ∈ ys, y ∈ xs ∨ AllDates P y) : AllDatesL P ys :=
  (allDatesL_iff P ys).2 fun y hy => (h y hy).elim ((allDatesL_iff P xs).1 hxs y) id

theorem allDatesF_of_subset {fs gs : Fields} (hfs : AllDatesF P fs)
    (h : ∀ kv ∈ gs, kv ∈ fs ∨ AllDates P kv.2) : AllDatesF P gs :=
  (allDatesF_iff P gs).2 fun kv hkv => (h kv hkv).elim ((allDatesF_iff P fs).1 hfs kv) id

/-- `d[k]` of a good document is good -/
theorem allDatesF_dget {k : String} {fs : Fields} {v : Val} (h : AllDatesF P fs)
    (hg : dget k fs = some v) : AllDates P v :=
  (allDatesF_iff P fs).1 h _ (dget_mem hg)

/-- `d.get(k, {})` -/
theorem allDates_dget_getD {k : String} {fs : Fields} {dflt : Val} (h : AllDates P (.doc fs))
    (hd : AllDates P dflt) : AllDates P ((dget k fs).getD dflt) := by
  cases hg : dget k fs with
  | none => exact hd
  | some v => exact allDatesF_dget h hg

/-- `d[k] = v` -/
theorem allDatesF_dset {k : String} {v : Val} {fs : Fields} (h : AllDatesF P fs)
    (hv : AllDates P v) : AllDatesF P (dset k v fs) :=
  allDatesF_of_subset h fun kv hkv => (mem_dset hkv).imp_right fun (e : kv = (k, v)) => e ▸ hv

/-- `d.pop(k, None)` / `del d[k]` -/
theorem allDatesF_derase {k : String} {fs : Fields} (h : AllDatesF P fs) :
    AllDatesF P (derase k fs) :=
  allDatesF_of_subset h fun _ hkv => Or.inl (mem_derase hkv)

/-- `dict(a, **b)` / `a.update(b)` seen as a fold of `dset` -/
theorem allDatesF_foldl_dset {fs : Fields} : ∀ (gs : Fields), AllDatesF P fs → AllDatesF P gs →
    AllDatesF P (gs.foldl (fun acc kv => dset kv.1 kv.2 acc) fs)
  | [], h, _ => h
  | (k, v) :: r, h, hg => allDatesF_foldl_dset (fs := dset k v fs) r (allDatesF_dset h hg.1) hg.2

theorem allDatesF_append {fs gs : Fields} (h : AllDatesF P fs) (hg : AllDatesF P gs) :
    AllDatesF P (fs ++ gs) :=
  allDatesF_of_subset h fun kv hkv =>
    (List.mem_append.1 hkv).imp_right ((allDatesF_iff P gs).1 hg kv)

theorem allDatesF_filter {fs : Fields} (p : String × Val → Bool) (h : AllDatesF P fs) :
    AllDatesF P (fs.filter p) :=
  allDatesF_of_subset h fun _ hkv => Or.inl (List.mem_filter.1 hkv).1

/-- rebuilding a document value by value with a function that preserves `AllDates P` -/
theorem allDatesF_map_values {fs : Fields} (f : String → Val → Val)
    (hf : ∀ k v, AllDates P v → AllDates P (f k v)) (h : AllDatesF P fs) :
    AllDatesF P (fs.map (fun kv => (kv.1, f kv.1 kv.2))) :=
  (allDatesF_iff P _).2 fun kv hkv => by
    obtain ⟨kv', hm, rfl⟩ := List.mem_map.1 hkv
    exact hf _ _ ((allDatesF_iff P fs).1 h _ hm)

/-- `xs + ys`, `xs += ys` (`$push $each`, `$addToSet $each`) -/
theorem allDatesL_append {xs ys : List Val} (h : AllDatesL P xs) (hy : AllDatesL P ys) :
    AllDatesL P (xs ++ ys) :=
  allDatesL_of_subset h fun y hx => (List.mem_append.1 hx).imp_right ((allDatesL_iff P ys).1 hy y)

theorem allDatesL_cons {xs : List Val} {v : Val} (hv : AllDates P v) (h : AllDatesL P xs) :
    AllDatesL P (v :: xs) :=
  ⟨hv, h⟩

/-- `xs.append(v)` (`$push`, `$addToSet`) -/
theorem allDatesL_concat {xs : List Val} {v : Val} (h : AllDatesL P xs) (hv : AllDates P v) :
    AllDatesL P (xs ++ [v]) :=
  allDatesL_append h (allDatesL_cons hv trivial)

/-- `xs[:n]` -/
theorem allDatesL_take {xs : List Val} (n : Nat) (h : AllDatesL P xs) : AllDatesL P (xs.take n) :=
  allDatesL_of_subset h fun _ hy => Or.inl (List.mem_of_mem_take hy)

/-- `xs[n:]` -/
theorem allDatesL_drop {xs : List Val} (n : Nat) (h : AllDatesL P xs) : AllDatesL P (xs.drop n) :=
  allDatesL_of_subset h fun _ hy => Or.inl (List.mem_of_mem_drop hy)

/-- `xs[0:p] + each + xs[p:]` (`$push` with `$position`) -/
theorem allDatesL_insert_at {xs each : List Val} (p : Nat) (h : AllDatesL P xs)
    (he : AllDatesL P each) : AllDatesL P (xs.take p ++ each ++ xs.drop p) :=
  allDatesL_append (allDatesL_append (allDatesL_take p h) he) (allDatesL_drop p h)

/-- `[x for x in xs if …]` (`$pull`, `$pullAll`, the `not in` test of `$addToSet`) -/
theorem allDatesL_filter {xs : List Val} (p : Val → Bool) (h : AllDatesL P xs) :
    AllDatesL P (xs.filter p) :=
  allDatesL_of_subset h fun _ hy => Or.inl (List.mem_filter.1 hy).1

theorem allDatesL_reverse {xs : List Val} (h : AllDatesL P xs) : AllDatesL P xs.reverse :=
  allDatesL_of_subset h fun _ hy => Or.inl (List.mem_reverse.1 hy)

/-- any rearrangement (`sorted(…)` of `$push $sort`) -/
theorem allDatesL_perm {xs ys : List Val} (hp : xs.Perm ys) (h : AllDatesL P xs) :
    AllDatesL P ys :=
  allDatesL_of_subset h fun _ hy => Or.inl (hp.mem_iff.2 hy)

theorem allDatesL_mergeSort {xs : List Val} (le : Val → Val → Bool) (h : AllDatesL P xs) :
    AllDatesL P (xs.mergeSort le) :=
  allDatesL_perm (List.mergeSort_perm xs le).symm h

/-- `xs.pop()` -/
theorem allDatesL_dropLast {xs : List Val} (h : AllDatesL P xs) : AllDatesL P xs.dropLast :=
  allDatesL_of_subset h fun _ hy => Or.inl (List.dropLast_subset _ hy)

/-- `xs.pop(0)` -/
theorem allDatesL_tail {xs : List Val} (h : AllDatesL P xs) : AllDatesL P xs.tail :=
  allDatesL_of_subset h fun _ hy => Or.inl (List.mem_of_mem_tail hy)

/-- `del xs[i]` -/
theorem allDatesL_eraseIdx {xs : List Val} (i : Nat) (h : AllDatesL P xs) :
    AllDatesL P (xs.eraseIdx i) :=
  allDatesL_of_subset h fun _ hy => Or.inl (List.mem_of_mem_eraseIdx hy)

/-- `xs.remove(v)` -/
theorem allDatesL_erase_first {xs : List Val} (p : Val → Bool) (h : AllDatesL P xs) :
    AllDatesL P (xs.eraseP p) :=
  allDatesL_of_subset h fun _ hy => Or.inl (List.mem_of_mem_eraseP hy)

/-- `xs[i] = v` -/
theorem allDatesL_set {xs : List Val} {v : Val} (i : Nat) (h : AllDatesL P xs)
    (hv : AllDates P v) : AllDatesL P (xs.set i v) :=
  allDatesL_of_subset h fun y hy => (List.mem_or_eq_of_mem_set hy).imp_right fun (e : y = v) => e ▸ hv

/-- set at an index beyond the end: pad with nulls (`[None] * n`), then the value -/
theorem allDatesL_pad_set {xs : List Val} {v : Val} (n : Nat) (h : AllDatesL P xs)
    (hv : AllDates P v) : AllDatesL P (xs ++ List.replicate n .null ++ [v]) :=
  allDatesL_concat (allDatesL_of_subset h fun _ hy =>
    (List.mem_append.1 hy).imp_right fun hr => by rw [(List.mem_replicate.1 hr).2]; trivial) hv

/-- `xs[i]` -/
theorem allDatesL_getElem? {xs : List Val} {i : Nat} {x : Val} (h : AllDatesL P xs)
    (hx : xs[i]? = some x) : AllDates P x :=
  (allDatesL_iff P xs).1 h x (List.mem_of_getElem? hx)

theorem allDatesL_getD {xs : List Val} (i : Nat) {dflt : Val} (h : AllDatesL P xs)
    (hd : AllDates P dflt) : AllDates P (xs[i]?.getD dflt) := by
  cases hx : xs[i]? with
  | none => exact hd
  | some x => exact allDatesL_getElem? h hx

theorem allDatesL_listGet? {xs : List Val} {i : Int} {x : Val} (h : AllDatesL P xs)
    (hx : listGet? xs i = some x) : AllDates P x := by
  unfold listGet? at hx
  split at hx
  · cases hx
  · exact allDatesL_getElem? h hx

theorem allDatesL_head? {xs : List Val} {x : Val} (h : AllDatesL P xs) (hx : xs.head? = some x) :
    AllDates P x :=
  (allDatesL_iff P xs).1 h x (List.mem_of_head? hx)

theorem allDatesL_getLast? {xs : List Val} {x : Val} (h : AllDatesL P xs)
    (hx : xs.getLast? = some x) : AllDates P x :=
  (allDatesL_iff P xs).1 h x (List.mem_of_getLast? hx)

/-- rebuilding an array item by item with a function that preserves `AllDates P` -/
theorem allDatesL_map {xs : List Val} (f : Val → Val) (hf : ∀ v, AllDates P v → AllDates P (f v))
    (h : AllDatesL P xs) : AllDatesL P (xs.map f) :=
  (allDatesL_iff P _).2 fun y hy => by
    obtain ⟨x, hm, rfl⟩ := List.mem_map.1 hy
    exact hf _ ((allDatesL_iff P xs).1 h x hm)

theorem allDatesL_flatten {xss : List (List Val)} (h : ∀ xs ∈ xss, AllDatesL P xs) :
    AllDatesL P xss.flatten :=
  (allDatesL_iff P _).2 fun y hy => by
    obtain ⟨xs, hm, hy⟩ := List.mem_flatten.1 hy
    exact (allDatesL_iff P xs).1 (h xs hm) y hy

/-- `get_value_by_dot`: whatever a path reaches inside a good value is good -/
theorem allDates_getByDotParts : ∀ (ps : List String) (d x : Val), AllDates P d →
    getByDotParts ps d = .ok x → AllDates P x
  | [], _, _, h, hx => Except.ok.inj hx ▸ h
  | p :: ps, d, x, h, hx => by
    cases d with
    | doc fs =>
      rw [getByDotParts] at hx
      split at hx
      · exact allDates_getByDotParts ps _ x (allDatesF_dget h ‹_›) hx
      · cases hx
    | arr xs =>
      rw [getByDotParts] at hx
      split at hx
      · cases hx
      · split at hx
        · cases hx
        · split at hx
          · exact allDates_getByDotParts ps _ x (allDatesL_getElem? h ‹_›) hx
          · cases hx
    | _ => cases hx

theorem allDates_dset_patch {k : String} (v : Val) {fs : Fields}
    (h : AllDates Normal (.doc fs)) : AllDates Normal (.doc (dset k (patch v) fs)) :=
  allDatesF_dset h (patch_normal v)

theorem allDatesL_concat_patch {xs : List Val} (v : Val) (h : AllDatesL Normal xs) :
    AllDatesL Normal (xs ++ [patch v]) :=
  allDatesL_concat h (patch_normal v)

/-- a part of a patched argument (an operand under `$set`, an item of `$each`, …) -/
theorem allDates_part_of_patched {ps : List String} {u x : Val}
    (h : getByDotParts ps (patch u) = .ok x) : AllDates Normal x :=
  allDates_getByDotParts ps (patch u) x (patch_normal u) h

theorem dateInv_nil : DateInv [] := nofun

theorem dateInv_append {s t : List Val} (h : DateInv s) (ht : DateInv t) : DateInv (s ++ t) :=
  fun x hx => (List.mem_append.1 hx).elim (h x) (ht x)

theorem dateInv_eraseIdx {s : List Val} (i : Nat) (h : DateInv s) : DateInv (s.eraseIdx i) :=
  fun x hx => h x (List.mem_of_mem_eraseIdx hx)

/-- update_many: every document goes through a function that preserves the invariant -/
theorem dateInv_map {s : List Val} (f : Val → Val)
    (hf : ∀ d, AllDates Normal d → AllDates Normal (f d)) (h : DateInv s) : DateInv (s.map f) := by
  intro x hx
  obtain ⟨d, hm, rfl⟩ := List.mem_map.1 hx
  exact hf d (h d hm)

/-- what a reader sees: documents of a good store are good (find, find_one, `$match`, …) -/
theorem dateInv_read {s : List Val} {d : Val} (h : DateInv s) (hd : d ∈ s) : AllDates Normal d :=
  h d hd

/-- write `v` at path `ps` inside `d`: descend through documents (creating `{}` for a missing key or a null) and arrays
    (numeric component; pad with nulls past the end), rebuild on the way back -/
def writeAt : List String → Val → Val → Val
  | [], v, _ => v
  | p :: ps, v, .null => .doc [(p, writeAt ps v .null)]
  | p :: ps, v, .doc fs => .doc (dset p (writeAt ps v ((dget p fs).getD (.doc []))) fs)
  | p :: ps, v, .arr xs =>
    match pyInt? p with
    | none => .arr xs
    | some i =>
      if i < 0 then .arr xs
      else if i.toNat < xs.length then .arr (xs.set i.toNat (writeAt ps v (xs[i.toNat]?.getD .null)))
      else .arr (xs ++ List.replicate (i.toNat - xs.length) .null ++ [writeAt ps v .null])
  | _ :: _, _, d => d

theorem allDates_writeAt : ∀ (ps : List String) (v d : Val), AllDates P v → AllDates P d →
    AllDates P (writeAt ps v d)
  | [], _, _, hv, _ => hv
  | p :: ps, v, d, hv, hd => by
    cases d with
    | null => exact ⟨allDates_writeAt ps v _ hv trivial, trivial⟩
    | doc fs =>
      exact allDatesF_dset hd
        (allDates_writeAt ps v _ hv (allDates_dget_getD hd allDates_empty_doc))
    | arr xs =>
      rw [writeAt]
      split
      · exact hd
      · split
        · exact hd
        · split
          · exact allDatesL_set _ hd
              (allDates_writeAt ps v _ hv (allDatesL_getD _ hd allDates_null))
          · exact allDatesL_pad_set _ hd (allDates_writeAt ps v _ hv allDates_null)
    | _ => exact hd

/-- composed with `patch` on entry and the stored invariant: a `$set`-like write keeps a stored
    document normal -/
theorem writeAt_patched_normal (ps : List String) (operand d : Val) (hd : AllDates Normal d) :
    AllDates Normal (writeAt ps (patch operand) d) :=
  allDates_writeAt ps _ d (patch_normal operand) hd

end MongoModel.Proofs.C18
