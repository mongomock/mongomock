/-
  Proofs.C13Loop — the update loop seen from the upsert: it never grows the collection, with a
  match the `upsert` flag is irrelevant, and when nothing matches a successful call went through
  `upsertSeed` (`discardOps`, then `expandDots`), `applyUpdate … wasInsert=true` and `insertDoc`:
  the appended document is the normalised result of that update (with a generated `_id` when the
  update removed it).
  Reuses C10's loop invariant (`LInv`, `loop_count`), `loop_nomatch` and C05's cut of
  `applyUpdateColl` (`applyUpdateColl_eq`, `afterLoop`, `insertCore_fresh`).
-/
import Spec.Single
import Spec.Match
import Proofs.C10
import Proofs.C05

namespace MongoModel.Proofs.C13Lemmas
open MongoModel MongoModel.Spec MongoModel.Proofs.C05Lemmas MongoModel.Proofs.C10Lemmas
open MongoModel.Proofs.C09Lemmas (expire_ok)

theorem loop_length (now : Int) (spec document nowV : Val) (multi : Bool)
    (pending : List (Val × Val)) : ∀ (c : Coll) (m u : Nat) (c' : Coll) (r : R (Nat × Nat)),
      updateLoop now spec document nowV multi pending c m u = (c', r) →
      c'.docs.length ≤ c.docs.length := by
  induction pending with
  | nil => intro c m u c' r h; cases h; exact Nat.le_refl _
  | cons kd rest ih =>
    obtain ⟨key, d0⟩ := kd
    intro c m u c' r h
    rw [Shape.updateLoop_cons] at h
    cases hv : Shape.visit now spec document nowV key c with
    | error e => rw [hv] at h; cases h; exact Nat.le_refl _
    | ok o =>
      rw [hv] at h
      cases o with
      | none => exact ih _ _ _ _ _ h
      | some p =>
        obtain ⟨c2, ch⟩ := p
        obtain ⟨cur, new, hl, _, _, hu, _⟩ := Shape.visit_some hv
        -- rewriting an entry keeps the length; the unique-index check can only expire
        have h2 : c2.docs.length ≤ c.docs.length := by
          have hlen : (c.setDoc key new).docs.length = c.docs.length := by
            rw [setDoc_docs new (C05Lemmas.lookup_hasKey _ _ _ hl), List.length_map]
          rcases ensureUniques_ok hu with rfl | he
          · exact Nat.le_of_eq hlen
          · exact hlen ▸ (expire_ok now _ c2 he).1.length_le
        dsimp only at h
        cases multi with
        | true => exact Nat.le_trans (ih _ _ _ _ _ h) h2
        | false => cases h; exact h2
theorem upsertIdv_ttl (ss dfs : Fields) (c3 : Coll) :
    (upsertIdv ss dfs c3).2.ttlIndexes = c3.ttlIndexes := by
  rcases upsertIdv_cases ss dfs c3 with ⟨v, h⟩ | h <;> rw [h]

end MongoModel.Proofs.C13Lemmas

namespace MongoModel.Proofs.C13Ext
open MongoModel MongoModel.Spec MongoModel.Proofs.C05Lemmas MongoModel.Proofs.C10Lemmas
  MongoModel.Proofs.C13Lemmas

/-- the fields `insertDoc` stores for the built document `bf` on collection `c4` (before the
    datetime normalisation): `bf` itself, or `bf` with a fresh ObjectId when it has no `_id` -/
def withId (c4 : Coll) (bf : Fields) : Fields :=
  if dhas "_id" bf then bf else dset "_id" (.oid c4.nextOid) bf

theorem insert_fresh_doc (now : Int) (c c' : Coll) (bf : Fields) (id : Val) (hn : c.ttlIndexes = [])
    (h : insertDoc now c (.doc bf) = .ok (c', id)) :
    c'.docs = c.docs ++ [(id, .doc (patchFields (withId c bf)))] ∧
      dget "_id" (patchFields (withId c bf)) = some id := by
  rw [insertDoc_eq] at h
  unfold withId
  by_cases hh : dhas "_id" bf = true
  · rw [if_pos hh] at h ⊢
    obtain ⟨h1, _, h3⟩ := insertCore_fresh now c bf c' id hn hh h
    exact ⟨by rw [h3, C18.patchDT_doc], h1⟩
  · rw [if_neg hh] at h ⊢
    have hh' : dhas "_id" (dset "_id" (.oid c.nextOid) bf) = true := by
      simp [dhas, dget_dset_same]
    obtain ⟨h1, _, h3⟩ := insertCore_fresh now { c with nextOid := c.nextOid + 1 } _ c' id hn hh' h
    exact ⟨by rw [h3, C18.patchDT_doc], h1⟩

/-- the upsert branch of `afterLoop` on a TTL-free collection, step by step -/
theorem afterLoop_built (now : Int) (spec document nowV : Val) (ss dfs : Fields)
    (c3 c' : Coll) (up : Nat) (r : UpdateResult) (hn : c3.ttlIndexes = [])
    (h : afterLoop now spec document nowV ss dfs true c3 (.ok (0, up)) = (c', .ok r)) :
    ∃ seed bf id,
      upsertSeed ss (upsertIdv ss dfs c3).1 = .ok seed ∧
      applyUpdate spec document nowV true seed = .ok (.doc bf) ∧
      c'.docs = c3.docs ++ [(id, .doc (patchFields (withId (upsertIdv ss dfs c3).2 bf)))] ∧
      dget "_id" (patchFields (withId (upsertIdv ss dfs c3).2 bf)) = some id ∧
      r = ⟨1, 0, some id, false⟩ := by
  simp only [afterLoop, Bool.not_true, Bool.false_or, Nat.lt_irrefl, gt_iff_lt, decide_false,
    Bool.false_eq_true, if_false] at h
  have hd := upsertIdv_docs ss dfs c3
  have ht := upsertIdv_ttl ss dfs c3
  generalize upsertIdv ss dfs c3 = ic at h hd ht
  unfold upsertDoc at h
  cases he : upsertSeed ss ic.1 with
  | error e => rw [he] at h; cases h
  | ok seed =>
    rw [he] at h
    simp only [bind, Except.bind] at h
    cases hb : applyUpdate spec document nowV true seed with
    | error e => rw [hb] at h; cases h
    | ok built =>
      rw [hb] at h
      dsimp only at h
      cases hi : insertDoc now ic.2 built with
      | error e => rw [hi] at h; cases h
      | ok p =>
        rw [hi] at h
        cases h
        cases built with
        | doc bf =>
          obtain ⟨h1, h2⟩ := insert_fresh_doc now ic.2 _ bf p.2 (ht.trans hn) hi
          exact ⟨seed, bf, p.2, rfl, hb, by rw [← hd, ← h1], h2, rfl⟩
        | _ => simp [insertDoc] at hi

/-- a successful upsert call whose filter selects nothing went through the upsert branch, on the
    unchanged collection -/
theorem upsert_reaches (cfg : Cfg) (now : Int) (c c1 c' : Coll) (fs : Fields) (u : Val)
    (multi : Bool) (r : UpdateResult)
    (he : expire now c = .ok c1) (hn : c.ttlIndexes = [])
    (hs : selectDocs (patchDT (.doc fs)) c1.docs = .ok [])
    (h : applyUpdateColl cfg now c (.doc fs) u true multi = (c', .ok r)) :
    c1 = c ∧ ∃ dfs, patchDT u = .doc dfs ∧
      afterLoop now (.doc (patchFields fs)) (.doc dfs) (patchDT (.date now none))
        (patchFields fs) dfs true c (.ok (0, 0)) = (c', .ok r) := by
  have hc1 : c1 = c := by
    rw [C09Lemmas.expire_nil now c hn] at he; cases he; rfl
  subst hc1
  obtain ⟨dfs, c2, c3, m, up, hu, he', hloop, h⟩ := applyUpdateColl_ok h
  cases he.symm.trans he'
  rw [C18.patchDT_doc] at hs
  rw [loop_nomatch now _ _ _ multi c1 (select_none hs)] at hloop
  cases hloop
  exact ⟨rfl, dfs, hu, h⟩

end MongoModel.Proofs.C13Ext

namespace MongoModel.Proofs.C13
open MongoModel MongoModel.Spec MongoModel.Proofs.C05Lemmas MongoModel.Proofs.C10Lemmas
  MongoModel.Proofs.C13Lemmas MongoModel.Proofs.C13Ext
open MongoModel.Proofs.C09Lemmas (expire_ok)

/-- with a match the `upsert` flag is irrelevant: the two calls are the same call (stronger than
    `upsert_like_plain_when_matched`: whole state, whole result, errors included) -/
theorem upsert_eq_plain_when_matched (cfg : Cfg) (now : Int) (c c1 : Coll) (fs : Fields) (u : Val)
    (multi : Bool) (q : Val × Val) (rest : List (Val × Val))
    (he : expire now c = .ok c1) (hi : IdInv c) (hg : GoodKeys c)
    (hs : selectDocs (patchDT (.doc fs)) c1.docs = .ok (q :: rest)) :
    applyUpdateColl cfg now c (.doc fs) u true multi =
      applyUpdateColl cfg now c (.doc fs) u false multi := by
  have hne : c1.docs ≠ [] := by intro e; rw [e] at hs; cases hs
  rw [applyUpdateColl_eq, applyUpdateColl_eq]
  rw [C18.patchDT_doc fs] at hs ⊢
  split
  · rename_i ss dfs h1 h2
    cases h1
    cases updatePrecheck cfg dfs with
    | error e => rfl
    | ok _ =>
      simp only [show preLoop now c _ = .ok c1 from MongoModel.Proofs.C10.pre_eq now c c1 _ he hne]
      generalize hloop : updateLoop now (.doc (patchFields fs)) (patchDT u) (patchDT (.date now none))
        multi c1.docs c1 0 0 = lr
      obtain ⟨c3, r3⟩ := lr
      cases r3 with
      | error e => rfl
      | ok mu =>
        obtain ⟨m, up⟩ := mu
        have hinv := MongoModel.Proofs.C10.linv_start now c c1 he hi.1 hg
        obtain ⟨hm, _⟩ := loop_count now _ _ _ multi c1.ttlIndexes c1.docs c1 0 0 c3 m up _
          hinv.dk hinv hs hloop (Nat.le_refl 0)
        have hpos : m > 0 := by
          cases multi <;> simp at hm <;> omega
        simp only [afterLoop, hpos, decide_true, Bool.or_true, if_true]
  · rfl

theorem upsert_like_plain_when_matched (cfg : Cfg) (now : Int) (c c1 : Coll) (fs : Fields) (u : Val)
    (multi : Bool) (q : Val × Val) (rest : List (Val × Val))
    (he : expire now c = .ok c1) (hi : IdInv c) (hg : GoodKeys c)
    (hs : selectDocs (patchDT (.doc fs)) c1.docs = .ok (q :: rest))
    (hok : ∀ e, (applyUpdateColl cfg now c (.doc fs) u false multi).2 ≠ .error e) :
    (applyUpdateColl cfg now c (.doc fs) u true multi).1.docs =
      (applyUpdateColl cfg now c (.doc fs) u false multi).1.docs ∧
    ((applyUpdateColl cfg now c (.doc fs) u true multi).2.toOption.map (fun r => (r.n, r.nModified, r.upserted.isSome)))
      = ((applyUpdateColl cfg now c (.doc fs) u false multi).2.toOption.map (fun r => (r.n, r.nModified, r.upserted.isSome))) := by
  rw [upsert_eq_plain_when_matched cfg now c c1 fs u multi q rest he hi hg hs]
  exact ⟨rfl, rfl⟩

theorem no_upsert_no_insert (cfg : Cfg) (now : Int) (c c' : Coll) (f u : Val) (multi : Bool)
    (r : UpdateResult) (h : applyUpdateColl cfg now c f u false multi = (c', .ok r)) :
    r.upserted = none ∧ c'.docs.length ≤ c.docs.length := by
  cases f with
  | doc fs =>
    obtain ⟨dfs, c1, c3, m, up, _, he, hloop, h⟩ := applyUpdateColl_ok h
    rw [afterLoop_plain _ _ _ _ _ _ _ _ _ _ rfl] at h
    cases h
    exact ⟨rfl, Nat.le_trans (loop_length _ _ _ _ _ _ _ _ _ _ _ hloop)
      (expire_ok now c c1 he).1.length_le⟩
  | _ => simp [applyUpdateColl, patchDT, patch] at h

theorem upsert_iff_no_match (cfg : Cfg) (now : Int) (c c1 c' : Coll) (fs : Fields) (u : Val)
    (multi : Bool) (sel : List (Val × Val)) (r : UpdateResult)
    (he : expire now c = .ok c1) (hne : c1.docs ≠ []) (hn : c.ttlIndexes = [])
    (hi : IdInv c) (hg : GoodKeys c)
    (hs : selectDocs (patchDT (.doc fs)) c1.docs = .ok sel)
    (h : applyUpdateColl cfg now c (.doc fs) u true multi = (c', .ok r)) :
    (r.upserted.isSome ↔ sel = []) ∧
    (sel = [] → ∃ id d, r.upserted = some id ∧ c'.docs = c1.docs ++ [(id, d)] ∧
        idOf d = some id ∧ r.n = 1 ∧ r.nModified = 0 ∧ r.updatedExisting = false) := by
  cases sel with
  | nil =>
    obtain ⟨rfl, dfs, _, hal⟩ := upsert_reaches cfg now c c1 c' fs u multi r he hn hs h
    obtain ⟨seed, bf, id, _, _, hdocs, hid, rfl⟩ := afterLoop_built _ _ _ _ _ _ _ _ _ _ hn hal
    exact ⟨⟨fun _ => rfl, fun _ => rfl⟩, fun _ => ⟨id, _, rfl, hdocs, hid, rfl, rfl, rfl⟩⟩
  | cons q rest =>
    rw [upsert_eq_plain_when_matched cfg now c c1 fs u multi q rest he hi hg hs] at h
    have hup := (MongoModel.Proofs.C10.update_count cfg now c c1 c' fs u _ r multi he hi.1 hg hs h).2.2
    rw [hup]
    exact ⟨⟨fun h => (by cases h), fun h => (by cases h)⟩, fun h => (by cases h)⟩

end MongoModel.Proofs.C13
