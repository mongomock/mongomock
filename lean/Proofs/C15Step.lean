/-
  Proofs.C15Step — one bulk executor: against the single operation it stands for, and what it
  adds to the running totals when it succeeds.
-/
import Spec.FailExt
import Proofs.StepShape

namespace MongoModel.Proofs.C15Lemmas
open MongoModel MongoModel.Spec MongoModel.Proofs.Shape MongoModel.Proofs.C09Lemmas

/-- the per-request check of `bulkPrecheck` -/
def pre1 (r : Val) : R Unit :=
  match r with
  | .arr [.str "UpdateOne", _, u, _] => validateUpdate u
  | .arr [.str "UpdateMany", _, u, _] => validateUpdate u
  | _ => .ok ()

theorem precheck_eq (reqs : List Val) : bulkPrecheck reqs = reqs.forM pre1 := rfl

theorem precheck_cons {r : Val} {rest : List Val} (h : bulkPrecheck (r :: rest) = .ok ()) :
    pre1 r = .ok () ∧ bulkPrecheck rest = .ok () := by
  have h' : (pre1 r >>= fun _ => rest.forM pre1) = .ok () := h
  rw [precheck_eq]
  cases h1 : pre1 r with
  | error e => rw [h1] at h'; cases h'
  | ok x => rw [h1] at h'; exact ⟨rfl, h'⟩

/-- the shapes `plainRequest` admits -/
inductive Plain : Val → Prop
  | ins (d : Val) : Plain (.arr [.str "InsertOne", d])
  | upd1 (f u up : Val) : Plain (.arr [.str "UpdateOne", f, u, up])
  | updN (f u up : Val) : Plain (.arr [.str "UpdateMany", f, u, up])
  | repl (f u up : Val) (h : validateReplace u = .ok ()) : Plain (.arr [.str "ReplaceOne", f, u, up])
  | del1 (fs : Fields) : Plain (.arr [.str "DeleteOne", .doc fs])
  | delN (fs : Fields) : Plain (.arr [.str "DeleteMany", .doc fs])

theorem plain_of {r : Val} (h : plainRequest r = true) : Plain r := by
  unfold plainRequest at h
  split at h
  · rename_i f u up
    refine Plain.repl _ _ _ ?_
    cases hv : validateReplace u with
    | ok x => rfl
    | error e => rw [hv] at h; cases h
  · exact Plain.ins _
  · exact Plain.upd1 _ _ _
  · exact Plain.updN _ _ _
  · exact Plain.del1 _
  · exact Plain.delN _
  · cases h

theorem plain_cons {r : Val} {rest : List Val} (h : (r :: rest).all plainRequest = true) :
    Plain r ∧ rest.all plainRequest = true := by
  simp only [List.all_cons, Bool.and_eq_true] at h
  exact ⟨plain_of h.1, h.2⟩

theorem requestFailed_bulkFail (e : Err) : requestFailed (bulkFail e) = true := by
  unfold bulkFail; split <;> rfl

theorem bulkIns_single (cfg : Cfg) (now : Int) (c : Coll) (d : Val) :
    (bulkIns cfg now c d).1 = (stepColl cfg now c (.arr [.str "insert_one", d])).1 ∧
    requestFailed (bulkIns cfg now c d).2 =
      (stepColl cfg now c (.arr [.str "insert_one", d])).2.isErr := by
  unfold bulkIns
  rcases stepColl cfg now c (.arr [.str "insert_one", d]) with ⟨c', o⟩
  cases o with
  | val v => exact ⟨rfl, rfl⟩
  | err e => exact ⟨rfl, requestFailed_bulkFail e⟩
  | bulkErr v => exact ⟨rfl, rfl⟩

theorem bulkUpd_single (cfg : Cfg) (now : Int) (c : Coll) (idx : Nat) (f u : Val) (up multi : Bool) :
    (bulkUpd cfg now c idx f u up multi).1 = (applyUpdateColl cfg now c f u up multi).1 ∧
    requestFailed (bulkUpd cfg now c idx f u up multi).2 =
      (outUpd (applyUpdateColl cfg now c f u up multi).2).isErr := by
  unfold bulkUpd
  rcases applyUpdateColl cfg now c f u up multi with ⟨c', r⟩
  cases r with
  | ok res => exact ⟨rfl, rfl⟩
  | error e => exact ⟨rfl, requestFailed_bulkFail e⟩

theorem bulkDel_single (now : Int) (c : Coll) (fs : Fields) (multi : Bool) :
    (bulkDel now c (.doc fs) multi).1 = (deleteColl now c (.doc fs) multi).1 ∧
    requestFailed (bulkDel now c (.doc fs) multi).2 =
      (outNat (deleteColl now c (.doc fs) multi).2).isErr := by
  unfold bulkDel bulkOne.deleteBulk
  rcases deleteColl now c (.doc fs) multi with ⟨c', r⟩
  cases r with
  | ok n => exact ⟨rfl, rfl⟩
  | error e => exact ⟨rfl, requestFailed_bulkFail e⟩

/-- an executor leaves the collection the single operation leaves, and fails exactly when that
    operation raises -/
theorem one_single (cfg : Cfg) (now : Int) (c : Coll) (idx : Nat) {r : Val}
    (hp : Plain r) (hv : pre1 r = .ok ()) :
    (bulkOne cfg now c idx r).1 = (stepColl cfg now c (asSingle r)).1 ∧
    requestFailed (bulkOne cfg now c idx r).2 = (stepColl cfg now c (asSingle r)).2.isErr := by
  cases hp with
  | ins d => rw [bulkOne_InsertOne]; exact bulkIns_single cfg now c d
  | upd1 f u up =>
    have ha : asSingle (.arr [.str "UpdateOne", f, u, up]) = .arr [.str "update_one", f, u, up] := rfl
    have hv' : validateUpdate u = .ok () := hv
    rw [ha, bulkOne_UpdateOne, step_update_one, hv']
    exact bulkUpd_single cfg now c idx f u _ _
  | updN f u up =>
    have ha : asSingle (.arr [.str "UpdateMany", f, u, up]) = .arr [.str "update_many", f, u, up] := rfl
    have hv' : validateUpdate u = .ok () := hv
    rw [ha, bulkOne_UpdateMany, step_update_many, hv']
    exact bulkUpd_single cfg now c idx f u _ _
  | repl f u up h =>
    have ha : asSingle (.arr [.str "ReplaceOne", f, u, up]) = .arr [.str "replace_one", f, u, up] := rfl
    rw [ha, bulkOne_ReplaceOne, step_replace_one, h]
    exact bulkUpd_single cfg now c idx f u _ _
  | del1 fs =>
    have ha : asSingle (.arr [.str "DeleteOne", .doc fs]) = .arr [.str "delete_one", .doc fs] := rfl
    rw [ha, bulkOne_DeleteOne, step_delete_one]
    exact bulkDel_single now c fs _
  | delN fs =>
    have ha : asSingle (.arr [.str "DeleteMany", .doc fs]) = .arr [.str "delete_many", .doc fs] := rfl
    rw [ha, bulkOne_DeleteMany, step_delete_many]
    exact bulkDel_single now c fs _

theorem one_fst (cfg : Cfg) (now : Int) (c : Coll) (idx : Nat) {r : Val}
    (hp : Plain r) (hv : pre1 r = .ok ()) :
    (bulkOne cfg now c idx r).1 = (stepColl cfg now c (asSingle r)).1 :=
  (one_single cfg now c idx hp hv).1

inductive OkFun (idx : Nat) : (BulkTotals → BulkTotals) → Prop
  | ins : OkFun idx (fun t => { t with nInserted := t.nInserted + 1 })
  | del (n : Nat) : OkFun idx (fun t => { t with nRemoved := t.nRemoved + (n : Int) })
  | upd (res : UpdateResult) : OkFun idx (updFun idx res)

theorem one_ok (cfg : Cfg) (now : Int) (c c' : Coll) (idx : Nat) (r : Val)
    (f : BulkTotals → BulkTotals) (h : bulkOne cfg now c idx r = (c', .ok f)) : OkFun idx f := by
  have upd : ∀ q u up multi, bulkUpd cfg now c idx q u up multi = (c', .ok f) → OkFun idx f := by
    intro q u up multi h
    rcases bulkUpd_inv h with ⟨res, _, hf⟩ | ⟨e, _, hf⟩
    · cases hf; exact .upd res
    · exact (bulkFail_ne_ok _ _ hf.symm).elim
  have del : ∀ q multi, bulkDel now c q multi = (c', .ok f) → OkFun idx f := by
    intro q multi h
    rcases bulkDel_inv h with ⟨_, n, _, _, hf⟩ | ⟨_, e, _, _, hf⟩ | ⟨_, hf⟩
    · cases hf; exact .del n
    · exact (bulkFail_ne_ok _ _ hf.symm).elim
    · exact (bulkFail_ne_ok _ _ hf.symm).elim
  rcases bulkOne_cases r with hs | hu
  · cases hs with
    | insertOne d =>
      rcases bulkIns_inv (bulkOne_InsertOne .. ▸ h) with ⟨_, _, hf⟩ | ⟨_, _, _, hne⟩
      · cases hf; exact .ins
      · exact (hne _ rfl).elim
    | updateOne q u up => exact upd _ _ _ _ (bulkOne_UpdateOne .. ▸ h)
    | updateMany q u up => exact upd _ _ _ _ (bulkOne_UpdateMany .. ▸ h)
    | replaceOne q u up => exact upd _ _ _ _ (bulkOne_ReplaceOne .. ▸ h)
    | deleteOne q => exact del _ _ (bulkOne_DeleteOne .. ▸ h)
    | deleteMany q => exact del _ _ (bulkOne_DeleteMany .. ▸ h)
  · rw [hu] at h; cases h

theorem ok_errors {idx : Nat} {f : BulkTotals → BulkTotals} (h : OkFun idx f) (t : BulkTotals) :
    (f t).errors = t.errors := by
  cases h with
  | ins => rfl
  | del n => rfl
  | upd res => unfold updFun; dsimp only; split <;> rfl

theorem ok_upserted {idx : Nat} {f : BulkTotals → BulkTotals} (h : OkFun idx f) (t : BulkTotals) :
    (f t).upserted = t.upserted ∨
    ∃ id, (f t).upserted = t.upserted ++ [.doc [("index", .int idx), ("_id", id)]] := by
  cases h with
  | ins => exact Or.inl rfl
  | del n => exact Or.inl rfl
  | upd res =>
    unfold updFun; dsimp only; split
    · exact Or.inr ⟨_, rfl⟩
    · exact Or.inl rfl

theorem ok_counts {idx : Nat} {f : BulkTotals → BulkTotals} (h : OkFun idx f) (t : BulkTotals) :
    (f t).nInserted + (f t).nMatched + (f t).nRemoved + (f t).nUpserted
      ≥ t.nInserted + t.nMatched + t.nRemoved + t.nUpserted := by
  cases h with
  | ins => dsimp only; omega
  | del n => dsimp only; omega
  | upd res => unfold updFun; dsimp only; split <;> dsimp only <;> omega

end MongoModel.Proofs.C15Lemmas
