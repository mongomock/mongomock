/-
  Proofs.C05Loop — `_apply_update` cut into its pieces (scan prologue, the loop over the matching
  documents, the upsert), and the pair of predicates of a `Carried` through the update, through
  every operation of `stepColl` and through a history.
-/
import Proofs.C05Inv

namespace MongoModel.Proofs.C05Lemmas
open MongoModel MongoModel.Spec
open MongoModel.Proofs.C09Lemmas (step_insert_one step_insert_many step_update_one step_update_many
  step_replace_one step_delete_one step_delete_many step_find step_count step_distinct)

variable {P Q : Coll → Prop}

theorem Carried.of_updateLoop (H : Carried P Q) (now : Int) (spec document nowV : Val)
    (multi : Bool) (pending : List (Val × Val)) (c : Coll) (m u : Nat) (hP : P c) :
    P (updateLoop now spec document nowV multi pending c m u).1 := by
  induction pending generalizing c m u with
  | nil => exact hP
  | cons kd rest ih =>
    rw [Shape.updateLoop_cons]
    cases hv : Shape.visit now spec document nowV kd.1 c with
    | error e => exact hP
    | ok o =>
      cases o with
      | none => exact ih c m u hP
      | some r =>
        obtain ⟨cur, new, hl, _, ha, hu, hid⟩ := Shape.visit_some hv
        have h2 := H.update hP hl ha hid hu
        dsimp only
        cases multi
        · exact h2
        · exact ih _ _ _ h2

/-- the `_id` of the upsert seed and the collection after a possible id generation -/
def upsertIdv (ss dfs : Fields) (c3 : Coll) : Val × Coll :=
  match dget "_id" ss with
  | some v => (v, c3)
  | none => (match dget "_id" dfs with
    | some w => (w, c3)
    | none => (Val.oid c3.nextOid, { c3 with nextOid := c3.nextOid + 1 }))

/-- the filter's or the document's `_id` on the unchanged collection, or a generated one -/
theorem upsertIdv_cases (ss dfs : Fields) (c3 : Coll) :
    (∃ v, upsertIdv ss dfs c3 = (v, c3)) ∨
    upsertIdv ss dfs c3 = (.oid c3.nextOid, { c3 with nextOid := c3.nextOid + 1 }) := by
  unfold upsertIdv
  cases dget "_id" ss with
  | some v => exact .inl ⟨v, rfl⟩
  | none =>
    cases dget "_id" dfs with
    | some w => exact .inl ⟨w, rfl⟩
    | none => exact .inr rfl

theorem loss_upsertIdv (ss dfs : Fields) (c3 : Coll) : Loss c3 (upsertIdv ss dfs c3).2 := by
  rcases upsertIdv_cases ss dfs c3 with ⟨v, h⟩ | h <;> rw [h] <;> exact Loss.refl c3

theorem upsertIdv_docs (ss dfs : Fields) (c3 : Coll) : (upsertIdv ss dfs c3).2.docs = c3.docs := by
  rcases upsertIdv_cases ss dfs c3 with ⟨v, h⟩ | h <;> rw [h]

def preLoop (now : Int) (c : Coll) (spec : Val) : R Coll := do
  let c1 ← expire now c
  if c1.docs.isEmpty then
    let _ ← filterApplies spec (.doc [])
  expire now c1

/-- the scan prologue of `_apply_update` leaves the collection the expiry pass leaves -/
theorem preLoop_ok {now : Int} {c c2 : Coll} {spec : Val} (h : preLoop now c spec = .ok c2) :
    expire now c = .ok c2 := by
  obtain ⟨c1, he, h⟩ := bind_ok h
  rw [C09Lemmas.expire_idem now c c1 he] at h
  split at h
  · obtain ⟨_, _, h⟩ := bind_ok h
    cases h; exact he
  · cases h; exact he

theorem loss_preLoop {now : Int} {c c2 : Coll} {spec : Val} (h : preLoop now c spec = .ok c2) :
    Loss c c2 := by
  obtain ⟨c1, h1, h⟩ := bind_ok h
  refine (loss_expire h1).trans ?_
  split at h
  · obtain ⟨_, _, h⟩ := bind_ok h
    exact loss_expire h
  · exact loss_expire h

def afterLoop (now : Int) (spec document nowV : Val) (ss dfs : Fields) (upsert : Bool)
    (c3 : Coll) (r : R (Nat × Nat)) : Coll × R UpdateResult :=
  match r with
  | .error e => (c3, .error e)
  | .ok (matched, updated) =>
    if !upsert || matched > 0 then
      (c3, .ok ⟨matched, if matched > 0 then updated else 0, none, matched > 0⟩)
    else
      let ic := upsertIdv ss dfs c3
      match upsertDoc spec document nowV ss ic.1 with
      | .error e => (ic.2, .error e)
      | .ok built =>
        match insertDoc now ic.2 built with
        | .error e => (ic.2.markStored (insertStored now ic.2 built), .error e)
        | .ok (c5, newId) => (c5, .ok ⟨1, 0, some newId, false⟩)

theorem applyUpdateColl_eq (cfg : Cfg) (now : Int) (c : Coll) (spec0 document0 : Val)
    (upsert multi : Bool) :
    applyUpdateColl cfg now c spec0 document0 upsert multi =
      match patchDT spec0, patchDT document0 with
      | .doc ss, .doc dfs =>
        (match updatePrecheck cfg dfs with
        | .error e => (c, .error e)
        | .ok () =>
          match preLoop now c (patchDT spec0) with
          | .error e => (c, .error e)
          | .ok c2 =>
            afterLoop now (patchDT spec0) (patchDT document0) (patchDT (.date now none)) ss dfs upsert
              (updateLoop now (patchDT spec0) (patchDT document0) (patchDT (.date now none)) multi c2.docs c2 0 0).1
              (updateLoop now (patchDT spec0) (patchDT document0) (patchDT (.date now none)) multi c2.docs c2 0 0).2)
      | _, _ => (c, .error .typeErr) := rfl

/-- after the loop: nothing but losses, or the upsert's insert, whose `_id` is reported -/
theorem afterLoop_ok {now : Int} {spec document nowV : Val} {ss dfs : Fields} {upsert : Bool}
    {c3 : Coll} {r3 : R (Nat × Nat)} {c' : Coll} {r : R UpdateResult}
    (h : afterLoop now spec document nowV ss dfs upsert c3 r3 = (c', r)) :
    Loss c3 c' ∨ ∃ c4 built id, Loss c3 c4 ∧ insertDoc now c4 built = .ok (c', id) ∧
      ∃ res, r = .ok res ∧ res.upserted = some id := by
  unfold afterLoop at h
  cases r3 with
  | error e => cases h; exact .inl (Loss.refl _)
  | ok mu =>
    obtain ⟨matched, updated⟩ := mu
    dsimp only at h
    by_cases hm : (!upsert || decide (matched > 0)) = true
    · rw [if_pos hm] at h; cases h; exact .inl (Loss.refl _)
    · rw [if_neg hm] at h
      have hd := loss_upsertIdv ss dfs c3
      generalize upsertIdv ss dfs c3 = ic at h hd
      cases hb : upsertDoc spec document nowV ss ic.1 with
      | error e => rw [hb] at h; cases h; exact .inl hd
      | ok built =>
        rw [hb] at h
        dsimp only at h
        cases hi : insertDoc now ic.2 built with
        | error e => rw [hi] at h; cases h; exact .inl (hd.trans (loss_markStored _ _))
        | ok p =>
          rw [hi] at h
          cases h
          exact .inr ⟨ic.2, built, p.2, hd, hi, _, rfl, rfl⟩

/-- an update: `P` holds of the collection the loop leaves, and what follows is a loss or the
    upsert's insert -/
theorem Carried.applyUpdateColl_ok (H : Carried P Q) {cfg : Cfg} {now : Int} {c c' : Coll}
    {f u : Val} {upsert multi : Bool} {r : R UpdateResult} (hP : P c)
    (h : applyUpdateColl cfg now c f u upsert multi = (c', r)) :
    ∃ c3, P c3 ∧ (Loss c3 c' ∨ ∃ c4 built id, Loss c3 c4 ∧
      insertDoc now c4 built = .ok (c', id) ∧ ∃ res, r = .ok res ∧ res.upserted = some id) := by
  rw [applyUpdateColl_eq] at h
  split at h
  · split at h
    · cases h; exact ⟨c, hP, .inl (Loss.refl c)⟩
    · split at h
      · cases h; exact ⟨c, hP, .inl (Loss.refl c)⟩
      · rename_i c2 hpre
        exact ⟨_, H.of_updateLoop now _ _ _ multi c2.docs c2 0 0 (H.lossP hP (loss_preLoop hpre)),
          afterLoop_ok h⟩
  · cases h; exact ⟨c, hP, .inl (Loss.refl c)⟩

theorem Carried.of_applyUpdateColl (H : Carried P Q) (cfg : Cfg) (now : Int) (c : Coll)
    (f u : Val) (upsert multi : Bool) (hP : P c) :
    Q (applyUpdateColl cfg now c f u upsert multi).1 := by
  obtain ⟨c3, h3, hl | ⟨c4, built, id, hl, hi, _⟩⟩ := H.applyUpdateColl_ok hP rfl
  · exact H.lossQ (H.weaken h3) hl
  · exact H.of_insertDoc (H.lossQ (H.weaken h3) hl) hi

theorem Carried.of_stepColl (H : Carried P Q) (cfg : Cfg) (now : Int) (c : Coll) (op : Val)
    (hP : P c) : Q (stepColl cfg now c op).1 := by
  have hQ := H.weaken hP
  rcases Shape.stepColl_cases op with hs | hs | hs
  · cases hs with
    | insertOne d =>
      rw [step_insert_one]
      split
      · split
        · rename_i c' id h; exact H.of_insertDoc hQ h
        · exact H.lossQ hQ (loss_insertRejected now c _)
      · exact hQ
    | insertMany ds ordered =>
      rw [step_insert_many]
      split
      · exact hQ
      · split
        · exact hQ
        · exact H.of_insertManyLoop now _ _ _ _ _ _ _ hQ
    | updateOne f u up =>
      rw [step_update_one]
      split
      · exact hQ
      · exact H.of_applyUpdateColl cfg now c _ _ _ _ hP
    | updateMany f u up =>
      rw [step_update_many]
      split
      · exact hQ
      · exact H.of_applyUpdateColl cfg now c _ _ _ _ hP
    | replaceOne f u up =>
      rw [step_replace_one]
      split
      · exact hQ
      · exact H.of_applyUpdateColl cfg now c _ _ _ _ hP
    | deleteOne f => rw [step_delete_one]; exact H.lossQ hQ (loss_delete now c _ _)
    | deleteMany f => rw [step_delete_many]; exact H.lossQ hQ (loss_delete now c _ _)
    | find f => rw [step_find]; exact H.lossQ hQ (loss_find now c _)
    | count f skip limit => rw [step_count]; exact H.lossQ hQ (loss_count now c _ _ _)
    | distinct key f => rw [step_distinct]; exact H.lossQ hQ (loss_distinct now c _ _)
  · cases hs with
    | createIndex keys opts =>
      show Q (match keysOfVal keys with
        | none => (c, Out.err .unmodelled)
        | some ks => _).1
      split
      · exact hQ
      · exact H.of_createIndex now c _ hQ
    | dropIndex name => exact H.lossQ hQ (loss_dropIndex now c _)
    | dropIndexes => exact H.lossQ hQ ⟨.refl _, List.nil_sublist _, id⟩
    | drop => exact H.drop c
  · rw [hs]; exact hQ

theorem Carried.of_step (H : Carried P Q) (cfg : Cfg) (s : St) (op : Val) (hP : P s.c) :
    Q (step cfg s op).1.c := by
  unfold step
  split
  · exact H.weaken hP
  · exact H.of_stepColl cfg s.now s.c op hP

/-- the state component of `run` -/
def runSt (cfg : Cfg) (ops : List Val) (s : St) : St :=
  ops.foldl (fun s op => (observe (step cfg s op).1).1) s

/-- the state component of a run that collects what each step puts out and what is observed -/
theorem foldl_snd {σ α β γ : Type} (f : σ → α → σ × β) (g : σ → σ × γ) (ops : List α) :
    ∀ (acc : List (β × γ)) (s : σ),
      (ops.foldl (fun (acc : List (β × γ) × σ) op =>
        let (s1, out) := f acc.2 op
        let (s2, obs) := g s1
        (acc.1 ++ [(out, obs)], s2)) (acc, s)).2 =
      ops.foldl (fun s op => (g (f s op).1).1) s := by
  induction ops with
  | nil => intro acc s; rfl
  | cons op ops ih => intro acc s; exact ih _ _

theorem run_snd (cfg : Cfg) (ops : List Val) (s : St) : (run cfg ops s).2 = runSt cfg ops s :=
  foldl_snd (step cfg) observe ops [] s

/-- a whole history: `P` in the final state, provided every state the history passes through
    satisfies a bridge `G` from `Q` back to `P` -/
theorem Carried.of_runSt (H : Carried P Q) (G : Coll → Prop) (hG : ∀ c, Q c → G c → P c)
    (cfg : Cfg) (ops : List Val) (s : St) (hP : P s.c)
    (hg : ∀ n, G (runSt cfg (ops.take (n + 1)) s).c) : P (runSt cfg ops s).c := by
  induction ops generalizing s with
  | nil => exact hP
  | cons op ops ih =>
    exact ih _ (hG _ (H.lossQ (H.of_step cfg s op hP) (loss_observe _)) (hg 0))
      (fun n => hg (n + 1))

end MongoModel.Proofs.C05Lemmas
