/-
  Proofs.C12Id — how `_id` is popped from the specification and re-attached to the copy.
-/
import Proofs.C12Exact

namespace MongoModel.Proofs.C12
open MongoModel MongoModel.Spec.Proj

theorem tailsOf_id_cons (k : String) (ps : List Path) :
    tailsOf k (["_id"] :: ps) = if "_id" = k then [] :: tailsOf k ps else tailsOf k ps := by
  by_cases e : "_id" = k <;> simp [tailsOf, e]

theorem nodupB_iff : ∀ ks : List String, nodupB ks = true ↔ ks.Nodup
  | [] => by simp [nodupB]
  | k :: r => by simp [nodupB, nodupB_iff r]

def NoId (l : Fields) : Prop := ∀ kv ∈ l, kv.1 ≠ "_id"

theorem noId_dget {l : Fields} (h : NoId l) : dget "_id" l = none := by
  induction l with
  | nil => rfl
  | cons kv r ih =>
    have h1 := h kv (by simp)
    simp [dget, h1, ih (fun x hx => h x (by simp [hx]))]

theorem noId_dset {l : Fields} (v : Val) (h : NoId l) : dset "_id" v l = l ++ [("_id", v)] := by
  induction l with
  | nil => rfl
  | cons kv r ih =>
    have h1 := h kv (by simp)
    simp [dset, h1, ih (fun x hx => h x (by simp [hx]))]

theorem noId_derase {l : Fields} (h : NoId l) : derase "_id" l = l := by
  induction l with
  | nil => rfl
  | cons kv r ih =>
    have h1 := h kv (by simp)
    simp [derase, h1, ih (fun x hx => h x (by simp [hx]))]

theorem noId_filter_ne {l : Fields} (h : NoId l) : l.filter (fun kv => kv.1 != "_id") = l := by
  apply List.filter_eq_self.mpr
  intro kv hkv
  simpa using h kv hkv

theorem noId_filter_eq {l : Fields} (h : NoId l) : l.filter (fun kv => kv.1 == "_id") = [] := by
  apply List.filter_eq_nil_iff.mpr
  intro kv hkv
  simpa using h kv hkv

/-- the `_id` entries of a dict -/
theorem filter_id_of_nodup : ∀ {fs : Fields}, (dkeys fs).Nodup →
    fs.filter (fun kv => kv.1 == "_id") =
      (match dget "_id" fs with | some v => [("_id", v)] | none => [])
  | [], _ => rfl
  | (k, v) :: r, h => by
    simp only [dkeys, List.map_cons, List.nodup_cons] at h
    by_cases e : k = "_id"
    · subst e
      have : NoId r := fun kv hkv e' => h.1 (List.mem_map.mpr ⟨kv, hkv, e'⟩)
      simp [dget, noId_filter_eq this]
    · have ih := filter_id_of_nodup (fs := r) h.2
      simp [dget, e, ih]

theorem incl_noId {ps : List Path} (hid : tailsOf "_id" ps = []) :
    ∀ fs : Fields, NoId (inclFields fs ps)
  | [] => by simp [inclFields, NoId]
  | (k, v) :: rest => by
    have ih := incl_noId hid rest
    by_cases e : k = "_id"
    · subst e; simpa [inclFields, hid] using ih
    · simp only [inclFields]
      split
      · exact ih
      · split
        · intro kv hkv
          rcases List.mem_cons.mp hkv with e' | h'
          · subst e'; exact e
          · exact ih kv h'
        · split
          · intro kv hkv
            rcases List.mem_cons.mp hkv with e' | h'
            · subst e'; exact e
            · exact ih kv h'
          · exact ih

theorem incl_id_filter_ne {ps : List Path} (hid : tailsOf "_id" ps = []) :
    ∀ fs : Fields, (inclFields fs (["_id"] :: ps)).filter (fun kv => kv.1 != "_id") =
      inclFields fs ps
  | [] => by simp [inclFields]
  | (k, v) :: rest => by
    have ih := incl_id_filter_ne hid rest
    by_cases e : k = "_id"
    · subst e
      simp [inclFields, tailsOf_id_cons, hid, ih]
    · have e' : ¬ "_id" = k := fun x => e x.symm
      simp only [inclFields, tailsOf_id_cons, e', if_false]
      split
      · exact ih
      · split
        · simp [e, ih]
        · split
          · simp [e, ih]
          · exact ih

theorem incl_id_filter_eq {ps : List Path} (hid : tailsOf "_id" ps = []) :
    ∀ fs : Fields, (inclFields fs (["_id"] :: ps)).filter (fun kv => kv.1 == "_id") =
      fs.filter (fun kv => kv.1 == "_id")
  | [] => by simp [inclFields]
  | (k, v) :: rest => by
    have ih := incl_id_filter_eq hid rest
    by_cases e : k = "_id"
    · subst e
      simp [inclFields, tailsOf_id_cons, hid, ih]
    · have e' : ¬ "_id" = k := fun x => e x.symm
      simp only [inclFields, tailsOf_id_cons, e', if_false]
      split
      · simp [e, ih]
      · split
        · simp [e, ih]
        · split
          · simp [e, ih]
          · simp [e, ih]

theorem excl_nil : ∀ fs : Fields, exclFields fs [] = fs
  | [] => by simp [exclFields]
  | (k, v) :: rest => by simp [exclFields, tailsOf, excl_nil rest]

theorem excl_dget_id {ps : List Path} (hid : tailsOf "_id" ps = []) :
    ∀ fs : Fields, dget "_id" (exclFields fs ps) = dget "_id" fs
  | [] => by simp [exclFields]
  | (k, v) :: rest => by
    have ih := excl_dget_id hid rest
    by_cases e : k = "_id"
    · subst e; simp [exclFields, hid, dget]
    · simp only [exclFields]
      split
      · simp [dget, e, ih]
      · split
        · simp [dget, e, ih]
        · simp [dget, e, ih]

theorem excl_id_absent {ps : List Path} : ∀ {fs : Fields}, NoId fs →
    exclFields fs (["_id"] :: ps) = exclFields fs ps
  | [], _ => by simp [exclFields]
  | (k, v) :: rest, h => by
    have e : ¬ "_id" = k := fun x => h (k, v) (by simp) x.symm
    have ih := excl_id_absent (ps := ps) (fs := rest) (fun x hx => h x (by simp [hx]))
    simp [exclFields, tailsOf_id_cons, e, ih]

theorem excl_id_erase {ps : List Path} (hid : tailsOf "_id" ps = []) :
    ∀ {fs : Fields}, (dkeys fs).Nodup →
      derase "_id" (exclFields fs ps) = exclFields fs (["_id"] :: ps)
  | [], _ => by simp [exclFields, derase]
  | (k, v) :: rest, h => by
    simp only [dkeys, List.map_cons, List.nodup_cons] at h
    by_cases e : k = "_id"
    · subst e
      have hno : NoId rest := fun kv hkv e' => h.1 (List.mem_map.mpr ⟨kv, hkv, e'⟩)
      simp [exclFields, hid, derase, tailsOf_id_cons, excl_id_absent hno]
    · have e' : ¬ "_id" = k := fun x => e x.symm
      have ih := excl_id_erase hid (fs := rest) h.2
      simp only [exclFields, tailsOf_id_cons, e', if_false]
      split
      · simp [derase, e, ih]
      · split
        · exact ih
        · simp [derase, e, ih]

end MongoModel.Proofs.C12
