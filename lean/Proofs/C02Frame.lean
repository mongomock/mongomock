/-
  Proofs.C02Frame — every field of every operator edits the document at most at the top-level key
  its path starts with, decided by the value held there (`EditsKey`); hence the operator loop
  `applyOps` is a sequence of such edits at the keys the update addresses (`applyOps_touches`),
  which leaves every other top-level field alone (`applyOps_frame`).
-/
import Spec.UpdateSpecExt
import Proofs.C02Ops


namespace MongoModel.Proofs.C02Lemmas
open MongoModel MongoModel.Spec

theorem splitDots_cons (field : String) :
    splitDots field = headOf field :: (splitDots field).tail := by
  unfold headOf
  have h := splitDots_ne_nil field
  cases hs : splitDots field with
  | nil => exact absurd hs h
  | cons a r => simp

theorem headOf_nodot (s : String) (h : s.toList.contains '.' = false) : headOf s = s := by
  rw [headOf, splitDots_nodot s h]
  rfl

theorem withSubdoc_editsKey {f : Val → String → R Val} {create : Bool} {p : String}
    {rest : List String} {fol : Bool} {ss : Val} (hf : EditsKey p (fun d => f d p)) :
    EditsKey p (withSubdoc f create (p :: rest) fol ss) := by
  intro fs gs hg
  cases rest with
  | nil => exact hf fs gs hg
  | cons q rest =>
    unfold withSubdoc
    dsimp only
    rw [← hg]
    refine ite_rel _ (fun _ => .keep) fun _ => ?_
    generalize (ite ((!fol) = true) _ _ : Bool × Val × Bool) = t
    obtain ⟨fol', ss', bad⟩ := t
    exact ite_rel _ (fun _ => .err _) fun _ => SameEdit.bindSet _ _ _ _

theorem fieldStep_editsKey (u : Updater) (now : Val) (kv : String × Val) :
    EditsKey (headOf kv.1) (fun d => if !keyOk kv.1 then unmodelled
      else updateSingleField u now kv.2 (splitDots kv.1) d) := by
  intro fs gs hg
  refine ite_rel _ (fun _ => .err _) fun _ => ?_
  rw [splitDots_cons]
  exact usf_editsKey u now kv.2 _ _ fs gs hg

theorem addToSetAt_editsKey (value : Val) (last : String) :
    EditsKey last (fun d => addToSetAt value d last) := by
  intro fs gs hg
  simp only [addToSetAt, ← hg]
  exact SameEdit.bindSet _ _ _ _

theorem addToSetField_editsKey (spec : Val) (field : String) (value : Val) :
    EditsKey (headOf field) (fun d => addToSetField spec d field value) := by
  intro fs gs hg
  show SameEdit _ fs gs (addToSetField spec (.doc fs) field value)
    (addToSetField spec (.doc gs) field value)
  unfold addToSetField
  refine ite_rel _ (fun _ => .err _) fun _ => ite_rel _ (fun _ => .err _) fun _ => ?_
  rw [splitDots_cons]
  cases (splitDots field).tail with
  | nil => exact addToSetAt_editsKey value _ fs gs hg
  | cons q rest =>
    dsimp only
    rw [show docsAlong (headOf field :: q :: rest) (.doc fs) =
      docsAlong (headOf field :: q :: rest) (.doc gs) by simp only [docsAlong, hg]]
    exact ite_rel _ (fun _ => .err _) fun _ =>
      withSubdoc_editsKey (addToSetAt_editsKey value _) fs gs hg

theorem pullField_editsKey (field : String) (value : Val) :
    EditsKey (headOf field) (fun d => pullField d field value) := by
  intro fs gs hg
  show SameEdit _ fs gs (pullField (.doc fs) field value) (pullField (.doc gs) field value)
  unfold pullField
  refine ite_rel _ (fun _ => .err _) fun _ => ite_rel _ (fun _ => .err _) fun _ => ?_
  rw [splitDots_cons]
  unfold pullWalk
  dsimp only
  rw [← hg]
  cases dget (headOf field) fs with
  | none => exact .keep
  | some sub => exact SameEdit.bindSet _ _ _ _

theorem pullAllAt_editsKey (value : Val) (last : String) :
    EditsKey last (fun d => pullAllAt value d last) := by
  intro fs gs hg
  simp only [pullAllAt, ← hg]
  cases dget last fs with
  | none => exact .keep
  | some cur => exact SameEdit.bindSet _ _ _ _

theorem pullAllField_editsKey (spec : Val) (field : String) (value : Val) :
    EditsKey (headOf field) (fun d => pullAllField spec d field value) := by
  intro fs gs hg
  show SameEdit _ fs gs (pullAllField spec (.doc fs) field value)
    (pullAllField spec (.doc gs) field value)
  unfold pullAllField
  refine ite_rel _ (fun _ => .err _) fun _ => ite_rel _ (fun _ => .err _) fun _ => ?_
  rw [splitDots_cons]
  cases (splitDots field).tail with
  | nil => exact pullAllAt_editsKey value _ fs gs hg
  | cons q rest => exact withSubdoc_editsKey (pullAllAt_editsKey value _) fs gs hg

theorem pushAt_editsKey (value : Val) (last : String) :
    EditsKey last (fun d => pushAt value d last) := by
  intro fs gs hg
  simp only [pushAt, ← hg]
  exact SameEdit.bindSet _ _ _ _

theorem pushField_editsKey (spec : Val) (field : String) (value : Val) :
    EditsKey (headOf field) (fun d => pushField spec d field value) := by
  intro fs gs hg
  show SameEdit _ fs gs (pushField spec (.doc fs) field value) (pushField spec (.doc gs) field value)
  unfold pushField
  refine ite_rel _ (fun _ => .err _) fun _ => ite_rel _ (fun _ => .err _) fun _ => ?_
  rw [splitDots_cons]
  exact withSubdoc_editsKey (pushAt_editsKey value _) fs gs hg

theorem fieldStep_touch (u : Updater) (now : Val) (kv : String × Val) (fs : Fields) (d' : Val)
    (h : (if !keyOk kv.1 then unmodelled
          else updateSingleField u now kv.2 (splitDots kv.1) (.doc fs)) = .ok d') :
    ∃ fs', d' = .doc fs' ∧ Touch (headOf kv.1) fs fs' :=
  (fieldStep_editsKey u now kv).touch h

theorem addToSetField_touch (spec : Val) (fs : Fields) (field : String) (value d' : Val)
    (h : addToSetField spec (.doc fs) field value = .ok d') :
    ∃ fs', d' = .doc fs' ∧ Touch (headOf field) fs fs' :=
  (addToSetField_editsKey spec field value).touch h

theorem pullField_touch (fs : Fields) (field : String) (value d' : Val)
    (h : pullField (.doc fs) field value = .ok d') :
    ∃ fs', d' = .doc fs' ∧ Touch (headOf field) fs fs' :=
  (pullField_editsKey field value).touch h

theorem pullAllField_touch (spec : Val) (fs : Fields) (field : String) (value d' : Val)
    (h : pullAllField spec (.doc fs) field value = .ok d') :
    ∃ fs', d' = .doc fs' ∧ Touch (headOf field) fs fs' :=
  (pullAllField_editsKey spec field value).touch h

theorem pushField_touch (spec : Val) (fs : Fields) (field : String) (value d' : Val)
    (h : pushField spec (.doc fs) field value = .ok d') :
    ∃ fs', d' = .doc fs' ∧ Touch (headOf field) fs fs' :=
  (pushField_editsKey spec field value).touch h

/-- a successful outcome is the value `d` itself -/
def Unchanged (d : Val) (r : R Val) : Prop := ∀ d', r = .ok d' → d' = d

theorem Unchanged.bind {d sub : Val} {X : R Val} {put : Val → Val} (hX : Unchanged sub X)
    (hp : put sub = d) : Unchanged d (X >>= fun s => pure (put s)) := by
  intro d' h
  obtain ⟨s, h1, h2⟩ := bind_ok h
  cases h2
  rw [hX s h1, hp]

theorem getPath_single_doc_none {last : String} {ps : Fields}
    (h : getPath [last] (.doc ps) = none) : dget last ps = none := by
  cases hg : dget last ps with
  | none => rfl
  | some v => simp [getPath, hg] at h

/-- `$pullAll` (`create = false`) on a path that does not exist: a successful walk leaves the value
    as it is, when `f` does at a missing last component (for `pullAll_missing_path_noop`,
    Proofs/C02.lean) -/
theorem withSubdoc_nocreate_missing (f : Val → String → R Val)
    (hf : ∀ parent last, getPath [last] parent = none → Unchanged parent (f parent last)) :
    ∀ (parts : List String) (fol : Bool) (ss d : Val), parts ≠ [] →
      getPath parts d = none → Unchanged d (withSubdoc f false parts fol ss d)
  | [], _, _, _, hp, _ => absurd rfl hp
  | [last], fol, ss, d, _, hm => by
    unfold withSubdoc
    cases d with
    | arr xs =>
      refine ite_prop _ (fun _ => nofun) fun _ => ?_
      cases pyInt? last with
      | none => exact nofun
      | some i => exact hf _ _ hm
    | _ => exact hf _ _ hm
  | part :: q :: rest, fol, ss, d, _, hm => by
    unfold withSubdoc
    cases d with
    | arr xs =>
      refine ite_prop _ (fun _ => nofun) fun _ => ?_
      rw [getPath] at hm
      cases hi : pyInt? part with
      | none => exact nofun
      | some i =>
        rw [hi] at hm
        dsimp only at hm ⊢
        refine ite_prop _ (fun _ => nofun) fun hneg => ?_
        rw [if_neg hneg] at hm
        cases hx : xs[i.toNat]? with
        | none => exact nofun
        | some sub =>
          rw [hx] at hm
          exact (withSubdoc_nocreate_missing f hf (q :: rest) _ _ sub (List.cons_ne_nil _ _)
            hm).bind (Into.arr hi hneg hx).self
    | doc fs =>
      rw [getPath] at hm
      dsimp only
      cases hg : dget part fs with
      | none => exact ite_prop _ (fun _ d' h => by cases h; rfl) fun h => absurd rfl h
      | some sub =>
        rw [hg] at hm
        refine ite_prop _ (fun h => by cases h) fun _ => ?_
        generalize (ite ((!fol) = true) _ _ : Bool × Val × Bool) = t
        obtain ⟨fol', ss', bad⟩ := t
        refine ite_prop _ (fun _ => nofun) fun _ => ?_
        exact (withSubdoc_nocreate_missing f hf (q :: rest) _ _ sub (List.cons_ne_nil _ _)
          hm).bind (Into.doc hg).self
    | str s => exact ite_prop _ (fun _ => fun d' h => by cases h; rfl) fun _ => nofun
    | _ => exact nofun

/-- every top-level key outside `ks` reads the same in `fs'` as in `fs` -/
def Frame (ks : List String) (fs fs' : Fields) : Prop := ∀ k, k ∉ ks → dget k fs' = dget k fs

/-- `fs'` comes from `fs` by a sequence of edits, each of one top-level key in `ks` -/
inductive Touches (ks : List String) : Fields → Fields → Prop
  | refl (fs : Fields) : Touches ks fs fs
  | step {p : String} {fs fs1 fs2 : Fields} : p ∈ ks → Touch p fs fs1 → Touches ks fs1 fs2 →
      Touches ks fs fs2

theorem Touch.touches {p : String} {fs fs' : Fields} (h : Touch p fs fs') {ks : List String}
    (hp : p ∈ ks) : Touches ks fs fs' := .step hp h (.refl _)

theorem Touches.mono {ks ks' : List String} {fs fs' : Fields} (h : Touches ks fs fs')
    (hs : ∀ k, k ∈ ks → k ∈ ks') : Touches ks' fs fs' := by
  induction h with
  | refl fs => exact .refl fs
  | step hp ht _ ih => exact .step (hs _ hp) ht ih

theorem Touches.trans {ks : List String} {fs fs1 fs2 : Fields} (h1 : Touches ks fs fs1)
    (h2 : Touches ks fs1 fs2) : Touches ks fs fs2 := by
  induction h1 with
  | refl fs => exact h2
  | step hp ht _ ih => exact .step hp ht (ih h2)

theorem Touches.append {ks ks' : List String} {fs fs1 fs2 : Fields} (h1 : Touches ks fs fs1)
    (h2 : Touches ks' fs1 fs2) : Touches (ks ++ ks') fs fs2 :=
  (h1.mono fun _ h => List.mem_append_left _ h).trans (h2.mono fun _ h => List.mem_append_right _ h)

/-- what every single edit at a key of `ks` preserves, the sequence preserves -/
theorem Touches.preserves {P : Fields → Prop} {ks : List String} {fs fs' : Fields}
    (hP : ∀ p, p ∈ ks → ∀ fs fs', Touch p fs fs' → P fs → P fs') (h : Touches ks fs fs') :
    P fs → P fs' := by
  induction h with
  | refl fs => exact id
  | step hp ht _ ih => exact fun h0 => ih (hP _ hp _ _ ht h0)

theorem Touches.frame {ks : List String} {fs fs' : Fields} (h : Touches ks fs fs') :
    Frame ks fs fs' := by
  intro k hk
  induction h with
  | refl fs => rfl
  | step hp ht _ ih => rw [ih, ht.dget (fun e : k = _ => hk (e ▸ hp))]

theorem foldlM_touches {σ : Type} (docOf : σ → Val) (step : σ → (String × Val) → R σ)
    (keyOf : String × Val → List String)
    (hstep : ∀ s kv s' fs, docOf s = .doc fs → step s kv = .ok s' →
      ∃ fs', docOf s' = .doc fs' ∧ Touches (keyOf kv) fs fs') :
    ∀ (body : Fields) (s s' : σ) (fs : Fields), docOf s = .doc fs → body.foldlM step s = .ok s' →
      ∃ fs', docOf s' = .doc fs' ∧ Touches (body.flatMap keyOf) fs fs'
  | [], s, s', fs, hd, h => by
    cases h; exact ⟨fs, hd, .refl _⟩
  | kv :: body, s, s', fs, hd, h => by
    obtain ⟨s1, h1, h2⟩ := bind_ok h
    obtain ⟨fs1, hd1, hf1⟩ := hstep s kv s1 fs hd h1
    obtain ⟨fs2, hd2, hf2⟩ := foldlM_touches docOf step keyOf hstep body s1 s' fs1 hd1 h2
    exact ⟨fs2, hd2, hf1.append hf2⟩

/-- the top-level keys one operator `k : v` addresses -/
def opAddr (k : String) (v : Val) : List String :=
  match v with
  | .doc body => body.flatMap (fun fv =>
      headOf fv.1 :: (if k = "$rename" then (match fv.2 with | .str d => [d] | _ => []) else []))
  | _ => []

theorem addressed_cons (k : String) (v : Val) (rest : Fields) :
    addressed ((k, v) :: rest) = opAddr k v ++ addressed rest := by
  simp only [addressed, opAddr, List.flatMap_cons]
  cases v <;> rfl

theorem updateFields_touches (u : Updater) (now v : Val) (fs : Fields) (d' : Val) (k : String)
    (h : updateFields u now v (.doc fs) = .ok d') :
    ∃ fs', d' = .doc fs' ∧ Touches (opAddr k v) fs fs' := by
  cases v with
  | doc body =>
    simp only [updateFields] at h
    split at h
    · cases h
    · refine foldlM_touches id _ _ ?_ body _ d' fs rfl h
      intro d0 kv d1 fs0 hd0 h0
      cases hd0
      obtain ⟨fs1, rfl, ht⟩ := fieldStep_touch u now kv fs0 d1 h0
      exact ⟨fs1, rfl, ht.touches (List.mem_cons_self ..)⟩
  | _ => simp [updateFields] at h

theorem eachField_touches (f : Val → String → Val → R Val)
    (hf : ∀ fs field value d', f (.doc fs) field value = .ok d' →
      ∃ fs', d' = .doc fs' ∧ Touch (headOf field) fs fs')
    (v : Val) (fs : Fields) (d' : Val) (k : String)
    (h : eachField v (.doc fs) f = .ok d') :
    ∃ fs', d' = .doc fs' ∧ Touches (opAddr k v) fs fs' := by
  cases v with
  | doc body =>
    refine foldlM_touches id _ _ ?_ body _ d' fs rfl h
    intro d0 kv d1 fs0 hd0 h0
    cases hd0
    obtain ⟨fs1, rfl, ht⟩ := hf fs0 kv.1 kv.2 d1 h0
    exact ⟨fs1, rfl, ht.touches (List.mem_cons_self ..)⟩
  | _ => simp [eachField] at h

theorem renameFields_touches (v : Val) (fs : Fields) (d' : Val)
    (h : renameFields v (.doc fs) = .ok d') :
    ∃ fs', d' = .doc fs' ∧ Touches (opAddr "$rename" v) fs fs' := by
  cases v with
  | doc body =>
    simp only [opAddr, if_true]
    refine foldlM_touches id _ _ ?_ body _ d' fs rfl h
    intro d0 kv d1 fs0 hd0 h0
    cases hd0
    obtain ⟨src, dstv⟩ := kv
    simp only [id] at h0 ⊢
    split at h0
    · rename_i dst
      split at h0
      · cases h0
      · rename_i hdots
        simp only [Bool.or_eq_true, not_or, Bool.not_eq_true] at hdots
        split at h0
        · cases h0
          rw [headOf_nodot src hdots.1]
          exact ⟨_, rfl, .step (List.mem_cons_self ..) (.inr (.inr rfl))
            (.step (List.mem_cons_of_mem _ (List.mem_cons_self ..)) (.inr (.inl ⟨_, rfl⟩))
              (.refl _))⟩
        · cases h0; exact ⟨_, rfl, .refl _⟩
    · cases h0
    · cases h0
    · split at h0 <;> cases h0
  | _ => simp [renameFields, eachField] at h

/-- the in-line array operators -/
inductive ArrayOp where
  | addToSet | pull | pullAll | push

/-- how the operator loop takes a key of the update: an `_updaters` function run over the fields
    of its document (`$setOnInsert` on an insert and `$currentDate` too), an in-line array
    operator, `$rename`, a `$setOnInsert` that is skipped, or no operator at all -/
inductive OpClass where
  | fields (u : Updater) | each (a : ArrayOp) | rename | skip | unknown

def opClass (wi : Bool) (k : String) : OpClass :=
  match updaterOf k with
  | some u => .fields u
  | none =>
    if k = "$rename" then .rename
    else if k = "$setOnInsert" then (if !wi then .skip else .fields .set)
    else if k = "$currentDate" then .fields .currentDate
    else if k = "$addToSet" then .each .addToSet
    else if k = "$pull" then .each .pull
    else if k = "$pullAll" then .each .pullAll
    else if k = "$push" then .each .push
    else .unknown

/-- what the class says about the key: only `$rename` is of class `rename`, and a key of class
    `unknown` is none of the operator names -/
theorem opClass_key (wi : Bool) (k : String) :
    match opClass wi k with
    | .rename => k = "$rename"
    | .unknown => operatorNames.contains k = false
    | _ => k ≠ "$rename" := by
  let F : OpClass → Prop := fun c =>
    match c with
    | .rename => k = "$rename"
    | .unknown => operatorNames.contains k = false
    | _ => k ≠ "$rename"
  show F _
  unfold opClass
  cases hu : updaterOf k with
  | some u =>
    rintro rfl
    rw [show updaterOf "$rename" = none by decide +kernel] at hu
    cases hu
  | none =>
    have n : ∀ s, updaterOf s ≠ none → k ≠ s := fun s hs e => hs (e ▸ hu)
    refine ite_prop F (fun h1 => h1) fun h1 => ?_
    refine ite_prop F (fun _ => ite_prop F (fun _ => h1) fun _ => h1) fun h2 => ?_
    refine ite_prop F (fun _ => h1) fun h4 => ite_prop F (fun _ => h1) fun h5 =>
      ite_prop F (fun _ => h1) fun h6 => ite_prop F (fun _ => h1) fun h7 =>
      ite_prop F (fun _ => h1) fun h8 => ?_
    show operatorNames.contains k = false
    simp [operatorNames, h1, h2, h4, h5, h6, h7, h8, n "$set" (by decide +kernel),
      n "$unset" (by decide +kernel), n "$inc" (by decide +kernel), n "$max" (by decide +kernel),
      n "$min" (by decide +kernel), n "$pop" (by decide +kernel)]

theorem opClass_addToSet (wi : Bool) : opClass wi "$addToSet" = .each .addToSet := by
  cases wi <;> rfl

theorem opClass_push (wi : Bool) : opClass wi "$push" = .each .push := by
  cases wi <;> rfl

def arrayField (spec : Val) : ArrayOp → Val → String → Val → R Val
  | .addToSet => addToSetField spec
  | .pull => pullField
  | .pullAll => pullAllField spec
  | .push => pushField spec

theorem arrayField_editsKey (spec : Val) (a : ArrayOp) (field : String) (value : Val) :
    EditsKey (headOf field) (fun d => arrayField spec a d field value) := by
  cases a
  · exact addToSetField_editsKey spec field value
  · exact pullField_editsKey field value
  · exact pullAllField_editsKey spec field value
  · exact pushField_editsKey spec field value

/-- what an operator of class `c` with the document `v` does to the document `d` (`none`: no
    operator) -/
def opRun? (spec now : Val) (c : OpClass) (v d : Val) : Option (R Val) :=
  match c with
  | .fields u => some (updateFields u now v d)
  | .each a => some (eachField v d (arrayField spec a))
  | .rename => some (renameFields v d)
  | .skip => some (.ok d)
  | .unknown => none

/-- one round of `applyOps`: the operator is run and the loop goes on (the flag it goes on with
    plays no role for what follows), or `k` is no operator -/
theorem applyOps_cons (spec now : Val) (wi : Bool) (whole : Fields) (k : String) (v : Val)
    (rest : Fields) (first : Bool) (d : Val) :
    ∃ first', applyOps spec now wi whole ((k, v) :: rest) first d =
      match opRun? spec now (opClass wi k) v d with
      | some X => X.bind (applyOps spec now wi whole rest first')
      | none => if first then replaceWhole whole d else .error .valueErr := by
  let F : R Val → OpClass → Prop := fun L c => ∃ first', L =
    match opRun? spec now c v d with
    | some X => X.bind (applyOps spec now wi whole rest first')
    | none => if first then replaceWhole whole d else .error .valueErr
  show F _ _
  unfold applyOps opClass
  cases updaterOf k with
  | some u => exact ⟨false, rfl⟩
  | none =>
    refine ite_rel F (fun _ => ⟨false, rfl⟩) fun _ => ?_
    refine ite_rel F (fun _ => ite_rel F (fun _ => ⟨first, rfl⟩) fun _ => ⟨false, rfl⟩) fun _ => ?_
    iterate 5 refine ite_rel F (fun _ => ⟨false, rfl⟩) fun _ => ?_
    exact ⟨false, rfl⟩

/-- a successful operator edits the document at keys it addresses, one at a time -/
theorem opRun?_touches (spec now : Val) (wi : Bool) (k : String) (v : Val) (fs : Fields)
    (X : R Val) (d1 : Val) (hX : opRun? spec now (opClass wi k) v (.doc fs) = some X)
    (h : X = .ok d1) : ∃ fs1, d1 = .doc fs1 ∧ Touches (opAddr k v) fs fs1 := by
  cases hc : opClass wi k with
  | fields u =>
    rw [hc] at hX; cases hX
    exact updateFields_touches u now v fs d1 k h
  | each a =>
    rw [hc] at hX; cases hX
    exact eachField_touches _ (fun fs0 p a0 d0 h0 => (arrayField_editsKey spec a p a0).touch h0)
      v fs d1 k h
  | rename =>
    rw [hc] at hX; cases hX
    have hk := opClass_key wi k
    rw [hc] at hk
    cases hk
    exact renameFields_touches v fs d1 h
  | skip =>
    rw [hc] at hX; cases hX; cases h
    exact ⟨fs, rfl, .refl _⟩
  | unknown => rw [hc] at hX; cases hX

theorem applyOps_step (spec now : Val) (wi : Bool) (whole : Fields) (k : String) (v : Val)
    (rest : Fields) (first : Bool) (fs : Fields) (d' : Val)
    (h : applyOps spec now wi whole ((k, v) :: rest) first (.doc fs) = .ok d') :
    (∃ fs1 first', Touches (opAddr k v) fs fs1 ∧
      applyOps spec now wi whole rest first' (.doc fs1) = .ok d') ∨
    replaceWhole whole (.doc fs) = .ok d' := by
  obtain ⟨first', he⟩ := applyOps_cons spec now wi whole k v rest first (.doc fs)
  rw [he] at h
  cases hX : opRun? spec now (opClass wi k) v (.doc fs) with
  | some X =>
    rw [hX] at h
    obtain ⟨d1, h1, h2⟩ := bind_ok h
    obtain ⟨fs1, rfl, ht⟩ := opRun?_touches spec now wi k v fs X d1 hX h1
    exact .inl ⟨fs1, first', ht, h2⟩
  | none =>
    rw [hX] at h
    cases first with
    | true => exact .inr h
    | false => cases h

/-- **the operator loop is a sequence of edits of addressed top-level keys** (followed by the
    replacement of the whole document when a key that is no operator comes first) -/
theorem applyOps_touches (spec now : Val) (wi : Bool) (whole : Fields) :
    ∀ (ops : Fields) (first : Bool) (fs : Fields) (d' : Val),
      applyOps spec now wi whole ops first (.doc fs) = .ok d' →
      ∃ fs1, Touches (addressed ops) fs fs1 ∧
        (d' = .doc fs1 ∨ replaceWhole whole (.doc fs1) = .ok d')
  | [], first, fs, d', h => by
    cases h; exact ⟨fs, .refl _, .inl rfl⟩
  | (k, v) :: rest, first, fs, d', h => by
    rw [addressed_cons]
    rcases applyOps_step spec now wi whole k v rest first fs d' h with ⟨fs1, first', ht, h1⟩ | hr
    · obtain ⟨fs2, ht2, hd⟩ := applyOps_touches spec now wi whole rest first' fs1 d' h1
      exact ⟨fs2, ht.append ht2, hd⟩
    · exact ⟨fs, .refl _, .inr hr⟩

theorem replaceWhole_dollar (whole : Fields) (d : Val)
    (hw : whole.any (fun kv => kv.1.startsWith "$") = true) :
    replaceWhole whole d = .error .valueErr := by
  simp only [replaceWhole, hw, if_true]

theorem applyOps_frame (spec now : Val) (wi : Bool) (whole : Fields)
    (hw : whole.any (fun kv => kv.1.startsWith "$") = true)
    (ops : Fields) (first : Bool) (fs : Fields) (d' : Val)
    (h : applyOps spec now wi whole ops first (.doc fs) = .ok d') :
    ∃ fs', d' = .doc fs' ∧ Frame (addressed ops) fs fs' := by
  obtain ⟨fs1, ht, hd | hr⟩ := applyOps_touches spec now wi whole ops first fs d' h
  · exact ⟨fs1, hd, ht.frame⟩
  · rw [replaceWhole_dollar whole _ hw] at hr; cases hr

end MongoModel.Proofs.C02Lemmas
