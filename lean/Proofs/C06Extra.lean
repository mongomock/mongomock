/-
  Proofs.C06Extra — the single-operation statements of C06.  A duplicate insert cannot succeed:
  the stored document and the new one would be two hits of the look-up `_ensure_uniques` issues
  (`checked_pair'`).  It fails with DuplicateKeyError when nothing raises before the hits are
  counted: the look-up is total on value-keyed documents (`query_total`) and `ix` is the only
  unique index (`ensureFold_dup`).  `create_index`: the pre-check is total on value-keyed
  documents (`precheck_total`), so over duplicates it can only end in DuplicateKeyError.
-/
import Proofs.C06Step

namespace MongoModel.Proofs.C06Lemmas
open MongoModel MongoModel.Spec
open MongoModel.Proofs.C01Lemmas (applyFields_cons applyHead)
open MongoModel.Proofs.C05Lemmas (ensureStep ensureUniques_eq iterDocuments_ok
  ensureUniques_noTtl insertDoc_eq insertCore_spec storeDoc_fresh setDoc_indexes preCreate
  preCreate_ok go_eq createIndexColl_ok)

theorem insert_dup_rejected (now : Int) (c : Coll) (fs : Fields) (ix : Index) (p : Val × Val)
    (hdf : distinctFields ix = true) (hsp : valueKeys ix p.2 = true)
    (hix : ix ∈ c.indexes) (hu : ix.unique = true) (hnt : c.ttlIndexes = [])
    (hp : p ∈ c.docs) (hcp : covers ix p.2 = true) (hcd : covers ix (patchDT (.doc fs)) = true)
    (hsd : valueKeys ix (patchDT (.doc fs)) = true)
    (heq : keyEq (keyVals ix p.2) (keyVals ix (patchDT (.doc fs))) = true)
    (hid : dhas "_id" fs = true) (c' : Coll) (id : Val) :
    insertDoc now c (.doc fs) ≠ .ok (c', id) := by
  intro h
  rw [insertDoc_eq, if_pos hid] at h
  obtain ⟨_, _, c1, he, hhas, h3⟩ := insertCore_spec now c fs c' id hid h
  rw [C09Lemmas.expire_nil now c hnt] at he
  cases he
  have hck := ensureUniques_ok h3 ix (by rw [storeDoc_indexes, setDoc_indexes]; exact hix)
  rw [ensureUniques_noTtl now _ _ _ (by simp [Coll.setDoc, hhas, hnt]) h3,
    storeDoc_fresh _ _ _ hhas] at hck
  have := checked_pair' hck hu hdf ((List.singleton_sublist.2 hp).append (.refl _)) hsp hcp hsd hcd
    (.inr rfl)
  exact absurd (heq.symm.trans this) (by decide)

theorem createIndex_ok_shape {now : Int} {c c' : Coll} {ix : Index} {name : String}
    (h : createIndexColl now c ix = (c', .ok name)) :
    ∃ c1, preCreate now c ix = .ok c1 ∧ c'.docs = c1.docs := by
  rcases createIndexColl_ok now c ix with ⟨_, e, he⟩ | ⟨c1, t, hpre, he⟩
  · rw [h] at he; cases he
  · rw [h] at he; cases he; exact ⟨c1, hpre, rfl⟩

theorem covers_plain {ix : Index} (hpf : ix.partialFilter = none) (hns : ix.sparse = false)
    (d : Val) : covers ix d = true := by
  rw [covers_eq, hns]
  unfold pfOk
  rw [hpf]
  rfl

theorem tupleFold_total (keys : List (String × Val)) (d : Val) (acc : List Val × Nat)
    (hok : OkKeys keys d) : ∃ r, keys.foldlM (tupleStep d) acc = .ok r := by
  induction keys generalizing acc with
  | nil => exact ⟨acc, rfl⟩
  | cons k keys ih =>
    rw [List.foldlM_cons]
    have hk := hok k (List.mem_cons_self ..)
    have hs : ∃ acc', tupleStep d acc k = .ok acc' := by
      unfold tupleStep
      rcases okField_get hk with ⟨v, _, hg, _⟩ | ⟨hg, _⟩ <;> rw [hg] <;> exact ⟨_, rfl⟩
    obtain ⟨acc', hs⟩ := hs
    rw [hs]
    exact ih acc' (fun k' h' => hok k' (List.mem_cons_of_mem _ h'))

theorem precheck_total (keys : List (String × Val)) (docs : List (Val × Val))
    (seen : List (List Val)) (hok : ∀ p ∈ docs, OkKeys keys p.2) :
    precheckUnique keys false none docs seen = .ok () ∨
    precheckUnique keys false none docs seen = .error .dupKey := by
  induction docs generalizing seen with
  | nil => left; unfold precheckUnique; rfl
  | cons p docs ih =>
    obtain ⟨k, d⟩ := p
    have hok' : ∀ p ∈ docs, OkKeys keys p.2 := fun p hp => hok p (List.mem_cons_of_mem _ hp)
    obtain ⟨r, hr⟩ := tupleFold_total keys d ([], 0) (hok (k, d) (List.mem_cons_self ..))
    obtain ⟨t, m⟩ := r
    unfold precheckUnique
    rw [indexTuple_eq, hr]
    simp only [bind, Except.bind, Bool.false_and, Bool.false_eq_true, if_false, pure, Except.pure,
      Bool.not_true]
    split
    · right; rfl
    · exact ih _ hok'

theorem create_over_dups (now : Int) (c : Coll) (ix : Index) (a b : Val × Val)
    (hu : ix.unique = true) (hnt : c.ttlIndexes = []) (hnew : ∀ i ∈ c.indexes, i.name ≠ ix.name)
    (hsc : ∀ p ∈ c.docs, valueKeys ix p.2 = true) (hpf : ix.partialFilter = none)
    (hns : ix.sparse = false) (hab : [a, b].Sublist c.docs)
    (heq : keyEq (keyVals ix a.2) (keyVals ix b.2) = true) :
    createIndexColl now c ix = (c, .error .dupKey) := by
  have hfind : c.indexes.find? (fun i => i.name == ix.name) = none := by
    rw [List.find?_eq_none]
    intro i hi
    simpa using hnew i hi
  have hpc : precheckUnique ix.keys ix.sparse ix.partialFilter c.docs [] = .error .dupKey := by
    have htot := precheck_total ix.keys c.docs [] (fun p hp => okKeys_of_valueKeys (hsc p hp))
    rw [← hns, ← hpf] at htot
    rcases htot with h | h
    · have := (precheck_ok ix c.docs [] h).2 a b hab (covers_plain hpf hns _) (covers_plain hpf hns _)
      rw [heq] at this
      cases this
    · exact h
  have hpre : preCreate now c ix = .error .dupKey := by
    unfold preCreate
    simp only [hu, if_true, C09Lemmas.expire_nil now c hnt, bind, Except.bind, hpc]
  have hrc : refusedCreate now c ix = c := by
    unfold refusedCreate
    simp only [hu, if_true, C09Lemmas.expire_nil now c hnt]
  unfold createIndexColl
  rw [hfind]
  simp only
  rw [go_eq, hpre]
  simp only [hrc]

/-- the look-up raises on no value-keyed document on which the partial filter does not raise -/
theorem query_total (ix : Index) (new e : Val) (he : OkKeys ix.keys e)
    (hp : ∀ f, ix.partialFilter = some f → ∃ b, filterApplies f e = .ok b) :
    ∃ b, filterApplies (queryOf ix (kwOf ix.keys new)) e = .ok b := by
  cases hpf : ix.partialFilter with
  | none => exact ⟨_, query_eval ix _ e true _ (by rw [hpf]) (applyFields_kw ix.keys new e he)⟩
  | some f =>
    obtain ⟨b, hf⟩ := hp f hpf
    exact ⟨_, query_eval ix _ e b _ (by rw [hpf]; exact hf) (applyFields_kw ix.keys new e he)⟩

theorem filterMapM_total {α β : Type} (g : α → R (Option β)) (l : List α)
    (h : ∀ a ∈ l, ∃ o, g a = .ok o) : ∃ ms, l.filterMapM g = Except.ok ms := by
  induction l with
  | nil => exact ⟨[], rfl⟩
  | cons a l ih =>
    obtain ⟨o, ho⟩ := h a (List.mem_cons_self ..)
    obtain ⟨ms, hms⟩ := ih (fun a' h' => h a' (List.mem_cons_of_mem _ h'))
    rw [List.filterMapM_cons, ho, hms]
    cases o <;> simp [bind, Except.bind, pure, Except.pure]

theorem iterDocuments_total {now : Int} {c : Coll} {f : Val} (he : expire now c = .ok c)
    (hne : c.docs.isEmpty = false) (h : ∀ p ∈ c.docs, ∃ b, filterApplies f p.2 = .ok b) :
    ∃ ms, iterDocuments now c f = .ok (c, ms) := by
  obtain ⟨ms, hms⟩ := filterMapM_total (fun p : Val × Val => do
      let b ← filterApplies f p.2
      pure (if b then some p.2 else none)) c.docs (by
    intro p hp
    obtain ⟨b, hb⟩ := h p hp
    exact ⟨if b then some p.2 else none, by simp only [hb, bind, Except.bind, pure, Except.pure]⟩)
  refine ⟨ms, ?_⟩
  unfold iterDocuments
  simp only [he, bind, Except.bind, hne, Bool.false_eq_true, if_false, pure, Except.pure]
  simp only [bind, Except.bind, pure, Except.pure] at hms
  rw [hms]

theorem ensureStep_dup {now : Int} {c : Coll} {new : Val} {ix : Index} {a b : Val × Val}
    (he : expire now c = .ok c) (hu : ix.unique = true) (hd : distinctFields ix = true)
    (hsc : ∀ p ∈ c.docs, valueKeys ix p.2 = true) (hsn : valueKeys ix new = true)
    (hcn : covers ix new = true)
    (hpf : ∀ f, ix.partialFilter = some f → ∀ q ∈ c.docs, ∃ b, filterApplies f q.2 = .ok b)
    (hab : [a, b].Sublist c.docs) (ca : covers ix a.2 = true) (cb : covers ix b.2 = true)
    (ka : keyEq (kv ix.keys a.2) (kv ix.keys new) = true)
    (kb : keyEq (kv ix.keys b.2) (kv ix.keys new) = true) :
    ensureStep now new c ix = .error .dupKey := by
  have okn := okKeys_of_valueKeys hsn
  have hv := valuesFor_ok ix.keys new okn (distinctFields_nodup hd)
  rw [covers_eq, Bool.and_eq_true, Bool.not_eq_true'] at hcn
  have hskip : (ix.sparse && (kwOf ix.keys new).all isNullCond) = false := by
    rw [kwOf_all_null]; exact hcn.1
  obtain ⟨ma, mb⟩ := pair_mem hab
  have hne : c.docs.isEmpty = false := by
    cases hdocs : c.docs with
    | nil => rw [hdocs] at ma; cases ma
    | cons x xs => rfl
  obtain ⟨ms, hms⟩ := iterDocuments_total (f := queryOf ix (kwOf ix.keys new)) he hne (by
    intro p hp
    exact query_total ix new p.2 (okKeys_of_valueKeys (hsc p hp)) (fun f hf => hpf f hf p hp))
  have hlen := iter_hits hms
  have pa : pfOk ix a.2 = true := by
    have := ca; rw [covers_eq, Bool.and_eq_true] at this; exact this.2
  have pb : pfOk ix b.2 = true := by
    have := cb; rw [covers_eq, Bool.and_eq_true] at this; exact this.2
  have h2 := two_hits hab
    (query_matches ix new a.2 (okKeys_of_valueKeys (hsc a ma)) pa ka)
    (query_matches ix new b.2 (okKeys_of_valueKeys (hsc b mb)) pb kb)
  unfold ensureStep
  simp only [hu, Bool.not_true, Bool.false_eq_true, if_false, hv, bind, Except.bind, hskip, hms]
  rw [if_pos (by omega)]

theorem ensureFold_dup {now : Int} {c : Coll} {new : Val} {ix : Index} (l : List Index)
    (hone : ∀ i ∈ l, i.unique = true → i = ix) (hix : ix ∈ l)
    (hstep : ensureStep now new c ix = .error .dupKey) :
    l.foldlM (ensureStep now new) c = .error .dupKey := by
  induction l with
  | nil => cases hix
  | cons i l ih =>
    rw [List.foldlM_cons]
    cases hu : i.unique with
    | true =>
      rw [hone i (List.mem_cons_self ..) hu, hstep]
      rfl
    | false =>
      have hs : ensureStep now new c i = .ok c := by
        unfold ensureStep; simp [hu, pure, Except.pure]
      rw [hs]
      simp only [bind, Except.bind]
      refine ih (fun j hj => hone j (List.mem_cons_of_mem _ hj)) ?_
      rcases List.mem_cons.1 hix with e | hm
      · rw [e] at hstep
        have : ensureStep now new c i = .ok c := hs
        rw [this] at hstep; cases hstep
      · exact hm

theorem insert_dup_dupKey (now : Int) (c : Coll) (fs : Fields) (ix : Index) (p : Val × Val) (k : Val)
    (hdf : distinctFields ix = true) (hsc : ∀ q ∈ c.docs, valueKeys ix q.2 = true)
    (hix : ix ∈ c.indexes) (hu : ix.unique = true) (hnt : c.ttlIndexes = [])
    (hp : p ∈ c.docs) (hcp : covers ix p.2 = true) (hcd : covers ix (patchDT (.doc fs)) = true)
    (hsd : valueKeys ix (patchDT (.doc fs)) = true)
    (heq : keyEq (keyVals ix p.2) (keyVals ix (patchDT (.doc fs))) = true)
    (hid : dhas "_id" fs = true)
    (hk : storeKey (idOfDoc (patchDT (.doc fs))) = .ok k)
    (hone : ∀ i ∈ c.indexes, i.unique = true → i = ix)
    (hpf : ∀ f, ix.partialFilter = some f → ∀ q ∈ c.docs, ∃ b, filterApplies f q.2 = .ok b) :
    insertDoc now c (.doc fs) = .error .dupKey := by
  unfold insertDoc
  unfold idOfDoc at hk
  simp only [hid, if_true]
  generalize hdd : patchDT (.doc fs) = dd at *
  obtain ⟨ds, rfl⟩ : ∃ ds, dd = .doc ds := ⟨patchFields fs, by rw [← hdd]; simp [patchDT, patch]⟩
  simp only [] at hk ⊢
  simp only [bind, Except.bind, hk, C09Lemmas.expire_nil now c hnt]
  cases hhas : c.hasKey k with
  | true => rfl
  | false =>
    simp only [Bool.false_eq_true, if_false]
    have he2 : expire now (c.storeDoc k (Val.doc ds)) = .ok (c.storeDoc k (Val.doc ds)) := by
      apply C09Lemmas.expire_nil
      show (c.setDoc k (Val.doc ds)).ttlIndexes = []
      unfold Coll.setDoc; split <;> exact hnt
    have okn := okKeys_of_valueKeys hsd
    have okp := okKeys_of_valueKeys (hsc p hp)
    have hcdpf : pfOk ix (Val.doc ds) = true := by
      have := hcd; rw [covers_eq, Bool.and_eq_true] at this; exact this.2
    have hstep : ensureStep now (Val.doc ds) (c.storeDoc k (Val.doc ds)) ix =
        .error .dupKey := by
      refine ensureStep_dup (a := p) (b := (k, Val.doc ds)) he2 hu hdf ?_ hsd hcd ?_ ?_ hcp hcd
        (by rw [← keyVals_eq, ← keyVals_eq]; exact heq) (keyEq_refl (kv_allKeyable okn))
      · intro q hq
        rw [storeDoc_fresh _ _ _ hhas] at hq
        rcases List.mem_append.1 hq with h | h
        · exact hsc q h
        · rw [List.mem_singleton.1 h]; exact hsd
      · intro f hf q hq
        rw [storeDoc_fresh _ _ _ hhas] at hq
        rcases List.mem_append.1 hq with h | h
        · exact hpf f hf q h
        · rw [List.mem_singleton.1 h]
          unfold pfOk at hcdpf
          rw [hf] at hcdpf
          simp only at hcdpf
          cases hfa : filterApplies f (Val.doc ds) with
          | error e => rw [hfa] at hcdpf; cases hcdpf
          | ok b => exact ⟨b, rfl⟩
      · rw [storeDoc_fresh _ _ _ hhas]
        exact (List.singleton_sublist.2 hp).append (List.Sublist.refl _)
    have := ensureFold_dup (c.storeDoc k (Val.doc ds)).indexes
      (by rw [storeDoc_indexes, setDoc_indexes]; exact hone)
      (by rw [storeDoc_indexes, setDoc_indexes]; exact hix) hstep
    rw [ensureUniques_eq, this]

end MongoModel.Proofs.C06Lemmas
