/-
  C19 — from the protocol machine to the interpreter: what holds of every reachable state of
  the protocol machine (`PGood`, established by a certificate or by the invariant) holds of
  every reachable state of every conformant program.
-/
import Proofs.C19Sim
namespace MongoModel.RWLock

/-- no reachable state of the protocol machine with `n` threads is bad or deadlocked -/
def PGood (P : Protocol) (n : Nat) : Prop :=
  ∀ ps, PReach P n ps → pbad P ps = false ∧ pdeadlocked P ps = false

theorem pgood_2_3 {P : Protocol} (h2 : PGood P 2) (h3 : PGood P 3) {n : Nat}
    (hn : n = 2 ∨ n = 3) : PGood P n := by
  rcases hn with rfl | rfl
  · exact h2
  · exact h3

theorem proj_pos_lt (cfg : Cfg) (s : State) {t : Nat} (ht : t < s.ths.length) :
    (proj cfg s).pos[t]? = some (phaseAt cfg s t) := by
  simp [proj, tids, List.getElem?_map, List.getElem?_range ht]

theorem countP_two {α} (p : α → Bool) : ∀ (xs : List α) (t u : Nat) (a b : α),
    xs[t]? = some a → xs[u]? = some b → t ≠ u → p a = true → p b = true → 2 ≤ xs.countP p
  | [], t, _, _, _, h, _, _, _, _ => by simp at h
  | x :: xs, 0, 0, _, _, _, _, hne, _, _ => absurd rfl hne
  | x :: xs, 0, u + 1, a, b, ha, hb, _, hpa, hpb => by
    cases ha
    have := List.countP_pos_iff.2 ⟨b, List.mem_of_getElem? (l := xs) hb, hpb⟩
    rw [List.countP_cons_of_pos hpa]; omega
  | x :: xs, t + 1, 0, a, b, ha, hb, _, hpa, hpb => by
    cases hb
    have := List.countP_pos_iff.2 ⟨a, List.mem_of_getElem? (l := xs) ha, hpa⟩
    rw [List.countP_cons_of_pos hpb]; omega
  | x :: xs, t + 1, u + 1, a, b, ha, hb, hne, hpa, hpb =>
    Nat.le_trans (countP_two p xs t u a b ha hb (by omega) hpa hpb)
      (List.Sublist.countP_le (List.sublist_cons_self x xs))

theorem exclusion_proj {cfg : Cfg} {s : State} (h : exclusionViolated cfg s = true) :
    pexclusionViolated (proj cfg s) = true := by
  simp only [exclusionViolated, List.any_eq_true, Bool.and_eq_true, tids, List.mem_range,
    bne_iff_ne, Bool.or_eq_true, insideW, insideR, beq_iff_eq] at h
  obtain ⟨t, ht, hw, u, hu, hne, hb⟩ := h
  have hpt := proj_pos_lt cfg s ht
  have hpu := proj_pos_lt cfg s hu
  rw [hw] at hpt
  simp only [pexclusionViolated, Bool.and_eq_true, Nat.ble_eq]
  exact ⟨List.countP_pos_iff.2 ⟨_, List.mem_of_getElem? hpt, rfl⟩,
    countP_two isBody _ t u _ _ hpt hpu (Ne.symm hne) rfl (by rcases hb with hb | hb <;> rw [hb] <;> rfl)⟩

theorem leaked_proj {cfg : Cfg} {s : State} (h : leaked cfg s = true) :
    pleaked (proj cfg s) = true := by
  simp only [leaked, allOut, Bool.and_eq_true, locksFree] at h
  simp only [pleaked, proj, Bool.and_eq_true, List.all_map]
  exact ⟨by simpa [Function.comp_def] using h.1, h.2⟩

/-- an instruction that is neither of the lock protocol nor unmodelled always executes -/
theorem dictOp_some {cfg : Cfg} {code sh th ins} (hp : isProto ins = false)
    (hs : isStuck ins = false) : dictOp cfg code sh th ins ≠ none := by
  cases ins <;> first | cases hp | cases hs | skip
  all_goals simp only [dictOp]
  all_goals (repeat' split) <;> first | exact Option.some_ne_none _ | cases hs

/-- a thread that cannot take a step is finished or blocked in the protocol -/
theorem blocked_thread {P : Protocol} {cfg : Cfg} (hc : cfg.conformant P = true) {s : State}
    {t : Nat} (ht : t < s.ths.length) (h : step cfg s t = none) :
    canMoveAt P s.sh.lk t (phaseAt cfg s t) = false ∧
      (threadDone cfg s t = false → phaseAt cfg s t ≠ .out) := by
  have hth : s.ths[t]? = some s.ths[t] := List.getElem?_eq_getElem ht
  rw [tagAt_eq_phaseAt cfg s t _ hth, tagAt]
  cases hins : (cfg.code t)[(s.ths[t]).pc]? with
  | none =>
    refine ⟨rfl, fun hd => ?_⟩
    simp [threadDone, hth, List.getElem?_eq_none_iff.1 hins] at hd
  | some ins =>
    have hex : exec cfg (cfg.code t) s.sh s.ths[t] t ins.op = none := by
      simp only [step, hth, hins] at h
      split at h <;> first | assumption | cases h
    have hconf := conformsAt_of (conf_code hc t) hins
    unfold conformsAt at hconf
    by_cases hp : isProto ins.op = true
    · simp only [hp, if_true, Bool.and_eq_true, beq_iff_eq] at hconf
      have hi := hconf.1.1
      obtain ⟨r, hr⟩ := protoOp_some_of_proto (re := cfg.reentrant) (lk := s.sh.lk) (t := t) hp
      unfold exec at hex
      rw [hr] at hex
      rw [conf_re hc] at hr
      cases r <;> first | cases hex | skip
      cases hph : ins.ph <;> rw [hph] at hi <;>
        first | cases hi | exact ⟨by simp [canMoveAt, hph, hi, hr], fun _ h0 => Phase.noConfusion (hph.symm.trans h0)⟩
    · have hp' : isProto ins.op = false := by simpa using hp
      simp only [hp', Bool.false_eq_true, if_false, Bool.and_eq_true, Bool.not_eq_true'] at hconf
      rw [exec_dict hp'] at hex
      exact absurd hex (dictOp_some hp' hconf.1.2)

theorem deadlock_proj {P : Protocol} {cfg : Cfg} (hc : cfg.conformant P = true) {s : State}
    (h : deadlocked cfg s = true) : pdeadlocked P (proj cfg s) = true := by
  simp only [deadlocked, Bool.and_eq_true, Bool.not_eq_true', allDone, List.all_eq_true, tids,
    List.mem_range, enabled, Option.isSome_eq_false_iff, Option.isNone_iff_eq_none] at h
  obtain ⟨hnd, hall⟩ := h
  obtain ⟨t0, ht0, hd0⟩ := List.all_eq_false.1 hnd
  have ht0 := List.mem_range.1 ht0
  simp only [pdeadlocked, Bool.and_eq_true, List.any_eq_true, bne_iff_ne]
  constructor
  · exact ⟨_, List.mem_of_getElem? (proj_pos_lt cfg s ht0),
      (blocked_thread hc ht0 (hall t0 ht0)).2 (by simpa using hd0)⟩
  · refine (allIdx_iff _ _ _).2 fun j x hx => ?_
    have hj : j < s.ths.length := by
      simpa [proj, tids] using (List.getElem?_eq_some_iff.1 hx).1
    cases (proj_pos_lt cfg s hj).symm.trans hx
    simp only [Nat.zero_add, Bool.not_eq_true']
    exact (blocked_thread hc hj (hall j hj)).1

def noLockFault (s : State) : Prop := ∀ th ∈ s.ths, th.fault ≠ some .lockError

theorem relErr_proj {P : Protocol} {cfg : Cfg} (hc : cfg.conformant P = true) {s : State}
    {t : Nat} {th : Thread} {ins : TInstr} (hth : s.ths[t]? = some th)
    (hins : (cfg.code t)[th.pc]? = some ins)
    (herr : protoOp cfg.reentrant s.sh.lk t ins.op = some .error) :
    prelError P (proj cfg s) = true := by
  have hp : isProto ins.op = true := by
    cases hp : isProto ins.op with
    | true => rfl
    | false => rw [protoOp_none_of_not_proto hp] at herr; cases herr
  have hconf := conformsAt_of (conf_code hc t) hins
  unfold conformsAt at hconf
  simp only [hp, if_true, Bool.and_eq_true, beq_iff_eq] at hconf
  refine (anyIdx_iff _ _ 0).2 ⟨t, ins.ph, ?_, ?_⟩
  · rw [proj_pos_get, hth, Option.map_some, tagAt, hins]
  · rw [conf_re hc] at herr
    simp only [Nat.zero_add, relErrAt, hconf.1.1]
    exact beq_iff_eq.2 herr

theorem noLockFault_step {P : Protocol} {cfg : Cfg} (hc : cfg.conformant P = true) {s s' : State}
    {t : Nat} (hgood : prelError P (proj cfg s) = false) (hinv : noLockFault s)
    (h : step cfg s t = some s') : noLockFault s' := by
  obtain ⟨th, ins, e, hth, hins, he, ht, rfl⟩ := step_cases h
  intro th' hmem hf
  obtain ⟨x, hx, rfl⟩ := List.mem_map.1 hmem
  rw [mark_fault] at hf
  rcases List.mem_or_eq_of_mem_set hx with h1 | rfl
  · exact hinv x h1 hf
  · rcases (exec_spec he).fault hf with h2 | ⟨h2, _⟩ | ⟨h2, _⟩ | ⟨h2, _⟩ | ⟨_, herr⟩
    · exact hinv th (List.mem_of_getElem? hth) h2
    · cases h2
    · cases h2
    · cases h2
    · rw [relErr_proj hc hth hins herr] at hgood; cases hgood

theorem reach_noLockFault {P : Protocol} {cfg : Cfg} (hc : cfg.conformant P = true)
    (hg : PGood P cfg.codes.length) : ∀ s, Reach cfg s → noLockFault s := by
  intro s hr
  induction hr with
  | init =>
    intro th hmem
    obtain ⟨_, _, rfl⟩ := List.mem_map.1 hmem
    exact fun h => nomatch h
  | step hprev hstep ih =>
    have hb := (hg _ (sim hc _ hprev)).1
    simp only [pbad, Bool.or_eq_false_iff] at hb
    exact noLockFault_step hc hb.1.2 ih hstep

/-- every reachable state of a conformant program is free of exclusion violations, leaked
    locks, deadlock and failing releases, as soon as the protocol machine is -/
theorem program_safe {P : Protocol} {cfg : Cfg} (hc : cfg.conformant P = true)
    (hg : PGood P cfg.codes.length) (s : State) (hr : Reach cfg s) :
    exclusionViolated cfg s = false ∧ leaked cfg s = false ∧ deadlocked cfg s = false ∧
      noLockFault s := by
  have hp := hg _ (sim hc s hr)
  simp only [pbad, Bool.or_eq_false_iff] at hp
  obtain ⟨⟨⟨hex, _⟩, hlk⟩, hdl⟩ := hp
  refine ⟨?_, ?_, ?_, reach_noLockFault hc hg s hr⟩
  · exact Bool.eq_false_iff.2 fun h => Bool.false_ne_true (hex.symm.trans (exclusion_proj h))
  · exact Bool.eq_false_iff.2 fun h => Bool.false_ne_true (hlk.symm.trans (leaked_proj h))
  · exact Bool.eq_false_iff.2 fun h => Bool.false_ne_true (hdl.symm.trans (deadlock_proj hc h))

end MongoModel.RWLock
