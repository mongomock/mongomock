/-
  Proofs.C08Step — a failed all-or-nothing write (of `stepColl`, or a request of a bulk) ends in
  a state "near" the one it started in.
-/
import Spec.FailExt
import Proofs.C08Near
import Proofs.C05Loop
import Proofs.StepShape
namespace MongoModel.Proofs.C08Lemmas
open MongoModel MongoModel.Spec MongoModel.Proofs.Shape
open MongoModel.Proofs.C09Lemmas (expire_ok outUpd outNat step_insert_one step_update_one
  step_replace_one step_delete_one step_delete_many)
open MongoModel.Proofs.C05Lemmas (insertDoc_eq insertCore applyUpdateColl_eq preLoop afterLoop
  upsertIdv upsertIdv_cases)

theorem insertCore_reject (now : Int) (c0 : Coll) (fs1 : Fields) (e : Err)
    (h : insertCore now c0 fs1 = .error e)
    (hs : (match storeKey (match patchDT (.doc fs1) with
              | .doc ds => (dget "_id" ds).getD .null | _ => .null), expire now c0 with
            | .ok key, .ok c1 => !c1.hasKey key
            | _, _ => false) = true) : c0.indexes ≠ [] := by
  intro hx
  unfold insertCore at h
  simp only [patchDT, patch, bind, Except.bind, pure, Except.pure] at h hs
  split at hs
  · rename_i key c1 hk he
    rw [hk] at h
    simp only [he] at h
    simp only [Bool.not_eq_true'] at hs
    -- no index: the uniqueness check accepts whatever was stored
    have hu : ensureUniques now (c1.storeDoc key (.doc (patchFields fs1))) (.doc (patchFields fs1))
        = .ok (c1.storeDoc key (.doc (patchFields fs1))) := by
      unfold ensureUniques
      rw [storeDoc_indexes, C05Lemmas.setDoc_indexes, (expire_ok now c0 c1 he).2.1, hx]; rfl
    rw [hs, hu] at h
    cases h
  · cases hs

/-- a rejected insert that got as far as storing its document was rejected by the uniqueness
    check, so the collection has an index -/
theorem stored_reject_has_index (now : Int) (c : Coll) (d : Val) (e : Err)
    (hi : insertDoc now c d = .error e) (hs : insertStored now c d = true) : c.indexes ≠ [] := by
  cases d with
  | doc fs =>
    rw [insertDoc_eq] at hi
    unfold insertStored at hs
    by_cases hh : dhas "_id" fs = true
    · simp only [hh, if_true] at hi hs
      exact insertCore_reject now c fs e hi hs
    · simp only [hh, Bool.false_eq_true, if_false] at hi hs
      exact insertCore_reject now { c with nextOid := c.nextOid + 1 } _ e hi hs
  | _ => cases hs

theorem near_insertRejected (now : Int) (c : Coll) (d : Val) (e : Err)
    (hi : insertDoc now c d = .error e) : Near now c (insertRejected now c d) := by
  have hb := stored_reject_has_index now c d e hi
  unfold insertRejected
  refine Near.mark (Near.expire' ?_) _ hb
  split
  · split
    · exact Near.refl _ _
    · exact (Near.refl _ _).bump _
  · exact Near.refl _ _

theorem near_insert_one (cfg : Cfg) (now : Int) (c : Coll) (d : Val)
    (he : (stepColl cfg now c (.arr [.str "insert_one", d])).2.isErr = true) :
    Near now c (stepColl cfg now c (.arr [.str "insert_one", d])).1 := by
  rw [step_insert_one] at he ⊢
  split
  · rename_i fs
    cases hi : insertDoc now c (.doc fs) with
    | ok r => rw [hi] at he; cases he
    | error e => exact near_insertRejected now c _ e hi
  · exact Near.refl _ _

theorem near_preLoop (now : Int) (c c2 : Coll) (spec : Val) (h : preLoop now c spec = .ok c2) :
    Near now c c2 :=
  (Near.refl now c).expire (C05Lemmas.preLoop_ok h)

/-- whatever the loop did, an `_apply_update` that raises after it leaves what the loop left
    (an upsert that fails writes nothing) -/
theorem near_afterLoop (now : Int) (spec document nowV : Val) (ss dfs : Fields) (upsert : Bool)
    (c3 : Coll) (r3 : R (Nat × Nat)) (c' : Coll) (e : Err)
    (h : afterLoop now spec document nowV ss dfs upsert c3 r3 = (c', .error e)) :
    Near now c3 c' := by
  unfold afterLoop at h
  cases r3 with
  | error e' => cases h; exact Near.refl _ _
  | ok mu =>
    obtain ⟨matched, updated⟩ := mu
    simp only at h
    split at h
    · cases h
    · have h4 : Near now c3 (upsertIdv ss dfs c3).2 := by
        rcases upsertIdv_cases ss dfs c3 with ⟨v, h⟩ | h <;> rw [h]
        · exact Near.refl _ _
        · exact (Near.refl _ _).bump _
      generalize upsertIdv ss dfs c3 = ic at h h4
      split at h
      · cases h; exact h4
      · rename_i built _
        split at h
        · rename_i e' hi
          cases h
          exact h4.mark _ (fun hst => h4.indexes.1 ▸ stored_reject_has_index now ic.2 built _ hi hst)
        · cases h

/-- the single-document loop rewrites nothing, or reports one match -/
theorem updateLoop_single (now : Int) (spec document nowV : Val) (l : List (Val × Val)) (c : Coll)
    (m u : Nat) :
    (updateLoop now spec document nowV false l c m u).1 = c ∨
    ∃ u', (updateLoop now spec document nowV false l c m u).2 = .ok (m + 1, u') := by
  induction l generalizing c with
  | nil => left; rw [updateLoop_nil]
  | cons kv rest ih =>
    rw [updateLoop_cons]
    cases visit now spec document nowV kv.1 c with
    | error e => left; rfl
    | ok o =>
      cases o with
      | none => exact ih c
      | some r => right; exact ⟨_, rfl⟩

theorem near_applyUpdate (cfg : Cfg) (now : Int) (c c' : Coll) (f u : Val) (up : Bool) (e : Err)
    (h : applyUpdateColl cfg now c f u up false = (c', .error e)) :
    Near now c c' := by
  rw [applyUpdateColl_eq] at h
  split at h
  · split at h
    · cases h; exact Near.refl _ _
    · split at h
      · cases h; exact Near.refl _ _
      · rename_i c2 hc2
        have n2 := near_preLoop now c c2 _ hc2
        rcases updateLoop_single now (patchDT f) (patchDT u) (patchDT (.date now none)) c2.docs c2 0 0
          with hs | ⟨u', hs⟩
        · rw [hs] at h
          exact n2.trans (near_afterLoop _ _ _ _ _ _ _ _ _ _ _ h)
        · -- a match was reported: no upsert, no error after the loop
          rw [hs] at h
          simp [afterLoop] at h
  · cases h; exact Near.refl _ _

theorem near_upd (cfg : Cfg) (now : Int) (c : Coll) (f u : Val) (up : Bool)
    (he : (outUpd (applyUpdateColl cfg now c f u up false).2).isErr = true) :
    Near now c (applyUpdateColl cfg now c f u up false).1 := by
  cases ha : applyUpdateColl cfg now c f u up false with
  | mk c' r =>
    cases r with
    | ok x => rw [ha] at he; cases he
    | error e => exact near_applyUpdate cfg now c c' f u up e ha

theorem near_delete (now : Int) (c c' : Coll) (f : Val) (multi : Bool) (e : Err)
    (h : deleteColl now c f multi = (c', .error e)) : c' = c := by
  unfold deleteColl at h
  extract_lets filter at h
  clear_value filter
  split at h
  · split at h
    · cases h; rfl
    · cases h
  · cases h; rfl

theorem near_del (now : Int) (c : Coll) (f : Val) (multi : Bool)
    (he : (outNat (deleteColl now c f multi).2).isErr = true) :
    Near now c (deleteColl now c f multi).1 := by
  cases hd : deleteColl now c f multi with
  | mk c' r =>
    cases r with
    | ok n => rw [hd] at he; cases he
    | error e => rw [near_delete now c c' f multi e hd]; exact Near.refl _ _

/-- every all-or-nothing write that raises ends near where it started -/
theorem atomic_fail_near (cfg : Cfg) (now : Int) (c : Coll) (op : Val)
    (ha : atomicWrite op = true) (he : (stepColl cfg now c op).2.isErr = true) :
    Near now c (stepColl cfg now c op).1 := by
  rcases stepColl_cases op with hs | hs | hu
  · cases hs with
    | insertOne d => exact near_insert_one cfg now c d he
    | updateOne f u up =>
      rw [step_update_one] at he ⊢
      split at he
      · exact Near.refl _ _
      · exact near_upd cfg now c f u _ he
    | replaceOne f u up =>
      rw [step_replace_one] at he ⊢
      split at he
      · exact Near.refl _ _
      · exact near_upd cfg now c f u _ he
    | deleteOne f => rw [step_delete_one] at he ⊢; exact near_del now c f _ he
    | deleteMany f => rw [step_delete_many] at he ⊢; exact near_del now c f _ he
    | _ => cases ha
  · cases hs <;> cases ha
  · rw [hu]; exact Near.refl _ _

theorem atomic_of_single {op : Val} (hs : singleWrite op = true) : atomicWrite op = true := by
  unfold singleWrite at hs
  split at hs
  · exact Bool.or_eq_true_iff.2 (.inl hs)
  · cases hs

theorem bulkOne_fail_near (cfg : Cfg) (now : Int) (c c' : Coll) (idx : Nat) (req : Val)
    (o : BulkOut) (ha : atomicRequest req = true)
    (h : bulkOne cfg now c idx req = (c', o)) (ho : requestFailed o = true) :
    Near now c c' := by
  have upd : ∀ q u up, bulkUpd cfg now c idx q u up false = (c', o) → Near now c c' := by
    intro q u up h
    rcases bulkUpd_inv h with ⟨res, _, rfl⟩ | ⟨e, hx, _⟩
    · cases ho
    · exact near_applyUpdate cfg now c _ q u up e hx
  have del : ∀ q multi, bulkDel now c q multi = (c', o) → Near now c c' := by
    intro q multi h
    rcases bulkDel_inv h with ⟨_, n, _, _, rfl⟩ | ⟨_, e, _, hx, _⟩ | ⟨rfl, _⟩
    · cases ho
    · rw [near_delete now c _ _ multi e hx]; exact Near.refl _ _
    · exact Near.refl _ _
  rcases bulkOne_cases req with hs | hu
  · cases hs with
    | insertOne d =>
      rcases bulkIns_inv (bulkOne_InsertOne .. ▸ h) with ⟨_, _, rfl⟩ | ⟨out, hx, he, _⟩
      · cases ho
      · have hn := near_insert_one cfg now c d
        rw [hx] at hn
        exact hn he
    | updateOne q u up => exact upd _ _ _ (bulkOne_UpdateOne .. ▸ h)
    | updateMany q u up => cases ha
    | replaceOne q u up => exact upd _ _ _ (bulkOne_ReplaceOne .. ▸ h)
    | deleteOne q => exact del _ _ (bulkOne_DeleteOne .. ▸ h)
    | deleteMany q => exact del _ _ (bulkOne_DeleteMany .. ▸ h)
  · rw [hu] at h; cases h; exact Near.refl _ _

end MongoModel.Proofs.C08Lemmas
