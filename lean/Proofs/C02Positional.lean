/-
  Proofs.C02Positional — the positional operator: on the domain `posDomain` the model resolves
  `$` to the index MongoDB's rule gives (`Spec.posIndex`) and edits that element only; a positional
  entry of an `_updaters`-type operator reads and writes the document only under the top-level
  field its path starts with.
-/
import Spec.UpdatePositional
import Proofs.C02PosFrame
import Proofs.ValDecEq
import Proofs.C02Ext


namespace MongoModel.Proofs.C02Lemmas
open MongoModel MongoModel.Spec

/-- decidable equality of element conditions (for concrete instances) -/
@[reducible] def elemCondDecEq : DecidableEq ElemCond := fun a b =>
  match a, b with
  | .sub x, .sub y =>
    match MongoModel.Proofs.valDecEq x y with
    | isTrue h => isTrue (h ▸ rfl)
    | isFalse h => isFalse (fun e => by cases e; exact h rfl)
  | .val x, .val y =>
    match MongoModel.Proofs.valDecEq x y with
    | isTrue h => isTrue (h ▸ rfl)
    | isFalse h => isFalse (fun e => by cases e; exact h rfl)
  | .sub _, .val _ => isFalse (fun e => by cases e)
  | .val _, .sub _ => isFalse (fun e => by cases e)

/-- an update made of one operator, on the positional branch -/
theorem applyUpdate_single_pos (spec now : Val) (wi : Bool) (op : String) (body d : Val)
    (X : R (Val × SubRef)) (hpos : positionalUpdate [(op, body)] = true)
    (hX : opRunPos? spec now (opClass wi op) body d .nil = some X) :
    applyUpdate spec (.doc [(op, body)]) now wi d = X.bind (fun r => .ok r.1) := by
  obtain ⟨first', he⟩ := applyOpsPos_cons spec now wi [(op, body)] op body [] true .nil d
  simp only [applyUpdate, hpos, if_true]
  rw [he, hX]
  rfl

/-- the operators that run an `_updaters` function are of class `fields`, and positional -/
theorem posFieldsOp_class {op : String} {wi : Bool} {u : Updater}
    (h : posFieldsOp op wi = some u) :
    opClass wi op = .fields u ∧ positionalOperators.contains op = true := by
  unfold posFieldsOp at h
  cases hu : updaterOf op with
  | some u' =>
    rw [hu] at h; cases h
    exact ⟨by simp only [opClass, hu], updaterOf_positional hu⟩
  | none =>
    rw [hu] at h
    by_cases h1 : op = "$setOnInsert"
    · have hr : op ≠ "$rename" := by rw [h1]; decide
      rw [if_pos h1] at h
      cases wi <;> cases h
      exact ⟨by simp only [opClass, hu, if_neg hr, if_pos h1]; rfl, by rw [h1]; decide +kernel⟩
    · rw [if_neg h1] at h
      by_cases h2 : op = "$currentDate"
      · have hr : op ≠ "$rename" := by rw [h2]; decide
        rw [if_pos h2] at h
        cases h
        exact ⟨by simp only [opClass, hu, if_neg hr, if_neg h1, if_pos h2],
          by rw [h2]; decide +kernel⟩
      · rw [if_neg h2] at h; cases h

theorem posFields_single (u : Updater) (now spec : Val) (key : String) (v d : Val) (sub : SubRef)
    (hdol : hasDollarPart key = true) :
    posFields u now spec (.doc [(key, v)]) d sub =
      (posUpdaterKey u now spec ⟨d, sub, false⟩ key v).bind (fun st => .ok (st.d, st.sub)) := by
  simp only [posFields, List.any_cons, hdol, Bool.true_or, if_true, List.foldlM_cons,
    List.foldlM_nil]
  cases posUpdaterKey u now spec ⟨d, sub, false⟩ key v <;> rfl

theorem applyUpdate_positional_single (spec now : Val) {wi : Bool} {op key : String} (v : Val)
    {u : Updater} (hop : posFieldsOp op wi = some u) (hdol : hasDollarPart key = true) (d : Val) :
    applyUpdate spec (.doc [(op, .doc [(key, v)])]) now wi d =
      (posUpdaterKey u now spec ⟨d, .nil, false⟩ key v).bind (fun st => .ok st.d) := by
  obtain ⟨hc, hm⟩ := posFieldsOp_class hop
  rw [applyUpdate_single_pos spec now wi op _ d (posFields u now spec (.doc [(key, v)]) d .nil)
    (by simp only [positionalUpdate, List.any_cons, List.any_nil, hm, hdol, Bool.or_false,
      Bool.and_self]) (by rw [hc]; rfl), posFields_single _ _ _ _ _ _ _ hdol]
  cases posUpdaterKey u now spec ⟨d, .nil, false⟩ key v <;> rfl

/-- **a positional entry is local at the field its path starts with** -/
theorem positional_entry_local (spec now : Val) (wi : Bool) (op key : String) (v : Val)
    (u : Updater) (hop : posFieldsOp op wi = some u) (hdol : hasDollarPart key = true) :
    Local [headOf key] (fun d => applyUpdate spec (.doc [(op, .doc [(key, v)])]) now wi d) := by
  refine EditsKey.local fun fs gs hg => ?_
  rw [applyUpdate_positional_single spec now v hop hdol,
    applyUpdate_positional_single spec now v hop hdol]
  exact (posUpdaterKey_same u now spec .nil false key v fs gs (fun _ _ e => by cases e) hg).toEdit

theorem firstApplying_cons {cond x : Val} {b : Bool} (hx : filterApplies cond x = .ok b)
    (xs : List Val) (n : Nat) :
    firstApplying cond (x :: xs) n =
      if b then .ok (some (n, x)) else firstApplying cond xs (n + 1) := by
  conv => lhs; unfold firstApplying
  exact bind_ok_eq hx

theorem firstApplying_some {cond : Val} {p : Val → Bool} : ∀ {xs : List Val} (n : Nat) {i : Nat},
    (∀ el ∈ xs, filterApplies cond el = .ok (p el)) → xs.findIdx? p = some i →
    ∃ el, xs[i]? = some el ∧ p el = true ∧ firstApplying cond xs n = .ok (some (n + i, el))
  | [], n, i, _, h => by cases h
  | x :: xs, n, i, hp, h => by
    rw [List.findIdx?_cons] at h
    rw [firstApplying_cons (hp x (List.mem_cons_self ..))]
    by_cases hpx : p x = true
    · rw [if_pos hpx] at h ⊢
      cases h
      exact ⟨x, rfl, hpx, rfl⟩
    · rw [if_neg hpx] at h ⊢
      obtain ⟨j, hj, rfl⟩ := Option.map_eq_some_iff.mp h
      obtain ⟨el, h1, h2, h3⟩ := firstApplying_some (n + 1)
        (fun el hm => hp el (List.mem_cons_of_mem _ hm)) hj
      exact ⟨el, h1, h2, by rw [h3, Nat.add_right_comm, Nat.add_assoc]⟩

theorem firstApplying_none {cond : Val} {p : Val → Bool} : ∀ {xs : List Val} (n : Nat),
    (∀ el ∈ xs, filterApplies cond el = .ok (p el)) → xs.findIdx? p = none →
    firstApplying cond xs n = .ok none
  | [], n, _, _ => rfl
  | x :: xs, n, hp, h => by
    rw [List.findIdx?_cons] at h
    rw [firstApplying_cons (hp x (List.mem_cons_self ..))]
    by_cases hpx : p x = true
    · rw [if_pos hpx] at h; cases h
    · rw [if_neg hpx] at h ⊢
      exact firstApplying_none (n + 1) (fun el hm => hp el (List.mem_cons_of_mem _ hm))
        (Option.map_eq_none_iff.mp h)

/-- what one condition contributes to `narrowSpec` -/
def narrowOne (kv : String × Val) : Val :=
  match splitDots kv.1 with
  | _ :: q :: r => .doc [(joinDots (q :: r), kv.2)]
  | _ => kv.2

def narrowStep (part : String) (acc : Val) (kv : String × Val) : R Val :=
  if kv.1.startsWith part then
    match splitDots kv.1 with
    | _ :: q :: r =>
      (match acc with
       | .doc ns => pure (.doc (dset (joinDots (q :: r)) kv.2 ns))
       | _ => .error .typeErr)
    | _ => pure kv.2
  else pure acc

theorem narrowSpec_eq (part : String) (ss : Fields) :
    narrowSpec part ss = ss.foldlM (narrowStep part) (.doc []) := rfl

theorem narrow_none (part : String) : ∀ (ss : Fields) (acc : Val), prefixKeys part ss = [] →
    ss.foldlM (narrowStep part) acc = .ok acc
  | [], acc, _ => rfl
  | kv :: ss, acc, h => by
    simp only [prefixKeys, List.filter_cons] at h
    by_cases hk : kv.1.startsWith part = true
    · simp [hk] at h
    · simp only [hk, Bool.false_eq_true, if_false] at h
      simp only [List.foldlM_cons, narrowStep, hk, Bool.false_eq_true, if_false, bind, Except.bind,
        pure, Except.pure]
      exact narrow_none part ss acc h

theorem narrow_single (part : String) (kv0 : String × Val) : ∀ (ss : Fields),
    prefixKeys part ss = [kv0] →
    ss.foldlM (narrowStep part) (.doc []) = .ok (narrowOne kv0)
  | [], h => by simp [prefixKeys] at h
  | kv :: ss, h => by
    simp only [prefixKeys, List.filter_cons] at h
    by_cases hk : kv.1.startsWith part = true
    · simp only [hk, if_true, List.cons.injEq] at h
      obtain ⟨rfl, hr⟩ := h
      simp only [List.foldlM_cons, narrowStep, hk, if_true]
      have : (match splitDots kv.1 with
          | _ :: q :: r => (pure (Val.doc (dset (joinDots (q :: r)) kv.2 [])) : R Val)
          | _ => pure kv.2) = .ok (narrowOne kv) := by
        simp only [narrowOne]
        split <;> rfl
      simp only [this, bind, Except.bind]
      exact narrow_none part ss _ hr
    · simp only [hk, Bool.false_eq_true, if_false] at h
      simp only [List.foldlM_cons, narrowStep, hk, Bool.false_eq_true, if_false, bind, Except.bind,
        pure, Except.pure]
      exact narrow_single part kv0 ss h

theorem plainName_parts {f : String} (h : plainName f = true) :
    f ≠ "" ∧ f.toList.contains '.' = false ∧ f.toList.contains '$' = false := by
  simp only [plainName, Bool.and_eq_true, bne_iff_ne, ne_eq, Bool.not_eq_true'] at h
  exact ⟨h.1.1, h.1.2, h.2⟩

theorem plainName_split {f : String} (h : plainName f = true) : splitDots f = [f] :=
  splitDots_nodot f (plainName_parts h).2.1

theorem plainName_ne_dollar {f : String} (h : plainName f = true) : f ≠ "$" := by
  intro e; subst e; revert h; decide +kernel

/-- on the domain the code's element condition is the rule's -/
theorem posDomain_narrow {f : String} {filter : Fields} {q : Val} (hf : plainName f = true)
    (hD : posDomain f filter q) :
    ∃ ns, narrowSpec f filter = .ok (.doc ns) ∧ dollarCond ns = q := by
  obtain ⟨_, kv, hpk, _, hec⟩ := hD
  rw [narrowSpec_eq, narrow_single f kv filter hpk]
  obtain ⟨k, c⟩ := kv
  unfold elemCond at hec
  by_cases hneg : negated c = true
  · rw [if_pos hneg] at hec; cases hec
  rw [if_neg hneg] at hec
  by_cases hk : k = f
  · -- `f: {$elemMatch: {…fields…}}`
    subst hk
    rw [if_pos rfl] at hec
    unfold narrowOne
    rw [plainName_split hf]
    split at hec
    · rename_i qf heq
      by_cases hall : (qf.all fun e => !e.1.startsWith "$") = true
      · rw [if_pos hall] at hec
        cases hec
        exact ⟨_, congrArg Except.ok heq, rfl⟩
      · rw [if_neg hall] at hec
        by_cases h2 : (elemIsOps qf && !qf.any fun e => negationOps.contains e.1) = true
        · rw [if_pos h2] at hec; cases hec
        · rw [if_neg h2] at hec; cases hec
    · by_cases h2 : dhas "$elemMatch" ‹Fields› = true
      · rw [if_pos h2] at hec; cases hec
      · rw [if_neg h2] at hec; cases hec
    · cases hec
  · -- `f.<path>: c`
    rw [if_neg hk] at hec
    unfold narrowOne
    cases hs : splitDots k with
    | nil => rw [hs] at hec; cases hec
    | cons x t =>
      cases t with
      | nil => rw [hs] at hec; cases hec
      | cons q' r =>
        rw [hs] at hec
        dsimp only at hec ⊢
        by_cases hcond : ((pyInt? q').isSome || joinDots (q' :: r) == "$elemMatch") = true
        · rw [if_pos hcond] at hec; cases hec
        · rw [if_neg hcond] at hec
          cases hec
          refine ⟨_, rfl, ?_⟩
          have hne : ¬ joinDots (q' :: r) = "$elemMatch" := fun e => hcond (by simp [e])
          simp [dollarCond, dget, hne]

/-- **the positional walk is the ordinary edit at the resolved path**: a positional key met with
    nothing carried, whose last component is no `$`, runs the updater on the container the walk
    below the top-level field `head` ends in -/
theorem posUpdaterKey_fresh (u : Updater) (now v : Val) {ss fs : Fields} {key head p2 : String}
    {more : List String} {top ns cur subspec : Val} {path : List PStep}
    (hko : keyOk key = true) (hdol : hasDollarPart key = true)
    (hkey : splitDots key = head :: p2 :: more) (hh : head ≠ "$")
    (hns : narrowSpec head ss = .ok ns) (ha : dget head fs = some top)
    (hw : posWalk (p2 :: more).dropLast top ns (some []) = .ok (cur, subspec, some path))
    (hl : (lastPart (p2 :: more) == "$") = false) :
    posUpdaterKey u now (.doc ss) ⟨.doc fs, .nil, false⟩ key v =
      (editTop head (editAt (fun c => runUpdater u now c (lastPart (p2 :: more)) v) path)
        (.doc fs)).bind (fun d' => .ok ⟨d', .inside head path, false⟩) := by
  unfold posUpdaterKey
  rw [hkey]
  refine (if_neg Bool.false_ne_true).trans ((if_neg (by rw [hko]; decide)).trans
    ((if_neg (by rw [hdol]; decide)).trans ((if_neg hh).trans ?_)))
  refine (bind_ok_eq (a := false) rfl).trans ((if_neg Bool.false_ne_true).trans ?_)
  refine (bind_ok_eq hns).trans ?_
  dsimp only
  rw [ha]
  refine (bind_ok_eq hw).trans ?_
  dsimp only
  rw [hl]
  rfl

/-- … and whose last component is `$`, the walk ending in an array: the operand is stored as the
    first item the condition applies to, whatever the operator -/
theorem posUpdaterKey_fresh_whole (u : Updater) (now v : Val) {ss fs : Fields}
    {key head p2 : String} {more : List String} {top ns : Val} {xs : List Val} {cs : Fields}
    {path : List PStep} {m : Option (Nat × Val)}
    (hko : keyOk key = true) (hdol : hasDollarPart key = true)
    (hkey : splitDots key = head :: p2 :: more) (hh : head ≠ "$")
    (hns : narrowSpec head ss = .ok ns) (ha : dget head fs = some top)
    (hw : posWalk (p2 :: more).dropLast top ns (some []) = .ok (.arr xs, .doc cs, some path))
    (hl : (lastPart (p2 :: more) == "$") = true)
    (hfa : firstApplying (dollarCond cs) xs 0 = .ok m) :
    posUpdaterKey u now (.doc ss) ⟨.doc fs, .nil, false⟩ key v =
      if xs.isEmpty then .ok ⟨.doc fs, .inside head path, false⟩
      else match m with
        | some (i, _) => (editTop head (editAt (setItemAt i v) path) (.doc fs)).bind
            (fun d' => .ok ⟨d', .inside head path, true⟩)
        | none => .ok ⟨.doc fs, .inside head path, true⟩ := by
  unfold posUpdaterKey
  rw [hkey]
  refine (if_neg Bool.false_ne_true).trans ((if_neg (by rw [hko]; decide)).trans
    ((if_neg (by rw [hdol]; decide)).trans ((if_neg hh).trans ?_)))
  refine (bind_ok_eq (a := false) rfl).trans ((if_neg Bool.false_ne_true).trans ?_)
  refine (bind_ok_eq hns).trans ?_
  dsimp only
  rw [ha]
  refine (bind_ok_eq hw).trans ?_
  dsimp only
  rw [hl]
  refine ite_congr rfl (fun _ => rfl) (fun _ => (bind_ok_eq hfa).trans ?_)
  cases m <;> rfl

/-- the walk over a `$` component in an array: the first item the condition applies to, or the
    array itself -/
theorem posWalk_dollar {xs : List Val} {ns : Fields} {m : Option (Nat × Val)}
    (hfa : firstApplying (dollarCond ns) xs 0 = .ok m) :
    posWalk ["$"] (.arr xs) (.doc ns) (some []) =
      .ok (match m with
        | some (i, item) => (item, .doc ns, some [.idx i])
        | none => (.arr xs, .doc ns, some [])) := by
  unfold posWalk
  refine (if_pos rfl).trans ((bind_ok_eq (a := xs) rfl).trans ((bind_ok_eq hfa).trans ?_))
  cases m <;> rfl

/-- **what the model does with `{op: {"f.$.x": v}}`** on the domain: the first element the
    condition applies to is handed to the updater; when there is none, the array itself is -/
theorem positional_updater_impl {op : String} {u : Updater} (hop : updaterOf op = some u)
    {filter : Fields} {key f x : String} (v now : Val) (wi : Bool) {fs : Fields} {xs : List Val}
    {q : Val} (hf : plainName f = true) (hx : plainName x = true)
    (hkey : splitDots key = [f, "$", x]) (hdol : hasDollarPart key = true)
    (hD : posDomain f filter q) (ha : dget f fs = some (.arr xs))
    (p : Val → Bool) (hp : ∀ el ∈ xs, filterApplies q el = .ok (p el)) :
    applyUpdate (.doc filter) (.doc [(op, .doc [(key, v)])]) now wi (.doc fs) =
      match xs.findIdx? p with
      | some i =>
        (match xs[i]? with
         | some el => (runUpdater u now el x v).map
             (fun el' => Val.doc (dset f (.arr (xs.set i el')) fs))
         | none => unmodelled)
      | none => (runUpdater u now (.arr xs) x v).map (fun l => Val.doc (dset f l fs)) := by
  obtain ⟨ns, hns, rfl⟩ := posDomain_narrow hf hD
  have hko : keyOk key = true := by
    simp [keyOk, hkey, (plainName_parts hf).1, (plainName_parts hx).1]
  have hlx : lastPart ["$", x] = x := rfl
  have hl : (lastPart ["$", x] == "$") = false := by
    rw [hlx]; simpa using plainName_ne_dollar hx
  rw [applyUpdate_positional_single _ now v (u := u) (by simp only [posFieldsOp, hop]) hdol]
  cases hfi : xs.findIdx? p with
  | some i =>
    obtain ⟨el, hel, _, hfa⟩ := firstApplying_some 0 hp hfi
    rw [Nat.zero_add] at hfa
    rw [posUpdaterKey_fresh u now v hko hdol hkey (plainName_ne_dollar hf) hns ha
      (posWalk_dollar hfa) hl]
    simp only [editTop, ha, editAt, hel, hlx]
    cases runUpdater u now el x v <;> rfl
  | none =>
    rw [posUpdaterKey_fresh u now v hko hdol hkey (plainName_ne_dollar hf) hns ha
      (posWalk_dollar (firstApplying_none 0 hp hfi)) hl]
    simp only [editTop, ha, editAt, hlx]
    cases runUpdater u now (.arr xs) x v <;> rfl

theorem ite_some_cases {α : Type} {c : Prop} [Decidable c] {a b : α} {r : Option α}
    (h : (if c then some a else r) = some b) : a = b ∨ r = some b := by
  by_cases hc : c
  · rw [if_pos hc] at h; exact .inl (Option.some.inj h)
  · rw [if_neg hc] at h; exact .inr h

/-- the rule's element test, as a Boolean -/
def subHolds (q : Val) : Val → Bool := (ElemCond.sub q).sat

theorem posIndex_on_domain {f : String} {filter : Fields} {q : Val} (xs : List Val)
    (hD : posDomain f filter q) (hok : ∀ el ∈ xs, ∃ b, specMatches q el = .ok b) :
    posIndex f filter xs = some (xs.findIdx? (subHolds q)) := by
  obtain ⟨hnd, kv, _, hco, hec⟩ := hD
  simp only [posIndex, hnd, Bool.false_eq_true, if_false, hco, hec]
  split
  · rfl
  · rename_i hn
    exfalso
    apply hn
    rw [List.all_eq_true]
    intro el hm
    obtain ⟨b, hb⟩ := hok el hm
    simp [ElemCond.holds, hb]

theorem subHolds_applies {q : Val} {xs : List Val}
    (hC01 : ∀ el ∈ xs, filterApplies q el = specMatches q el)
    (hok : ∀ el ∈ xs, ∃ b, specMatches q el = .ok b) :
    ∀ el ∈ xs, filterApplies q el = .ok (subHolds q el) := by
  intro el hm
  obtain ⟨b, hb⟩ := hok el hm
  rw [hC01 el hm, hb]
  cases b <;> simp [subHolds, ElemCond.sat, ElemCond.holds, hb]


/-- **`f.$` as the whole path**: the first element the condition applies to is REPLACED by the
    operand — whatever the operator; without such an element the document stays as it is -/
theorem positional_whole_impl {op : String} {u : Updater} (hop : updaterOf op = some u)
    {filter : Fields} {key f : String} (v now : Val) (wi : Bool) {fs : Fields} {xs : List Val}
    {q : Val} (hf : plainName f = true)
    (hkey : splitDots key = [f, "$"]) (hdol : hasDollarPart key = true)
    (hD : posDomain f filter q) (ha : dget f fs = some (.arr xs))
    (p : Val → Bool) (hp : ∀ el ∈ xs, filterApplies q el = .ok (p el)) :
    applyUpdate (.doc filter) (.doc [(op, .doc [(key, v)])]) now wi (.doc fs) =
      match xs.findIdx? p with
      | some i => .ok (.doc (dset f (.arr (xs.set i v)) fs))
      | none => .ok (.doc fs) := by
  obtain ⟨ns, hns, rfl⟩ := posDomain_narrow hf hD
  have hko : keyOk key = true := by
    simp [keyOk, hkey, (plainName_parts hf).1]
  rw [applyUpdate_positional_single _ now v (u := u) (by simp only [posFieldsOp, hop]) hdol]
  cases hfi : xs.findIdx? p with
  | some i =>
    obtain ⟨el, hel, _, hfa⟩ := firstApplying_some 0 hp hfi
    rw [Nat.zero_add] at hfa
    rw [posUpdaterKey_fresh_whole u now v hko hdol hkey (plainName_ne_dollar hf) hns ha rfl rfl
      hfa]
    cases xs with
    | nil => cases hel
    | cons x0 xr =>
      simp only [editTop, ha, editAt, setItemAt]
      rfl
  | none =>
    rw [posUpdaterKey_fresh_whole u now v hko hdol hkey (plainName_ne_dollar hf) hns ha rfl rfl
      (firstApplying_none 0 hp hfi)]
    cases xs <;> rfl

/-- the update `{$push: {key: v}}` with a `$` in the key is `pushFieldPos` -/
theorem applyUpdate_push_pos (spec now : Val) (wi : Bool) (key : String) (v d : Val)
    (hdol : hasDollarPart key = true) :
    applyUpdate spec (.doc [("$push", .doc [(key, v)])]) now wi d = pushFieldPos spec d key v := by
  rw [applyUpdate_single_pos spec now wi "$push" _ d _
    (by simp only [positionalUpdate, List.any_cons, List.any_nil, hdol, Bool.or_false,
      Bool.and_true]; decide +kernel) (by rw [opClass_push]; rfl)]
  cases h : pushFieldPos spec d key v <;>
    simp only [eachFieldS, List.foldlM_cons, List.foldlM_nil, arrayFieldPos, h] <;> rfl

/-- `_get_subdocument` entering an array by an index written in decimal -/
theorem withSubdoc_index (f : Val → String → R Val) (create : Bool) (i : Nat) (q : String)
    (rest : List String) (xs : List Val) (el : Val) (hel : xs[i]? = some el) :
    withSubdoc f create (toString i :: q :: rest) false .null (.arr xs) =
      (withSubdoc f create (q :: rest) false .null el).bind (fun s => .ok (.arr (xs.set i s))) := by
  conv => lhs; unfold withSubdoc
  simp only [Bool.false_eq_true, if_false, pyInt_toString, Int.ofNat_eq_natCast, Int.toNat_natCast,
    show ¬ ((i : Int) < 0) from Int.not_lt.mpr (Int.natCast_nonneg i), hel]
  rfl

theorem withSubdoc_pushAt_last (v el : Val) (l : String) :
    withSubdoc (pushAt v) true [l] false .null el = pushAt v el l := by
  unfold withSubdoc
  cases el with
  | arr ys =>
    refine (if_neg Bool.false_ne_true).trans ?_
    cases hpl : pyInt? l with
    | none => simp only [pushAt, hpl]
    | some j => rfl
  | _ => rfl

/-- **`$push` through `f.$.l`** wants the query to hold `f: {$elemMatch: q}` (the walk follows the
    filter by exact key, `filter[f]["$elemMatch"]`): the first element `q` applies to gets the value
    pushed to its `l` -/
theorem positional_push_impl {filter : Fields} {key f l : String} (v now : Val) (wi : Bool)
    {fs : Fields} {xs : List Val} {cs : Fields} {q : Val}
    (hf : plainName f = true) (hl : plainName l = true)
    (hkey : splitDots key = [f, "$", l]) (hdol : hasDollarPart key = true)
    (hq : dget f filter = some (.doc cs)) (hem : dget "$elemMatch" cs = some q)
    (ha : dget f fs = some (.arr xs))
    (p : Val → Bool) (hp : ∀ el ∈ xs, filterApplies q el = .ok (p el)) :
    applyUpdate (.doc filter) (.doc [("$push", .doc [(key, v)])]) now wi (.doc fs) =
      match xs.findIdx? p with
      | some i =>
        (match xs[i]? with
         | some el => (pushAt v el l).map (fun el' => Val.doc (dset f (.arr (xs.set i el')) fs))
         | none => unmodelled)
      | none => .error .writeErr := by
  have hfd := plainName_ne_dollar hf
  have hko : keyOk key = true := by
    simp [keyOk, hkey, (plainName_parts hf).1, (plainName_parts hl).1]
  have hone : onePositional key = true := by
    simp [onePositional, hko, hkey, hfd, plainName_ne_dollar hl]
  have hcont : [f, "$", l].contains "$" = true := by simp
  rw [applyUpdate_push_pos _ now wi key v _ hdol]
  simp only [pushFieldPos, hkey, hcont, Bool.not_true, Bool.false_eq_true, if_false, hone,
    withSubdocPos, if_neg hfd, ha, Option.isNone_some, Bool.and_false, Option.getD_some, hq, hem,
    if_true]
  cases hfi : xs.findIdx? p with
  | some i =>
    obtain ⟨el, hel, _, hfa⟩ := firstApplying_some 0 hp hfi
    simp only [hfa, Nat.zero_add, withSubdoc_index _ _ i l [] xs el hel, withSubdoc_pushAt_last,
      hel, bind, Except.bind]
    cases pushAt v el l <;> rfl
  | none =>
    rw [firstApplying_none 0 hp hfi]
    rfl

/-- the frame inside the array: after `{op: {"f.$.x": v}}` every other element, and every other
    field of the addressed element, is as before -/
theorem positional_inner_frame (u : Updater) (now v : Val) (x : String) (xs : List Val) (i : Nat)
    (el el' : Val) (hel : xs[i]? = some el) (hr : runUpdater u now el x v = .ok el') :
    (xs.set i el').length = xs.length ∧
    (∀ j, j ≠ i → (xs.set i el')[j]? = xs[j]?) ∧
    (xs.set i el')[i]? = some el' ∧
    (∀ es, el = .doc es → ∃ es', el' = .doc es' ∧ ∀ k, k ≠ x → dget k es' = dget k es) := by
  refine ⟨List.length_set, ?_, ?_, ?_⟩
  · intro j hj
    exact List.getElem?_set_ne (fun e => hj e.symm)
  · have hlt : i < xs.length := by
      rcases List.getElem?_eq_some_iff.mp hel with ⟨h, _⟩; exact h
    simp [List.getElem?_set_self hlt]
  · intro es he
    subst he
    obtain ⟨es', rfl, ht⟩ := (runUpdater_editsKey u now v x).touch hr
    exact ⟨es', rfl, fun k hk => ht.dget hk⟩

end MongoModel.Proofs.C02Lemmas

namespace MongoModel.Proofs.C02
open MongoModel MongoModel.Spec MongoModel.Proofs.C02Lemmas

theorem positional_resolves_first_match (filter : Fields) (key f x : String) (v now : Val)
    (fs : Fields) (xs : List Val) (q : Val) (hf : plainName f = true) (hx : plainName x = true)
    (hkey : splitDots key = [f, "$", x]) (hdol : hasDollarPart key = true)
    (hD : posDomain f filter q) (ha : dget f fs = some (.arr xs))
    (hnum : pyInt? x = none) (hdocs : xs.all isDocVal = true)
    (hC01 : ∀ el ∈ xs, filterApplies q el = specMatches q el)
    (hok : ∀ el ∈ xs, ∃ b, specMatches q el = .ok b) :
    Agrees (applyUpdate (.doc filter) (.doc [("$set", .doc [(key, v)])]) now false (.doc fs))
      (positionalEdit f filter false (setField x v) fs) := by
  have hu : updaterOf "$set" = some .set := by decide +kernel
  have himpl := positional_updater_impl hu v now false hf hx hkey
    hdol hD ha (subHolds q) (subHolds_applies hC01 hok)
  simp only [positionalEdit, Bool.false_eq_true, if_false, ha, posIndex_on_domain xs hD hok]
  cases hfi : xs.findIdx? (subHolds q) with
  | none =>
    obtain ⟨e, he⟩ := runUpdater_arr_nonindex .set now xs x v hnum nofun nofun
    exact ⟨e, by rw [himpl, hfi]; show Except.map _ (runUpdater _ _ _ _ _) = _; rw [he]; rfl⟩
  | some i =>
    obtain ⟨el, hel, _, _⟩ := firstApplying_some 0 (subHolds_applies hC01 hok) hfi
    have hm : el ∈ xs := List.mem_of_getElem? hel
    have hd := List.all_eq_true.mp hdocs el hm
    cases el with
    | doc es =>
      simp only [hel, setField, Agrees]
      rw [himpl, hfi]
      simp only [hel]
      rfl
    | _ => simp [isDocVal] at hd


theorem positional_updater_resolves (op : String) (u : Updater) (hop : updaterOf op = some u)
    (filter : Fields) (key f x : String) (v now : Val) (wi : Bool) (fs : Fields) (xs : List Val)
    (q : Val) (hf : plainName f = true) (hx : plainName x = true)
    (hkey : splitDots key = [f, "$", x]) (hdol : hasDollarPart key = true)
    (hD : posDomain f filter q) (ha : dget f fs = some (.arr xs))
    (hC01 : ∀ el ∈ xs, filterApplies q el = specMatches q el)
    (hok : ∀ el ∈ xs, ∃ b, specMatches q el = .ok b) (i : Nat)
    (hi : posIndex f filter xs = some (some i)) :
    ∃ el, xs[i]? = some el ∧ (ElemCond.sub q).sat el = true ∧
      (∀ j, j < i → ∀ ej, xs[j]? = some ej → (ElemCond.sub q).sat ej = false) ∧
      applyUpdate (.doc filter) (.doc [(op, .doc [(key, v)])]) now wi (.doc fs) =
        (runUpdater u now el x v).map (fun el' => Val.doc (dset f (.arr (xs.set i el')) fs)) := by
  rw [posIndex_on_domain xs hD hok] at hi
  simp only [Option.some.injEq] at hi
  have himpl := positional_updater_impl hop v now wi hf hx hkey
    hdol hD ha (subHolds q) (subHolds_applies hC01 hok)
  obtain ⟨el, hel, hsat, _⟩ := firstApplying_some 0 (subHolds_applies hC01 hok) hi
  refine ⟨el, hel, hsat, ?_, ?_⟩
  · intro j hj ej hej
    have := (List.findIdx?_eq_some_iff_getElem.mp hi).2.2 j hj
    have hlt : j < xs.length := (List.getElem?_eq_some_iff.mp hej).1
    have he : xs[j] = ej := (List.getElem?_eq_some_iff.mp hej).2
    rw [← he]
    simpa [subHolds] using this
  · rw [himpl, hi]
    simp only [hel]

theorem positional_no_match_is_error (op : String) (u : Updater) (hop : updaterOf op = some u)
    (hu : u ≠ .unset)
    (filter : Fields) (key f x : String) (v now : Val) (wi : Bool) (fs : Fields) (xs : List Val)
    (q : Val) (hf : plainName f = true) (hx : plainName x = true)
    (hkey : splitDots key = [f, "$", x]) (hdol : hasDollarPart key = true)
    (hD : posDomain f filter q) (ha : dget f fs = some (.arr xs)) (hnum : pyInt? x = none)
    (hC01 : ∀ el ∈ xs, filterApplies q el = specMatches q el)
    (hok : ∀ el ∈ xs, ∃ b, specMatches q el = .ok b)
    (hi : posIndex f filter xs = some none) :
    ∃ e, applyUpdate (.doc filter) (.doc [(op, .doc [(key, v)])]) now wi (.doc fs) = .error e := by
  rw [posIndex_on_domain xs hD hok] at hi
  simp only [Option.some.injEq] at hi
  have himpl := positional_updater_impl hop v now wi hf hx hkey
    hdol hD ha (subHolds q) (subHolds_applies hC01 hok)
  rw [himpl, hi]
  have hcd : u ≠ .currentDate := by
    rintro rfl
    unfold updaterOf at hop
    -- `updaterOf` is six nested `if op = … then some …`: none of the six yields `.currentDate`
    iterate 6 (obtain e | hop := ite_some_cases hop; · cases e)
    cases hop
  obtain ⟨e, he⟩ := runUpdater_arr_nonindex u now xs x v hnum hu hcd
  exact ⟨e, by rw [he]; rfl⟩

theorem positional_frame (op : String) (u : Updater) (hop : updaterOf op = some u)
    (filter : Fields) (key f x : String) (v now : Val) (wi : Bool) (fs fs' : Fields)
    (xs : List Val) (q : Val) (hf : plainName f = true) (hx : plainName x = true)
    (hkey : splitDots key = [f, "$", x]) (hdol : hasDollarPart key = true)
    (hD : posDomain f filter q) (ha : dget f fs = some (.arr xs))
    (hC01 : ∀ el ∈ xs, filterApplies q el = specMatches q el)
    (hok : ∀ el ∈ xs, ∃ b, specMatches q el = .ok b) (i : Nat)
    (hi : posIndex f filter xs = some (some i))
    (h : applyUpdate (.doc filter) (.doc [(op, .doc [(key, v)])]) now wi (.doc fs) = .ok (.doc fs')) :
    (∀ k, k ≠ f → dget k fs' = dget k fs) ∧
    ∃ ys, dget f fs' = some (.arr ys) ∧ ys.length = xs.length ∧
      (∀ j, j ≠ i → ys[j]? = xs[j]?) ∧
      (∀ es, xs[i]? = some (.doc es) →
        ∃ es', ys[i]? = some (.doc es') ∧ ∀ k, k ≠ x → dget k es' = dget k es) := by
  obtain ⟨el, hel, _, _, himpl⟩ := positional_updater_resolves op u hop filter key f x v now wi fs
    xs q hf hx hkey hdol hD ha hC01 hok i hi
  rw [himpl] at h
  cases hr : runUpdater u now el x v with
  | error e => simp [hr, Except.map] at h
  | ok el' =>
    simp only [hr, Except.map, Except.ok.injEq, Val.doc.injEq] at h
    subst h
    obtain ⟨h1, h2, h3, h4⟩ := positional_inner_frame u now v x xs i el el' hel hr
    refine ⟨fun k hk => dget_dset_other _ hk fs, _, dget_dset_same f _ fs, h1, h2, ?_⟩
    intro es hes
    rw [hel] at hes
    cases hes
    obtain ⟨es', rfl, hfr⟩ := h4 es rfl
    exact ⟨es', h3, hfr⟩

theorem positional_whole_element (op : String) (u : Updater) (hop : updaterOf op = some u)
    (filter : Fields) (key f : String) (v now : Val) (wi : Bool) (fs : Fields) (xs : List Val)
    (q : Val) (hf : plainName f = true)
    (hkey : splitDots key = [f, "$"]) (hdol : hasDollarPart key = true)
    (hD : posDomain f filter q) (ha : dget f fs = some (.arr xs))
    (hC01 : ∀ el ∈ xs, filterApplies q el = specMatches q el)
    (hok : ∀ el ∈ xs, ∃ b, specMatches q el = .ok b) (i : Nat)
    (hi : posIndex f filter xs = some (some i)) :
    applyUpdate (.doc filter) (.doc [(op, .doc [(key, v)])]) now wi (.doc fs) =
      .ok (.doc (dset f (.arr (xs.set i v)) fs)) := by
  rw [posIndex_on_domain xs hD hok] at hi
  simp only [Option.some.injEq] at hi
  rw [positional_whole_impl hop v now wi hf hkey hdol hD ha (subHolds q)
    (subHolds_applies hC01 hok), hi]

theorem positional_push_first_match (filter : Fields) (key f l : String) (v now : Val) (wi : Bool)
    (fs : Fields) (xs : List Val) (q : Val)
    (hf : plainName f = true) (hl : plainName l = true)
    (hkey : splitDots key = [f, "$", l]) (hdol : hasDollarPart key = true)
    (hq : dget f filter = some (.doc [("$elemMatch", q)]))
    (hD : posDomain f filter q) (ha : dget f fs = some (.arr xs))
    (hC01 : ∀ el ∈ xs, filterApplies q el = specMatches q el)
    (hok : ∀ el ∈ xs, ∃ b, specMatches q el = .ok b) :
    applyUpdate (.doc filter) (.doc [("$push", .doc [(key, v)])]) now wi (.doc fs) =
      match posIndex f filter xs with
      | some (some i) =>
        (match xs[i]? with
         | some el => (pushAt v el l).map (fun el' => Val.doc (dset f (.arr (xs.set i el')) fs))
         | none => unmodelled)
      | _ => .error .writeErr := by
  rw [posIndex_on_domain xs hD hok]
  rw [positional_push_impl v now wi hf hl hkey hdol hq
    (by simp [dget]) ha (subHolds q) (subHolds_applies hC01 hok)]
  cases xs.findIdx? (subHolds q) <;> rfl


theorem positional_entry_reads_only_its_field (spec now : Val) (wi : Bool) (op key : String)
    (v : Val) (u : Updater) (hop : posFieldsOp op wi = some u) (hdol : hasDollarPart key = true)
    (fs gs : Fields) (hk : (dkeys fs).Nodup) (hk' : (dkeys gs).Nodup)
    (hag : dget (headOf key) fs = dget (headOf key) gs) :
    (∀ err, applyUpdate spec (.doc [(op, .doc [(key, v)])]) now wi (.doc fs) = .error err →
      applyUpdate spec (.doc [(op, .doc [(key, v)])]) now wi (.doc gs) = .error err) ∧
    (∀ fs', applyUpdate spec (.doc [(op, .doc [(key, v)])]) now wi (.doc fs) = .ok (.doc fs') →
      ∃ gs', applyUpdate spec (.doc [(op, .doc [(key, v)])]) now wi (.doc gs) = .ok (.doc gs') ∧
        dget (headOf key) fs' = dget (headOf key) gs') := by
  obtain ⟨h1, h2⟩ := (positional_entry_local spec now wi op key v u hop hdol).reads hk hk'
    (fun k hkm => by cases List.mem_singleton.mp hkm; exact hag)
  exact ⟨h1, fun fs' h => (h2 fs' h).imp fun gs' hg => ⟨hg.1, hg.2 _ (List.mem_singleton.mpr rfl)⟩⟩

end MongoModel.Proofs.C02
