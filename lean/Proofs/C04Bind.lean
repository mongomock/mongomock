/-
  Proofs.C04Bind — `$let` / `$map` / `$filter` variable binding, the computed-field and `$expr`
  contexts, and the array / set / string operator bodies.
-/
import Proofs.C04Arith

set_option linter.unusedSimpArgs false

namespace MongoModel.Proofs.C04
open MongoModel MongoModel.Expr

/-- `$let`, `$map`, `$filter` hand their argument document to `evalOp` -/
theorem eval_binder (c : Ctx) (k : String) (hk : k = "$let" ∨ k = "$map" ∨ k = "$filter")
    (gs : Fields) : eval c (.doc [(k, .doc gs)]) = evalOp c k (.doc gs) := by
  rcases hk with rfl | rfl | rfl <;>
    exact eval_shapedOp c (List.mem_append_left _ (List.mem_append_right _ (by simp))) _
      (Or.inl (by simp [variadicOps]))

/-! ### `$let` -/

/-- **let_subst**: the names are checked, the variables are evaluated under the outer bindings
    (a missing value is kept as such), then `in` under the outer bindings extended by all of
    them -/
theorem let_subst (c : Ctx) (vs : Fields) (body : Val)
    (hn : vs.all (fun kv => validVarName kv.1) = true) :
    eval c (.doc [("$let", .doc [("vars", .doc vs), ("in", body)])]) =
      (evalVars c vs).bind (fun bs => eval (c.bindAll bs) body) := by
  rw [eval_binder c _ (.inl rfl)]
  simp [evalOp, dhas, dget, evalVarsAt, evalAt, hn]
  rfl

/-- a name that is not a variable name is rejected before anything is evaluated -/
theorem let_bad_name (c : Ctx) (vs : Fields) (body : Val)
    (hn : vs.all (fun kv => validVarName kv.1) = false) :
    eval c (.doc [("$let", .doc [("vars", .doc vs), ("in", body)])]) = .error .opFail := by
  rw [eval_binder c _ (.inl rfl)]
  simp [evalOp, dhas, dget, hn]

theorem bindOpt_none_miss (c : Ctx) (name : String) :
    (c.bindOpt name none).miss.contains name = true := by
  simp [Ctx.bindOpt]

/-! ### `$map`, `$filter` -/

theorem this_valid : validVarName "this" = true := by decide

/-- **map_spec** (default variable name `this`) -/
theorem map_spec (c : Ctx) (inp body : Val) :
    eval c (.doc [("$map", .doc [("input", inp), ("in", body)])]) =
      (eval c inp).bind (fun r =>
        match r with
        | none | some .null => .ok (some .null)
        | some (.arr items) =>
          (mapItems (fun item => eval (c.bind "this" item) body) items).map (fun ys => some (.arr ys))
        | some _ => .error .opFail) := by
  rw [eval_binder c _ (.inr (.inl rfl))]
  simp only [evalOp]
  simp [dhas, dget, evalAt, asName, this_valid, bind, Except.bind]
  cases eval c inp with
  | error e => rfl
  | ok r =>
    cases r with
    | none => rfl
    | some v => cases v <;> simp [Except.map, pure, Except.pure] <;> (split <;> rfl)

/-- a name that is not a variable name is rejected before `input` is evaluated -/
theorem map_bad_name (c : Ctx) (inp body : Val) (name : String) (hn : validVarName name = false) :
    eval c (.doc [("$map", .doc [("input", inp), ("as", .str name), ("in", body)])]) =
      .error .opFail := by
  rw [eval_binder c _ (.inr (.inl rfl))]
  simp only [evalOp]
  simp [dhas, dget, asName, hn]

/-- **filter_spec**: the condition is evaluated under the binding of each item; the item is kept
    when the value is true (`toBool`, a missing value being false); a null or missing input gives
    null -/
theorem filter_spec (c : Ctx) (inp cond : Val) :
    eval c (.doc [("$filter", .doc [("input", inp), ("cond", cond)])]) =
      (eval c inp).bind (fun r =>
        match r with
        | none | some .null => .ok (some .null)
        | some (.arr items) =>
          (filterItems (fun item => eval (c.bind "this" item) cond) items).map
            (fun ys => some (.arr ys))
        | some v => iterErr v) := by
  rw [eval_binder c _ (.inr (.inr rfl))]
  simp only [evalOp]
  simp [dhas, dget, evalAt, asName, this_valid, bind, Except.bind]
  cases eval c inp with
  | error e => rfl
  | ok r =>
    cases r with
    | none => rfl
    | some v => cases v <;> simp [Except.map, pure, Except.pure] <;> (split <;> rfl)

/-! ### `$expr` -/

/-- **expr_filter_spec**: the matcher's verdict is `toBool` of the value of the expression,
    a missing value being false; an error of the expression is the error of the filter -/
theorem expr_filter_full (e d : Val) : exprFilter e d = (evalExpr d e).map Spec.toBool := by
  unfold exprFilter
  cases evalExpr d e with
  | error err => rfl
  | ok r => simp [Except.map, toBoolOpt_eq]

theorem expr_filter_value (e d : Val) (r : Option Val) (h : evalExpr d e = .ok r) :
    exprFilter e d = .ok (Spec.toBool r) := by
  simp [expr_filter_full, h, Except.map]

theorem expr_filter_missing (e d : Val) (h : evalExpr d e = .ok none) :
    exprFilter e d = .ok false := by
  simp [expr_filter_full, h, Except.map, Spec.toBool]

theorem expr_filter_error (e d : Val) (err : Err) (h : evalExpr d e = .error err) :
    exprFilter e d = .error err := by
  simp [exprFilter, h]

/-! ### missing paths and computed fields -/

/-- a `'$path'` whose lookup raises KeyError evaluates to "missing" -/
theorem path_missing (c : Ctx) (s : String) (cs : List Char) (hs : strKind s = .field cs)
    (h : getDotGen (splitDotsChars cs []) c.root = .ok none) :
    eval c (.str s) = .ok none := by
  simp only [eval, evalBasic, hs, h]

theorem strKind_field (cs : List Char) (hc : cs.head? ≠ some '$') :
    strKind (String.ofList ('$' :: cs)) = .field cs := by
  cases cs with
  | nil => simp [strKind]
  | cons x r =>
    have : x ≠ '$' := by simpa using hc
    simp only [strKind, String.toList_ofList]
    split
    · rename_i heq; simp at heq; exact absurd heq.1 this
    · rename_i heq; simp at heq; rw [heq]
    · rename_i h2; exact absurd rfl (h2 (x :: r))

theorem inclusionFlag_str (s : String) : isInclusionFlag (.str s) = false := by
  simp [isInclusionFlag, pyIn, pyEq]

/-- **missing_omitted**: a computed field whose expression is a missing path is omitted by
    `$project` and by `$addFields` (`none` = the field is not written) -/
theorem missing_omitted (d : Val) (s : String) (cs : List Char) (hs : strKind s = .field cs)
    (h : getDotGen (splitDotsChars cs []) d = .ok none) :
    projectField (.str s) d = .ok none ∧ addFieldsField (.str s) d = .ok none := by
  have := path_missing (Ctx.init true d) s cs hs (by simpa [Ctx.init] using h)
  simp [projectField, addFieldsField, evalExpr, inclusionFlag_str, this]

/-- the common case: a top-level field name (no dot, no `$`) that the document does not have -/
theorem missing_field_omitted (fs : Fields) (cs : List Char) (hdot : '.' ∉ cs)
    (hc : cs.head? ≠ some '$') (hm : dget (String.ofList cs) fs = none) :
    projectField (.str (String.ofList ('$' :: cs))) (.doc fs) = .ok none ∧
    addFieldsField (.str (String.ofList ('$' :: cs))) (.doc fs) = .ok none := by
  apply missing_omitted (.doc fs) _ cs (strKind_field cs hc)
  rw [splitDotsChars_nodot cs [] hdot]
  simp [getDotGen, hm]

/-- inside a computed document a missing field is left out, the others stay -/
theorem doc_literal_omits (c : Ctx) (hign : c.ign = true) (k : String) (e : Val)
    (hk : classify k = .plain) (he : eval c e = .ok none) :
    eval c (.doc [(k, e)]) = .ok (some (.doc [])) := by
  rw [eval_single, evalDoc]
  · simp [hk, he, hign, bind, Except.bind, evalDoc]
  · intro xs h
    subst h
    obtain ⟨ys, hy⟩ := eval_arr_ok c xs none he
    cases hy

/-! ### arrays, sets, strings -/

theorem arrsOf_map (xss : List (List Val)) : arrsOf (xss.map .arr) = some xss := by
  induction xss with
  | nil => rfl
  | cons xs r ih => simp [arrsOf, ih]

/-- `$concatArrays` of arrays is their concatenation -/
theorem concatArrays_append (xss : List (List Val)) :
    concatArraysOp (xss.map .arr) = .ok (.arr xss.flatten) := by
  have h1 : (xss.map Val.arr).any (fun v => !isNull v && !v.isArr) = false := by
    simp [List.any_eq_false, Val.isArr]
  have h2 : (xss.map Val.arr).any isNull = false := by
    simp [List.any_eq_false, isNull]
  simp [concatArraysOp, h1, h2, arrsOf_map]

/-- … and a null operand makes it null -/
theorem concatArrays_null (vals : List Val) (hall : ∀ v ∈ vals, isNull v = true ∨ v.isArr = true)
    (hn : .null ∈ vals) : concatArraysOp vals = .ok .null := by
  have h1 : vals.any (fun v => !isNull v && !v.isArr) = false := by
    simp only [List.any_eq_false]
    intro v hv
    rcases hall v hv with h | h <;> simp [h]
  have h2 : vals.any isNull = true := List.any_eq_true.mpr ⟨.null, hn, rfl⟩
  simp [concatArraysOp, h1, h2]

/-- `$size` is the length -/
theorem size_length (xs : List Val) : sizeOp (some (.arr xs)) = .ok (.int xs.length) := rfl

/-- `$in` is Python list membership -/
theorem in_spec (x : Val) (xs : List Val) : inOp x (.arr xs) = .ok (.bool (pyIn x xs)) := rfl

theorem strVals_map (ss : List String) : strVals (ss.map .str) = .ok ss := by
  induction ss with
  | nil => rfl
  | cons s r ih => simp [strVals, pyStr, ih, bind, Except.bind, pure, Except.pure]

/-- `$concat` of strings is their concatenation -/
theorem concat_strings (ss : List String) :
    concatOp (ss.map .str) = .ok (.str (String.join ss)) := by
  have h : (ss.map Val.str).any isNull = false := by simp [List.any_eq_false, isNull]
  have h' : (ss.map Val.str).any (fun v => !isNull v && !isStr v) = false := by
    simp [List.any_eq_false, isNull, isStr]
  simp [concatOp, h, h', strVals_map, bind, Except.bind, pure, Except.pure]

theorem toString_date (u : Int) : toStringOp (.date u none) = .ok (.str (isoZ u)) := rfl

end MongoModel.Proofs.C04
