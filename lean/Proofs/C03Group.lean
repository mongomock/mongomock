/-
  Proofs.C03Group — `$group`: `itertools.groupby` after a stable sort partitions the input by key.
  That the runs lose, duplicate or move no document holds for any list (`groupRuns_flatten`); that
  they are the classes needs the sort to make equal keys adjacent, i.e. a strict weak order whose
  ties are exactly the `==` of `groupby`.
-/
import Proofs.C03Basic
import Proofs.C11Sort

namespace MongoModel.Pipe.Proofs
open MongoModel MongoModel.Pipe MongoModel.Proofs.C11

theorem groupGo_flatten (cur : Val) : ∀ (acc : List Val) (l : List (Val × Val)),
    (groupGo cur acc l).flatMap (·.2) = acc.reverse ++ l.map (·.2)
  | acc, [] => by simp [groupGo]
  | acc, (k, d) :: rest => by
    rw [groupGo]
    split
    · rw [groupGo_flatten cur (d :: acc) rest, List.reverse_cons, List.append_assoc]; rfl
    · rw [List.flatMap_cons, groupGo_flatten k [d] rest]; rfl

theorem groupRuns_flatten : ∀ (l : List (Val × Val)),
    (groupRuns l).flatMap (·.2) = l.map (·.2)
  | [] => rfl
  | (k, d) :: rest => by simp [groupRuns, groupGo_flatten]

/-- the run starting at `cur`: everything up to the first key that is not `==` to it -/
theorem groupGo_eq (cur : Val) : ∀ (acc : List Val) (l : List (Val × Val)),
    groupGo cur acc l =
      (cur, acc.reverse ++ (l.takeWhile (fun p => pyEq cur p.1)).map (·.2)) ::
        groupRuns (l.dropWhile (fun p => pyEq cur p.1))
  | acc, [] => by simp [groupGo, groupRuns]
  | acc, (k, d) :: rest => by
    simp only [groupGo]
    by_cases h : pyEq cur k = true
    · simp only [h, if_true, List.takeWhile_cons, List.dropWhile_cons]
      rw [groupGo_eq cur (d :: acc) rest]; simp
    · simp only [h, List.takeWhile_cons, List.dropWhile_cons]
      simp [groupRuns]

theorem groupRuns_cons (k d : Val) (rest : List (Val × Val)) :
    groupRuns ((k, d) :: rest) =
      (k, d :: (rest.takeWhile (fun p => pyEq k p.1)).map (·.2)) ::
        groupRuns (rest.dropWhile (fun p => pyEq k p.1)) := by
  rw [groupRuns, groupGo_eq]
  simp only [List.reverse_cons, List.reverse_nil, List.nil_append, List.singleton_append]

/-! ### sorted input: the runs are the classes -/

/-- the keys `K` on which `groupby`'s `==` is the tie of the order the list was sorted by -/
structure KeyOrder (lt : Val → Val → Bool) (K : Val → Prop) : Prop where
  sw : StrictWeak lt
  eq_tie : ∀ a b, K a → K b → pyEq a b = tie lt a b

theorem KeyOrder.refl {lt K} (ko : KeyOrder lt K) {a : Val} (ha : K a) : pyEq a a = true := by
  rw [ko.eq_tie a a ha ha]; exact tie_self ko.sw a

theorem KeyOrder.symm {lt K} (ko : KeyOrder lt K) {a b : Val} (ha : K a) (hb : K b) :
    pyEq a b = pyEq b a := by
  rw [ko.eq_tie a b ha hb, ko.eq_tie b a hb ha]; simp [tie, Bool.and_comm]

theorem KeyOrder.trans {lt K} (ko : KeyOrder lt K) {a b c : Val} (ha : K a) (hb : K b) (hc : K c)
    (h1 : pyEq a b = true) (h2 : pyEq b c = true) : pyEq a c = true := by
  rw [ko.eq_tie _ _ ha hb] at h1
  rw [ko.eq_tie _ _ hb hc] at h2
  rw [ko.eq_tie _ _ ha hc]
  simp only [tie, Bool.and_eq_true, Bool.not_eq_true'] at h1 h2 ⊢
  exact ⟨ko.sw.negTrans c b a h2.1 h1.1, ko.sw.negTrans a b c h1.2 h2.2⟩

/-- in a sorted list the elements tied with the head form a prefix -/
theorem sorted_takeWhile_filter {lt : Val → Val → Bool} (sw : StrictWeak lt) (k : Val) :
    ∀ (rest : List (Val × Val)),
      Sorted (fun a b : Val × Val => lt a.1 b.1) rest → (∀ p ∈ rest, lt p.1 k = false) →
      rest.takeWhile (fun p => tie lt k p.1) = rest.filter (fun p => tie lt k p.1) ∧
      rest.dropWhile (fun p => tie lt k p.1) = rest.filter (fun p => !tie lt k p.1)
  | [], _, _ => by simp
  | p :: rest, hs, hk => by
    have hs' : Sorted (fun a b : Val × Val => lt a.1 b.1) rest := (List.pairwise_cons.mp hs).2
    have hp := (List.pairwise_cons.mp hs).1
    have hk' : ∀ q ∈ rest, lt q.1 k = false := fun q hq => hk q (List.mem_cons_of_mem _ hq)
    by_cases ht : tie lt k p.1 = true
    · obtain ⟨i1, i2⟩ := sorted_takeWhile_filter sw k rest hs' hk'
      simp [ht, i1, i2]
    · -- `p` is strictly after `k`; so is everything after `p`
      have hlt : lt k p.1 = true := by
        have h1 := hk p (List.mem_cons_self)
        simp only [tie, h1, Bool.not_false, Bool.and_true, Bool.not_eq_true', Bool.not_eq_false] at ht
        exact ht
      have hnone : ∀ q ∈ rest, tie lt k q.1 = false := by
        intro q hq
        have h2 : lt q.1 p.1 = false := hp q hq
        cases hkq : lt k q.1 with
        | true => simp [tie, hkq]
        | false =>
          have := sw.negTrans p.1 q.1 k h2 hkq
          rw [hlt] at this; cases this
      have hf1 : rest.filter (fun p => tie lt k p.1) = [] := by
        rw [List.filter_eq_nil_iff]; intro q hq; simp [hnone q hq]
      have hf2 : rest.filter (fun p => !tie lt k p.1) = rest := by
        rw [List.filter_eq_self]; intro q hq; simp [hnone q hq]
      simp [ht, hf1, hf2]

theorem takeWhile_congr_mem {α} {p q : α → Bool} : ∀ (l : List α), (∀ x ∈ l, p x = q x) →
    l.takeWhile p = l.takeWhile q ∧ l.dropWhile p = l.dropWhile q
  | [], _ => by simp
  | x :: xs, h => by
    obtain ⟨i1, i2⟩ := takeWhile_congr_mem xs (fun y hy => h y (List.mem_cons_of_mem _ hy))
    simp only [List.takeWhile_cons, List.dropWhile_cons, h x (List.mem_cons_self), i1, i2]
    exact ⟨trivial, trivial⟩

/-- **the partition.** On a list sorted by an order whose ties are the `==` of `groupby`, the
    runs are exactly the key classes: keys pairwise different, each group = all the elements with
    that key in list order, every element's key has its group. -/
theorem groupRuns_sorted {lt : Val → Val → Bool} {K : Val → Prop} (ko : KeyOrder lt K) :
    ∀ (n : Nat) (l : List (Val × Val)), l.length ≤ n → (∀ p ∈ l, K p.1) →
      Sorted (fun a b : Val × Val => lt a.1 b.1) l →
      (groupRuns l).Pairwise (fun a b => pyEq a.1 b.1 = false) ∧
      (∀ r ∈ groupRuns l, (∃ p ∈ l, p.1 = r.1) ∧
        r.2 = (l.filter (fun p => pyEq r.1 p.1)).map (·.2)) ∧
      (∀ p ∈ l, ∃ r ∈ groupRuns l, pyEq r.1 p.1 = true)
  | _, [], _, _, _ => ⟨.nil, nofun, nofun⟩
  | 0, _ :: _, hn, _, _ => by cases hn
  | n + 1, (k, d) :: rest, hn, hK, hs => by
    obtain ⟨hKk, hKr⟩ := List.forall_mem_cons.1 hK
    obtain ⟨hk, hs'⟩ := List.pairwise_cons.1 hs
    -- `==` against `k` is the tie on `rest`, where the elements tied with `k` form a prefix
    have heq : ∀ p ∈ rest, pyEq k p.1 = tie lt k p.1 := fun p hp => ko.eq_tie _ _ hKk (hKr p hp)
    obtain ⟨c1, c2⟩ := takeWhile_congr_mem rest heq
    obtain ⟨t1, t2⟩ := sorted_takeWhile_filter ko.sw k rest hs' hk
    rw [groupRuns_cons, c1, t1, c2, t2, ← List.filter_congr heq,
      ← List.filter_congr fun p hp => congrArg (!·) (heq p hp)]
    set dw := rest.filter (fun p => !pyEq k p.1) with hdwdef
    have hdwsub : dw.Sublist rest := List.filter_sublist
    have hdwmem : ∀ p, p ∈ dw ↔ p ∈ rest ∧ pyEq k p.1 = false := fun p => by
      rw [hdwdef, List.mem_filter, Bool.not_eq_true']
    -- the recursive call is on a filter of `rest`, not on a tail: `n` bounds the length
    obtain ⟨ih1, ih2, ih3⟩ := groupRuns_sorted ko n dw
      (Nat.le_of_succ_le_succ (Nat.le_trans (Nat.succ_le_succ hdwsub.length_le) hn))
      (fun p hp => hKr p ((hdwmem p).1 hp).1) (hs'.sublist hdwsub)
    refine ⟨List.pairwise_cons.2 ⟨fun r hr => ?_, ih1⟩, fun r hr => ?_, fun p hp => ?_⟩
    · obtain ⟨⟨p, hp, hpk⟩, _⟩ := ih2 r hr
      exact hpk ▸ ((hdwmem p).1 hp).2
    · rcases List.mem_cons.1 hr with rfl | hr
      · exact ⟨⟨(k, d), List.mem_cons_self, rfl⟩, by rw [List.filter_cons, if_pos (ko.refl hKk)]; rfl⟩
      · obtain ⟨⟨p, hp, hpk⟩, hg⟩ := ih2 r hr
        have hpr := (hdwmem p).1 hp
        have hKrk : K r.1 := hpk ▸ hKr p hpr.1
        have hkr : pyEq k r.1 = false := hpk ▸ hpr.2
        refine ⟨⟨p, List.mem_cons_of_mem _ hpr.1, hpk⟩, ?_⟩
        rw [hg, List.filter_cons, if_neg (by rw [ko.symm hKrk hKk, hkr]; nofun), hdwdef,
          List.filter_filter]
        -- an element `==` to `r.1` is not `==` to `k`
        refine congrArg _ (List.filter_congr fun x hx => ?_)
        cases hrx : pyEq r.1 x.1 with
        | false => rfl
        | true =>
          cases hkx : pyEq k x.1 with
          | false => rfl
          | true =>
            have := ko.trans hKk (hKr x hx) hKrk hkx ((ko.symm (hKr x hx) hKrk).trans hrx)
            rw [hkr] at this; cases this
    · rcases List.mem_cons.1 hp with rfl | hp
      · exact ⟨_, List.mem_cons_self, ko.refl hKk⟩
      · cases hkp : pyEq k p.1 with
        | true => exact ⟨_, List.mem_cons_self, hkp⟩
        | false =>
          obtain ⟨r, hr, hrp⟩ := ih3 p ((hdwmem p).2 ⟨hp, hkp⟩)
          exact ⟨r, List.mem_cons_of_mem _ hr, hrp⟩

end MongoModel.Pipe.Proofs
