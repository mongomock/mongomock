/-
  Proofs.C04SpecNamed — `eval_eq_spec`: the operators that take a document of named arguments and
  evaluate only some of them, or under new bindings: `$cond`, `$switch`, `$let`, `$map`, `$filter`.
-/
import Proofs.C04SpecWalk
import Proofs.C04SpecRun
import Proofs.C04Bind

set_option linter.unusedSimpArgs false

namespace MongoModel.Proofs.C04
open MongoModel MongoModel.Expr MongoModel.Spec

theorem append_nil2 {α} {a b : List α} (h : a ++ b = []) : a = [] ∧ b = [] :=
  List.append_eq_nil_iff.mp h


/-- a document in which all of `ks` (distinct names) occur and that has no more fields than
    there are names has no other field -/
theorem keys_exact (ks : List String) (hnd : ks.Nodup) (gs : Fields)
    (h : ∀ k ∈ ks, dhas k gs = true) (hl : gs.length ≤ ks.length) :
    gs.any (fun kv => !(ks.contains kv.1)) = false := by
  have key : ∀ (ks : List String), ks.Nodup → ∀ gs : Fields, (∀ k ∈ ks, ∃ v, (k, v) ∈ gs) →
      gs.length ≤ ks.length → ∀ kv ∈ gs, kv.1 ∈ ks := by
    intro ks
    induction ks with
    | nil =>
      intro _ gs _ hl kv hkv
      rw [List.eq_nil_of_length_eq_zero (Nat.le_zero.mp hl)] at hkv
      cases hkv
    | cons k ks ih =>
      intro hnd gs h hl kv hkv
      obtain ⟨v, hv⟩ := h k (by simp)
      have hnd' := List.nodup_cons.mp hnd
      -- the fields of another name are as many as the other names at most
      have hlt : (gs.filter (fun kv => kv.1 != k)).length < gs.length :=
        List.length_filter_lt_length_iff_exists.mpr ⟨(k, v), hv, by simp⟩
      by_cases e : kv.1 = k
      · simp [e]
      · refine List.mem_cons_of_mem _ (ih hnd'.2 (gs.filter (fun kv => kv.1 != k)) (fun k' hk' => ?_)
          (by simp only [List.length_cons] at hl; omega) kv
          (List.mem_filter.mpr ⟨hkv, by simpa using e⟩))
        obtain ⟨v', hv'⟩ := h k' (by simp [hk'])
        exact ⟨v', List.mem_filter.mpr ⟨hv', by simpa using fun e : k' = k => hnd'.1 (e ▸ hk')⟩⟩
  rw [List.any_eq_false]
  intro kv hkv
  have := key ks hnd gs (fun k hk => (dhas_dget (h k hk)).imp fun _ => dget_mem) hl kv hkv
  simpa using this

/-- `$cond: {if, then, else}` -/
theorem cond_doc_case (c : Ctx) (root : Val) (env : Env) (hr : EnvRel c root env) (gs : Fields)
    (hsub : AllSubFields Agrees gs)
    (hre : rAt root env "if" gs ++ rAt root env "then" gs ++ rAt root env "else" gs = [])
    (res : Option Val)
    (hres : (if (!(dhas "if" gs && dhas "then" gs && dhas "else" gs) || gs.length ≠ 3) = true then
          (Except.error Err.opFail : R (Option Val))
        else do
          if Spec.toBool (← sAt root env "if" gs) then sAt root env "then" gs
          else sAt root env "else" gs) = .ok res) :
    eval c (.doc [("$cond", .doc gs)]) = .ok res := by
  obtain ⟨h12, h4⟩ := append_nil2 hre
  obtain ⟨h2, h3⟩ := append_nil2 h12
  by_cases hcond : (!(dhas "if" gs && dhas "then" gs && dhas "else" gs) || gs.length ≠ 3) = true
  · rw [if_pos hcond] at hres; cases hres
  · rw [if_neg hcond] at hres
    have hcond' := Bool.eq_false_iff.mpr hcond
    simp only [Bool.or_eq_false_iff, Bool.not_eq_false', decide_eq_false_iff_not, ne_eq,
      Decidable.not_not] at hcond'
    have hkeys0 := hcond'.1
    have hkeys := hkeys0
    simp only [Bool.and_eq_true] at hkeys
    have hx := keys_exact ["if", "then", "else"] (by decide) gs
      (by simpa [and_assoc] using hkeys) (Nat.le_of_eq hcond'.2)
    obtain ⟨vi, hvi⟩ := dhas_dget hkeys.1.1
    obtain ⟨vt, hvt⟩ := dhas_dget hkeys.1.2
    obtain ⟨ve, hve⟩ := dhas_dget hkeys.2
    have e1 := at_agree c root env hr "if" gs vi hvi hsub h2
    have e2 := at_agree c root env hr "then" gs vt hvt hsub h3
    have e3 := at_agree c root env hr "else" gs ve hve hsub h4
    rw [cond_doc c gs hkeys0 hx, e1, e2, e3]
    simpa [bind, Except.bind] using hres

/-- `$switch` -/
theorem switch_case (c : Ctx) (root : Val) (env : Env) (hr : EnvRel c root env) (gs : Fields)
    (hsub : AllSubFields Agrees gs)
    (hre : rBranchesAt root env gs ++
        (if dhas "default" gs = true then rAt root env "default" gs else []) = [])
    (res : Option Val)
    (hres : (match dget "branches" gs with
        | some (.arr bs) =>
          if (!branchesWf bs) = true then (Except.error Err.opFail : R (Option Val))
          else do
            match ← sBranchesAt root env gs with
            | some r => pure r
            | none => if dhas "default" gs = true then sAt root env "default" gs else .error .opFail
        | _ => (Except.error Err.opFail : R (Option Val))) = .ok res) :
    eval c (.doc [("$switch", .doc gs)]) = .ok res := by
  obtain ⟨h1, h2⟩ := append_nil2 hre
  cases hb : dget "branches" gs with
  | none => simp [hb] at hres
  | some w =>
    cases w with
    | arr bs =>
      simp only [hb] at hres
      cases hwf : branchesWf bs with
      | false => simp [hwf] at hres
      | true =>
        simp only [hwf, Bool.not_true, Bool.false_eq_true, if_false] at hres
        simp only [branchesWf, Bool.and_eq_true, Bool.not_eq_true'] at hwf
        have hne : bs ≠ [] := by intro e; subst e; simp at hwf
        have hsubb : AllSubList Agrees bs := (hsub.mem (dget_mem hb)).items
        have hrb : rBranches root env bs = [] := by
          rw [← rBranchesAt_eq root env gs bs hb]; exact h1
        have hok : branchesOk bs = true := by
          simp only [branchesOk, List.all_eq_true]
          intro b hbm
          have := List.all_eq_true.mp hwf.2 b hbm
          cases b <;> simp at this ⊢
          exact this
        have hbr := branches_agree c root env hr bs hsubb hrb hok
        rw [switch_eq c gs bs hb hne hok,
          evalBranchesAt_eq c gs bs hb, hbr]
        rw [sBranchesAt_eq root env gs bs hb] at hres
        cases hsb : sBranches root env bs with
        | error e => simp [hsb, bind, Except.bind] at hres
        | ok ob =>
          simp only [hsb, bind, Except.bind] at hres ⊢
          cases ob with
          | some r => simpa [pure, Except.pure] using hres
          | none =>
            simp only at hres ⊢
            cases hd : dhas "default" gs with
            | false => simp [hd] at hres
            | true =>
              simp only [hd, if_true] at hres h2 ⊢
              obtain ⟨vd, hvd⟩ := dhas_dget hd
              rw [at_agree c root env hr "default" gs vd hvd hsub h2, hres]
    | _ => all_goals (simp [hb] at hres)

/-- how `eval` runs `$let` on any argument document -/
theorem let_unfold (c : Ctx) (gs : Fields) :
    eval c (.doc [("$let", .doc gs)]) =
      (if (!(dhas "vars" gs) || !(dhas "in" gs)) = true then .error .opFail
       else if gs.any (fun kv => !(["vars", "in"].contains kv.1)) = true then .error .opFail
       else match dget "vars" gs with
         | some (.doc vs) =>
           if (!(vs.all (fun kv => validVarName kv.1))) = true then .error .opFail
           else (evalVarsAt c gs).bind (fun bs => evalAt (c.bindAll bs) "in" gs)
         | _ => .error .opFail) := by
  rw [eval_binder c "$let" (.inl rfl), evalOp, if_pos rfl]
  rfl

/-- a name the rules accept is one the code accepts -/
theorem userVar_valid (s : String) (h : userVarName s = true) : validVarName s = true := by
  unfold userVarName at h
  unfold validVarName
  cases hl : s.toList with
  | nil => simp [hl] at h
  | cons ch r =>
    simp only [hl, Bool.and_eq_true] at h
    have h1 : isVarStart ch = true := by simpa [isVarStart, isLower, nonAscii] using h.1
    have h2 : r.all isVarChar = true := by
      rw [List.all_eq_true] at h ⊢
      intro x hx
      have := h.2 x hx
      simpa [isVarChar, isLower, isUpper, isDigitC, nonAscii] using this
    simp [h1, h2]

/-- `$let` -/
theorem let_case (c : Ctx) (root : Val) (env : Env) (hr : EnvRel c root env) (gs : Fields)
    (hsub : AllSubFields Agrees gs)
    (hre : rVarsAt root env gs ++
        (match sVarsAt root env gs with
         | .ok bs => rAt root (bs.reverse ++ env) "in" gs
         | .error _ => []) = [])
    (res : Option Val)
    (hres : (match dget "vars" gs, dhas "in" gs with
        | some (.doc vs), true =>
          if gs.length ≠ 2 then (Except.error Err.opFail : R (Option Val))
          else if vs.any (fun kv => kv.1 = "CURRENT") = true then unmodelled
          else if (!(vs.all (fun kv => userVarName kv.1))) = true then .error .opFail
          else do
            let bs ← sVarsAt root env gs
            sAt root (bs.reverse ++ env) "in" gs
        | _, _ => (Except.error Err.opFail : R (Option Val))) = .ok res) :
    eval c (.doc [("$let", .doc gs)]) = .ok res := by
  obtain ⟨h2, h3⟩ := append_nil2 hre
  cases hv : dget "vars" gs with
  | none => simp [hv] at hres
  | some w =>
    cases w with
    | doc vs =>
      cases hin : dhas "in" gs with
      | false => simp [hv, hin] at hres
      | true =>
        simp only [hv, hin] at hres
        by_cases hlen' : gs.length ≠ 2
        · rw [if_pos hlen'] at hres; cases hres
        rw [if_neg hlen'] at hres
        have hlen := Decidable.not_not.mp hlen'
        by_cases hcur : vs.any (fun kv => kv.1 = "CURRENT") = true
        · rw [if_pos hcur] at hres; cases hres
        rw [if_neg hcur] at hres
        cases hnames' : vs.all (fun kv => userVarName kv.1) with
        | false => rw [hnames'] at hres; cases hres
        | true =>
          rw [hnames', if_neg nofun] at hres
          have hvalid : vs.all (fun kv => validVarName kv.1) = true := by
            rw [List.all_eq_true] at hnames' ⊢
            intro kv hkv
            exact userVar_valid kv.1 (hnames' kv hkv)
          rw [sVarsAt_eq root env gs vs hv] at hres h3
          rw [rVarsAt_eq root env gs vs hv] at h2
          have hsv : AllSubFields Agrees vs := (hsub.mem (dget_mem hv)).fields
          obtain ⟨bs, hbs, hbs'⟩ := vars_agree c root env hr vs hsv h2
          simp only [hbs, bind, Except.bind] at hres h3
          have hvars : dhas "vars" gs = true := by simp [dhas, hv]
          rw [let_unfold, evalVarsAt_eq c gs vs hv, hbs']
          simp only [hvars, hin, Bool.not_true, Bool.or_self, Bool.false_eq_true, if_false, hv,
            keys_exact ["vars", "in"] (by decide) gs (by simp [hvars, hin]) (Nat.le_of_eq hlen), hvalid, Except.bind]
          obtain ⟨vin, hvin⟩ := dhas_dget hin
          have hr' := hr.bindAll bs
          rw [at_agree (c.bindAll bs) root _ hr' "in" gs vin hvin hsub h3, hres]
    | _ => all_goals (simp [hv] at hres)

theorem asVar_asName (gs : Fields) (name : String) (h : asVar gs = .ok name) :
    asName gs = some name ∧ validVarName name = true := by
  unfold asVar at h
  unfold asName
  cases hd : dget "as" gs with
  | none =>
    simp [hd] at h
    subst h
    exact ⟨rfl, by simp [validVarName, isVarStart, isVarChar]⟩
  | some w =>
    cases w <;> simp [hd] at h
    rename_i s
    split at h
    · simp [unmodelled] at h
    · split at h
      · rename_i hu
        simp at h
        subst h
        exact ⟨rfl, userVar_valid s hu⟩
      · cases h

/-- `$map` and `$filter` (`k`; `body` is `in` / `cond`): the input is evaluated, then the body
    once per item under the binding of the item.  `L` is the loop of the code, `P` what the rules
    make of the per-item results, `E` what the code answers to an input that is no array. -/
theorem iter_case (c : Ctx) (root : Val) (env : Env) (hr : EnvRel c root env) (gs : Fields)
    (hsub : AllSubFields Agrees gs) (k body : String)
    (L : (Val → R (Option Val)) → List Val → R (List Val))
    (P : List (Val × Option Val) → List Val) (E : Val → R (Option Val))
    (hL : ∀ (f g : Val → R (Option Val)) (items : List Val),
      (∀ x ∈ items, ∃ y, g x = .ok y ∧ f x = .ok y) →
      ∃ zs rs, L f items = .ok zs ∧ overItems g items = .ok rs ∧ P rs = zs)
    (hU : ∀ name, asName gs = some name → validVarName name = true → dhas "input" gs = true →
      dhas body gs = true → gs.any (fun kv => !(["input", "as", body].contains kv.1)) = false →
      eval c (.doc [(k, .doc gs)]) = (evalAt c "input" gs).bind (fun r =>
        match r with
        | none | some .null => .ok (some .null)
        | some (.arr items) =>
          (L (fun item => evalAt (c.bind name item) body gs) items).bind
            (fun r => .ok (some (.arr r)))
        | some v => E v))
    (hre : rAt root env "input" gs ++
        (match asVar gs, sAt root env "input" gs with
         | .ok name, .ok (some (.arr items)) =>
           (items.map (fun item => rAt root ((name, some item) :: env) body gs)).flatten
         | _, _ => []) = [])
    (res : Option Val)
    (hres : (if (!(dhas "input" gs && dhas body gs) ||
          gs.any (fun kv => !(["input", "as", body].contains kv.1))) = true
        then (Except.error Err.opFail : R (Option Val))
        else do
          let name ← asVar gs
          match ← sAt root env "input" gs with
          | none | some .null => pure (some .null)
          | some (.arr items) =>
            let rs ← overItems (fun item => sAt root ((name, some item) :: env) body gs) items
            pure (some (.arr (P rs)))
          | some _ => .error .opFail) = .ok res) :
    eval c (.doc [(k, .doc gs)]) = .ok res := by
  obtain ⟨h2, h3⟩ := append_nil2 hre
  by_cases hcond : (!(dhas "input" gs && dhas body gs) ||
      gs.any (fun kv => !(["input", "as", body].contains kv.1))) = true
  · rw [if_pos hcond] at hres; cases hres
  rw [if_neg hcond] at hres
  simp only [Bool.not_eq_true, Bool.or_eq_false_iff, Bool.not_eq_false', Bool.and_eq_true] at hcond
  cases hav : asVar gs with
  | error e => simp [hav, bind, Except.bind] at hres
  | ok name =>
    simp only [hav, bind, Except.bind] at hres h3
    obtain ⟨vin, hvin⟩ := dhas_dget hcond.1.1
    obtain ⟨vb, hvb⟩ := dhas_dget hcond.1.2
    obtain ⟨hn1, hn2⟩ := asVar_asName gs name hav
    rw [hU name hn1 hn2 hcond.1.1 hcond.1.2 hcond.2, at_agree c root env hr "input" gs vin hvin hsub h2]
    cases hin : sAt root env "input" gs with
    | error e => simp [hin] at hres
    | ok inp =>
      simp only [hin] at hres h3
      simp only [Except.bind]
      rcases inp with _ | w
      · exact hres
      cases w with
      | null => exact hres
      | arr items =>
        simp only at hres h3 ⊢
        obtain ⟨zs, rs, m1, m2, m3⟩ := hL
          (fun item => evalAt (c.bind name item) body gs)
          (fun item => sAt root ((name, some item) :: env) body gs) items (by
            intro x hx
            have r1 := flatten_nil _ h3 _ (List.mem_map.mpr ⟨x, hx, rfl⟩)
            obtain ⟨ry, hry⟩ := at_ok root _ body gs vb hvb r1
            exact ⟨ry, hry, by
              rw [at_agree (c.bind name x) root _ (hr.bind name x) body gs vb hvb hsub r1, hry]⟩)
        rw [m2] at hres
        rw [m1, ← m3]
        exact hres
      | _ => all_goals cases hres

/-- how `eval` runs `$map` on an argument document with the right fields and a valid name -/
theorem map_unfold (c : Ctx) (gs : Fields) (name : String) (h1 : asName gs = some name)
    (h2 : validVarName name = true) (h3 : dhas "input" gs = true) (h4 : dhas "in" gs = true)
    (h5 : gs.any (fun kv => !(["input", "as", "in"].contains kv.1)) = false) :
    eval c (.doc [("$map", .doc gs)]) = (evalAt c "input" gs).bind (fun r =>
      match r with
      | none | some .null => .ok (some .null)
      | some (.arr items) =>
        (mapItems (fun item => evalAt (c.bind name item) "in" gs) items).bind
          (fun r => .ok (some (.arr r)))
      | some _ => .error .opFail) := by
  rw [eval_binder c "$map" (.inr (.inl rfl)), evalOp, if_neg (by simp), if_pos rfl,
    h3, h4, h5, h1]
  simp only [Bool.not_true, Bool.or_self, Bool.false_eq_true, if_false, h2]
  rfl

/-- likewise `$filter` -/
theorem filter_unfold (c : Ctx) (gs : Fields) (name : String) (h1 : asName gs = some name)
    (h2 : validVarName name = true) (h3 : dhas "input" gs = true) (h4 : dhas "cond" gs = true)
    (h5 : gs.any (fun kv => !(["input", "as", "cond"].contains kv.1)) = false) :
    eval c (.doc [("$filter", .doc gs)]) = (evalAt c "input" gs).bind (fun r =>
      match r with
      | none | some .null => .ok (some .null)
      | some (.arr items) =>
        (filterItems (fun item => evalAt (c.bind name item) "cond" gs) items).bind
          (fun r => .ok (some (.arr r)))
      | some v => iterErr v) := by
  have h5' : gs.any (fun kv => !(["input", "cond", "as"].contains kv.1)) = false := by
    rw [← h5]
    congr 1
    funext kv
    simp only [List.contains_cons, List.contains_nil, Bool.or_false]
    cases (kv.1 == "input") <;> cases (kv.1 == "cond") <;> cases (kv.1 == "as") <;> rfl
  rw [eval_binder c "$filter" (.inr (.inr rfl)), evalOp, if_neg (by simp),
    if_neg (by simp), if_pos rfl, h3, h4, h5', h1]
  simp only [Bool.not_true, Bool.or_self, Bool.false_eq_true, if_false, h2]
  rfl

end MongoModel.Proofs.C04
