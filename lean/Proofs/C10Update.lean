/-
  Proofs.C10Update — the update loop, one snapshot entry at a time (`updateLoop_cons_ok`), under the
  invariant that the entries still to be visited are in the collection unchanged (`LInv`): it
  counts exactly the selected entries; a successful `_update` call cut at the loop
  (`applyUpdateColl_ok`).
-/
import Proofs.C05Loop
import Proofs.C10Keys
import Proofs.StepShape

namespace MongoModel.Proofs.C10Lemmas
open MongoModel MongoModel.Spec
open MongoModel.Proofs.C09Lemmas

/-! ### what the expiry passes inside `ensureUniques` can do -/

/-- no TTL index of `T` expires the document at `now` -/
def CleanDoc (now : Int) (T : List Index) (d : Val) : Prop :=
  ∀ ix ∈ T, ∀ f s, ixAction ix = .ok (some (f, s)) → meetsExpiry f s now d = false

theorem pass_keeps (now : Int) (l : List Index) (c c' : Coll) (h : pass now l c = .ok c')
    (p : Val × Val) (hp : p ∈ c.docs) (hc : CleanDoc now l p.2) : p ∈ c'.docs := by
  induction l generalizing c with
  | nil => rw [pass_nil] at h; cases h; exact hp
  | cons ix l ih =>
    have hc' : CleanDoc now l p.2 := fun ix' h' => hc ix' (List.mem_cons_of_mem _ h')
    rw [pass_cons] at h
    cases ha : ixAction ix with
    | error e => rw [ha] at h; cases h
    | ok o =>
      rw [ha] at h
      cases o with
      | none => exact ih c h hp hc'
      | some fs =>
        obtain ⟨f, s⟩ := fs
        refine ih _ h ?_ hc'
        simp only [filt, List.mem_filter]
        exact ⟨hp, by rw [hc ix (List.mem_cons_self ..) f s ha]; rfl⟩

/-- `_ensure_uniques` scans once per unique index, and a scan leaves what the expiry pass leaves:
    the collection comes back as it was or as ONE expiry pass leaves it (the pass is idempotent) -/
theorem ensureUniques_ok {now : Int} {c c' : Coll} {d : Val} (h : ensureUniques now c d = .ok c') :
    c' = c ∨ expire now c = .ok c' := by
  unfold ensureUniques at h
  generalize c.indexes = l at h
  induction l generalizing c with
  | nil => cases h; exact .inl rfl
  | cons ix l ih =>
    rw [List.foldlM_cons] at h
    obtain ⟨cm, hcm, h2⟩ := bind_ok h
    clear h
    have step : cm = c ∨ expire now c = .ok cm := by
      by_cases hu : (!ix.unique) = true
      · rw [if_pos hu] at hcm; cases hcm; exact .inl rfl
      rw [if_neg hu] at hcm
      obtain ⟨kwargs, _, hcm⟩ := bind_ok hcm
      by_cases hsk : (ix.sparse && kwargs.all isNullCond) = true
      · rw [if_pos hsk] at hcm; cases hcm; exact .inl rfl
      rw [if_neg hsk] at hcm
      obtain ⟨⟨c2, ms⟩, hit, hcm⟩ := bind_ok hcm
      dsimp only at hcm
      split at hcm
      · cases hcm
      · cases hcm; exact .inr (iter_ok hit).1
    rcases step with rfl | he
    · exact ih h2
    · rcases ih h2 with rfl | he2
      · exact .inr he
      · rw [expire_idem now c cm he] at he2; cases he2; exact .inr he

/-- what `setDoc` does to one entry -/
def setEntry (k d : Val) (p : Val × Val) : Val × Val := if pyEq p.1 k then (p.1, d) else p

theorem setEntry_fst (k d : Val) (p : Val × Val) : (setEntry k d p).1 = p.1 := by
  unfold setEntry; split <;> rfl

theorem setDoc_docs {c : Coll} {k : Val} (d : Val) (h : c.hasKey k = true) :
    (c.setDoc k d).docs = c.docs.map (setEntry k d) := by
  unfold Coll.setDoc; rw [if_pos h]; rfl

theorem setDoc_ttl (c : Coll) (k d : Val) : (c.setDoc k d).ttlIndexes = c.ttlIndexes := by
  unfold Coll.setDoc; split <;> rfl

theorem DK_map_setEntry {l : List (Val × Val)} (k d : Val) (h : DK l) : DK (l.map (setEntry k d)) := by
  unfold DK at *
  rw [List.pairwise_map]
  exact h.imp (fun {a b} hab => by rw [setEntry_fst, setEntry_fst]; exact hab)

theorem GK_map_setEntry {l : List (Val × Val)} (k d : Val) (h : GK l) : GK (l.map (setEntry k d)) := by
  intro p hp
  obtain ⟨a, ha, rfl⟩ := List.mem_map.1 hp
  rw [setEntry_fst]
  exact h a ha

/-- keys of the current collection behave, its TTL indexes are `T`, and the entries of the
    snapshot still to be visited are in it, unchanged (and not expired by `T`) -/
structure LInv (now : Int) (T : List Index) (rest : List (Val × Val)) (c : Coll) : Prop where
  dk : DK c.docs
  gk : GK c.docs
  ttl : c.ttlIndexes = T
  mem : ∀ p ∈ rest, p ∈ c.docs ∧ CleanDoc now T p.2

theorem LInv.tail {now : Int} {T : List Index} {p : Val × Val} {rest : List (Val × Val)} {c : Coll}
    (h : LInv now T (p :: rest) c) : LInv now T rest c :=
  ⟨h.dk, h.gk, h.ttl, fun q hq => h.mem q (List.mem_cons_of_mem _ hq)⟩

theorem LInv.lookup {now : Int} {T : List Index} {p : Val × Val} {rest : List (Val × Val)} {c : Coll}
    (h : LInv now T (p :: rest) c) : c.lookup p.1 = some p.2 := by
  unfold Coll.lookup
  rw [find_of_mem h.dk h.gk (h.mem p (List.mem_cons_self ..)).1]
  rfl

theorem LInv.setDoc {now : Int} {T : List Index} {p : Val × Val} {rest : List (Val × Val)} {c : Coll}
    (h : LInv now T (p :: rest) c) (hd : DK (p :: rest)) (new : Val) :
    LInv now T rest (c.setDoc p.1 new) := by
  have hk := C05Lemmas.lookup_hasKey _ _ _ h.lookup
  have hp := (h.mem p (List.mem_cons_self ..)).1
  refine ⟨?_, ?_, ?_, ?_⟩
  · rw [setDoc_docs new hk]; exact DK_map_setEntry _ _ h.dk
  · rw [setDoc_docs new hk]; exact GK_map_setEntry _ _ h.gk
  · rw [setDoc_ttl]; exact h.ttl
  · intro q hq
    have hq' := h.mem q (List.mem_cons_of_mem _ hq)
    refine ⟨?_, hq'.2⟩
    rw [setDoc_docs new hk]
    refine List.mem_map.2 ⟨q, hq'.1, ?_⟩
    have h1 : pyEq p.1 q.1 = false := (List.pairwise_cons.1 hd).1 q hq
    have h2 : pyEq q.1 p.1 = false := by rw [← (h.gk p hp).1 q.1]; exact h1
    unfold setEntry
    rw [h2]
    rfl

theorem LInv.expire {now : Int} {T : List Index} {rest : List (Val × Val)} {c c2 : Coll}
    (h : LInv now T rest c) (he : expire now c = .ok c2) : LInv now T rest c2 := by
  obtain ⟨hsub, hmeta⟩ := expire_ok now c c2 he
  exact ⟨h.dk.sublist hsub, h.gk.subset (fun p hp => hsub.subset hp), hmeta.2.1.trans h.ttl,
    fun q hq => ⟨pass_keeps now _ c c2 he q (h.mem q hq).1 (by rw [h.ttl]; exact (h.mem q hq).2),
      (h.mem q hq).2⟩⟩

/-- the invariant after the rewrite of the entry visited and the unique-index check -/
theorem LInv.step {now : Int} {T : List Index} {p : Val × Val} {rest : List (Val × Val)}
    {c c2 : Coll} (h : LInv now T (p :: rest) c) (hd : DK (p :: rest)) {new : Val}
    (hu : ensureUniques now (c.setDoc p.1 new) new = .ok c2) : LInv now T rest c2 := by
  rcases ensureUniques_ok hu with rfl | he
  · exact h.setDoc hd new
  · exact (h.setDoc hd new).expire he

/-- `updateLoop_cons` when the loop succeeds: the entry visited is skipped, or rewritten and checked
    against the unique indexes -/
theorem updateLoop_cons_ok {now : Int} {spec document nowV : Val} {multi : Bool} {key v0 : Val}
    {rest : List (Val × Val)} {c c' : Coll} {m u m' u' : Nat} {cur : Val}
    (hl : c.lookup key = some cur)
    (h : updateLoop now spec document nowV multi ((key, v0) :: rest) c m u = (c', .ok (m', u'))) :
    (filterApplies spec cur = .ok false ∧
      updateLoop now spec document nowV multi rest c m u = (c', .ok (m', u'))) ∨
    ∃ new c2, filterApplies spec cur = .ok true ∧
      applyUpdate spec document nowV false cur = .ok new ∧
      ensureUniques now (c.setDoc key new) new = .ok c2 ∧
      (if multi then updateLoop now spec document nowV multi rest c2 (m + 1)
          (u + if pyEq new cur then 0 else 1)
        else (c2, .ok (m + 1, u + if pyEq new cur then 0 else 1))) = (c', .ok (m', u')) := by
  rw [Shape.updateLoop_cons] at h
  cases hv : Shape.visit now spec document nowV key c with
  | error e => rw [hv] at h; cases h
  | ok o =>
    rw [hv] at h
    cases o with
    | none =>
      rcases Shape.visit_none hv with h0 | ⟨cur', h0, hf⟩
      · rw [hl] at h0; cases h0
      · rw [hl] at h0; cases h0; exact .inl ⟨hf, h⟩
    | some p =>
      obtain ⟨c2, ch⟩ := p
      obtain ⟨cur', new, h0, hf, ha, hu, _⟩ := Shape.visit_some hv
      rw [hl] at h0; cases h0
      cases Shape.visit_changed hv hl ha
      refine .inr ⟨new, c2, hf, ha, hu, ?_⟩
      revert h
      cases pyEq new cur <;> exact id

theorem select_cons_false {spec : Val} {p : Val × Val} {l more : List (Val × Val)}
    (hb : filterApplies spec p.2 = .ok false) (hm : selectDocs spec l = .ok more) :
    selectDocs spec (p :: l) = .ok more := by
  simp only [selectDocs, hb, hm, bind, Except.bind, pure, Except.pure]
  rfl

/-- no stored document matches: the loop does nothing, whatever the snapshot -/
theorem loop_nomatch (now : Int) (spec document nowV : Val) (multi : Bool) (c : Coll)
    (hno : ∀ p ∈ c.docs, filterApplies spec p.2 = .ok false) :
    ∀ (l : List (Val × Val)) (m u : Nat),
      updateLoop now spec document nowV multi l c m u = (c, .ok (m, u)) := by
  intro l
  induction l with
  | nil => intro m u; rw [Shape.updateLoop_nil]
  | cons kv rest ih =>
    intro m u
    rw [Shape.updateLoop_cons, Shape.visit_skip]
    · exact ih m u
    · intro cur hl
      obtain ⟨p, hp, _, rfl⟩ := C05Lemmas.lookup_some _ _ _ hl
      exact hno p hp

/-- the single-document loop that succeeds stops at the first entry the matcher accepts — the
    entries after it are not looked at — or accepts none -/
theorem loop_one (now : Int) (spec document nowV : Val) (T : List Index)
    (rest : List (Val × Val)) : ∀ (c : Coll) (m u : Nat) (c' : Coll) (m' u' : Nat),
      DK rest → LInv now T rest c →
      updateLoop now spec document nowV false rest c m u = (c', .ok (m', u')) →
      (∃ pre q post new, rest = pre ++ q :: post ∧ selectDocs spec pre = .ok [] ∧
        filterApplies spec q.2 = .ok true ∧ applyUpdate spec document nowV false q.2 = .ok new ∧
        ensureUniques now (c.setDoc q.1 new) new = .ok c' ∧ m' = m + 1 ∧
        u' = u + if pyEq new q.2 then 0 else 1) ∨
      (selectDocs spec rest = .ok [] ∧ c' = c ∧ m' = m ∧ u' = u) := by
  induction rest with
  | nil => intro c m u c' m' u' _ _ h; cases h; exact .inr ⟨rfl, rfl, rfl, rfl⟩
  | cons kv rest ih =>
    intro c m u c' m' u' hd hinv h
    obtain ⟨key, v⟩ := kv
    rcases updateLoop_cons_ok hinv.lookup h with ⟨hf, h⟩ | ⟨new, c2, hf, ha, hu, h⟩
    · rcases ih c m u c' m' u' (List.pairwise_cons.1 hd).2 hinv.tail h with
        ⟨pre, q, post, new, h1, h2, h3⟩ | ⟨h1, h2⟩
      · exact .inl ⟨(key, v) :: pre, q, post, new, by rw [h1]; rfl, select_cons_false hf h2, h3⟩
      · exact .inr ⟨select_cons_false hf h1, h2⟩
    · cases h
      exact .inl ⟨[], (key, v), rest, new, rfl, rfl, hf, ha, hu, rfl, rfl⟩

/-- `matched` grows by the number of selected entries (by one at most without `multi`) -/
theorem loop_count (now : Int) (spec document nowV : Val) (multi : Bool) (T : List Index)
    (rest : List (Val × Val)) : ∀ (c : Coll) (matched updated : Nat) (c' : Coll) (m' u' : Nat)
      (sel : List (Val × Val)),
      DK rest → LInv now T rest c → selectDocs spec rest = .ok sel →
      updateLoop now spec document nowV multi rest c matched updated = (c', .ok (m', u')) →
      updated ≤ matched →
      m' = matched + (if multi then sel.length else min sel.length 1) ∧ u' ≤ m' := by
  induction rest with
  | nil =>
    intro c m u c' m' u' sel _ _ hs h hle
    cases hs; cases h; cases multi <;> exact ⟨rfl, hle⟩
  | cons kv rest ih =>
    intro c m u c' m' u' sel hd hinv hs h hle
    obtain ⟨key, v⟩ := kv
    obtain ⟨b, more, hb, hm, rfl⟩ := select_cons spec (key, v) rest sel hs
    have hd' := (List.pairwise_cons.1 hd).2
    rcases updateLoop_cons_ok hinv.lookup h with ⟨hf, h⟩ | ⟨new, c2, hf, _, hu, h⟩
    · cases hb.symm.trans hf
      exact ih c m u c' m' u' more hd' hinv.tail hm h hle
    · cases hb.symm.trans hf
      generalize hdl : (if pyEq new v = true then 0 else 1 : Nat) = d at h
      have hd1 : d ≤ 1 := by rw [← hdl]; split <;> decide
      cases multi with
      | true =>
        obtain ⟨h1, h2⟩ := ih c2 _ _ c' m' u' more hd' (hinv.step hd hu) hm h (by omega)
        rw [if_pos rfl] at h1 ⊢
        rw [if_pos rfl, List.length_cons]
        omega
      | false =>
        cases h
        rw [if_pos rfl, if_neg Bool.false_ne_true, List.length_cons,
          Nat.min_eq_right (Nat.succ_le_succ (Nat.zero_le _))]
        exact ⟨rfl, by omega⟩

open MongoModel.Proofs.C05Lemmas in
/-- a successful `_update` / `_apply_update` call: the update document is a document, the expiry
    pass, the loop and what follows it have answered -/
theorem applyUpdateColl_ok {cfg : Cfg} {now : Int} {c c' : Coll} {fs : Fields} {u : Val}
    {upsert multi : Bool} {res : UpdateResult}
    (h : applyUpdateColl cfg now c (.doc fs) u upsert multi = (c', .ok res)) :
    ∃ dfs c1 c3 m up, patchDT u = .doc dfs ∧ expire now c = .ok c1 ∧
      updateLoop now (.doc (patchFields fs)) (.doc dfs) (patchDT (.date now none)) multi
        c1.docs c1 0 0 = (c3, .ok (m, up)) ∧
      afterLoop now (.doc (patchFields fs)) (.doc dfs) (patchDT (.date now none)) (patchFields fs)
        dfs upsert c3 (.ok (m, up)) = (c', .ok res) := by
  rw [applyUpdateColl_eq, C18.patchDT_doc] at h
  split at h
  · rename_i ss dfs hss hu
    cases hss
    cases hp : updatePrecheck cfg dfs with
    | error e => rw [hp] at h; cases h
    | ok _ =>
      rw [hp] at h
      dsimp only at h
      cases hpre : preLoop now c (.doc (patchFields fs)) with
      | error e => rw [hpre] at h; cases h
      | ok c1 =>
        rw [hpre, hu] at h
        dsimp only at h
        generalize hloop : updateLoop now (.doc (patchFields fs)) (.doc dfs)
          (patchDT (.date now none)) multi c1.docs c1 0 0 = lr at h
        obtain ⟨c3, r⟩ := lr
        cases r with
        | error e => cases h
        | ok mu => exact ⟨dfs, c1, c3, mu.1, mu.2, hu, preLoop_ok hpre, hloop, h⟩
  · cases h

open MongoModel.Proofs.C05Lemmas in
/-- what follows the loop when no upsert is due -/
theorem afterLoop_plain (now : Int) (spec document nowV : Val) (ss dfs : Fields) (upsert : Bool)
    (c3 : Coll) (m up : Nat) (h : (!upsert || decide (m > 0)) = true) :
    afterLoop now spec document nowV ss dfs upsert c3 (.ok (m, up)) =
      (c3, .ok ⟨m, if m > 0 then up else 0, none, m > 0⟩) := by
  simp only [afterLoop, h, if_true]

end MongoModel.Proofs.C10Lemmas
