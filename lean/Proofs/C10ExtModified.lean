/-
  Proofs.C10ExtModified — `update_many` / `update_one` / `replace_one` on a collection without TTL
  index: `modified_count` counts the selected entries whose stored document fails the change test
  after the call, and what the client sees (`UpdateResult`) says so.
-/
import Spec.CountsExt
import Proofs.C10
import Proofs.C08ExtManyLoop
import Proofs.C09Ops
import Proofs.C05

namespace MongoModel.Proofs.C10Ext
open MongoModel MongoModel.Spec
open MongoModel.Proofs.C10Lemmas MongoModel.Proofs.C09Lemmas MongoModel.Proofs.C14Lemmas
open MongoModel.Proofs.C08Lemmas

/-! ### `update_many`: the loop rewrites the entries in place, one after the other -/

/-- the entry counts as modified -/
def modB (spec : Val) (pp : (Val × Val) × (Val × Val)) : Bool :=
  matchB spec pp.1 && !pyEq pp.2.2 pp.1.2

theorem many_count (now : Int) (spec document nowV : Val) (pending : List (Val × Val)) :
    ∀ (done : List (Val × Val)) (c : Coll) (m u : Nat) (c' : Coll) (m' u' : Nat),
      c.docs = done ++ pending → c.ttlIndexes = [] → DK c.docs → GK c.docs →
      updateLoop now spec document nowV true pending c m u = (c', .ok (m', u')) →
      ∃ pending', c'.docs = done ++ pending' ∧ pending'.map (·.1) = pending.map (·.1) ∧
        m' = m + (pending.filter (matchB spec)).length ∧
        u' = u + ((pending.zip pending').filter (modB spec)).length := by
  induction pending with
  | nil => intro done c m u c' m' u' hc _ _ _ h; cases h; exact ⟨[], hc, rfl, rfl, rfl⟩
  | cons p rest ih =>
    intro done c m u c' m' u' hc hn hd hg h
    have hp : p ∈ c.docs := by rw [hc]; exact List.mem_append_right _ (List.mem_cons_self ..)
    have hl : c.lookup p.1 = some p.2 := by
      unfold Coll.lookup; rw [find_of_mem hd hg hp]; rfl
    rcases updateLoop_cons_ok hl h with ⟨hf, h⟩ | ⟨new, c2, hf, _, hu, h⟩
    · obtain ⟨pending', h1, h3, h4, h5⟩ := ih (done ++ [p]) c m u c' m' u'
        (by rw [hc, List.append_assoc]; rfl) hn hd hg h
      have hmb : matchB spec p = false := by unfold matchB; rw [hf]
      refine ⟨p :: pending', by rw [h1, List.append_assoc]; rfl, by rw [List.map_cons, h3]; rfl,
        ?_, ?_⟩
      · rw [h4, List.filter_cons, hmb]; rfl
      · rw [h5, List.zip_cons_cons, List.filter_cons, modB, hmb]; rfl
    · have hk : c.hasKey p.1 = true := C05Lemmas.lookup_hasKey _ _ _ hl
      cases C05Lemmas.ensureUniques_noTtl now _ new c2 (by rw [setDoc_ttl]; exact hn) hu
      obtain ⟨pending', h1, h3, h4, h5⟩ := ih (done ++ [(p.1, new)]) _ _ _ c' m' u'
        (by rw [setDoc_at c done rest p new hc hd hg, List.append_assoc]; rfl)
        (by rw [setDoc_ttl]; exact hn)
        (by rw [setDoc_docs new hk]; exact DK_map_setEntry _ _ hd)
        (by rw [setDoc_docs new hk]; exact GK_map_setEntry _ _ hg) h
      have hmb : matchB spec p = true := by unfold matchB; rw [hf]
      refine ⟨(p.1, new) :: pending', by rw [h1, List.append_assoc]; rfl,
        by rw [List.map_cons, h3]; rfl, ?_, ?_⟩
      · rw [h4, List.filter_cons, hmb, if_pos rfl, List.length_cons]; omega
      · rw [h5, List.zip_cons_cons, List.filter_cons, modB, hmb, Bool.true_and]
        cases pyEq new p.2
        · simp only [Bool.false_eq_true, if_false, Bool.not_false, if_true, List.length_cons]
          omega
        · rfl

theorem zip_filter_length {α β} {l : List α} {l' : List β} (g : α × β → Bool) (f : α → Bool)
    (h : l'.length = l.length) (hgf : ∀ pp ∈ l.zip l', g pp = f pp.1) :
    ((l.zip l').filter g).length = (l.filter f).length := by
  induction l generalizing l' with
  | nil => rfl
  | cons a l ih =>
    cases l' with
    | nil => cases h
    | cons b l' =>
      rw [List.zip_cons_cons, List.filter_cons, List.filter_cons, hgf (a, b) (List.mem_cons_self ..)]
      have := ih (Nat.succ.inj h) (fun pp hpp => hgf pp (List.mem_cons_of_mem _ hpp))
      dsimp only
      split <;> simp [this]

theorem zip_keys : ∀ {l l' : List (Val × Val)}, l'.map (·.1) = l.map (·.1) →
    ∀ pp ∈ l.zip l', pp.2.1 = pp.1.1
  | [], _, _, _, h => by cases h
  | _ :: _, [], _, _, h => by cases h
  | a :: l, b :: l', hk, pp, h => by
    rw [List.map_cons, List.map_cons] at hk
    rcases List.mem_cons.1 h with rfl | h
    · exact (List.cons.inj hk).1
    · exact zip_keys (List.cons.inj hk).2 pp h

theorem DK_of_keys {l l' : List (Val × Val)} (hk : l'.map (·.1) = l.map (·.1)) (hd : DK l) : DK l' := by
  unfold DK at *
  have h1 : (l.map (·.1)).Pairwise (fun a b => pyEq a b = false) := List.pairwise_map.2 hd
  rw [← hk] at h1
  exact List.pairwise_map.1 h1

theorem GK_of_keys {l l' : List (Val × Val)} (hk : l'.map (·.1) = l.map (·.1)) (hg : GK l) : GK l' := by
  intro p' hp'
  have : p'.1 ∈ l.map (·.1) := by rw [← hk]; exact List.mem_map.2 ⟨p', hp', rfl⟩
  obtain ⟨p, hp, he⟩ := List.mem_map.1 this
  have := hg p hp
  rw [he] at this
  exact this

theorem update_many_counts (cfg : Cfg) (now : Int) (c c' : Coll) (fs : Fields) (u : Val)
    (sel : List (Val × Val)) (res : UpdateResult)
    (hi : IdInv c) (hg : GoodKeys c) (hn : c.ttlIndexes = [])
    (hs : selectDocs (patchDT (.doc fs)) c.docs = .ok sel)
    (h : applyUpdateColl cfg now c (.doc fs) u false true = (c', .ok res)) :
    res.n = sel.length ∧ res.nModified = (sel.filter (contentChangedAfter c')).length ∧
    c'.docs.map (·.1) = c.docs.map (·.1) ∧ res.upserted = none := by
  obtain ⟨dfs, c2, c3, matched, updated, _, he, hloop, h⟩ := applyUpdateColl_ok h
  cases (expire_nil now c hn).symm.trans he
  rw [afterLoop_plain _ _ _ _ _ _ _ _ _ _ rfl] at h
  cases h
  rw [C18.patchDT_doc] at hs
  obtain ⟨docs', h1, hkeys, h4, h5⟩ := many_count now _ _ _ c.docs [] c 0 0 _ matched updated rfl hn
    hi.1 hg hloop
  rw [List.nil_append] at h1
  rw [← h1] at hkeys h5
  have hd3 : DK c'.docs := DK_of_keys hkeys hi.1
  have hg3 : GK c'.docs := GK_of_keys hkeys hg
  obtain ⟨hsel, _⟩ := select_filter _ c.docs sel hs
  -- an entry and the entry at its place afterwards have the same key: the latter is what
  -- `lookup` finds under it
  have hcount : ((c.docs.zip c'.docs).filter (modB (.doc (patchFields fs)))).length =
      (c.docs.filter (fun p => matchB (.doc (patchFields fs)) p && contentChangedAfter c' p)).length := by
    apply zip_filter_length _ _ (by simpa using congrArg List.length hkeys)
    rintro ⟨p, p'⟩ hpp
    have hk : p'.1 = p.1 := zip_keys hkeys _ hpp
    have hl : c'.lookup p.1 = some p'.2 := by
      unfold Coll.lookup
      rw [← hk, find_of_mem hd3 hg3 (List.of_mem_zip hpp).2]
      rfl
    simp only [modB, contentChangedAfter, hl]
  have hm : matched = sel.length := by rw [h4, hsel]; simp
  refine ⟨hm, ?_, hkeys, rfl⟩
  dsimp only
  rw [hsel, List.filter_filter, h5, hcount]
  have hcongr : c.docs.filter (fun p => matchB (.doc (patchFields fs)) p && contentChangedAfter c' p)
      = c.docs.filter (fun p => contentChangedAfter c' p && matchB (.doc (patchFields fs)) p) :=
    List.filter_congr (fun p _ => Bool.and_comm _ _)
  rw [hcongr]
  split
  · omega
  · rename_i hz
    have hz' : c.docs.filter (matchB (.doc (patchFields fs))) = [] :=
      List.eq_nil_of_length_eq_zero (by rw [← hsel, ← hm]; omega)
    rw [← List.filter_filter, hz']
    rfl

/-- a selection whose first accepted entry is `q` starts with `q` -/
theorem select_first {spec : Val} {q : Val × Val} {post sel : List (Val × Val)} :
    ∀ {pre : List (Val × Val)}, selectDocs spec (pre ++ q :: post) = .ok sel →
      selectDocs spec pre = .ok [] → filterApplies spec q.2 = .ok true → ∃ more, sel = q :: more
  | [], hs, _, hq => by
    obtain ⟨b, more, hb, _, rfl⟩ := select_cons spec q post sel hs
    cases hq.symm.trans hb
    exact ⟨more, rfl⟩
  | p :: pre, hs, hp, hq => by
    obtain ⟨b, more, hb, hm, rfl⟩ := select_cons spec p _ sel hs
    obtain ⟨b', more', hb', hm', he⟩ := select_cons spec p pre [] hp
    cases hb.symm.trans hb'
    cases b with
    | true => cases he
    | false => cases he; exact select_first hm hm' hq

theorem lookup_setDoc (c : Coll) (q : Val × Val) (new : Val) (hd : DK c.docs) (hg : GK c.docs)
    (hq : q ∈ c.docs) : (c.setDoc q.1 new).lookup q.1 = some new := by
  have hk : c.hasKey q.1 = true := List.any_eq_true.2 ⟨q, hq, (hg q hq).2⟩
  have hmem : (q.1, new) ∈ (c.setDoc q.1 new).docs := by
    rw [setDoc_docs new hk]
    refine List.mem_map.2 ⟨q, hq, ?_⟩
    unfold setEntry; rw [(hg q hq).2]; rfl
  unfold Coll.lookup
  rw [find_of_mem (by rw [setDoc_docs new hk]; exact DK_map_setEntry _ _ hd)
    (by rw [setDoc_docs new hk]; exact GK_map_setEntry _ _ hg) hmem]
  rfl

theorem update_one_counts (cfg : Cfg) (now : Int) (c c' : Coll) (fs : Fields) (u : Val)
    (sel : List (Val × Val)) (res : UpdateResult)
    (hne : c.docs ≠ []) (hi : IdInv c) (hg : GoodKeys c) (hn : c.ttlIndexes = [])
    (hs : selectDocs (patchDT (.doc fs)) c.docs = .ok sel)
    (h : applyUpdateColl cfg now c (.doc fs) u false false = (c', .ok res)) :
    res.n = (sel.take 1).length ∧
    res.nModified = ((sel.take 1).filter (contentChangedAfter c')).length ∧
    res.upserted = none := by
  obtain ⟨dfs, c2, c3, matched, updated, _, he, hloop, h⟩ := applyUpdateColl_ok h
  cases (expire_nil now c hn).symm.trans he
  rw [afterLoop_plain _ _ _ _ _ _ _ _ _ _ rfl] at h
  cases h
  rw [C18.patchDT_doc] at hs
  have hinv := MongoModel.Proofs.C10.linv_start now c c he hi.1 hg
  rcases loop_one now _ _ _ c.ttlIndexes c.docs c 0 0 _ matched updated hinv.dk hinv hloop with
    ⟨pre, q, post, new, h1, h2, h3, _, hu, rfl, rfl⟩ | ⟨h1, _, rfl, rfl⟩
  · cases C05Lemmas.ensureUniques_noTtl now _ new _ (by rw [setDoc_ttl]; exact hn) hu
    rw [h1] at hs
    obtain ⟨more, rfl⟩ := select_first hs h2 h3
    have hq : q ∈ c.docs := by rw [h1]; simp
    refine ⟨rfl, ?_, rfl⟩
    simp only [List.take_succ_cons, List.take_zero, List.filter_cons, List.filter_nil,
      contentChangedAfter, lookup_setDoc c q new hi.1 hg hq]
    cases pyEq new q.2 <;> simp
  · cases hs.symm.trans h1
    exact ⟨rfl, rfl, rfl⟩

theorem updateOut_none (res : UpdateResult) (h : res.upserted = none) :
    updateOut res = reportOf res.n res.nModified := by
  unfold updateOut reportOf
  rw [h]
  rfl

/-- an update step that answers a value: the `_update` call succeeded and the value is its report -/
theorem upd_step_val {v : R Unit} {a : Coll × R UpdateResult} {c c' : Coll} {out : Val}
    (h : (match v with
      | .error e => (c, Out.err e)
      | .ok () => (a.1, outUpd a.2)) = (c', .val out)) :
    ∃ res, a = (c', .ok res) ∧ out = updateOut res := by
  cases v with
  | error e => cases h
  | ok _ =>
    obtain ⟨c2, r⟩ := a
    cases r with
    | error e => cases h
    | ok res => cases h; exact ⟨res, rfl, rfl⟩

theorem update_one_reports (cfg : Cfg) (now : Int) (c c' : Coll) (fs : Fields) (u up out : Val)
    (sel : List (Val × Val))
    (hne : c.docs ≠ []) (hi : IdInv c) (hg : GoodKeys c) (hn : c.ttlIndexes = [])
    (hs : selectDocs (patchDT (.doc fs)) c.docs = .ok sel) (hup : boolOf up = false)
    (h : stepColl cfg now c (.arr [.str "update_one", .doc fs, u, up]) = (c', .val out)) :
    out = reportOf (sel.take 1).length ((sel.take 1).filter (contentChangedAfter c')).length := by
  rw [step_update_one, hup] at h
  obtain ⟨res, happ, rfl⟩ := upd_step_val h
  obtain ⟨h1, h2, h3⟩ := update_one_counts cfg now c c' fs u sel res hne hi hg hn hs happ
  rw [updateOut_none res h3, h1, h2]

theorem replace_one_reports (cfg : Cfg) (now : Int) (c c' : Coll) (fs : Fields) (r up out : Val)
    (sel : List (Val × Val))
    (hne : c.docs ≠ []) (hi : IdInv c) (hg : GoodKeys c) (hn : c.ttlIndexes = [])
    (hs : selectDocs (patchDT (.doc fs)) c.docs = .ok sel) (hup : boolOf up = false)
    (h : stepColl cfg now c (.arr [.str "replace_one", .doc fs, r, up]) = (c', .val out)) :
    out = reportOf (sel.take 1).length ((sel.take 1).filter (contentChangedAfter c')).length := by
  rw [step_replace_one, hup] at h
  obtain ⟨res, happ, rfl⟩ := upd_step_val h
  obtain ⟨h1, h2, h3⟩ := update_one_counts cfg now c c' fs r sel res hne hi hg hn hs happ
  rw [updateOut_none res h3, h1, h2]

theorem update_many_reports (cfg : Cfg) (now : Int) (c c' : Coll) (fs : Fields) (u up out : Val)
    (sel : List (Val × Val))
    (hi : IdInv c) (hg : GoodKeys c) (hn : c.ttlIndexes = [])
    (hs : selectDocs (patchDT (.doc fs)) c.docs = .ok sel) (hup : boolOf up = false)
    (h : stepColl cfg now c (.arr [.str "update_many", .doc fs, u, up]) = (c', .val out)) :
    out = reportOf sel.length (sel.filter (contentChangedAfter c')).length := by
  rw [step_update_many, hup] at h
  obtain ⟨res, happ, rfl⟩ := upd_step_val h
  obtain ⟨h1, h2, _, hu⟩ := update_many_counts cfg now c c' fs u sel res hi hg hn hs happ
  rw [updateOut_none res hu, h1, h2]

/-- the witness of the repaired finding `upsert-null-id-matched`: on a collection holding
    `{_id: 1}`, `update_one({_id: null}, {$set: {a: 1}}, upsert=True)` stores `{_id: null, a: 1}`
    and reports matched 0, upserted null; as a bulk request it counts as one upsert -/
theorem null_id_upsert_witness :
    let c : Coll := { docs := [(.int 1, .doc [("_id", .int 1)])], forceCreated := true }
    (match stepColl {} 0 c (.arr [.str "update_one", .doc [("_id", .null)],
        .doc [("$set", .doc [("a", .int 1)])], .bool true]) with
     | (c', .val out) =>
       out == .doc [("matched", .int 0), ("modified", .int 0), ("upserted", .null)] &&
       c'.docs.map (·.2) == [.doc [("_id", .int 1)], .doc [("_id", .null), ("a", .int 1)]]
     | _ => false) = true ∧
    (match bulkWrite {} 0 c [.arr [.str "UpdateOne", .doc [("_id", .null)],
        .doc [("$set", .doc [("a", .int 1)])], .bool true]] true with
     | (_, .val (.doc t)) =>
       dget "nMatched" t == some (.int 0) && dget "nUpserted" t == some (.int 1) &&
       dget "upserted" t == some (.arr [.doc [("index", .int 0), ("_id", .null)]])
     | _ => false) = true := by
  decide +kernel

/-! ### the repaired finding `modified-order-only` (library commit 5452702)

A document built by an upsert is stored as an OrderedDict; the change test of `_apply_update`
used to be `existing_document != snapshot` between two OrderedDicts, which is order-sensitive:
an update that only re-ordered the keys (`$rename c -> c`) was counted in `modified_count`, and
the natural reading of `modified_count` ("the number of selected documents whose content
changed") was false on that witness.  The test is now taken between plain dicts; the witness is
kept here as a regression example: the document IS rewritten (its keys change order) and
`modified_count` is 0. -/

/-- the collection `update_one({_id: 1}, {$set: {c: 1, d: 2}}, upsert=True)` leaves on an empty
    one: a single document (held, in the code, as an OrderedDict) -/
def cUps : Coll :=
  { docs := [(.int 1, .doc [("_id", .int 1), ("c", .int 1), ("d", .int 2)])], forceCreated := true }

theorem cUps_is_upserted :
    ((applyUpdateColl {} 0 {} (.doc [("_id", .int 1)])
      (.doc [("$set", .doc [("c", .int 1), ("d", .int 2)])]) true false).1.docs == cUps.docs) = true := by
  decide +kernel

theorem cUps_inv : IdInv cUps :=
  ⟨List.pairwise_singleton _ _, fun p hp => by
    simp only [cUps, List.mem_singleton] at hp; subst hp; exact ⟨_, rfl, by decide⟩⟩

theorem cUps_good : GoodKeys cUps := fun p hp => by
  simp only [cUps, List.mem_singleton] at hp; subst hp
  exact ⟨MongoModel.Proofs.C05.scalar_symm _ rfl, by decide⟩

def renameCC : Val := .doc [("$rename", .doc [("c", .str "c")])]

/-- `update_many({}, {$rename: {c: "c"}})` on `cUps`: one document matched, its keys re-ordered
    (`c` moves behind `d`), its content unchanged — `modified_count` is 0 -/
theorem reorder_not_modified :
    (match applyUpdateColl {} 0 cUps (.doc []) renameCC false true with
     | (c', .ok r) =>
       r.n == 1 && r.nModified == 0 && (cUps.docs.filter (contentChangedAfter c')).length == 0 &&
       c'.docs.map (fun p => match p.2 with | .doc fs => dkeys fs | _ => []) == [["_id", "d", "c"]]
     | _ => false) = true := by decide +kernel

end MongoModel.Proofs.C10Ext
