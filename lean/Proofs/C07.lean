/-
  Proofs.C07 — `Sep ∧ Bounded` is restated by counting (`InvC`, `invC_iff`), and one lemma,
  `invC_of_growth`, says which growth by fresh identities keeps it; each kind of safe step is an
  instance (`step_inv`, `run_inv`).  A well-formed step is safe because the code's table copies at
  every final position (`final_rows_copy`, `within_safe`).  The rest are consequences of
  separation: mutating an object reaches nothing that does not contain its identity.
-/
import Proofs.C07Step

namespace MongoModel.Proofs.C07
open MongoModel MongoModel.Heap

structure InvC (w : World) : Prop where
  nodup : ∀ a, cntL a w.store ≤ 1
  disj : ∀ a, 0 < cntL a w.store → cntL a w.held = 0
  cheld : ∀ a, 0 < cntL a w.cache → cntL a w.held = 0
  cstore : ∀ a, 0 < cntL a w.cache → cntL a w.store = 0
  bstore : ∀ a, 0 < cntL a w.store → a < w.next
  bheld : ∀ a, 0 < cntL a w.held → a < w.next
  bcache : ∀ a, 0 < cntL a w.cache → a < w.next

theorem invC_iff (w : World) : (Sep w ∧ Bounded w) ↔ InvC w := by
  simp only [Heap.Sep, Bounded, mem_idsL_iff, Nat.not_lt, Nat.le_zero_eq, List.nodup_iff_count]
  exact ⟨fun ⟨⟨h1, h2, h5⟩, h3, h4, h6⟩ =>
      ⟨h1, h2, fun a ha => (h5 a ha).1, fun a ha => (h5 a ha).2, h3, h4, h6⟩,
    fun h => ⟨⟨h.nodup, h.disj, fun a ha => ⟨h.cheld a ha, h.cstore a ha⟩⟩,
      h.bstore, h.bheld, h.bcache⟩⟩

/-- an identity at or above the counter is in use nowhere -/
theorem InvC.fresh {w : World} (h : InvC w) {a : Nat} (ha : w.next ≤ a) :
    cntL a w.store = 0 ∧ cntL a w.held = 0 ∧ cntL a w.cache = 0 :=
  ⟨Nat.eq_zero_of_not_pos fun h0 => Nat.not_lt.mpr ha (h.bstore a h0),
   Nat.eq_zero_of_not_pos fun h0 => Nat.not_lt.mpr ha (h.bheld a h0),
   Nat.eq_zero_of_not_pos fun h0 => Nat.not_lt.mpr ha (h.bcache a h0)⟩

/-- the invariant survives growth by fresh identities: the store receives each at most once, what
    is held and what is cached receive fresh identities or ones they had, and a fresh identity
    goes to one of the three only -/
theorem invC_of_growth (w : World) (st hd ch : List HVal) (n' : Nat) (h : InvC w)
    (hn : w.next ≤ n')
    (hst : ∀ a, cntL a st ≤ cntL a w.store + ind w.next n' a)
    (hhd : ∀ a, 0 < cntL a hd → 0 < cntL a w.held ∨ (w.next ≤ a ∧ a < n'))
    (hch : ∀ a, 0 < cntL a ch → 0 < cntL a w.cache ∨ (w.next ≤ a ∧ a < n'))
    (hone : ∀ a, w.next ≤ a → (cntL a hd = 0 ∧ cntL a ch = 0) ∨ (cntL a st = 0 ∧ cntL a ch = 0) ∨
      (cntL a st = 0 ∧ cntL a hd = 0)) :
    InvC ⟨st, hd, ch, n'⟩ := by
  -- below the counter nothing is new
  have hlow : ∀ a, a < w.next → cntL a st ≤ cntL a w.store ∧
      (0 < cntL a hd → 0 < cntL a w.held) ∧ (0 < cntL a ch → 0 < cntL a w.cache) := by
    intro a ha
    have h1 := hst a
    rw [ind_of_lt ha] at h1
    exact ⟨h1, fun h0 => (hhd a h0).resolve_right (by omega),
      fun h0 => (hch a h0).resolve_right (by omega)⟩
  refine ⟨fun a => ?_, fun a ha => ?_, fun a ha => ?_, fun a ha => ?_, fun a ha => ?_,
    fun a ha => ?_, fun a ha => ?_⟩ <;> first | dsimp only at ha ⊢ | dsimp only
  · by_cases hlt : a < w.next
    · exact Nat.le_trans (hlow a hlt).1 (h.nodup a)
    · have := hst a
      have := (h.fresh (Nat.le_of_not_lt hlt)).1
      have := ind_le_one w.next n' a
      omega
  · by_cases hlt : a < w.next
    · obtain ⟨h1, h2, _⟩ := hlow a hlt
      have := h.disj a (by omega)
      exact Nat.eq_zero_of_not_pos fun h0 => by have := h2 h0; omega
    · rcases hone a (by omega) with h1 | h1 | h1 <;> omega
  · by_cases hlt : a < w.next
    · obtain ⟨_, h2, h3⟩ := hlow a hlt
      have := h.cheld a (h3 ha)
      exact Nat.eq_zero_of_not_pos fun h0 => by have := h2 h0; omega
    · rcases hone a (by omega) with h1 | h1 | h1 <;> omega
  · by_cases hlt : a < w.next
    · obtain ⟨h1, _, h3⟩ := hlow a hlt
      have := h.cstore a (h3 ha)
      omega
    · rcases hone a (by omega) with h1 | h1 | h1 <;> omega
  · by_cases hlt : a < w.next
    · omega
    · have := hst a
      have := (h.fresh (Nat.le_of_not_lt hlt)).1
      have := @ind_pos w.next n' a (by omega)
      omega
  · rcases hhd a ha with h3 | h3
    · have := h.bheld a h3; omega
    · omega
  · rcases hch a ha with h3 | h3
    · have := h.bcache a h3; omega
    · omega

theorem le_foldl_max : ∀ (l : List Nat) (m a : Nat), (a ∈ l ∨ a ≤ m) → a ≤ l.foldl max m
  | [], _, _, h => h.elim (fun h => nomatch h) id
  | _ :: r, _, a, h => le_foldl_max r _ a (h.elim
      (fun h => (List.mem_cons.mp h).elim (fun e => .inr (e ▸ Nat.le_max_right _ _)) .inl)
      (fun h => .inr (Nat.le_trans h (Nat.le_max_left _ _))))

theorem step_pass (T : Table) (w : World) (args : List HVal) (h : InvC w)
    (hs : (Step.pass args).safe T w = true) : InvC (step T w (.pass args)) := by
  simp only [Step.safe, List.all_eq_true, Bool.or_eq_true, List.contains_iff_mem,
    decide_eq_true_eq, mem_idsL_iff] at hs
  have hmax : ∀ a, 0 < cntL a args → a < maxIdL args + 1 := fun a ha =>
    Nat.lt_succ_of_le (le_foldl_max (idsL args) 0 a (.inl ((mem_idsL_iff a _).mpr ha)))
  refine invC_of_growth w w.store (w.held ++ args) w.cache _ h (Nat.le_max_left _ _)
    (fun a => Nat.le_add_right _ _) (fun a ha => ?_) (fun a ha => .inl ha)
    (fun a ha => .inr (.inl ⟨(h.fresh ha).1, (h.fresh ha).2.2⟩))
  rw [cntL_append] at ha
  by_cases h0 : 0 < cntL a w.held
  · exact .inl h0
  · have := hs a (by omega)
    have := hmax a (by omega)
    have := Nat.le_max_right w.next (maxIdL args + 1)
    omega

theorem step_mutate_scribble (w : World) (id : Nat) (keep : List (Option String))
    (add : List (String × Val)) (h : InvC w) : InvC (w.mutate id (scribbleFn keep add)) := by
  have hs := fun a => scribbleL_sub id keep add a w.store
  have hh := fun a => scribbleL_sub id keep add a w.held
  have hc := fun a => scribbleL_sub id keep add a w.cache
  refine invC_of_growth w _ _ _ _ h (Nat.le_refl _) (fun a => by rw [ind_self]; exact hs a)
    (fun a ha => .inl (Nat.lt_of_lt_of_le ha (hh a))) (fun a ha => .inl (Nat.lt_of_lt_of_le ha (hc a)))
    (fun a ha => .inl ⟨?_, ?_⟩)
  · have := hh a; have := (h.fresh ha).2.1; omega
  · have := hc a; have := (h.fresh ha).2.2; omega

theorem step_write (T : Table) (w : World) (temps : List (Pos × Nat × List Nat))
    (edits : List (Nat × NodeEdit)) (newDocs : List (Tpl × Pos)) (deletes : List Nat)
    (h : InvC w) (hs : (Step.write temps edits newDocs deletes).safe T w = true) :
    InvC (step T w (.write temps edits newDocs deletes)) := by
  simp only [Step.safe, Bool.and_eq_true] at hs
  simp only [step]
  -- the temporaries `tv`, the edited store `ed`, the new documents `nd`
  have hm0 := evalTemps_mono T w.held temps w.next
  generalize evalTemps T w.held temps w.next = tv at *
  obtain ⟨hm1, he⟩ := applyEdits_sub T ⟨w.store, w.held, tv.1, w.cache⟩ edits hs.1 w.store tv.2
  generalize applyEdits T ⟨w.store, w.held, tv.1, w.cache⟩ edits w.store tv.2 = ed at *
  obtain ⟨hm2, hn⟩ := evalNewDocs_fresh T ⟨w.store, w.held, tv.1, w.cache⟩ newDocs hs.2 ed.2
  generalize evalNewDocs T ⟨w.store, w.held, tv.1, w.cache⟩ newDocs ed.2 = nd at *
  refine invC_of_growth w _ _ _ _ h (by omega) (fun a => ?_) (fun a ha => .inl ha)
    (fun a ha => .inl ha) (fun a ha => .inl (h.fresh ha).2)
  rw [cntL_append]
  have := dropIdxFrom_sub a deletes ed.1 0
  have := he a
  have := hn a
  have := ind_split a hm1 hm2
  have := ind_mono (hi := nd.2) a hm0 (Nat.le_refl _)
  omega

theorem step_read (T : Table) (w : World) (results : List Tpl) (h : InvC w)
    (hs : (Step.read results).safe T w = true) : InvC (step T w (.read results)) := by
  obtain ⟨hm, hr⟩ := evalTpls_detached T ⟨w.store, w.held, [], w.cache⟩ results hs w.next
  refine invC_of_growth w _ _ _ _ h hm (fun a => Nat.le_add_right _ _) (fun a ha => ?_)
    (fun a ha => .inl ha) (fun a ha => .inr (.inl ⟨(h.fresh ha).1, (h.fresh ha).2.2⟩))
  rw [cntL_append] at ha
  by_cases h0 : 0 < cntL a w.held
  · exact .inl h0
  · exact .inr (ind_pos (by have := hr a (Nat.eq_zero_of_not_pos h0); omega))

theorem step_fill (T : Table) (w : World) (results : List Tpl) (h : InvC w)
    (hs : (Step.fill results).safe T w = true) : InvC (step T w (.fill results)) := by
  simp only [Step.safe, List.all_eq_true, Bool.and_eq_true] at hs
  obtain ⟨hm, hr⟩ := evalTpls_copied T ⟨w.store, w.held, [], w.cache⟩ results
    (List.all_eq_true.mpr fun t ht => (hs t ht).1) w.next
  refine invC_of_growth w _ _ _ _ h hm (fun a => Nat.le_add_right _ _) (fun a ha => .inl ha)
    (fun a ha => ?_) (fun a ha => .inr (.inr ⟨(h.fresh ha).1, (h.fresh ha).2.1⟩))
  rw [cntL_append] at ha
  by_cases h0 : 0 < cntL a w.cache
  · exact .inl h0
  · exact .inr (ind_pos (by have := hr a; omega))

theorem step_inv (T : Table) (w : World) (s : Step) (h : InvC w) (hs : s.safe T w = true) :
    InvC (step T w s) := by
  cases s with
  | pass args => exact step_pass T w args h hs
  | calleeWrite id keep add => exact step_mutate_scribble w id keep add h
  | scribble id keep add => exact step_mutate_scribble w id keep add h
  | write temps edits newDocs deletes => exact step_write T w temps edits newDocs deletes h hs
  | fill results => exact step_fill T w results h hs
  | read results => exact step_read T w results h hs

theorem run_inv (T : Table) : ∀ (steps : List Step) (w : World), InvC w → safeRun T w steps = true →
    InvC (run T w steps)
  | [], w, h, _ => h
  | s :: r, w, h, hs => by
    simp only [safeRun, Bool.and_eq_true] at hs
    exact run_inv T r _ (step_inv T w s h hs.1) hs.2

theorem invC_empty : InvC World.empty := by
  refine ⟨?_, ?_, ?_, ?_, ?_, ?_, ?_⟩ <;> intro a <;> simp [World.empty]

/-- two lists of values differ as soon as the sizes of their members do (`HVal` has no decidable
    equality; sizes can be computed) -/
theorem ne_of_sizes {l l' : List HVal} (h : l.map HVal.size ≠ l'.map HVal.size) : l ≠ l' :=
  fun e => h (e ▸ rfl)

theorem mutateL_not_mem {id : Nat} (f : HVal → HVal) {l : List HVal} (h : id ∉ idsL l) :
    mutateL id f l = l :=
  mutateL_absent id f l (Nat.eq_zero_of_not_pos (mt (mem_idsL_iff id l).mpr h))

theorem mutate_held_noop (w : World) (id : Nat) (f : HVal → HVal) (hsep : Sep w)
    (hid : id ∈ idsL w.held) : (w.mutate id f).store = w.store :=
  mutateL_not_mem f fun h => hsep.2.1 id h hid

theorem mutate_held_keeps_cache (w : World) (id : Nat) (f : HVal → HVal) (hsep : Sep w)
    (hid : id ∈ idsL w.held) : (w.mutate id f).cache = w.cache :=
  mutateL_not_mem f fun h => (hsep.2.2 id h).1 hid

theorem mutate_stored_keeps_rest (w : World) (id : Nat) (f : HVal → HVal) (hsep : Sep w)
    (hid : id ∈ idsL w.store) :
    (w.mutate id f).held = w.held ∧ (w.mutate id f).cache = w.cache :=
  ⟨mutateL_not_mem f (hsep.2.1 id hid), mutateL_not_mem f fun h => (hsep.2.2 id h).2 hid⟩

theorem mutate_one_doc_only (w : World) (id : Nat) (f : HVal → HVal) (hsep : Sep w)
    (i : Nat) (d : HVal) (hd : w.store[i]? = some d) (hid : id ∈ d.ids) :
    ∀ j, j ≠ i → (w.mutate id f).store[j]? = w.store[j]? := by
  intro j hj
  simp only [World.mutate]
  rw [mutateL_get]
  cases hj' : w.store[j]? with
  | none => simp
  | some d' =>
    simp only [Option.map_some, Option.some.injEq]
    apply (mutate_absent id f).1
    have h1 := cntL_two id w.store i j d d' (Ne.symm hj) hd hj'
    have h2 := List.nodup_iff_count.mp hsep.1 id
    have h3 := (mem_ids_iff id d).mp hid
    unfold cntL at h1
    omega

theorem fresh_disjoint (p : Prim) (hp : p.deep = true) (v : HVal) (n : Nat) :
    n ≤ (p.run v n).2 ∧ (∀ a, a ∈ (p.run v n).1.ids → n ≤ a ∧ a < (p.run v n).2) ∧
    (p.run v n).1.ids.Nodup ∧ (p.run v n).1.erase = v.erase := by
  refine ⟨run_mono p v n, ?_, ?_, run_erase p v n⟩
  · intro a ha
    rw [mem_ids_iff, run_deep p hp] at ha
    exact ind_pos ha
  · rw [List.nodup_iff_count]
    intro a
    have := run_deep p hp v n a
    have := ind_le_one n (p.run v n).2 a
    unfold cnt at *; omega

theorem fresh_chain (c : List Prim) (hc : chainDeep c = true) (v : HVal) (n : Nat) :
    n ≤ (runChain c v n).2 ∧ (∀ a, a ∈ (runChain c v n).1.ids → n ≤ a ∧ a < (runChain c v n).2) ∧
    (runChain c v n).1.ids.Nodup ∧ (runChain c v n).1.erase = v.erase := by
  refine ⟨chain_mono c v n, ?_, ?_, chain_erase c v n⟩
  · intro a ha
    rw [mem_ids_iff] at ha
    have := chain_deep c hc v n a
    exact ind_pos (by omega)
  · rw [List.nodup_iff_count]
    intro a
    have := chain_deep c hc v n a
    have := ind_le_one n (runChain c v n).2 a
    unfold cnt at *; omega

theorem within_copied (T : Table) (e : Env) (ps : List Pos)
    (hps : ∀ p, p ∈ ps → chainDeep (T.disc p) = true) :
    (∀ t, Tpl.within ps t = true → Tpl.copied T e t = true) ∧
    (∀ ks, Tpl.withinKids ps ks = true → Tpl.copiedKids T e ks = true) := by
  apply Tpl.ind2
  · intro v _; simp [Tpl.copied]
  · intro pos src h
    simp only [Tpl.within, Bool.and_eq_true, List.contains_iff_mem] at h
    simp [Tpl.copied, hps pos h.1]
  · intro d kids ih h
    simp only [Tpl.within] at h
    simpa [Tpl.copied] using ih h
  · intro _; simp [Tpl.copiedKids]
  · intro k t r iht ihr h
    simp only [Tpl.withinKids, Bool.and_eq_true] at h
    simp [Tpl.copiedKids, iht h.1, ihr h.2]

theorem copied_detached (T : Table) (e : Env) :
    (∀ t, Tpl.copied T e t = true → Tpl.detached T e t = true) ∧
    (∀ ks, Tpl.copiedKids T e ks = true → Tpl.detachedKids T e ks = true) := by
  apply Tpl.ind2
  · intro v _; simp [Tpl.detached]
  · intro pos src h
    simp only [Tpl.copied] at h
    simp [Tpl.detached, h]
  · intro d kids ih h
    simp only [Tpl.copied] at h
    simpa [Tpl.detached] using ih h
  · intro _; simp [Tpl.detachedKids]
  · intro k t r iht ihr h
    simp only [Tpl.copiedKids, Bool.and_eq_true] at h
    simp [Tpl.detachedKids, iht h.1, ihr h.2]

theorem within_safe (T : Table) (ps : List Pos)
    (hps : ∀ p, p ∈ ps → chainDeep (T.disc p) = true)
    (w : World) (s : Step) (hw : s.within ps = true) (hc : s.callerOwns w = true) :
    s.safe T w = true := by
  cases s with
  | pass args => simpa [Step.safe, Step.callerOwns] using hc
  | calleeWrite id keep add => simp [Step.safe]
  | scribble id keep add => simp [Step.safe]
  | write temps edits newDocs deletes =>
    simp only [Step.within, Bool.and_eq_true, List.all_eq_true] at hw
    simp only [Step.safe, Bool.and_eq_true, List.all_eq_true]
    refine ⟨?_, ?_⟩
    · intro ie hie
      exact (within_copied T _ ps hps).2 _ (hw.1 ie hie)
    · intro tp htp
      have h := hw.2 tp htp
      simp only [List.contains_iff_mem] at h
      simp [hps tp.2 h]
  | fill results =>
    simp only [Step.within, Bool.and_eq_true, List.all_eq_true] at hw
    simp only [Step.safe, Bool.and_eq_true, List.all_eq_true]
    intro t ht
    exact ⟨(within_copied T _ ps hps).1 t (hw t ht).1, (hw t ht).2⟩
  | read results =>
    simp only [Step.within, Bool.and_eq_true, List.all_eq_true] at hw
    simp only [Step.safe, Bool.and_eq_true, List.all_eq_true]
    intro t ht
    exact ⟨(copied_detached T _).1 t ((within_copied T _ ps hps).1 t (hw t ht).1), (hw t ht).2⟩

theorem copying_rows (T : Table) (op : Op) (h : op.copying T = true) :
    ∀ p, p ∈ op.rows.filter Pos.final → chainDeep (T.disc p) = true := by
  intro p hp
  simp only [List.mem_filter] at hp
  simp only [Op.copying, List.all_eq_true] at h
  have := h p hp.1
  simp only [Bool.or_eq_true, Bool.not_eq_true'] at this
  rcases this with h1 | h1
  · rw [hp.2] at h1; cases h1
  · exact h1

theorem final_rows_copy (tz : Bool) : ∀ p, p ∈ finalPositions →
    chainDeep ((disciplineFor tz).disc p) = true := by cases tz <;> decide +kernel

theorem wellFormed_safe (tz : Bool) (w : World) (s : Step) (hw : s.wellFormed = true)
    (hc : s.callerOwns w = true) : s.safe (disciplineFor tz) w = true :=
  within_safe (disciplineFor tz) finalPositions (final_rows_copy tz) w s hw hc

theorem wfRun_safeRun (tz : Bool) : ∀ (steps : List Step) (w : World), wfRun (disciplineFor tz) w steps = true →
    safeRun (disciplineFor tz) w steps = true := by
  intro steps
  induction steps with
  | nil => intro w _; simp [safeRun]
  | cons s r ih =>
    intro w h
    simp only [wfRun, Bool.and_eq_true] at h
    simp only [safeRun, Bool.and_eq_true]
    exact ⟨wellFormed_safe tz w s h.1.1 h.1.2, ih _ h.2⟩

theorem evalTpls_one (T : Table) (e : Env) (t : Tpl) (n : Nat) :
    (evalTpls T e [t] n).1 = [(evalTpl T e t n).1] := by
  simp [evalTpls]

/-- under a table that copies at every position of `ps`, the results of a read that stays within
    `ps` consist of fresh identities only, each once -/
theorem read_fresh_of (T : Table) (ps : List Pos) (hps : ∀ p, p ∈ ps → chainDeep (T.disc p) = true)
    (w : World) (results : List Tpl) (hw : (Step.read results).within ps = true) :
    ∃ new, (step T w (.read results)).held = w.held ++ new ∧ (idsL new).Nodup ∧
      ∀ a, a ∈ idsL new → w.next ≤ a ∧ a < (step T w (.read results)).next := by
  simp only [Step.within, List.all_eq_true, Bool.and_eq_true] at hw
  obtain ⟨hm, hr⟩ := evalTpls_copied T ⟨w.store, w.held, [], w.cache⟩ results
    (by simp only [List.all_eq_true]; intro t ht; exact (within_copied T _ ps hps).1 t (hw t ht).1)
    w.next
  refine ⟨(evalTpls T ⟨w.store, w.held, [], w.cache⟩ results w.next).1, by simp [step], ?_, ?_⟩
  · rw [List.nodup_iff_count]
    intro a
    have := hr a
    have := ind_le_one w.next (evalTpls T ⟨w.store, w.held, [], w.cache⟩ results w.next).2 a
    unfold cntL at *; omega
  · intro a ha
    rw [mem_idsL_iff] at ha
    have := hr a
    simp only [step]
    exact ind_pos (by omega)

theorem read_fresh (tz : Bool) (w : World) (results : List Tpl) (hw : (Step.read results).wellFormed = true) :
    ∃ new, (step (disciplineFor tz) w (.read results)).held = w.held ++ new ∧ (idsL new).Nodup ∧
      ∀ a, a ∈ idsL new → w.next ≤ a ∧ a < (step (disciplineFor tz) w (.read results)).next :=
  read_fresh_of (disciplineFor tz) finalPositions (final_rows_copy tz) w results hw

theorem mutateL_append (id : Nat) (f : HVal → HVal) : ∀ (l1 l2 : List HVal),
    mutateL id f (l1 ++ l2) = mutateL id f l1 ++ mutateL id f l2 := by
  intro l1
  induction l1 with
  | nil => intro l2; simp [mutateL]
  | cons v r ih => intro l2; simp [mutateL, ih]

theorem result_private (tz : Bool) (w : World) (hb : Bounded w) (results : List Tpl)
    (hw : (Step.read results).wellFormed = true) (id : Nat) (f : HVal → HVal)
    (hid : id ∈ idsL ((step (disciplineFor tz) w (.read results)).held.drop w.held.length)) :
    ((step (disciplineFor tz) w (.read results)).mutate id f).store = w.store ∧
    ((step (disciplineFor tz) w (.read results)).mutate id f).cache = w.cache ∧
    ((step (disciplineFor tz) w (.read results)).mutate id f).held.take w.held.length = w.held := by
  obtain ⟨new, hnew, _, hfresh⟩ := read_fresh tz w results hw
  rw [hnew, List.drop_left] at hid
  have hge := (hfresh id hid).1
  -- the identity is fresh: it is in nothing that existed before
  have absent : ∀ {l : List HVal}, (∀ a, a ∈ idsL l → a < w.next) → mutateL id f l = l :=
    fun hl => mutateL_not_mem f fun h => Nat.not_lt.mpr hge (hl id h)
  refine ⟨absent hb.1, absent hb.2.2, ?_⟩
  simp only [World.mutate, hnew, mutateL_append, absent hb.2.1, List.take_left]

theorem reread_unaffected (tz : Bool) (w : World) (id : Nat) (f : HVal → HVal) (hsep : Sep w)
    (hid : id ∈ idsL w.held) (i : Nat) (p : List Nat) :
    ∃ r, (step (disciplineFor tz) (w.mutate id f) (.read [.piece .cursorOut (.cache i p)])).held
        = (w.mutate id f).held ++ [r] ∧ r.erase = (getAt w.cache i p).erase := by
  refine ⟨_, by simp only [step, evalTpls_one]; rfl, ?_⟩
  simp only [evalTpl, Src.get, chain_erase, mutate_held_keeps_cache w id f hsep hid]

end MongoModel.Proofs.C07
