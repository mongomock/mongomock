/-
  Proofs.C14Fam — `findAndModify` when a target exists, on a collection without TTL indexes whose
  store keys are not arrays, for a scalar, normalised target `_id`.  The sorted read and the read
  by `{_id: tid}` land on the same entry (`fam_reads`); the write is then the single-document
  delete / update under that `_id` filter (`delete_first`, `update_one_core`).
-/
import Proofs.C14Id
import Proofs.StepShape

namespace MongoModel.Proofs.C14Lemmas
open MongoModel MongoModel.Spec
open MongoModel.Proofs.C10Lemmas MongoModel.Proofs.C09Lemmas MongoModel.Proofs.Shape

theorem mapM_self {α} (f : α → R α) (l : List α) (h : ∀ d ∈ l, f d = .ok d) :
    l.mapM f = .ok l := by
  induction l with
  | nil => rfl
  | cons d ds ih =>
    rw [List.mapM_cons, h d (List.mem_cons_self ..),
      ih (fun x hx => h x (List.mem_cons_of_mem _ hx))]
    rfl

theorem headProj_null (sort : Option SortSpec) (ms : List Val)
    (hdoc : ∀ d ∈ ms, ∃ fs, d = Val.doc fs) :
    headProj .null sort ms = (getDataset sort ms).map List.head? := by
  unfold headProj
  cases hg : getDataset sort ms with
  | error e => rfl
  | ok sorted =>
    have hm : sorted.mapM (fun d => copyOnlyFields d .null) = .ok sorted := by
      apply mapM_self
      intro d hd
      obtain ⟨fs, rfl⟩ := hdoc d ((getDataset_perm sort ms sorted hg).subset hd)
      rfl
    simp only [bind, Except.bind, hm, pure, Except.pure, Except.map]

theorem headProj_single (proj d : Val) :
    headProj proj none [d] = (copyOnlyFields d proj).map some := by
  unfold headProj
  simp only [getDataset, bind, Except.bind, List.mapM_cons, List.mapM_nil, pure, Except.pure]
  cases copyOnlyFields d proj <;> rfl

theorem patch_id_filter (tid : Val) (h : patchDT tid = tid) :
    patchDT (.doc [("_id", tid)]) = .doc [("_id", tid)] := by
  have h' : patch tid = tid := h
  simp only [patchDT, patch, patchFields, h']

theorem target_entry (sort : Option SortSpec) (sel : List (Val × Val)) (target : Val)
    (ht : firstSorted sort sel = .ok (some target)) : ∃ pt ∈ sel, pt.2 = target := by
  unfold firstSorted at ht
  cases hg : getDataset sort (sel.map (·.2)) with
  | error e => rw [hg] at ht; cases ht
  | ok sorted =>
    rw [hg] at ht
    simp only [Except.map, Except.ok.injEq] at ht
    have hm : target ∈ sorted := List.mem_of_mem_head? (by rw [ht]; rfl)
    have := (getDataset_perm sort _ sorted hg).subset hm
    obtain ⟨pt, hpt, rfl⟩ := List.mem_map.1 this
    exact ⟨pt, hpt, rfl⟩

/-- `findAndModify.go` once both reads are known -/
theorem go_of_reads (cfg : Cfg) (now : Int) (c : Coll) (query proj : Val) (update : Option Val)
    (upsert : Bool) (sort : Option SortSpec) (after : Bool) (c1 c2 : Coll) (tfs : Fields)
    (tid : Val) (r : R (Option Val))
    (h1 : findOneColl now c query .null sort = (c1, .ok (some (.doc tfs))))
    (hid : dget "_id" tfs = some tid)
    (h2 : findOneColl now c1 (.doc [("_id", tid)]) proj none = (c2, r)) :
    findAndModify.go cfg now c query proj update upsert sort after =
      match (generalizing := false) r with
      | .error e => (c2, .error e)
      | .ok old =>
        match update with
        | none =>
          (match deleteColl now c2 (.doc [("_id", tid)]) false with
           | (c3, .error e) => (c3, .error e)
           | (c3, .ok _) => (c3, .ok old))
        | some u => famWrite cfg now c2 (.doc [("_id", tid)]) proj u upsert after old := by
  rw [go_eq, h1]
  simp only [idOfDoc, hid, Option.getD_some]
  rw [h2]
  cases r with
  | error e => rfl
  | ok old =>
    cases update with
    | some u => rfl
    | none =>
      dsimp only
      rcases deleteColl now c2 (.doc [("_id", tid)]) false with ⟨c3, r⟩
      cases r <;> rfl

theorem findAndModify_go (cfg : Cfg) (now : Int) (c c' : Coll) (query proj : Val)
    (update : Option Val) (upsert : Bool) (sort : Option SortSpec) (after : Bool)
    (ret : Option Val)
    (h : findAndModify cfg now c query proj update upsert sort after = (c', .ok ret)) :
    findAndModify.go cfg now c query proj update upsert sort after = (c', .ok ret) := by
  unfold findAndModify at h
  split at h
  · split at h
    · exact h
    · split at h
      · cases h
      · exact h
  · exact h

theorem findOne_fst_nil (now : Int) (c : Coll) (fs : Fields) (proj : Val) (sort : Option SortSpec)
    (hn : c.ttlIndexes = []) : (findOneColl now c (.doc fs) proj sort).1 = c := by
  unfold findOneColl
  dsimp only
  cases hi : iterDocuments now c (patchDT (.doc fs)) with
  | error e => rfl
  | ok r =>
    obtain ⟨c1, ms⟩ := r
    exact iter_nil now c c1 _ ms hn hi

theorem fam_reads (now : Int) (c : Coll) (fs : Fields) (proj : Val) (sort : Option SortSpec)
    (sel : List (Val × Val)) (target tid : Val)
    (hi : IdInv c) (hg : GoodKeys c) (hn : c.ttlIndexes = [])
    (hna : ∀ p ∈ c.docs, p.1.isArr = false)
    (hs : selectDocs (patchDT (.doc fs)) c.docs = .ok sel)
    (ht : firstSorted sort sel = .ok (some target)) (hid : idOf target = some tid)
    (hsc : isScalar tid = true) (hpt : patchDT tid = tid) :
    ∃ pt tfs, pt ∈ c.docs ∧ pt.2 = target ∧ target = .doc tfs ∧ dget "_id" tfs = some tid ∧
      pyEq pt.1 tid = true ∧
      selectDocs (patchDT (.doc [("_id", tid)])) c.docs = .ok [pt] ∧
      findOneColl now c (.doc fs) .null sort = (c, .ok (some target)) ∧
      findOneColl now c (.doc [("_id", tid)]) proj none =
        (c, (copyOnlyFields target proj).map some) := by
  obtain ⟨pt, hpts, rfl⟩ := target_entry sort sel target ht
  have hsub := select_sublist _ _ _ hs
  have hptc : pt ∈ c.docs := hsub.subset hpts
  have hne : c.docs ≠ [] := List.ne_nil_of_mem hptc
  obtain ⟨id, hid0, hpk⟩ := hi.2 pt hptc
  rw [hid] at hid0
  cases hid0
  have he := expire_nil now c hn
  have hdoc : ∀ d ∈ sel.map (·.2), ∃ fs, d = Val.doc fs := by
    intro d hd
    obtain ⟨p, hp, rfl⟩ := List.mem_map.1 hd
    obtain ⟨id, hidp, _⟩ := hi.2 p (hsub.subset hp)
    cases hp2 : p.2 with
    | doc fs => exact ⟨fs, rfl⟩
    | _ => rw [hp2] at hidp; cases hidp
  obtain ⟨tfs, htfs⟩ := hdoc pt.2 (List.mem_map.2 ⟨pt, hpts, rfl⟩)
  have hid' : dget "_id" tfs = some tid := by rw [htfs] at hid; exact hid
  have hsel2 : selectDocs (patchDT (.doc [("_id", tid)])) c.docs = .ok [pt] := by
    rw [patch_id_filter tid hpt]
    exact select_id c.docs tid pt hi.1 hg hi.2 hna hsc hptc hpk
  refine ⟨pt, tfs, hptc, rfl, htfs, hid', hpk, hsel2, ?_, ?_⟩
  · rw [findOne_eq now c c fs .null sort sel he hne hs, headProj_null sort _ hdoc]
    exact congrArg (Prod.mk c) ht
  · rw [findOne_eq now c c [("_id", tid)] proj none [pt] he hne hsel2]
    simp only [List.map_cons, List.map_nil]
    rw [headProj_single]

theorem delete_first (now : Int) (c c1 : Coll) (fs : Fields)
    (q : Val × Val) (rest : List (Val × Val))
    (he : expire now c = .ok c1) (hi : IdInv c) (hg : GoodKeys c)
    (hs : selectDocs (patchDT (.doc fs)) c1.docs = .ok (q :: rest)) :
    (deleteColl now c (.doc fs) false).2 = .ok 1 ∧
    (deleteColl now c (.doc fs) false).1.docs = c1.docs.filter (fun p => !pyEq q.1 p.1) := by
  have hne := select_ne_nil hs
  obtain ⟨hd, hgk, hk⟩ := MongoModel.Proofs.C10.inv_expired now c c1 he hi hg
  rw [MongoModel.Proofs.C10.delete_eq now c c1 fs _ false he hne hs]
  simp only [Bool.false_eq_true, if_false, List.take_succ_cons, List.take_zero]
  have hsub : [q].Sublist c1.docs :=
    (List.take_sublist 1 (q :: rest)).trans (select_sublist _ _ _ hs)
  obtain ⟨h1, h2, _⟩ := delete_victims c1 [q] hsub hd hgk hk
  refine ⟨by rw [h1]; rfl, ?_⟩
  rw [h2]
  apply List.filter_congr
  intro p _
  simp

theorem sameExcept_delete (l : List (Val × Val)) (pt : Val × Val) (tid : Val)
    (hd : DK l) (hg : GK l) (hpt : pt ∈ l) (hkt : pyEq pt.1 tid = true) :
    sameExcept tid l (l.filter (fun p => !pyEq pt.1 p.1)) := by
  constructor
  · intro p hp hf
    rw [List.mem_filter]
    refine ⟨hp, ?_⟩
    cases hx : pyEq pt.1 p.1 with
    | false => rfl
    | true =>
      have := mem_eq_of_pyEq hd hg hpt hp hx
      subst this
      rw [hkt] at hf; cases hf
  · intro p hp _
    exact (List.mem_filter.1 hp).1

/-- the collection after the rewrite of the target entry still satisfies what `select_id` needs -/
theorem rewritten_select (c : Coll) (pt : Val × Val) (tid new : Val) (spec document nowV : Val)
    (hi : IdInv c) (hg : GoodKeys c) (hna : ∀ p ∈ c.docs, p.1.isArr = false)
    (hptc : pt ∈ c.docs) (hid : idOf pt.2 = some tid) (hkt : pyEq pt.1 tid = true)
    (hsc : isScalar tid = true)
    (htop : ∃ tfs, pt.2 = Val.doc tfs ∧ (dkeys tfs).Nodup)
    (hk : IdKept pt.2 new) (ha : applyUpdate spec document nowV false pt.2 = .ok new) :
    selectDocs (.doc [("_id", tid)]) (c.docs.map (setEntry pt.1 new)) = .ok [(pt.1, new)] := by
  have hrefl := (hg pt hptc).2
  have hnewtop : MongoModel.Proofs.C05Lemmas.TopOK new :=
    MongoModel.Proofs.C05Lemmas.applyUpdate_top spec document nowV false pt.2 new htop ha
  have hent : MongoModel.Proofs.C05Lemmas.EntU c pt :=
    ⟨(hg pt hptc).1, htop, ⟨tid, hid, hkt⟩, pt, hptc, rfl, by
      rw [hid]; exact MongoModel.Proofs.C05.scalar_refl tid hsc⟩
  obtain ⟨idn, hidn, hkn⟩ := MongoModel.Proofs.C05Lemmas.rewrite_id c pt new hent hnewtop hk
  apply select_id _ tid (pt.1, new) (DK_map_setEntry _ _ hi.1) (GK_map_setEntry _ _ hg)
  · intro p' hp'
    obtain ⟨p, hp, rfl⟩ := List.mem_map.1 hp'
    unfold setEntry
    cases hx : pyEq p.1 pt.1 with
    | false => simp only [Bool.false_eq_true, if_false]; exact hi.2 p hp
    | true =>
      simp only [if_true]
      have : p = pt := mem_eq_of_pyEq hi.1 hg hp hptc hx
      subst this
      exact ⟨idn, hidn, hkn⟩
  · intro p' hp'
    obtain ⟨p, hp, rfl⟩ := List.mem_map.1 hp'
    rw [setEntry_fst]; exact hna p hp
  · exact hsc
  · refine List.mem_map.2 ⟨pt, hptc, ?_⟩
    unfold setEntry; rw [hrefl]; rfl
  · exact hkt

end MongoModel.Proofs.C14Lemmas

namespace MongoModel.Proofs.C14
open MongoModel MongoModel.Spec
open MongoModel.Proofs.C10Lemmas MongoModel.Proofs.C09Lemmas MongoModel.Proofs.C14Lemmas
open MongoModel.Proofs.Shape

/-- the conclusion of `fam_delete_spec_full` under the two hypotheses it lacks: no store key is an
    array (`storeKey` rejects lists) and the target's `_id` is normalised (as `insert` leaves it) -/
theorem fam_delete_spec_alt (cfg : Cfg) (now : Int) (c c1 c' : Coll) (fs : Fields) (proj : Val)
    (sort : Option SortSpec) (sel : List (Val × Val)) (target : Val) (tid : Val) (ret : Option Val)
    (he : expire now c = .ok c1) (hi : IdInv c) (hg : GoodKeys c) (hn : c.ttlIndexes = [])
    (hna : ∀ p ∈ c.docs, p.1.isArr = false)
    (hs : selectDocs (patchDT (.doc fs)) c1.docs = .ok sel)
    (ht : firstSorted sort sel = .ok (some target)) (hid : idOf target = some tid)
    (hsc : isScalar tid = true) (hpt : patchDT tid = tid)
    (h : findAndModify cfg now c (.doc fs) proj none false sort false = (c', .ok ret)) :
    sameExcept tid c1.docs c'.docs ∧ c'.docs.length + 1 = c1.docs.length ∧
    copyOnlyFields target proj = .ok (ret.getD .null) ∧ ret.isSome := by
  rw [expire_nil now c hn] at he
  cases he
  obtain ⟨pt, tfs, hptc, _, htfs, hid', hkt, hsel2, hr1, hr2⟩ :=
    fam_reads now c fs proj sort sel target tid hi hg hn hna hs ht hid hsc hpt
  have hgo := findAndModify_go _ _ _ _ _ _ _ _ _ _ _ h
  rw [htfs] at hr1
  rw [go_of_reads cfg now c _ proj none false sort false c c tfs tid _ hr1 hid' hr2] at hgo
  cases hcp : copyOnlyFields target proj with
  | error e => rw [hcp] at hgo; cases hgo
  | ok o =>
    rw [hcp] at hgo
    have he := expire_nil now c hn
    obtain ⟨hd1, hd2⟩ := delete_first now c c [("_id", tid)] pt [] he hi hg hsel2
    have hlen := (MongoModel.Proofs.C10.delete_one_eq_find now c c [("_id", tid)] [pt] he
      (List.ne_nil_of_mem hptc) hi hg hsel2).2
    rcases hdel : deleteColl now c (.doc [("_id", tid)]) false with ⟨c3, r⟩
    rw [hdel] at hgo hd1 hd2 hlen
    dsimp only [Except.map] at hd1 hd2 hlen hgo
    subst hd1
    dsimp only at hgo
    cases hgo
    refine ⟨?_, by simpa using hlen, rfl, rfl⟩
    rw [hd2]
    exact sameExcept_delete c.docs pt tid hi.1 hg hptc hkt

/-- the conclusion of `fam_update_spec_full` under `hna`, `hpt` (see `fam_delete_spec_alt`), its
    AFTER conjunct moreover for a target with pairwise distinct top-level keys -/
theorem fam_update_spec_alt (cfg : Cfg) (now : Int) (c c1 c' : Coll) (fs : Fields) (proj u : Val)
    (upsert after : Bool)
    (sort : Option SortSpec) (sel : List (Val × Val)) (target : Val) (tid : Val) (ret : Option Val)
    (he : expire now c = .ok c1) (hi : IdInv c) (hg : GoodKeys c) (hn : c.ttlIndexes = [])
    (hna : ∀ p ∈ c.docs, p.1.isArr = false)
    (hs : selectDocs (patchDT (.doc fs)) c1.docs = .ok sel)
    (ht : firstSorted sort sel = .ok (some target)) (hid : idOf target = some tid)
    (hsc : isScalar tid = true) (hpt : patchDT tid = tid)
    (h : findAndModify cfg now c (.doc fs) proj (some u) upsert sort after = (c', .ok ret)) :
    sameExcept tid c1.docs c'.docs ∧ c'.docs.length = c1.docs.length ∧
    (after = false → copyOnlyFields target proj = .ok (ret.getD .null) ∧ ret.isSome) ∧
    (after = true → (∀ tfs, target = Val.doc tfs → (dkeys tfs).Nodup) →
      ∃ p' ∈ c'.docs, pyEq p'.1 tid = true ∧
        copyOnlyFields p'.2 proj = .ok (ret.getD .null)) := by
  rw [expire_nil now c hn] at he
  cases he
  obtain ⟨pt, tfs, hptc, hp2, htfs, hid', hkt, hsel2, hr1, hr2⟩ :=
    fam_reads now c fs proj sort sel target tid hi hg hn hna hs ht hid hsc hpt
  have hgo := findAndModify_go _ _ _ _ _ _ _ _ _ _ _ h
  rw [htfs] at hr1
  rw [go_of_reads cfg now c _ proj (some u) upsert sort after c c tfs tid _ hr1 hid' hr2] at hgo
  cases hcp : copyOnlyFields target proj with
  | error e => rw [hcp] at hgo; cases hgo
  | ok o =>
    rw [hcp] at hgo
    dsimp only [Except.map] at hgo
    unfold famWrite at hgo
    have hpo : findAndModify.projOk proj = .ok () := by
      cases hx : findAndModify.projOk proj with
      | error ep => rw [hx] at hgo; cases hgo
      | ok x => cases x; rfl
    rw [hpo] at hgo
    dsimp only at hgo
    rcases hup : applyUpdateColl cfg now c (.doc [("_id", tid)]) u upsert false with ⟨c3, r⟩
    rw [hup] at hgo
    rcases update_one_core cfg now c c3 [("_id", tid)] u upsert pt [] r hn hi.1 hg hsel2 hup with
      ⟨_, e, rfl⟩ | ⟨new, res, spec, document, nowV, rfl, rfl, hups, hk, ha⟩
    · cases hgo
    · dsimp only at hgo
      rw [hups] at hgo
      dsimp only at hgo
      have hdocs : (c.setDoc pt.1 new).docs = c.docs.map (setEntry pt.1 new) :=
        setDoc_docs new (hasKey_of_mem hg hptc)
      have hn3 : (c.setDoc pt.1 new).ttlIndexes = [] := by rw [setDoc_ttl]; exact hn
      have hc' : c' = c.setDoc pt.1 new := by
        cases after with
        | false => simp only [Bool.false_eq_true, if_false] at hgo; cases hgo; rfl
        | true =>
          simp only [if_true] at hgo
          have := findOne_fst_nil now (c.setDoc pt.1 new) [("_id", tid)] proj none hn3
          rw [hgo] at this
          exact this
      subst hc'
      refine ⟨?_, by rw [hdocs, List.length_map], ?_, ?_⟩
      · rw [hdocs]
        exact sameExcept_map pt.1 tid new c.docs
          (fun p _ hx => pyEq_trans _ _ _ hx hkt)
      · intro haf
        subst haf
        simp only [Bool.false_eq_true, if_false] at hgo
        cases hgo
        exact ⟨rfl, rfl⟩
      · intro haf htop
        subst haf
        simp only [if_true] at hgo
        have hid2 : idOf pt.2 = some tid := by rw [hp2]; exact hid
        have hsel3 := rewritten_select c pt tid new spec document nowV hi hg hna hptc hid2 hkt hsc
          ⟨tfs, by rw [hp2]; exact htfs, htop tfs htfs⟩ hk ha
        have hmem : (pt.1, new) ∈ (c.setDoc pt.1 new).docs := by
          rw [hdocs]
          refine List.mem_map.2 ⟨pt, hptc, ?_⟩
          unfold setEntry; rw [(hg pt hptc).2]; rfl
        have hsel3' : selectDocs (patchDT (.doc [("_id", tid)])) (c.setDoc pt.1 new).docs =
            .ok [(pt.1, new)] := by
          rw [patch_id_filter tid hpt, hdocs]; exact hsel3
        rw [findOne_eq now _ _ [("_id", tid)] proj none [(pt.1, new)] (expire_nil now _ hn3)
          (List.ne_nil_of_mem hmem) hsel3'] at hgo
        simp only [List.map_cons, List.map_nil] at hgo
        rw [headProj_single] at hgo
        cases hcn : copyOnlyFields new proj with
        | error e => rw [hcn] at hgo; cases hgo
        | ok o' =>
          rw [hcn] at hgo
          cases hgo
          exact ⟨(pt.1, new), hmem, hkt, hcn⟩

end MongoModel.Proofs.C14
