/-
  Proofs.C09Ext — expired documents are invisible to the operations of `stepX` as well:
  find_one, find_one_and_*, bulk_write and the bulk builders all begin with the expiry pass.
-/
import Spec.TtlExt
import Proofs.C09Ops
import Proofs.C15Once

namespace MongoModel.Proofs.C09Lemmas
open MongoModel MongoModel.Spec MongoModel.Proofs.Shape

section
variable {now : Int} {c c' : Coll}

theorem findOne_agree (h : expire now c = .ok c') (f proj : Val) (sort : Option SortSpec) :
    Agree c c' (findOneColl now c f proj sort) (findOneColl now c' f proj sort) := by
  unfold findOneColl
  dsimp only
  rw [iter_eq h]
  generalize iterDocuments now c' _ = r
  cases r with
  | error e => exact .inr ⟨e, rfl, rfl⟩
  | ok r => exact .inl rfl

theorem go_agree (h : expire now c = .ok c') (cfg : Cfg) (q proj : Val) (upd : Option Val)
    (upsert : Bool) (sort : Option SortSpec) (after : Bool) :
    Agree c c' (findAndModify.go cfg now c q proj upd upsert sort after)
      (findAndModify.go cfg now c' q proj upd upsert sort after) := by
  rw [go_eq, go_eq]
  rcases findOne_agree h q .null sort with he | ⟨e, h1, h2⟩
  · rw [he]; exact .inl rfl
  · rw [h1, h2]; exact .inr ⟨e, rfl, rfl⟩

theorem fam_agree (h : expire now c = .ok c') (cfg : Cfg) (q proj : Val) (upd : Option Val)
    (upsert : Bool) (sort : Option SortSpec) (after : Bool) :
    Agree c c' (findAndModify cfg now c q proj upd upsert sort after)
      (findAndModify cfg now c' q proj upd upsert sort after) := by
  unfold findAndModify
  cases upd with
  | none => exact go_agree h cfg q proj none upsert sort after
  | some u =>
    dsimp only
    split
    · exact go_agree h cfg q proj (some u) upsert sort after
    · split
      · exact .inr ⟨_, rfl, rfl⟩
      · exact go_agree h cfg q proj (some u) upsert sort after

theorem famStep_rel (h : expire now c = .ok c') (cfg : Cfg) (query proj : Val)
    (update : Option Val) (sortV : Val) (upsert after : Bool) :
    Rel now (famStep cfg now c query proj update sortV upsert after)
      (famStep cfg now c' query proj update sortV upsert after) := by
  unfold famStep
  split
  · split
    · exact rel_base h _
    · exact rel_of_agree h outOpt (fam_agree h cfg _ proj update upsert _ after)
  · exact rel_base h _

/-- two runs of an executor: identical, or both stopped before touching their collection -/
def AgreeB (c c' : Coll) (x y : Coll × BulkOut) : Prop :=
  x = y ∨ ∃ o, x = (c, o) ∧ y = (c', o)

theorem bulkUpd_agree (h : expire now c = .ok c') (cfg : Cfg) (idx : Nat) (f u : Val)
    (up multi : Bool) :
    AgreeB c c' (bulkUpd cfg now c idx f u up multi) (bulkUpd cfg now c' idx f u up multi) := by
  unfold bulkUpd
  rcases update_agree h cfg f u up multi with he | ⟨e, h1, h2⟩
  · rw [he]; exact .inl rfl
  · rw [h1, h2]; exact .inr ⟨_, rfl, rfl⟩

theorem bulkDel_agree (h : expire now c = .ok c') (f : Val) (multi : Bool) :
    AgreeB c c' (bulkDel now c f multi) (bulkDel now c' f multi) := by
  unfold bulkDel bulkOne.deleteBulk
  cases f with
  | doc fs =>
    dsimp only
    rcases delete_agree h (.doc fs) multi with he | ⟨e, h1, h2⟩
    · rw [he]; exact .inl rfl
    · rw [h1, h2]; exact .inr ⟨_, rfl, rfl⟩
  | _ => exact .inr ⟨_, rfl, rfl⟩

theorem bulkIns_agree (h : expire now c = .ok c') (cfg : Cfg) (d : Val) :
    AgreeB c c' (bulkIns cfg now c d) (bulkIns cfg now c' d) := by
  unfold bulkIns
  simp only [step_insert_one]
  cases d with
  | doc fs =>
    simp only []
    rw [insertDoc_eq h, insErrState_eq h]
    exact .inl rfl
  | _ => exact .inr ⟨_, rfl, rfl⟩

theorem bulkOne_agree (h : expire now c = .ok c') (cfg : Cfg) (idx : Nat) (req : Val) :
    AgreeB c c' (bulkOne cfg now c idx req) (bulkOne cfg now c' idx req) := by
  rcases bulkOne_cases req with hs | hu
  · cases hs with
    | insertOne d => simp only [bulkOne_InsertOne]; exact bulkIns_agree h cfg d
    | updateOne f u up => simp only [bulkOne_UpdateOne]; exact bulkUpd_agree h cfg idx f u _ _
    | updateMany f u up => simp only [bulkOne_UpdateMany]; exact bulkUpd_agree h cfg idx f u _ _
    | replaceOne f u up => simp only [bulkOne_ReplaceOne]; exact bulkUpd_agree h cfg idx f u _ _
    | deleteOne f => simp only [bulkOne_DeleteOne]; exact bulkDel_agree h f _
    | deleteMany f => simp only [bulkOne_DeleteMany]; exact bulkDel_agree h f _
  · rw [hu, hu]; exact .inr ⟨_, rfl, rfl⟩

theorem loop_rel (cfg : Cfg) (ordered : Bool) (reqs : List Val) :
    ∀ (idx : Nat) (c c' : Coll) (t : BulkTotals), expire now c = .ok c' →
      Rel now (bulkLoop cfg now ordered reqs idx c t) (bulkLoop cfg now ordered reqs idx c' t) := by
  induction reqs with
  | nil =>
    intro idx c c' t h
    rw [C15Lemmas.loop_nil, C15Lemmas.loop_nil]
    exact rel_base h _
  | cons r rest ih =>
    intro idx c c' t h
    rw [C15Lemmas.loop_cons, C15Lemmas.loop_cons]
    rcases bulkOne_agree h cfg idx r with he | ⟨o, h1, h2⟩
    · rw [he]; exact ⟨rfl, rfl⟩
    · rw [h1, h2]
      cases o with
      | ok f => exact ih _ _ _ _ h
      | writeErr e =>
        dsimp only
        split
        · exact rel_base h _
        · exact ih _ _ _ _ h
      | abort e => exact rel_base h _

theorem bulkWrite_rel (h : expire now c = .ok c') (cfg : Cfg) (reqs : List Val) (ordered : Bool) :
    Rel now (bulkWrite cfg now c reqs ordered) (bulkWrite cfg now c' reqs ordered) := by
  unfold bulkWrite
  split
  · exact rel_base h _
  · split
    · exact rel_base h _
    · exact loop_rel cfg ordered reqs 0 c c' {} h

theorem execute_rel (h : expire now c = .ok c') (cfg : Cfg) (b : Builder) :
    (b.execute cfg now c).2 = (b.execute cfg now c').2 ∧
    expire now (b.execute cfg now c).1 = expire now (b.execute cfg now c').1 := by
  unfold Builder.execute
  split
  · exact ⟨rfl, (rel_base h (.err .invalidOp)).2⟩
  · split
    · exact ⟨rfl, (rel_base h (.err .invalidOp)).2⟩
    · have := loop_rel cfg b.ordered b.reqs 0 c c' {} h
      exact ⟨by simp only [this.1], this.2⟩

theorem bulkBuilder_rel (h : expire now c = .ok c') (cfg : Cfg) (reqs : List Val) (ordered : Bool)
    (times : Nat) :
    Rel now (bulkBuilder cfg now c reqs ordered times) (bulkBuilder cfg now c' reqs ordered times) := by
  unfold bulkBuilder
  split
  · exact rel_base h _
  · -- only the first `execute` of a builder runs
    have : (executeTimes cfg now times c { reqs := reqs, ordered := ordered }).2 =
          (executeTimes cfg now times c' { reqs := reqs, ordered := ordered }).2 ∧
        expire now (executeTimes cfg now times c { reqs := reqs, ordered := ordered }).1 =
          expire now (executeTimes cfg now times c' { reqs := reqs, ordered := ordered }).1 := by
      cases times with
      | zero => exact ⟨rfl, (rel_base h (.err .invalidOp)).2⟩
      | succ n =>
        rw [C15Once.executeTimes_spec, C15Once.executeTimes_spec]
        have := execute_rel h cfg { reqs := reqs, ordered := ordered }
        exact ⟨by simp only [this.1], this.2⟩
    dsimp only
    rw [this.1]
    split
    · exact ⟨rfl, this.2⟩
    · exact ⟨rfl, this.2⟩

theorem stepX_rel (h : expire now c = .ok c') (cfg : Cfg) (op : Val)
    (hop : dataOpX op = true) : Rel now (stepX cfg now c op) (stepX cfg now c' op) := by
  rcases stepX_cases op with hs | hu
  · cases hs with
    | findOne f proj sortV =>
      rw [stepX_find_one, stepX_find_one]
      split
      · exact rel_base h _
      · exact rel_of_agree h outOpt (findOne_agree h f proj _)
    | fau f u proj sortV up after =>
      rw [stepX_fau, stepX_fau]
      split
      · exact rel_base h _
      · exact famStep_rel h cfg _ _ _ _ _ _
    | far f u proj sortV up after =>
      rw [stepX_far, stepX_far]
      split
      · exact rel_base h _
      · exact famStep_rel h cfg _ _ _ _ _ _
    | fad f proj sortV =>
      rw [stepX_fad, stepX_fad]
      exact famStep_rel h cfg _ _ _ _ _ _
    | bulkWrite reqs ordered =>
      rw [stepX_bulk_write, stepX_bulk_write]
      exact bulkWrite_rel h cfg reqs _
    | bulkBuilder reqs ordered times =>
      rw [stepX_bulk_builder, stepX_bulk_builder]
      exact bulkBuilder_rel h cfg reqs _ _
  · rw [hu, hu]
    rcases stepColl_cases op with hs | hs | hu'
    · exact data_rel h cfg hs
    · cases hs <;> cases hop
    · rw [hu', hu']; exact rel_base h _

end
end MongoModel.Proofs.C09Lemmas

namespace MongoModel.Proofs.C09Ext
open MongoModel MongoModel.Spec MongoModel.Proofs.C09Lemmas

theorem stepX_expired_invisible (cfg : Cfg) (now : Int) (c c' : Coll) (op : Val)
    (h : expire now c = .ok c') (hop : dataOpX op = true) :
    (stepX cfg now c op).2 = (stepX cfg now c' op).2 ∧
    expire now (stepX cfg now c op).1 = expire now (stepX cfg now c' op).1 :=
  stepX_rel h cfg op hop

theorem agree_rel {α : Type} {now : Int} {c c' : Coll} (h : expire now c = .ok c')
    {x y : Coll × R α} (hA : Agree c c' x y) : x.2 = y.2 ∧ expire now x.1 = expire now y.1 := by
  rcases hA with rfl | ⟨e, rfl, rfl⟩
  · exact ⟨rfl, rfl⟩
  · exact ⟨rfl, by rw [h, expire_idem now c c' h]⟩

theorem find_one_expired_invisible (now : Int) (c c' : Coll) (f proj : Val)
    (sort : Option SortSpec) (h : expire now c = .ok c') :
    (findOneColl now c f proj sort).2 = (findOneColl now c' f proj sort).2 ∧
    expire now (findOneColl now c f proj sort).1 = expire now (findOneColl now c' f proj sort).1 :=
  agree_rel h (findOne_agree h f proj sort)

theorem fam_expired_invisible (cfg : Cfg) (now : Int) (c c' : Coll) (q proj : Val)
    (upd : Option Val) (upsert : Bool) (sort : Option SortSpec) (after : Bool)
    (h : expire now c = .ok c') :
    (findAndModify cfg now c q proj upd upsert sort after).2 =
      (findAndModify cfg now c' q proj upd upsert sort after).2 ∧
    expire now (findAndModify cfg now c q proj upd upsert sort after).1 =
      expire now (findAndModify cfg now c' q proj upd upsert sort after).1 :=
  agree_rel h (fam_agree h cfg q proj upd upsert sort after)

theorem bulk_expired_invisible (cfg : Cfg) (now : Int) (c c' : Coll) (reqs : List Val)
    (ordered : Bool) (h : expire now c = .ok c') :
    (bulkWrite cfg now c reqs ordered).2 = (bulkWrite cfg now c' reqs ordered).2 ∧
    expire now (bulkWrite cfg now c reqs ordered).1 =
      expire now (bulkWrite cfg now c' reqs ordered).1 :=
  bulkWrite_rel h cfg reqs ordered

end MongoModel.Proofs.C09Ext
