/-
  Proofs.C08ExtFam — a find_one_and_* that raises: the collection is "near" the one it started
  from, unless the write went through and the read-back of the AFTER document raised.
-/
import Proofs.C08Step
import Proofs.C09Ops

namespace MongoModel.Proofs.C08Lemmas
open MongoModel MongoModel.Spec MongoModel.Proofs.Shape

set_option linter.tactic.unusedName false

/-- `Untouched` is `Near` without a mark on the created flag -/
theorem untouched_near (now : Int) (c c' : Coll) (h : Untouched now c c') : Near now c c' := by
  obtain ⟨n, h | ⟨c1, h1, h⟩⟩ := h
  · exact ⟨false, by simp, .inl ⟨n, h⟩⟩
  · exact ⟨false, by simp, .inr ⟨n, c1, h1, h⟩⟩

/-- where existence is recorded (every reachable state) the mark changes nothing: `Near` is
    `Untouched` -/
theorem near_untouched (now : Int) (c c' : Coll) (hr : c.Recorded) (h : Near now c c') :
    Untouched now c c' := by
  rcases h.exact hr with ⟨n, h⟩ | ⟨n, c1, h1, h⟩
  · exact ⟨n, .inl h⟩
  · exact ⟨n, .inr ⟨c1, h1, h⟩⟩

theorem near_iter (now : Int) (c c1 : Coll) (f : Val) (ms : List Val)
    (h : iterDocuments now c f = .ok (c1, ms)) : Near now c c1 :=
  (Near.refl now c).expire (C09Lemmas.iter_fst h)

theorem near_findOne (now : Int) (c : Coll) (f proj : Val) (sort : Option SortSpec) :
    Near now c (findOneColl now c f proj sort).1 := by
  unfold findOneColl
  dsimp only
  split
  · exact Near.refl _ _
  · rename_i c1 ms hi
    exact near_iter now c c1 _ ms hi

theorem near_of_findOne_eq {now : Int} {c c' : Coll} {f proj : Val} {sort : Option SortSpec}
    {r : R (Option Val)} (h : findOneColl now c f proj sort = (c', r)) : Near now c c' := by
  have := near_findOne now c f proj sort
  rw [h] at this
  exact this

/-- the write and read-back: a failure leaves the collection near, unless the write went through
    and the read-back of the AFTER document raised -/
theorem famWrite_fail (cfg : Cfg) (now : Int) (c : Coll) (q proj u : Val) (upsert after : Bool)
    (old : Option Val) (c' : Coll) (e : Err)
    (h : famWrite cfg now c q proj u upsert after old = (c', .error e)) :
    Near now c c' ∨ (after = true ∧ findAndModify.projOk proj = .ok () ∧ ∃ c3,
      famWrite cfg now c q proj u upsert false old = (c3, .ok old) ∧ Near now c3 c') := by
  unfold famWrite at h ⊢
  cases hpo : findAndModify.projOk proj with
  | error ep => rw [hpo] at h; cases h; exact .inl (Near.refl _ _)
  | ok uu =>
    cases uu
    rw [hpo] at h
    dsimp only at h ⊢
    cases ha : applyUpdateColl cfg now c q u upsert false with
    | mk c2 r =>
      rw [ha] at h
      cases r with
      | error e2 => cases h; exact .inl (near_applyUpdate cfg now c _ q u upsert _ ha)
      | ok res =>
        cases after with
        | false => cases h
        | true => exact .inr ⟨rfl, rfl, c2, rfl, near_of_findOne_eq h⟩

theorem fam_go_fail (cfg : Cfg) (now : Int) (c : Coll) (query proj : Val) (update : Option Val)
    (upsert : Bool) (sort : Option SortSpec) (after : Bool) (c' : Coll) (e : Err)
    (h : findAndModify.go cfg now c query proj update upsert sort after = (c', .error e)) :
    Near now c c' ∨ (after = true ∧ findAndModify.projOk proj = .ok () ∧ ∃ c3 v,
      findAndModify.go cfg now c query proj update upsert sort false = (c3, .ok v) ∧
      Near now c3 c') := by
  rw [go_eq] at h ⊢
  -- every read leaves the collection near; a failing write is passed on from `famWrite_fail`
  have write : ∀ c1 q up old, Near now c c1 → ∀ u,
      famWrite cfg now c1 q proj u up after old = (c', .error e) →
      Near now c c' ∨ (after = true ∧ findAndModify.projOk proj = .ok () ∧ ∃ c3 v,
        famWrite cfg now c1 q proj u up false old = (c3, .ok v) ∧ Near now c3 c') := by
    intro c1 q up old n1 u h
    rcases famWrite_fail cfg now c1 q proj u up after old c' e h with hn | ⟨ha, hp, c3, h3, hn⟩
    · exact .inl (n1.trans hn)
    · exact .inr ⟨ha, hp, c3, old, h3, hn⟩
  cases hf : findOneColl now c query .null sort with
  | mk c1 r1 =>
    have n1 : Near now c c1 := near_of_findOne_eq hf
    rw [hf] at h
    cases r1 with
    | error e1 => cases h; exact .inl n1
    | ok o =>
      cases o with
      | none =>
        dsimp only at h ⊢
        cases upsert with
        | false => cases h
        | true =>
          cases update with
          | none => cases h
          | some u => exact write c1 query true none n1 u h
      | some target =>
        dsimp only at h ⊢
        cases hg : findOneColl now c1 (.doc [("_id", idOfDoc target)]) proj none with
        | mk c2 r2 =>
          have n2 : Near now c c2 := n1.trans (near_of_findOne_eq hg)
          rw [hg] at h
          cases r2 with
          | error e2 => cases h; exact .inl n2
          | ok old =>
            cases update with
            | some u => exact write c2 _ upsert old n2 u h
            | none =>
              dsimp only at h
              cases hd : deleteColl now c2 (.doc [("_id", idOfDoc target)]) false with
              | mk c3 r =>
                rw [hd] at h
                cases r with
                | ok n => cases h
                | error e3 => cases h; rw [near_delete now c2 _ _ false _ hd]; exact .inl n2

theorem fam_fail (cfg : Cfg) (now : Int) (c : Coll) (query proj : Val) (update : Option Val)
    (upsert : Bool) (sort : Option SortSpec) (after : Bool) (c' : Coll) (e : Err)
    (h : findAndModify cfg now c query proj update upsert sort after = (c', .error e)) :
    Near now c c' ∨ (after = true ∧ findAndModify.projOk proj = .ok () ∧ ∃ c3 v,
      findAndModify cfg now c query proj update upsert sort false = (c3, .ok v) ∧
      Near now c3 c') := by
  unfold findAndModify at h ⊢
  cases update with
  | none => exact fam_go_fail cfg now c query proj none upsert sort after c' e h
  | some u =>
    simp only at h ⊢
    split at h
    · rename_i ht
      simp only [ht]
      exact fam_go_fail cfg now c query proj (some u) upsert sort after c' e h
    · rename_i ht
      simp only [ht]
      split at h
      · cases h; exact .inl (Near.refl _ _)
      · rename_i hv
        exact fam_go_fail cfg now c query proj (some u) upsert sort after c' e h

theorem famStep_fail (cfg : Cfg) (now : Int) (c : Coll) (query proj : Val) (update : Option Val)
    (sortV : Val) (upsert after : Bool)
    (h : (famStep cfg now c query proj update sortV upsert after).2.isErr = true) :
    Near now c (famStep cfg now c query proj update sortV upsert after).1 ∨
    (after = true ∧ projAcceptable proj = true ∧
      (famStep cfg now c query proj update sortV upsert false).2.isErr = false ∧
      Near now (famStep cfg now c query proj update sortV upsert false).1
        (famStep cfg now c query proj update sortV upsert after).1) := by
  unfold famStep at h ⊢
  split
  · rename_i fs
    split
    · exact .inl (Near.refl _ _)
    · rename_i sort hs
      simp only [hs] at h
      cases hf : findAndModify cfg now c (.doc fs) proj update upsert sort after with
      | mk c' r =>
        rw [hf] at h
        cases r with
        | ok v => cases h
        | error e =>
          rcases fam_fail cfg now c (.doc fs) proj update upsert sort after c' e hf with
            hn | ⟨ha, hpo, c3, v, h3, hn⟩
          · exact .inl hn
          · refine .inr ⟨ha, ?_, by rw [h3]; rfl, by rw [h3]; exact hn⟩
            unfold findAndModify.projOk at hpo
            unfold projAcceptable
            cases hc : copyOnlyFields (.doc []) proj with
            | ok _ => rfl
            | error e => rw [hc] at hpo; cases hpo
  · exact .inl (Near.refl _ _)

/-- a find_one_and_* that raises: the collection is near the one it started from, or
    `return_document=AFTER` was requested, the same call with BEFORE succeeds and the collection
    is near the one that call leaves -/
theorem fam_failed_near (cfg : Cfg) (now : Int) (c : Coll) (op : Val) (hop : famOp op = true)
    (he : (stepX cfg now c op).2.isErr = true) :
    Near now c (stepX cfg now c op).1 ∨
    (famAfter op = true ∧ projAcceptable (famProj op) = true ∧
      (stepX cfg now c (famBefore op)).2.isErr = false ∧
      Near now (stepX cfg now c (famBefore op)).1 (stepX cfg now c op).1) := by
  unfold famOp at hop
  split at hop
  · rename_i f u proj sortV up after
    show _ ∨ (_ ∧ _ ∧
      (stepX cfg now c (.arr [.str "find_one_and_update", f, u, proj, sortV, up, .bool false])).2.isErr
        = false ∧
      Near now (stepX cfg now c
        (.arr [.str "find_one_and_update", f, u, proj, sortV, up, .bool false])).1 _)
    rw [stepX_fau] at he ⊢
    rw [stepX_fau]
    cases hv : validateUpdate u with
    | error e => exact .inl (Near.refl _ _)
    | ok x =>
      rw [hv] at he
      exact famStep_fail cfg now c f proj (some u) sortV (boolOf up) (boolOf after) he
  · rename_i f u proj sortV up after
    show _ ∨ (_ ∧ _ ∧
      (stepX cfg now c (.arr [.str "find_one_and_replace", f, u, proj, sortV, up, .bool false])).2.isErr
        = false ∧
      Near now (stepX cfg now c
        (.arr [.str "find_one_and_replace", f, u, proj, sortV, up, .bool false])).1 _)
    rw [stepX_far] at he ⊢
    rw [stepX_far]
    cases hv : validateReplace u with
    | error e => exact .inl (Near.refl _ _)
    | ok x =>
      rw [hv] at he
      exact famStep_fail cfg now c f proj (some u) sortV (boolOf up) (boolOf after) he
  · rename_i f proj sortV
    rw [stepX_fad] at he ⊢
    rcases famStep_fail cfg now c f proj none sortV false false he with h | ⟨h, _⟩
    · exact .inl h
    · cases h
  · cases hop

end MongoModel.Proofs.C08Lemmas
