/-
  Proofs.C12Ops — `$slice`, `$elemMatch` and the list form.  The theorems "through find" rest on
  `one_op_copy`: a specification of one operator field reduces `_copy_only_fields` to a single
  `applyOp`.
-/
import Proofs.C12Main

namespace MongoModel.Proofs.C12
open MongoModel MongoModel.Spec.Proj

/-- `xs[a:b]` for `0 ≤ a` and `0 ≤ b ≤ len` -/
theorem projSlice_nat (xs : List Val) (a b : Nat) (hb : b ≤ xs.length) :
    projSlice xs a b = (xs.drop a).take (b - a) := by
  unfold projSlice
  have h1 : ¬ (a : Int) < 0 := by omega
  by_cases ha : a ≤ xs.length
  · have h2 : ¬ (a : Int) > xs.length := by omega
    have h3 : ¬ (b : Int) < 0 := by omega
    have h4 : ¬ (b : Int) > xs.length := by omega
    simp only [h1, h2, h3, h4, if_false, Int.toNat_natCast]
    congr 1; omega
  · have h2 : (a : Int) > xs.length := by omega
    simp only [h1, h2, if_false, if_true, Int.toNat_natCast]
    rw [List.drop_of_length_le (Nat.le_refl _), List.drop_of_length_le (by omega), List.take_nil,
      List.take_nil]

/-- the `limit` elements from the `s`-th on, the way the code cuts them out -/
theorem projSlice_from (xs : List Val) (s : Nat) {limit : Int} (hl : 0 ≤ limit) :
    projSlice xs s (if (s : Int) + limit < xs.length then (s : Int) + limit else xs.length) =
      (xs.drop s).take limit.toNat := by
  obtain ⟨l, rfl⟩ := Int.eq_ofNat_of_zero_le hl
  rw [Int.toNat_natCast]
  by_cases h : s + l < xs.length
  · rw [if_pos (by omega), ← Int.natCast_add, projSlice_nat xs s _ (Nat.le_of_lt h), Nat.add_sub_cancel_left]
  · rw [if_neg (by omega), projSlice_nat xs s _ (Nat.le_refl _),
      List.take_of_length_le (by rw [List.length_drop]; omega),
      List.take_of_length_le (by rw [List.length_drop]; omega)]

theorem slice_int (xs : List Val) (n : Int) :
    sliceOp (.int n) xs = .ok (if n ≥ 0 then xs.take n.toNat else xs.drop (xs.length - n.natAbs)) := by
  simp only [sliceOp, asPyInt]
  by_cases hn : n < 0
  · have e : (if (xs.length : Int) + n < 0 then (0 : Int) else xs.length + n) =
        ((xs.length - n.natAbs : Nat) : Int) := by omega
    have hge : ¬ n ≥ 0 := by omega
    simp only [hn, hge, if_true, if_false, e]
    rw [projSlice_nat xs _ xs.length (Nat.le_refl _),
      List.take_of_length_le (by rw [List.length_drop]; omega)]
  · have hge : n ≥ 0 := by omega
    simp only [hn, hge, if_true, if_false]
    have := projSlice_from xs 0 hge
    simp only [Int.natCast_zero, Int.zero_add, List.drop_zero] at this
    rw [this]

theorem slice_pair (xs : List Val) (skip limit : Int) (hl : 0 < limit) :
    sliceOp (.arr [.int skip, .int limit]) xs = .ok (
      if skip ≥ 0 then (xs.drop skip.toNat).take limit.toNat
      else (xs.drop (xs.length - skip.natAbs)).take limit.toNat) := by
  have hnp : decide (limit ≤ 0) = false := decide_eq_false (by omega)
  simp only [sliceOp, nonPositive, hnp, asPyInt]
  by_cases hs : skip < 0
  · have e : (if (xs.length : Int) + skip < 0 then (0 : Int) else xs.length + skip) =
        ((xs.length - skip.natAbs : Nat) : Int) := by omega
    have hge : ¬ skip ≥ 0 := by omega
    simp only [hs, hge, if_true, if_false, e]
    rw [projSlice_from xs _ (Int.le_of_lt hl)]
  · obtain ⟨k, rfl⟩ := Int.eq_ofNat_of_zero_le (by omega : 0 ≤ skip)
    simp only [hs, if_false, ge_iff_le, Int.natCast_nonneg, if_true, Int.toNat_natCast]
    rw [projSlice_from xs k (Int.le_of_lt hl)]

/-- a limit that is not positive is refused, whatever the skip and the array -/
theorem slice_refused (xs : List Val) (skip limit : Int) (hl : limit ≤ 0) :
    sliceOp (.arr [.int skip, .int limit]) xs = .error .opFail := by
  have hnp : decide (limit ≤ 0) = true := by simpa using hl
  simp only [sliceOp, nonPositive, hnp]

/-- **`$slice`**: for a well-shaped operand the code keeps exactly the stated contiguous part,
    and refuses exactly the operands the rule refuses -/
theorem slice_spec (sv : Val) (xs : List Val) (h : sliceReasons sv = []) :
    match slice sv xs with
    | some ys => sliceOp sv xs = .ok ys
    | none => sliceOp sv xs = .error .opFail := by
  unfold sliceReasons at h
  split at h
  · next n => simp only [slice]; exact slice_int xs n
  · next skip limit =>
    by_cases hl : limit ≤ 0
    · simp only [slice, hl, if_true]; exact slice_refused xs skip limit hl
    · have h2 := slice_pair xs skip limit (by omega)
      by_cases hs : skip ≥ 0
      · simp only [hs, if_true] at h2
        simp only [slice, hl, if_false, hs, if_true]; exact h2
      · simp only [hs, if_false] at h2
        simp only [slice, hl, if_false, hs]; exact h2
  · cases h

theorem firstMatch_some {q : Val} : ∀ {xs : List Val} {x : Val},
    firstMatch q xs = .ok (some x) →
    ∃ pre post, xs = pre ++ x :: post ∧ filterApplies q x = .ok true ∧
      ∀ y ∈ pre, filterApplies q y = .ok false
  | [], x, h => by simp [firstMatch] at h
  | y :: ys, x, h => by
    simp only [firstMatch] at h
    obtain ⟨b, hb, h⟩ := bind_ok h
    cases b
    · simp only [Bool.false_eq_true, if_false] at h
      obtain ⟨pre, post, e, h1, h2⟩ := firstMatch_some h
      refine ⟨y :: pre, post, by simp [e], h1, ?_⟩
      intro z hz
      rcases List.mem_cons.mp hz with e' | hz
      · subst e'; exact hb
      · exact h2 z hz
    · simp only [if_true] at h
      have := pure_ok h; cases this
      exact ⟨[], ys, rfl, hb, fun _ hz => by simp at hz⟩

theorem firstMatch_none {q : Val} : ∀ {xs : List Val},
    firstMatch q xs = .ok none → ∀ y ∈ xs, filterApplies q y = .ok false
  | [], _ => fun _ hz => by simp at hz
  | y :: ys, h => by
    simp only [firstMatch] at h
    obtain ⟨b, hb, h⟩ := bind_ok h
    cases b
    · simp only [Bool.false_eq_true, if_false] at h
      intro z hz
      rcases List.mem_cons.mp hz with e' | hz
      · subst e'; exact hb
      · exact firstMatch_none h z hz
    · simp only [if_true] at h
      have := pure_ok h; cases this

theorem dget_attachId_ne {f : String} (hf : f ≠ "_id") (fs : Fields) :
    dget f (attachId fs []) = none := by
  unfold attachId
  split
  · simp [dset, dget, Ne.symm hf]
  · rfl

theorem dset_dset (k : String) (v w : Val) : ∀ l : Fields, dset k w (dset k v l) = dset k w l
  | [] => by simp [dset]
  | (k', v') :: r => by
    by_cases e : k' = k
    · simp [dset, e]
    · simp [dset, e, dset_dset k v w r]

theorem derase_dset_absent {k : String} (v : Val) : ∀ {l : Fields}, dget k l = none →
    derase k (dset k v l) = l
  | [], _ => by simp [dset, derase]
  | (k', v') :: r, h => by
    simp only [dget] at h
    split at h
    · cases h
    · next e => simp [dset, derase, e, derase_dset_absent v h]

theorem bind_pure_id {α : Type} (x : R α) : (x >>= fun a => (pure a : R α)) = x := by
  cases x <;> rfl

theorem attachId_self (fs : Fields) : attachId fs fs = fs := by
  unfold attachId
  split
  · next v hv => exact dset_self hv
  · rfl

/-- a specification made of one operator field `{f: op}`: the copy is the whole document when
    `op` is `$slice` alone, `{_id}` otherwise, and the operator is applied to it -/
theorem one_op_copy {fs : Fields} {f : String} {op : Fields} (hf : f ≠ "_id")
    (hop : (dkeys op).all allowedProjectionOperators.contains = true) :
    copyWithDict fs [(f, .doc op)] =
      applyOp fs (if (dkeys op == ["$slice"]) = true then fs else attachId fs []) f op := by
  have hb : ∀ ka, baseCopy fs [] (.int 1) ka = .ok (if ka = true then fs else attachId fs []) := by
    intro ka
    cases ka <;> simp [baseCopy, mixedValues, show pyEq (.int 1) (.int 1) = true from rfl,
      show pyEq (.int 1) (.int 0) = false from rfl, bind, Except.bind, pure, Except.pure, attachId_self]
  have e : ¬ f = "_id" := hf
  unfold copyWithDict
  simp only [dget, e, if_false, derase, Option.getD_none, extractOps, hop, if_true, bind, Except.bind,
    pure, Except.pure, applyProjOps, hb, dhas, Option.isSome_none, Bool.not_false, Bool.true_and, onlySlices,
    List.isEmpty_cons, List.all_cons, List.all_nil, Bool.and_true]
  cases applyOp fs _ f op <;> rfl

/-- **`$slice` through find**: `{f: {$slice: sv}}` on a document whose field `f` holds the
    array `xs` returns the document with `f` holding the stated part of `xs`, every other
    field kept as it is, in place -/
theorem slice_find {fs : Fields} {f : String} {sv : Val} {xs ys : List Val} (hf : f ≠ "_id")
    (hxs : dget f fs = some (.arr xs)) (hD : sliceReasons sv = []) (hs : slice sv xs = some ys) :
    copyOnlyFields (.doc fs) (.doc [(f, .doc [("$slice", sv)])]) =
      .ok (.doc (dset f (.arr ys) fs)) := by
  have h2 := slice_spec sv xs hD
  rw [hs] at h2
  simp only [copyOnlyFields]
  rw [one_op_copy hf rfl, if_pos (by rfl)]
  simp [applyOp, dhas, hxs, dget, h2, bind, Except.bind, pure, Except.pure, Except.map]

/-- … and the query is refused when the rule refuses the operand (`limit ≤ 0`) -/
theorem slice_find_refused {fs : Fields} {f : String} {sv : Val} {xs : List Val} (hf : f ≠ "_id")
    (hxs : dget f fs = some (.arr xs)) (hD : sliceReasons sv = []) (hs : slice sv xs = none) :
    copyOnlyFields (.doc fs) (.doc [(f, .doc [("$slice", sv)])]) = .error .opFail := by
  have h2 := slice_spec sv xs hD
  rw [hs] at h2
  simp only [copyOnlyFields]
  rw [one_op_copy hf rfl, if_pos (by rfl)]
  simp [applyOp, dhas, hxs, dget, h2, bind, Except.bind, Except.map]

/-- **`$elemMatch` through find**: `{f: {$elemMatch: q}}` on a document whose field `f` holds the
    array `xs` answers `{_id}` plus, under `f`, the first element of `xs` the condition holds for,
    when there is one -/
theorem elemMatch_find {fs : Fields} {f : String} (q : Val) {xs : List Val} (hf : f ≠ "_id")
    (hxs : dget f fs = some (.arr xs)) :
    copyOnlyFields (.doc fs) (.doc [(f, .doc [("$elemMatch", q)])]) =
      (firstMatch q xs).map fun
        | some x => .doc (dset f (.arr [x]) (attachId fs []))
        | none => .doc (attachId fs []) := by
  simp only [copyOnlyFields]
  rw [one_op_copy hf rfl, if_neg (by simp [dkeys])]
  rcases hm : firstMatch q xs with _ | _ | x <;>
    simp [applyOp, dhas, dget_attachId_ne hf, hxs, dget, dget_dset_same, hm, bind, Except.bind,
      pure, Except.pure, Except.map, dset_dset, derase_dset_absent _ (dget_attachId_ne hf fs)]

theorem listToDict_strs : ∀ names : List String,
    listToDict (names.map Val.str) = some (names.map (fun s => (s, Val.int 1)))
  | [] => rfl
  | s :: r => by simp [listToDict, listToDict_strs r]

/-- the list form `[f₁, …, fₙ]` is the dict form `{f₁: 1, …, fₙ: 1}` -/
theorem list_form_eq_dict_form (d : Val) (names : List String) (hn : names.Nodup) :
    copyOnlyFields d (.arr (names.map .str)) =
      copyOnlyFields d (.doc (names.map (fun s => (s, .int 1)))) := by
  cases d with
  | doc fs =>
    cases names with
    | nil => rfl
    | cons n r =>
      have hk : (dkeys (([] : Fields) ++ (n :: r).map (fun s => (s, Val.int 1)))).Nodup := by
        simpa [dkeys, List.map_map, Function.comp_def] using hn
      have := fieldsListToDict_eq ((n :: r).map Val.str) [] _ (listToDict_strs (n :: r)) hk
      simp only [List.map_cons] at this ⊢
      simp only [copyOnlyFields, this, bind, Except.bind, List.nil_append]
  | _ => cases names <;> rfl

end MongoModel.Proofs.C12
