/-
  Proofs.C06Step — the invariant `UniqS` ("uniqueness among the value-keyed, covered documents")
  is carried by the store: a write that `_ensure_uniques` checked creates no clash, and neither
  does an index whose creation pre-check succeeded.
-/
import Proofs.C06Pairs
import Proofs.C05Loop

namespace MongoModel.Proofs.C06Lemmas
open MongoModel MongoModel.Spec
open MongoModel.Proofs.C05Lemmas (Carried Loss loss_ensure setDoc_fresh setDoc_present
  setDoc_indexes)

theorem pair_of_sublist_map {α β : Type} {f : α → β} {a b : β} {l : List α}
    (h : [a, b].Sublist (l.map f)) : ∃ a0 b0, [a0, b0].Sublist l ∧ a = f a0 ∧ b = f b0 := by
  obtain ⟨l', hl, he⟩ := List.sublist_map_iff.1 h
  match l', he, hl with
  | [a0, b0], he, hl =>
    simp only [List.map_cons, List.map_nil, List.cons.injEq, and_true] at he
    exact ⟨a0, b0, hl, he.1, he.2⟩
  | [], he, _ => simp at he
  | [_], he, _ => simp at he
  | _ :: _ :: _ :: _, he, _ => simp at he

theorem sublist_singleton' {α : Type} {l : List α} {x : α} (h : l.Sublist [x]) :
    l = [] ∨ l = [x] := by
  cases h with
  | cons _ h' => left; exact List.eq_nil_of_sublist_nil h'
  | cons_cons _ h2 => right; rw [List.eq_nil_of_sublist_nil h2]

theorem pair_of_sublist_snoc {α : Type} {a b x : α} {l : List α}
    (h : [a, b].Sublist (l ++ [x])) (hb : b ≠ x) : [a, b].Sublist l := by
  obtain ⟨l1, l2, he, h1, h2⟩ := List.sublist_append_iff.1 h
  rcases sublist_singleton' h2 with rfl | rfl
  · simp only [List.append_nil] at he; rw [he]; exact h1
  · exfalso
    have : ([a, b] : List α).getLast? = (l1 ++ [x]).getLast? := by rw [he]
    simp at this
    exact hb this

/-- a pair of the store after `setDoc k new` none of whose documents is `new` was already there -/
theorem pair_before_setDoc {c : Coll} {k new : Val} {a b : Val × Val}
    (h : [a, b].Sublist (c.setDoc k new).docs) (ha : a.2 ≠ new) (hb : b.2 ≠ new) :
    [a, b].Sublist c.docs := by
  cases hk : c.hasKey k with
  | false =>
    rw [setDoc_fresh c k new hk] at h
    exact pair_of_sublist_snoc h (fun e => hb (by rw [e]))
  | true =>
    rw [setDoc_present c k new hk] at h
    obtain ⟨a0, b0, hl, ea, eb⟩ := pair_of_sublist_map h
    have ea' : a = a0 := by
      by_cases hq : pyEq a0.1 k = true
      · simp only [hq, if_true] at ea; exact absurd (by rw [ea]) ha
      · simpa [hq] using ea
    have eb' : b = b0 := by
      by_cases hq : pyEq b0.1 k = true
      · simp only [hq, if_true] at eb; exact absurd (by rw [eb]) hb
      · simpa [hq] using eb
    rw [ea', eb']; exact hl

/-- a document stored in place or appended (`cs`: after `setDoc`, or after `__setitem__`, which
    differs by the created flag) and checked by `_ensure_uniques` keeps the invariant -/
theorem uniqS_checked {now : Int} {c cs c' : Coll} {k new : Val} (hU : UniqS c)
    (hd : cs.docs = (c.setDoc k new).docs) (hi : cs.indexes = c.indexes)
    (h : ensureUniques now cs new = .ok c') : UniqS c' := by
  have hl := loss_ensure h
  intro ix hix hu hdf a b hab ga gb
  have hix' : ix ∈ cs.indexes := hl.2.1.subset hix
  by_cases hnew : a.2 = new ∨ b.2 = new
  · exact checked_pair (ensureUniques_ok h ix hix') hu hdf hab ga gb hnew
  · simp only [not_or] at hnew
    exact hU ix (hi ▸ hix') hu hdf a b
      (pair_before_setDoc (hd ▸ hab.trans hl.1) hnew.1 hnew.2) ga gb

def tupleStep (d : Val) (acc : List Val × Nat) (kv : String × Val) : R (List Val × Nat) :=
  match getByDot d kv.1 with
  | .ok v => .ok (acc.1 ++ [v], acc.2)
  | .error .keyErr => .ok (acc.1 ++ [.null], acc.2 + 1)
  | .error e => .error e

theorem indexTuple_eq (keys : List (String × Val)) (d : Val) :
    indexTuple keys d = keys.foldlM (tupleStep d) ([], 0) := by
  -- the same `match` in two places: case by case, not by unification
  refine congrArg (fun f => keys.foldlM f ([], 0)) (funext fun acc => funext fun kv => ?_)
  unfold tupleStep
  cases getByDot d kv.1 with
  | ok v => rfl
  | error e => cases e <;> rfl

theorem tupleStep_ok {d : Val} {acc r : List Val × Nat} {k : String × Val}
    (h : tupleStep d acc k = .ok r) :
    r.1 = acc.1 ++ [kv1 k.1 d] ∧ (r.2 = acc.2 ∨ r.2 = acc.2 + 1 ∧ kv1 k.1 d = .null) := by
  unfold tupleStep at h
  unfold kv1
  cases hg : getByDot d k.1 with
  | ok v => rw [hg] at h; cases h; exact ⟨rfl, .inl rfl⟩
  | error e => rw [hg] at h; cases e <;> cases h; exact ⟨rfl, .inr ⟨rfl, rfl⟩⟩

theorem tupleFold_ok (keys : List (String × Val)) (d : Val) (acc r : List Val × Nat)
    (h : keys.foldlM (tupleStep d) acc = .ok r) :
    r.1 = acc.1 ++ kv keys d ∧ r.2 ≤ acc.2 + keys.length ∧
    (r.2 = acc.2 + keys.length → (kv keys d).all isNull = true) := by
  induction keys generalizing acc with
  | nil => cases h; exact ⟨(List.append_nil _).symm, Nat.le_refl _, fun _ => rfl⟩
  | cons k keys ih =>
    rw [List.foldlM_cons] at h
    obtain ⟨acc', hs, h⟩ := bind_ok h
    obtain ⟨h1, h2, h3⟩ := ih acc' h
    obtain ⟨e1, e2⟩ := tupleStep_ok hs
    have hk : kv (k :: keys) d = kv1 k.1 d :: kv keys d := rfl
    rw [hk, List.length_cons]
    refine ⟨by rw [h1, e1, List.append_assoc]; rfl, ?_, fun e => ?_⟩
    · rcases e2 with e2 | ⟨e2, _⟩ <;> rw [e2] at h2
      · exact Nat.le_trans h2 (Nat.add_le_add_left (Nat.le_succ _) _)
      · exact Nat.le_trans h2 (Nat.le_of_eq (by rw [Nat.add_assoc, Nat.add_comm 1]))
    · rcases e2 with e2 | ⟨e2, e3⟩ <;> rw [e2] at h2 h3
      · exact absurd (e ▸ h2) (Nat.not_succ_le_self _)
      · rw [List.all_cons, e3]
        exact h3 (by rw [e, Nat.add_assoc, Nat.add_comm 1])

theorem indexTuple_ok {ix : Index} {d : Val} {t : List Val} {m : Nat}
    (h : indexTuple ix.keys d = .ok (t, m)) :
    t = keyVals ix d ∧ (m = t.length → (keyVals ix d).all isNull = true) := by
  rw [indexTuple_eq] at h
  obtain ⟨h1, _, h3⟩ := tupleFold_ok ix.keys d _ _ h
  have ht : t = kv ix.keys d := h1
  rw [keyVals_eq]
  refine ⟨ht, fun e => h3 ?_⟩
  show m = 0 + _
  rw [Nat.zero_add, e, ht]
  exact List.length_map ..

theorem pair_cons {α : Type} {a b x : α} {l : List α} (h : [a, b].Sublist (x :: l)) :
    [a, b].Sublist l ∨ (a = x ∧ b ∈ l) := by
  cases h with
  | cons _ h' => exact .inl h'
  | cons_cons _ h' => exact .inr ⟨rfl, h'.subset (List.mem_singleton_self _)⟩

/-- one document of the pre-check: skipped because the index does not cover it, or compared
    with the keys seen so far and remembered -/
theorem precheck_cons {ix : Index} {k d : Val} {docs : List (Val × Val)} {seen : List (List Val)}
    (h : precheckUnique ix.keys ix.sparse ix.partialFilter ((k, d) :: docs) seen = .ok ()) :
    (covers ix d = false ∧
      precheckUnique ix.keys ix.sparse ix.partialFilter docs seen = .ok ()) ∨
    ((∀ s ∈ seen, keyEq s (keyVals ix d) = false) ∧
      precheckUnique ix.keys ix.sparse ix.partialFilter docs (seen ++ [keyVals ix d]) = .ok ()) := by
  unfold precheckUnique at h
  obtain ⟨⟨t, m⟩, ht, h⟩ := bind_ok h
  obtain ⟨rfl, hnull⟩ := indexTuple_ok ht
  dsimp only at h
  by_cases hsk : (ix.sparse && m == (keyVals ix d).length) = true
  · rw [if_pos hsk] at h
    rw [Bool.and_eq_true, beq_iff_eq] at hsk
    exact .inl ⟨by rw [covers, hsk.1, hnull hsk.2]; rfl, h⟩
  · rw [if_neg hsk] at h
    obtain ⟨covered, hcov, h⟩ := bind_ok h
    cases covered with
    | false =>
      refine .inl ⟨?_, h⟩
      unfold covers
      cases hf : ix.partialFilter with
      | none => rw [hf] at hcov; cases hcov
      | some f => rw [hf] at hcov; simp only at hcov ⊢; rw [hcov, Bool.and_false]
    | true =>
      by_cases hany : (seen.any fun s => pyEq (.arr s) (.arr (keyVals ix d))) = true
      · simp only [hany, Bool.not_true, Bool.false_eq_true, if_false, if_true] at h; cases h
      · simp only [hany, Bool.not_true, Bool.false_eq_true, if_false] at h
        refine .inr ⟨fun s hs => ?_, h⟩
        rw [← pyEqList_eq_keyEq]
        simpa [pyEq] using fun e => hany (List.any_eq_true.2 ⟨s, hs, e⟩)

/-- a successful pre-check: no covered document has a key seen before, and no two covered
    documents have equal keys -/
theorem precheck_ok (ix : Index) : ∀ (docs : List (Val × Val)) (seen : List (List Val)),
    precheckUnique ix.keys ix.sparse ix.partialFilter docs seen = .ok () →
    (∀ p ∈ docs, covers ix p.2 = true → ∀ s ∈ seen, keyEq s (keyVals ix p.2) = false) ∧
    (∀ a b, [a, b].Sublist docs → covers ix a.2 = true → covers ix b.2 = true →
      keyEq (keyVals ix a.2) (keyVals ix b.2) = false)
  | [], seen, _ => ⟨fun p hp => (by cases hp), fun a b hab => (by cases hab)⟩
  | (k, d) :: docs, seen, h => by
    rcases precheck_cons h with ⟨hc, hr⟩ | ⟨hseen, hr⟩
    · obtain ⟨i1, i2⟩ := precheck_ok ix docs seen hr
      constructor
      · intro p hp hcp
        rcases List.mem_cons.1 hp with rfl | hm
        · rw [hc] at hcp; cases hcp
        · exact i1 p hm hcp
      · intro a b hab ca cb
        rcases pair_cons hab with h' | ⟨rfl, _⟩
        · exact i2 a b h' ca cb
        · rw [hc] at ca; cases ca
    · obtain ⟨i1, i2⟩ := precheck_ok ix docs _ hr
      constructor
      · intro p hp hcp s hs
        rcases List.mem_cons.1 hp with rfl | hm
        · exact hseen s hs
        · exact i1 p hm hcp s (List.mem_append_left _ hs)
      · intro a b hab ca cb
        rcases pair_cons hab with h' | ⟨rfl, hb⟩
        · exact i2 a b h' ca cb
        · exact i1 b hb cb _ (List.mem_append_right _ (List.mem_singleton_self _))

/-- a successful pre-check gives uniqueness among the covered documents -/
theorem pairsOK_of_precheck {ix : Index} {docs : List (Val × Val)}
    (h : precheckUnique ix.keys ix.sparse ix.partialFilter docs [] = .ok ()) : PairsOK ix docs :=
  fun a b hab ga gb => (precheck_ok ix docs [] h).2 a b hab (good_iff.1 ga).2 (good_iff.1 gb).2

theorem carried : Carried UniqS UniqS where
  weaken := id
  lossP := fun h hl => h.of_sub hl.1 (fun _ hix => hl.2.1.subset hix)
  lossQ := fun h hl => h.of_sub hl.1 (fun _ hix => hl.2.1.subset hix)
  update := fun h _ _ _ hu => uniqS_checked h rfl (setDoc_indexes _ _ _) hu
  insert := fun h _ _ hu => uniqS_checked h (storeDoc_docs _ _ _)
    ((storeDoc_indexes _ _ _).trans (setDoc_indexes _ _ _)) hu
  index := by
    intro c ix l t hU hp hl i hi hu hdf
    rcases hl i hi with rfl | hm
    · exact pairsOK_of_precheck (hp hu)
    · exact hU i hm hu hdf
  drop := fun _ _ hix => by cases hix

def Sub (c c' : Coll) : Prop := c'.docs.Sublist c.docs ∧ c'.indexes = c.indexes

theorem sub_ensure {now : Int} {c c' : Coll} {new : Val}
    (h : ensureUniques now c new = .ok c') : Sub c c' := by
  refine ⟨(loss_ensure h).1, ?_⟩
  refine C05Lemmas.foldlM_inv (fun b => b.indexes = c.indexes) _ ?_ c.indexes c c' rfl h
  intro b ix r hb hs
  rcases C05Lemmas.ensureStep_ok hs with ⟨_, rfl⟩ | ⟨_, _, _, ⟨_, rfl⟩ | ⟨_, _, hi, _⟩⟩
  · exact hb
  · exact hb
  · obtain ⟨⟨c1, h1, h2⟩, _⟩ := C05Lemmas.iterDocuments_ok hi
    rw [(C09Lemmas.expire_ok _ _ _ h2).2.1, (C09Lemmas.expire_ok _ _ _ h1).2.1]; exact hb

theorem uniqS_bump {c : Coll} (h : UniqS c) (n : Nat) : UniqS { c with nextOid := n } := h

end MongoModel.Proofs.C06Lemmas
