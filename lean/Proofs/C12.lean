import Proofs.C12Map
import Proofs.C12Ops
import Proofs.C12Agg
