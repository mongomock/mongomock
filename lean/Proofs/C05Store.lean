/-
  Proofs.C05Store — the entry points of the store that write no document (expiry pass, scans,
  `_ensure_uniques`, delete, the reads, a rejected insert, the index operations): what they leave
  is what they found with some things lost (`Loss`).  `create_index` cut into its pre-check and
  the registration.
-/
import Proofs.C09Expire
import Proofs.StoreFlag
import Proofs.Basics

namespace MongoModel.Proofs.C06Lemmas
open MongoModel

/-- the filter `_ensure_uniques` passes to `_iter_documents` -/
def queryOf (ix : Index) (kw : Fields) : Val :=
  match ix.partialFilter with
  | some pfe => Val.doc [("$and", .arr [pfe, .doc kw])]
  | none => Val.doc kw

end MongoModel.Proofs.C06Lemmas

namespace MongoModel.Proofs.C05Lemmas
open MongoModel MongoModel.Spec
open MongoModel.Proofs.C09Lemmas (expire_ok)
open MongoModel.Proofs.C06Lemmas (queryOf)

theorem foldlM_inv {α β : Type} (P : β → Prop) (f : β → α → R β)
    (hf : ∀ b a r, P b → f b a = .ok r → P r) (l : List α) (b r : β) (hb : P b)
    (h : l.foldlM f b = .ok r) : P r := by
  induction l generalizing b with
  | nil => cases h; exact hb
  | cons a l ih =>
    rw [List.foldlM_cons] at h
    obtain ⟨b1, h1, h2⟩ := bind_ok h
    exact ih b1 (hf b a b1 hb h1) h2

/-- `c'` holds a sublist of the entries of `c` -/
def Sub (c' c : Coll) : Prop := c'.docs.Sublist c.docs

theorem Sub.of_docs_eq {a b : Coll} (h : a.docs = b.docs) : Sub a b := by
  unfold Sub; rw [h]; exact List.Sublist.refl _

/-- from `c` to `c'` documents and indexes only disappeared, and the created flag was not reset
    (the id counter and the TTL table are free): what every entry point does that stores no
    document and registers no index -/
def Loss (c c' : Coll) : Prop :=
  c'.docs.Sublist c.docs ∧ c'.indexes.Sublist c.indexes ∧
    (c.forceCreated = true → c'.forceCreated = true)

theorem Loss.refl (c : Coll) : Loss c c := ⟨.refl _, .refl _, id⟩

theorem Loss.trans {a b c : Coll} (h1 : Loss a b) (h2 : Loss b c) : Loss a c :=
  ⟨h2.1.trans h1.1, h2.2.1.trans h1.2.1, fun h => h2.2.2 (h1.2.2 h)⟩

theorem loss_expire {now : Int} {c c' : Coll} (h : expire now c = .ok c') : Loss c c' :=
  let ⟨s, m⟩ := expire_ok now c c' h
  ⟨s, m.1 ▸ .refl _, fun hf => m.2.2.1 ▸ hf⟩

theorem loss_markStored (c : Coll) (b : Bool) : Loss c (c.markStored b) := by
  cases b
  · exact Loss.refl c
  · exact ⟨.refl _, .refl _, fun _ => rfl⟩

/-- `_iter_documents`: two expiry passes, then the filter over what is left -/
theorem iterDocuments_ok {now : Int} {c c' : Coll} {f : Val} {ms : List Val}
    (h : iterDocuments now c f = .ok (c', ms)) :
    (∃ c1, expire now c = .ok c1 ∧ expire now c1 = .ok c') ∧
    c'.docs.filterMapM (fun p => do
      let b ← filterApplies f p.2
      pure (if b then some p.2 else none)) = .ok ms := by
  obtain ⟨c1, h1, h⟩ := bind_ok h
  have h' : (expire now c1 >>= fun c2 => (c2.docs.filterMapM (fun p => do
      let b ← filterApplies f p.2
      pure (if b then some p.2 else none))) >>= fun ms => pure (c2, ms)) = .ok (c', ms) := by
    by_cases he : c1.docs.isEmpty = true
    · rw [if_pos he] at h
      obtain ⟨_, _, h⟩ := bind_ok h
      exact h
    · rw [if_neg he] at h
      exact h
  obtain ⟨c2, h2, h3⟩ := bind_ok h'
  obtain ⟨ms', h4, h5⟩ := bind_ok h3
  cases h5
  exact ⟨⟨c1, h1, h2⟩, h4⟩

theorem loss_iter {now : Int} {c c' : Coll} {f : Val} {ms : List Val}
    (h : iterDocuments now c f = .ok (c', ms)) : Loss c c' :=
  let ⟨⟨_, h1, h2⟩, _⟩ := iterDocuments_ok h
  (loss_expire h1).trans (loss_expire h2)

/-- the body of the loop over the indexes -/
def ensureStep (now : Int) (newData : Val) (c : Coll) (ix : Index) : R Coll :=
  if !ix.unique then pure c
  else do
    let kwargs ← valuesFor ix.keys newData
    let skip := ix.sparse && kwargs.all isNullCond
    if skip then pure c
    else do
      let (c', ms) ← iterDocuments now c (queryOf ix kwargs)
      if ms.length > 1 then .error .dupKey else pure c'

theorem ensureUniques_eq (now : Int) (c : Coll) (new : Val) :
    ensureUniques now c new = c.indexes.foldlM (ensureStep now new) c := rfl

/-- one index of the loop: not unique, or skipped as sparse, or scanned with at most one hit -/
theorem ensureStep_ok {now : Int} {new : Val} {c c' : Coll} {ix : Index}
    (h : ensureStep now new c ix = .ok c') :
    (ix.unique = false ∧ c' = c) ∨ ∃ kw, ix.unique = true ∧ valuesFor ix.keys new = .ok kw ∧
      (((ix.sparse && kw.all isNullCond) = true ∧ c' = c) ∨
       ((ix.sparse && kw.all isNullCond) = false ∧ ∃ ms,
          iterDocuments now c (queryOf ix kw) = .ok (c', ms) ∧ ms.length ≤ 1)) := by
  unfold ensureStep at h
  cases hu : ix.unique with
  | false => rw [hu] at h; cases h; exact .inl ⟨rfl, rfl⟩
  | true =>
    rw [hu] at h
    obtain ⟨kw, hv, h⟩ := bind_ok h
    refine .inr ⟨kw, rfl, hv, ?_⟩
    cases hsk : ix.sparse && kw.all isNullCond with
    | true => simp only [hsk, if_true] at h; cases h; exact .inl ⟨rfl, rfl⟩
    | false =>
      simp only [hsk, Bool.false_eq_true, if_false] at h
      obtain ⟨⟨c2, ms⟩, hi, h⟩ := bind_ok h
      by_cases hl : ms.length > 1
      · simp only [hl, if_true] at h; cases h
      · simp only [hl, if_false] at h; cases h
        exact .inr ⟨rfl, ms, hi, Nat.le_of_not_lt hl⟩

theorem loss_ensure {now : Int} {c c' : Coll} {d : Val} (h : ensureUniques now c d = .ok c') :
    Loss c c' := by
  refine foldlM_inv (Loss c) _ ?_ c.indexes c c' (Loss.refl c) h
  intro b ix r hb hs
  rcases ensureStep_ok hs with ⟨_, rfl⟩ | ⟨_, _, _, ⟨_, rfl⟩ | ⟨_, _, hi, _⟩⟩
  · exact hb
  · exact hb
  · exact hb.trans (loss_iter hi)

theorem loss_insertRejected (now : Int) (c : Coll) (d : Val) : Loss c (insertRejected now c d) := by
  unfold insertRejected
  refine Loss.trans ?_ (loss_markStored _ _)
  have h0 : Loss c (match d with
      | .doc fs => if dhas "_id" fs then c else { c with nextOid := c.nextOid + 1 }
      | _ => c) := by
    split
    · split <;> exact Loss.refl c
    · exact Loss.refl c
  split
  · rename_i x hx; exact h0.trans (loss_expire hx)
  · exact h0

theorem loss_foldl_delDoc (ks : List Val) (c : Coll) :
    Loss c (ks.foldl (fun acc k => acc.delDoc k) c) := by
  induction ks generalizing c with
  | nil => exact Loss.refl c
  | cons k ks ih => exact Loss.trans (b := c.delDoc k) ⟨List.filter_sublist, .refl _, id⟩ (ih _)

theorem loss_delete (now : Int) (c : Coll) (f : Val) (multi : Bool) :
    Loss c (deleteColl now c f multi).1 := by
  unfold deleteColl
  simp only
  split
  · split
    · exact Loss.refl c
    · rename_i c1 ms h
      exact (loss_iter h).trans (loss_foldl_delDoc _ c1)
  · exact Loss.refl c

theorem loss_find (now : Int) (c : Coll) (f : Val) : Loss c (findColl now c f).1 := by
  unfold findColl
  split
  · split
    · exact Loss.refl c
    · rename_i c1 ms h; exact loss_iter h
  · exact Loss.refl c

theorem loss_count (now : Int) (c : Coll) (f : Val) (skip : Int) (limit : Option Val) :
    Loss c (countColl now c f skip limit).1 := by
  unfold countColl
  simp only
  split
  · exact Loss.refl c
  · split
    · exact Loss.refl c
    · rename_i c1 ms h; exact loss_iter h

theorem loss_distinct (now : Int) (c : Coll) (key : String) (f : Val) :
    Loss c (distinctColl now c key f).1 := by
  unfold distinctColl
  have := loss_find now c f
  split
  · rename_i c1 e h; rw [h] at this; exact this
  · rename_i c1 ms h; rw [h] at this; exact this

theorem loss_observe (s : St) : Loss s.c (observe s).1.c := by
  unfold observe
  split
  · rename_i c' h; exact loss_expire h
  · exact Loss.refl _

theorem loss_dropIndex (now : Int) (c : Coll) (name : String) :
    Loss c (dropIndexColl now c name).1 := by
  unfold dropIndexColl
  split
  · exact Loss.refl c
  · rename_i c1 h
    refine (loss_expire h).trans ?_
    split
    · exact ⟨.refl _, List.filter_sublist, id⟩
    · exact Loss.refl c1

theorem loss_refusedCreate (now : Int) (c : Coll) (ix : Index) : Loss c (refusedCreate now c ix) := by
  unfold refusedCreate
  split
  · split
    · rename_i c1 h; exact loss_expire h
    · exact Loss.refl c
  · exact Loss.refl c

/-- `indexes[name] = ix` -/
def putIx (ix : Index) (l : List Index) : List Index :=
  if l.any (fun i => i.name == ix.name) then l.map (fun i => if i.name == ix.name then ix else i)
  else l ++ [ix]

theorem mem_putIx {ix i : Index} {l : List Index} (h : i ∈ putIx ix l) : i = ix ∨ i ∈ l := by
  unfold putIx at h
  split at h
  · obtain ⟨j, hj, e⟩ := List.mem_map.1 h
    split at e
    · exact .inl e.symm
    · exact .inr (e ▸ hj)
  · rcases List.mem_append.1 h with h' | h'
    · exact .inr h'
    · exact .inl (List.mem_singleton.1 h')

/-- the pre-check part of `create_index` -/
def preCreate (now : Int) (c : Coll) (ix : Index) : R Coll :=
  if ix.unique then do
    let c1 ← expire now c
    precheckUnique ix.keys ix.sparse ix.partialFilter c1.docs []
    pure c1
  else pure c

theorem go_eq (now : Int) (c : Coll) (ix : Index) :
    createIndexColl.go now c ix =
      match preCreate now c ix with
      | .error e => (refusedCreate now c ix, .error e)
      | .ok c1 =>
        (match ix.ttl with
         | some _ => ({ c1 with indexes := putIx ix c1.indexes, ttlIndexes := putIx ix c1.ttlIndexes,
                                forceCreated := true }, .ok ix.name)
         | none => ({ c1 with indexes := putIx ix c1.indexes, forceCreated := true },
                    .ok ix.name)) := rfl

theorem preCreate_ok {now : Int} {c c1 : Coll} {ix : Index} (h : preCreate now c ix = .ok c1) :
    Loss c c1 ∧ (ix.unique = true →
      precheckUnique ix.keys ix.sparse ix.partialFilter c1.docs [] = .ok ()) := by
  unfold preCreate at h
  cases hu : ix.unique with
  | false => rw [hu] at h; cases h; exact ⟨Loss.refl _, fun h' => by cases h'⟩
  | true =>
    rw [hu] at h
    obtain ⟨c2, he, h⟩ := bind_ok h
    obtain ⟨u, hp, h⟩ := bind_ok h
    cases h
    exact ⟨loss_expire he, fun _ => hp⟩

/-- what `create_index` does: nothing (the name is taken with other options), a refused creation,
    or the registration of the index over a collection that passed the pre-check -/
theorem createIndexColl_ok (now : Int) (c : Coll) (ix : Index) :
    Loss c (createIndexColl now c ix).1 ∧ (∃ e, (createIndexColl now c ix).2 = .error e) ∨
    ∃ c1 t, preCreate now c ix = .ok c1 ∧
      createIndexColl now c ix =
        ({ c1 with indexes := putIx ix c1.indexes, ttlIndexes := t, forceCreated := true },
          .ok ix.name) := by
  have hgo : (Loss c (createIndexColl.go now c ix).1 ∧ ∃ e, (createIndexColl.go now c ix).2 = .error e) ∨
      ∃ c1 t, preCreate now c ix = .ok c1 ∧
        createIndexColl.go now c ix =
          ({ c1 with indexes := putIx ix c1.indexes, ttlIndexes := t, forceCreated := true },
            .ok ix.name) := by
    rw [go_eq]
    cases preCreate now c ix with
    | error e => exact .inl ⟨loss_refusedCreate now c ix, e, rfl⟩
    | ok c1 =>
      right
      cases ix.ttl with
      | some _ => exact ⟨c1, _, rfl, rfl⟩
      | none => exact ⟨c1, _, rfl, rfl⟩
  unfold createIndexColl
  split
  · split
    · exact .inl ⟨Loss.refl c, _, rfl⟩
    · exact hgo
  · exact hgo

end MongoModel.Proofs.C05Lemmas
