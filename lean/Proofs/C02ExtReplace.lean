/-
  Proofs.C02ExtReplace — what a replacement yields, field by field, for ANY replacement document
  (`replace_spec` covers the replacement without `_id` and without duplicate keys), and exactly
  when a replacement is accepted.
-/
import Spec.UpdateSpecExt
import Proofs.C02Ops


namespace MongoModel.Proofs.C02Lemmas
open MongoModel MongoModel.Spec

/-- `dict(pairs)`: later pairs win, keys not in the pairs keep the base value -/
theorem dget_foldl_dset (k : String) : ∀ (doc base : Fields),
    dget k (doc.foldl (fun acc kv => dset kv.1 kv.2 acc) base) =
      (match lastGet k doc with | some v => some v | none => dget k base)
  | [], base => rfl
  | (k', v) :: r, base => by
    simp only [List.foldl_cons]
    rw [dget_foldl_dset k r]
    simp only [lastGet, List.reverse_cons, dget_append]
    cases dget k r.reverse with
    | some w => rfl
    | none =>
      by_cases e : k' = k
      · subst e; simp [dget, dget_dset_same]
      · have e' : k ≠ k' := fun h => e h.symm
        simp [dget, e, dget_dset_other v e']

theorem head_dset (k : String) (v : Val) (fs : Fields) (h : fs ≠ []) :
    (dkeys (dset k v fs)).head? = (dkeys fs).head? ∧ dset k v fs ≠ [] := by
  cases fs with
  | nil => exact absurd rfl h
  | cons kv r =>
    obtain ⟨k', v'⟩ := kv
    simp only [dset]
    split
    · rename_i e; subst e; simp [dkeys]
    · simp [dkeys]

theorem head_foldl_dset : ∀ (doc base : Fields), base ≠ [] →
    (dkeys (doc.foldl (fun acc kv => dset kv.1 kv.2 acc) base)).head? = (dkeys base).head?
  | [], base, _ => rfl
  | (k, v) :: r, base, h => by
    simp only [List.foldl_cons]
    rw [head_foldl_dset r _ (head_dset k v base h).2, (head_dset k v base h).1]

theorem replaceWhole_eq (doc existing : Fields) :
    replaceWhole doc (.doc existing) =
      if doc.any (fun kv => kv.1.startsWith "$") then .error .valueErr
      else match dget "_id" existing with
        | none => .ok (.doc (doc.foldl (fun acc kv => dset kv.1 kv.2 acc) []))
        | some x =>
          if pyEq ((lastGet "_id" doc).getD x) x then
            .ok (.doc (doc.foldl (fun acc kv => dset kv.1 kv.2 acc) [("_id", x)]))
          else .error .opFail := by
  simp only [replaceWhole]
  by_cases h : doc.any (fun kv => kv.1.startsWith "$") = true
  · simp only [h, if_true]
  · simp only [h, if_false, Bool.false_eq_true]
    cases hid : dget "_id" existing with
    | none => simp only []
    | some x =>
      simp only [dget_foldl_dset]
      cases hl : lastGet "_id" doc with
      | some nid =>
        simp only [Option.getD_some]
        by_cases hp : pyEq nid x = true <;> simp [hp]
      | none =>
        simp only [Option.getD_none, dget, if_true]
        by_cases hp : pyEq x x = true <;> simp [hp]

end MongoModel.Proofs.C02Lemmas

namespace MongoModel.Proofs.C02
open MongoModel MongoModel.Spec MongoModel.Proofs.C02Lemmas

theorem replace_then_get (doc existing fs' : Fields)
    (h : replaceWhole doc (.doc existing) = .ok (.doc fs')) :
    (∀ k, dget k fs' = match lastGet k doc with
        | some v => some v
        | none => if k = "_id" then dget "_id" existing else none) ∧
    (dkeys fs').Nodup ∧
    (∀ id, dget "_id" existing = some id →
      (dkeys fs').head? = some "_id" ∧ ∃ id', dget "_id" fs' = some id' ∧ pyEq id' id = true) := by
  rw [replaceWhole_eq] at h
  by_cases hd : doc.any (fun kv => kv.1.startsWith "$") = true
  · rw [if_pos hd] at h; cases h
  rw [if_neg hd] at h
  cases hid : dget "_id" existing with
  | none =>
    simp only [hid] at h
    cases h
    refine ⟨?_, nodup_foldl_dset doc [] (by simp [dkeys]), fun id hc => by cases hc⟩
    intro k
    rw [dget_foldl_dset]
    cases lastGet k doc with
    | some v => rfl
    | none => by_cases e : k = "_id" <;> simp [e, dget]
  | some x =>
    simp only [hid] at h
    by_cases hpe : pyEq ((lastGet "_id" doc).getD x) x = true
    · rw [if_pos hpe] at h
      cases h
      refine ⟨?_, nodup_foldl_dset doc _ (by simp [dkeys]), ?_⟩
      · intro k
        rw [dget_foldl_dset]
        cases lastGet k doc with
        | some v => rfl
        | none =>
          by_cases e : k = "_id"
          · subst e; simp [dget]
          · have e' : ¬ "_id" = k := fun h => e h.symm
            simp [e, e', dget]
      · intro id hc
        cases hc
        refine ⟨by rw [head_foldl_dset doc _ (by simp)]; rfl, ?_⟩
        rw [dget_foldl_dset]
        cases hl : lastGet "_id" doc with
        | some nid => exact ⟨nid, rfl, by simpa [hl] using hpe⟩
        | none => exact ⟨x, by simp [dget], by simpa [hl] using hpe⟩
    · rw [if_neg hpe] at h; cases h

theorem replace_ok_iff (doc existing : Fields) :
    (∃ fs', replaceWhole doc (.doc existing) = .ok (.doc fs')) ↔
      (doc.all (fun kv => !kv.1.startsWith "$") = true ∧
       ∀ id, dget "_id" existing = some id → pyEq ((lastGet "_id" doc).getD id) id = true) := by
  rw [replaceWhole_eq]
  have hall : doc.all (fun kv => !kv.1.startsWith "$") = true ↔
      ¬ doc.any (fun kv => kv.1.startsWith "$") = true := by
    simp [List.all_eq_true, List.any_eq_true]
  rw [hall]
  by_cases h : doc.any (fun kv => kv.1.startsWith "$") = true
  · simp [h]
  · simp only [h, if_false, Bool.false_eq_true, not_false_eq_true, true_and]
    cases hid : dget "_id" existing with
    | none => simp
    | some x =>
      simp only [Option.some.injEq, forall_eq']
      by_cases hp : pyEq ((lastGet "_id" doc).getD x) x = true
      · simp [hp]
      · simp [hp]

end MongoModel.Proofs.C02
