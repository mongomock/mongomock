/-
  Proofs.C13Seed — the upsert seed of a filter with plain keys.  Without operator keys
  `_discard_operators` is the accumulator `keep` (`discard_is_keep`), and `expandDots`, read as a
  `foldlM` of `edStep`, returns a document with undotted distinct keys as it is
  (`expandDots_plain`); so the seed is `keep` of the filter with the chosen `_id`
  (`upsertSeed_plain`).
-/
import Spec.Single
import Spec.Match
import Spec.UpsertExt
import Proofs.C05Update

namespace MongoModel.Proofs.C13Lemmas
open MongoModel MongoModel.Spec

theorem splitChars_dot (as bs : List Char) (h : as.contains '.' = false) :
    ∀ cur, splitDotsChars (as ++ '.' :: bs) cur =
      String.ofList (cur.reverse ++ as) :: splitDotsChars bs [] := by
  induction as with
  | nil => intro cur; simp [splitDotsChars]
  | cons c r ih =>
    intro cur
    simp only [List.contains_cons, Bool.or_eq_false_iff, beq_eq_false_iff_ne, ne_eq] at h
    have hc : c ≠ '.' := fun e => h.1 e.symm
    simp only [List.cons_append, splitDotsChars, hc, if_false]
    rw [ih h.2]
    simp

theorem splitDots_two (a b : String) (ha : a.toList.contains '.' = false)
    (hb : b.toList.contains '.' = false) : splitDots (a ++ "." ++ b) = [a, b] := by
  unfold splitDots
  have : (a ++ "." ++ b).toList = a.toList ++ '.' :: b.toList := by
    simp [String.toList_append]
  rw [this, splitChars_dot _ _ ha, splitDotsChars_nodot _ _ (by simpa using hb)]
  simp

/-- one step of `expandDots`: the state is the accumulated document, the keys stated so far and
    the proper prefixes recorded so far -/
def edStep (st : Fields × List String × List String) (kv : String × Val) :
    R (Fields × List String × List String) :=
  if st.2.1.contains kv.1 || st.2.2.contains kv.1 then .error .writeErr
  else
    (expandOne (st.2.1 ++ [kv.1]) st.2.2 kv.2 (splitDots kv.1) [] st.1).map
      (fun acc' => (acc', st.2.1 ++ [kv.1], st.2.2 ++ properPrefixes (splitDots kv.1)))

theorem expandDots_eq (doc : Fields) : expandDots doc = (doc.foldlM edStep ([], [], [])).map (·.1) := rfl

/-- an undotted key that is new is appended; nothing is recorded -/
theorem edStep_plain (acc : Fields) (k : String) (v : Val) (hk : k.toList.contains '.' = false)
    (hf : k ∉ dkeys acc) :
    edStep (acc, dkeys acc, []) (k, v) = .ok (acc ++ [(k, v)], dkeys (acc ++ [(k, v)]), []) := by
  have hc : ((dkeys acc).contains k || ([] : List String).contains k) = false := by simpa using hf
  rw [edStep, if_neg (by rw [hc]; exact Bool.false_ne_true), splitDots_nodot k hk]
  simp only [expandOne, Except.map, dset_absent hf, properPrefixes, dkeys, List.map_append,
    List.map_cons, List.map_nil, List.length_cons, List.length_nil, Nat.zero_add, Nat.sub_self,
    List.range_zero, List.append_nil]

theorem expandDots_plain (ss : Fields) (hp : ∀ kv ∈ ss, kv.1.toList.contains '.' = false)
    (hd : (dkeys ss).Nodup) : expandDots ss = .ok ss := by
  have fold : ∀ (ss acc : Fields), (∀ kv ∈ ss, kv.1.toList.contains '.' = false) →
      (dkeys (acc ++ ss)).Nodup →
      ss.foldlM edStep (acc, dkeys acc, []) = .ok (acc ++ ss, dkeys (acc ++ ss), []) := by
    intro ss
    induction ss with
    | nil => intro acc _ _; rw [List.append_nil]; rfl
    | cons kv r ih =>
      intro acc hp hn
      have hf : kv.1 ∉ dkeys acc := by
        rw [dkeys, List.map_append, List.map_cons] at hn
        exact fun hm => (List.nodup_append.1 hn).2.2 _ hm _ (List.mem_cons_self ..) rfl
      rw [List.foldlM_cons, edStep_plain acc kv.1 kv.2 (hp _ (List.mem_cons_self ..)) hf]
      have e : acc ++ kv :: r = (acc ++ [kv]) ++ r := by rw [List.append_assoc]; rfl
      rw [e] at hn ⊢
      exact ih _ (fun kv h => hp kv (List.mem_cons_of_mem _ h)) hn
  rw [expandDots_eq, show (([] : Fields), ([] : List String), ([] : List String)) = ([], dkeys [], []) from rfl,
    fold ss [] hp hd]
  rfl

theorem mem_dkeys_dset {k k' : String} {x : Val} {fs : Fields} (h : k' ∈ dkeys (dset k x fs)) :
    k' = k ∨ k' ∈ dkeys fs := by
  rw [dkeys_dset] at h
  split at h
  · exact Or.inr h
  · rcases List.mem_append.1 h with h | h
    · exact Or.inr h
    · exact Or.inl (List.mem_singleton.1 h)

/-- what `discardFields` accumulates when no key is an operator -/
def keep : Fields → Fields → Fields
  | [], acc => acc
  | (k, v) :: r, acc =>
    if (discardOps v).2 then keep r acc else keep r (dset k (discardOps v).1 acc)

theorem discardFields_plain (ss : Fields) :
    ∀ acc, (∀ kv ∈ ss, kv.1.startsWith "$" = false) →
      discardFields ss acc = (.doc (keep ss acc), (keep ss acc).isEmpty) := by
  induction ss with
  | nil => intro acc _; rfl
  | cons p r ih =>
    intro acc h
    obtain ⟨k, v⟩ := p
    have hk : k.startsWith "$" = false := h (k, v) (List.mem_cons_self ..)
    have hne : ¬ k = "$eq" := by
      rintro rfl
      exact absurd hk (by decide +kernel)
    have hr := fun acc => ih acc (fun kv hm => h kv (List.mem_cons_of_mem _ hm))
    rw [discardFields, if_neg hne, if_neg (by rw [hk]; exact Bool.false_ne_true), keep]
    dsimp only
    split
    · exact hr acc
    · exact hr _

/-- the equality conditions `_discard_operators` leaves of a filter without operator keys -/
theorem discard_is_keep (ss : Fields) (hp : ∀ kv ∈ ss, kv.1.startsWith "$" = false) :
    (discardOps (.doc ss)).1 = .doc (keep ss []) := by
  rw [discardOps]
  cases ss with
  | nil => rfl
  | cons p r => rw [if_neg (by simp), discardFields_plain _ _ hp]

theorem dget_keep_absent (k : String) (ss : Fields) :
    ∀ acc, k ∉ dkeys ss → dget k (keep ss acc) = dget k acc := by
  induction ss with
  | nil => intro acc _; rfl
  | cons p r ih =>
    intro acc h
    obtain ⟨k', v'⟩ := p
    rw [dkeys, List.map_cons, List.mem_cons, not_or] at h
    rw [keep]
    split
    · exact ih acc h.2
    · rw [ih _ h.2, dget_dset_other _ h.1]

theorem dget_keep (k : String) (v : Val) (ss : Fields) :
    ∀ acc, (dkeys ss).Nodup → dget k ss = some v →
      dget k (keep ss acc) = if (discardOps v).2 then dget k acc else some (discardOps v).1 := by
  induction ss with
  | nil => intro acc _ h; cases h
  | cons p r ih =>
    intro acc hn h
    obtain ⟨k', v'⟩ := p
    rw [dkeys, List.map_cons, List.nodup_cons] at hn
    rw [keep]
    by_cases hk : k' = k
    · subst hk
      rw [dget, if_pos rfl] at h
      cases h
      split
      · exact dget_keep_absent k' r acc hn.1
      · rw [dget_keep_absent k' r _ hn.1, dget_dset_same]
    · rw [dget, if_neg hk] at h
      split
      · exact ih acc hn.2 h
      · rw [ih _ hn.2 h, dget_dset_other _ (Ne.symm hk)]

theorem discardOps_scalar (v : Val) (h : isScalar v = true) : discardOps v = (v, false) := by
  cases v <;> first | rfl | cases h

theorem discardFields_ops (ops : Fields) (h : ops.all (fun kv => kv.1.startsWith "$") = true)
    (he : dget "$eq" ops = none) : discardFields ops [] = (.doc [], true) := by
  induction ops with
  | nil => rfl
  | cons p r ih =>
    obtain ⟨k, v⟩ := p
    rw [List.all_cons, Bool.and_eq_true] at h
    rw [dget] at he
    split at he
    · cases he
    · rename_i hk
      rw [discardFields, if_neg hk, if_pos h.1]
      exact ih h.2 he

theorem discardOps_ops (ops : Fields) (h : isOps ops = true) (he : dget "$eq" ops = none) :
    discardOps (.doc ops) = (.doc [], true) := by
  rw [isOps, Bool.and_eq_true, Bool.not_eq_true'] at h
  rw [discardOps, if_neg (by rw [h.1]; exact Bool.false_ne_true)]
  exact discardFields_ops ops h.2 he

theorem discardOps_eq (x : Val) : discardOps (.doc [("$eq", x)]) = (x, false) := rfl

theorem seed_plain (ss : Fields) (hk : ss.all (fun kv => !kv.1.toList.contains '.' && !kv.1.startsWith "$") = true)
    (hd : (dkeys ss).Nodup) :
    (∀ k v, dget k ss = some v → isScalar v = true →
        dget k (match (discardOps (.doc ss)).1 with | .doc fs => fs | _ => []) = some v) ∧
    (∀ k ops, dget k ss = some (.doc ops) → isOps ops = true → dget "$eq" ops = none →
        dget k (match (discardOps (.doc ss)).1 with | .doc fs => fs | _ => []) = none) ∧
    (∀ k x, dget k ss = some (.doc [("$eq", x)]) →
        dget k (match (discardOps (.doc ss)).1 with | .doc fs => fs | _ => []) = some x) := by
  have hp : ∀ kv ∈ ss, kv.1.startsWith "$" = false := by
    intro kv hm
    have := List.all_eq_true.1 hk kv hm
    rw [Bool.and_eq_true, Bool.not_eq_true', Bool.not_eq_true'] at this
    exact this.2
  rw [discard_is_keep ss hp]
  refine ⟨?_, ?_, ?_⟩
  · intro k v h hs
    rw [dget_keep k v ss [] hd h, discardOps_scalar v hs]; rfl
  · intro k ops h ho he
    rw [dget_keep k _ ss [] hd h, discardOps_ops ops ho he]; rfl
  · intro k x h
    rw [dget_keep k _ ss [] hd h, discardOps_eq]; rfl

theorem keep_nodup (ss : Fields) : ∀ acc, (dkeys acc).Nodup → (dkeys (keep ss acc)).Nodup := by
  induction ss with
  | nil => intro acc h; exact h
  | cons p r ih =>
    obtain ⟨k, v⟩ := p
    intro acc h
    rw [keep]
    split
    · exact ih acc h
    · exact ih _ (nodup_dset k _ acc h)

theorem keep_keys (ss : Fields) : ∀ acc k, k ∈ dkeys (keep ss acc) → k ∈ dkeys acc ∨ k ∈ dkeys ss := by
  induction ss with
  | nil => intro acc k h; exact Or.inl h
  | cons p r ih =>
    obtain ⟨k0, v⟩ := p
    intro acc k h
    rw [keep] at h
    rw [show dkeys ((k0, v) :: r) = k0 :: dkeys r from rfl, List.mem_cons]
    split at h
    · exact (ih acc k h).imp_right Or.inr
    · rcases ih _ k h with h | h
      · exact (mem_dkeys_dset h).symm.imp_right Or.inl
      · exact Or.inr (Or.inr h)

/-- `_expand_dots` leaves what `_discard_operators` keeps of a filter with undotted keys as it is -/
theorem expandDots_keep_plain (ss' : Fields) (hk : ∀ kv ∈ ss', kv.1.toList.contains '.' = false) :
    expandDots (keep ss' []) = .ok (keep ss' []) := by
  apply expandDots_plain (keep ss' []) _ (keep_nodup ss' [] List.nodup_nil)
  intro kv hm
  rcases keep_keys ss' [] kv.1 (List.mem_map.2 ⟨kv, hm, rfl⟩) with h | h
  · cases h
  · obtain ⟨kv', hm', e⟩ := List.mem_map.1 h
    rw [← e]; exact hk kv' hm'

/-- the seed of a filter whose keys are plain field names (no dot, no leading `$`): what
    `_discard_operators` leaves of the filter with the chosen `_id`, unchanged by `_expand_dots` -/
theorem upsertSeed_plain (ss : Fields) (idv : Val)
    (hk : ∀ kv ∈ dset "_id" idv ss, kv.1.toList.contains '.' = false ∧ kv.1.startsWith "$" = false) :
    upsertSeed ss idv = .ok (.doc (keep (dset "_id" idv ss) [])) := by
  rw [upsertSeed, discard_is_keep _ (fun kv hm => (hk kv hm).2)]
  dsimp only
  rw [expandDots_keep_plain _ (fun kv hm => (hk kv hm).1)]
  rfl

end MongoModel.Proofs.C13Lemmas

namespace MongoModel.Proofs.C13Ext
open MongoModel MongoModel.Spec MongoModel.Proofs.C13Lemmas

/-- what an item's condition contributes to the seed: nothing when `_discard_operators` drops it
    (an operator document, a sub-document of operator documents), else what is left of it (a
    scalar: itself; `{$eq: x}`: `x`) -/
def seedOf (v : Val) : Option Val :=
  if (discardOps v).2 then none else some (discardOps v).1

theorem discardFields_true : ∀ (fs acc : Fields), (discardFields fs acc).2 = true →
    (discardFields fs acc).1 = .doc []
  | [], acc, h => by
    cases acc with
    | nil => rfl
    | cons a l => cases h
  | (k, v) :: rest, acc, h => by
    rw [discardFields] at h ⊢
    split at h
    · cases h
    · rename_i hk
      rw [if_neg hk]
      split at h
      · rename_i hd; rw [if_pos hd]; exact discardFields_true rest acc h
      · rename_i hd
        rw [if_neg hd]
        dsimp only at h ⊢
        split at h
        · rename_i hdis; rw [if_pos hdis]; exact discardFields_true rest acc h
        · rename_i hdis; rw [if_neg hdis]; exact discardFields_true rest _ h

/-- a discarded value leaves the empty document behind -/
theorem discardOps_true (v : Val) (h : (discardOps v).2 = true) : (discardOps v).1 = .doc [] := by
  cases v with
  | doc fs =>
    rw [discardOps] at h ⊢
    split at h
    · cases h
    · rename_i he; rw [if_neg he]; exact discardFields_true fs [] h
  | _ => cases h

theorem seedOf_scalar (v : Val) (h : isScalar v = true) : seedOf v = some v := by
  rw [seedOf, discardOps_scalar v h]; rfl

theorem seedOf_eq (x : Val) : seedOf (.doc [("$eq", x)]) = some x := rfl

theorem seedOf_ops (ops : Fields) (h : isOps ops = true) (he : dget "$eq" ops = none) :
    seedOf (.doc ops) = none := by
  rw [seedOf, discardOps_ops ops h he]; rfl

end MongoModel.Proofs.C13Ext
