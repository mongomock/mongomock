/-
  Proofs.C12Agg — the `$project` stage: on its domain it is exactly the rule, hence agrees with
  the find path (`find_eq_agg`).
-/
import Proofs.C12Ops

namespace MongoModel.Proofs.C12
open MongoModel MongoModel.Spec.Proj

theorem isFlag_of_flagOf {v : Val} {b : Bool} (h : flagOf v = some b) : isFlag v = true := by
  unfold isFlag
  rw [flagOf_pyEq_one h, flagOf_pyEq_zero h]
  cases b <;> rfl

/-- the method of an inclusion (`true`) / an exclusion -/
def method (b : Bool) : PMethod := if b then .inc else .exc

/-- the method the stage starts from is decided by the first field other than `_id` -/
theorem aggInit_plain {b : Bool} : ∀ {l : Fields}, (∀ kv ∈ l, kv.1 ≠ "_id" → kv.2.truthy = b) →
    l.filter (fun kv => kv.1 != "_id") ≠ [] → aggInitMethod l = method b
  | [], _, hne => absurd rfl hne
  | (k, v) :: r, h, hne => by
    by_cases e : k = "_id"
    · subst e
      exact aggInit_plain (l := r) (fun kv hkv => h kv (List.mem_cons_of_mem _ hkv)) hne
    · have := h (k, v) List.mem_cons_self e
      simp only at this
      simp only [aggInitMethod, bne_iff_ne, ne_eq, e, not_false_eq_true, if_true, this, method]

/-- once the method is set it stays: the other fields carry its flag, and `_id` may carry either
    (`_id: 1` is accepted in an exclusion) -/
theorem aggScan_method {b : Bool} : ∀ (rest : Fields) (acc : List String),
    (∀ kv ∈ rest, kv.1 ≠ "_id" → flagOf kv.2 = some b) →
    (∀ kv ∈ rest, kv.1 = "_id" → ∃ x, flagOf kv.2 = some x) →
    aggScan rest (method b) acc =
      .ok (method b, acc ++ dkeys (rest.filter (fun kv => kv.1 != "_id")))
  | [], acc, _, _ => by simp [aggScan, dkeys]
  | (field, value) :: r, acc, h1, h2 => by
    have ih := fun acc' => aggScan_method r acc'
      (fun kv hkv => h1 kv (List.mem_cons_of_mem _ hkv))
      (fun kv hkv => h2 kv (List.mem_cons_of_mem _ hkv))
    by_cases e : field = "_id"
    · subst e
      obtain ⟨x, hx⟩ := h2 ("_id", value) List.mem_cons_self rfl
      rw [aggScan, isFlag_of_flagOf hx, flagOf_truthy hx, flagOf_pyEq_one hx]
      cases b <;> cases x <;> simpa [method, dkeys] using ih acc
    · have hx := h1 (field, value) List.mem_cons_self e
      rw [aggScan, isFlag_of_flagOf hx, flagOf_truthy hx]
      cases b <;> simpa [method, dkeys, e] using ih (acc ++ [field])

/-- what the scan makes of a specification in normal form: a method that says inclusion or not
    (a lone `_id: 0` leaves it unset), and the fields other than `_id` followed by `_id` when the
    inclusion keeps it / the exclusion removes it -/
theorem aggFilterList_norm {fields : Fields} {n : Norm} (hne : fields ≠ [])
    (hk : (dkeys fields).Nodup) (hn : normDict fields = some n) :
    ∃ m fl, decide (m = PMethod.inc) = n.incl ∧ aggFilterList fields = .ok (m, fl) ∧
      fl.map splitDots = n.paths ++ if (n.incl == n.keepId) = true then [["_id"]] else [] := by
  obtain ⟨hidv, hpaths, hfl, hempty⟩ := normDict_some hn
  have hscan : ∃ m, decide (m = PMethod.inc) = n.incl ∧ aggScan fields (aggInitMethod fields) [] =
      .ok (m, dkeys (fields.filter (fun kv => kv.1 != "_id"))) := by
    by_cases hp : fields.filter (fun kv => kv.1 != "_id") = []
    · -- nothing but `_id`: a single entry, which decides
      have hid : ∀ kv ∈ fields, kv.1 = "_id" := fun kv hkv =>
        Decidable.byContradiction fun e => List.filter_eq_nil_iff.mp hp kv hkv (by simpa using e)
      obtain ⟨v, rfl⟩ : ∃ v, fields = [("_id", v)] := by
        match fields, hne, hk, hid with
        | [(k, v)], _, _, hid => exact ⟨v, by rw [show k = "_id" from hid (k, v) List.mem_cons_self]⟩
        | (k, v) :: (k', v') :: r, _, hk, hid =>
          have e := hid (k, v) List.mem_cons_self
          have e' := hid (k', v') (List.mem_cons_of_mem _ List.mem_cons_self)
          simp only at e e'
          subst e e'
          simp [dkeys] at hk
      rw [hempty hp]
      generalize n.keepId = kid at hidv
      rcases flagOf_cases hidv with e | ⟨e, rfl⟩ | ⟨e, rfl⟩ <;>
        simp only [dget, if_true, Option.getD_some] at e <;> subst e
      · cases kid <;> exact ⟨_, rfl, rfl⟩
      · exact ⟨_, rfl, rfl⟩
      · exact ⟨_, rfl, rfl⟩
    · refine ⟨method n.incl, by cases n.incl <;> rfl, ?_⟩
      rw [aggInit_plain (fun kv hkv e => flagOf_truthy (hfl kv (List.mem_filter.mpr ⟨hkv, by simpa using e⟩))) hp,
        aggScan_method fields [] (fun kv hkv e => hfl kv (List.mem_filter.mpr ⟨hkv, by simpa using e⟩))]
      · rfl
      · rintro ⟨k, v⟩ hkv rfl
        rw [dget_of_mem_nodup hk hkv] at hidv
        exact ⟨_, hidv⟩
  obtain ⟨m, hm, hscan⟩ := hscan
  refine ⟨m, dkeys (fields.filter (fun kv => kv.1 != "_id")) ++
    (if (n.incl == n.keepId) = true then ["_id"] else []), hm, ?_, ?_⟩
  · simp only [aggFilterList, hscan, bind, Except.bind, pure, Except.pure, flagOf_pyEq_zero hidv,
      Bool.not_not, hm]
    split <;> simp
  · rw [hpaths]
    split <;> simp [dkeys, List.map_map, Function.comp_def, splitDots_id]

theorem tailsOf_append (k : String) (a b : List Path) :
    tailsOf k (a ++ b) = tailsOf k a ++ tailsOf k b := by
  simp [tailsOf, List.filterMap_append]

theorem tailsOf_snoc_id {ps : List Path} (hid : tailsOf "_id" ps = []) (k : String) :
    tailsOf k (ps ++ [["_id"]]) = tailsOf k (["_id"] :: ps) := by
  rw [tailsOf_append, tailsOf_id_cons k ps]
  by_cases e : "_id" = k
  · subst e
    have h1 : tailsOf "_id" [["_id"]] = [[]] := by simp [tailsOf]
    rw [hid, h1]
    simp
  · have h1 : tailsOf k [["_id"]] = [] := by simp [tailsOf, e]
    rw [h1]
    simp [e]

theorem incl_congr {A B : List Path} (h : ∀ k, tailsOf k A = tailsOf k B) :
    ∀ fs : Fields, inclFields fs A = inclFields fs B
  | [] => by simp [inclFields]
  | (k, v) :: r => by simp only [inclFields, h k, incl_congr h r]

theorem excl_congr {A B : List Path} (h : ∀ k, tailsOf k A = tailsOf k B) :
    ∀ fs : Fields, exclFields fs A = exclFields fs B
  | [] => by simp [exclFields]
  | (k, v) :: r => by simp only [exclFields, h k, excl_congr h r]

theorem noColl_snoc_id {ps : List Path} (h : NoColl ps) (hid : tailsOf "_id" ps = [])
    (hne : ∀ p ∈ ps, p ≠ []) : NoColl (ps ++ [["_id"]]) := by
  unfold NoColl at *
  rw [List.pairwise_append]
  refine ⟨h, by simp, ?_⟩
  intro p hp q hq
  simp only [List.mem_singleton] at hq
  subst hq
  have hhead : ∀ t, p ≠ "_id" :: t := by
    intro t e
    subst e
    have : t ∈ tailsOf "_id" ps := mem_tailsOf.mpr hp
    simp [hid] at this
  constructor
  · intro hpre
    obtain ⟨t, ht⟩ := hpre
    cases p with
    | nil => exact hne [] hp rfl
    | cons a r =>
      simp only [List.cons_append, List.cons.injEq] at ht
      exact hhead r (by rw [ht.1])
  · intro hpre
    obtain ⟨t, ht⟩ := hpre
    cases p with
    | nil => exact hne [] hp rfl
    | cons a r =>
      simp only [List.cons_append, List.cons.injEq] at ht
      exact hhead r (by rw [← ht.1])

/-- the rule does not mind where `_id` stands among the paths -/
theorem rule_snoc_id {fs : Fields} {ps : List Path} (b kid : Bool) (hid : tailsOf "_id" ps = []) :
    (if b = true then inclFields fs (ps ++ if (b == kid) = true then [["_id"]] else [])
      else exclFields fs (ps ++ if (b == kid) = true then [["_id"]] else [])) =
    if b = true then inclFields fs (if kid = true then ["_id"] :: ps else ps)
    else exclFields fs (if kid = true then ps else ["_id"] :: ps) := by
  cases b <;> cases kid <;>
    simp [incl_congr (tailsOf_snoc_id hid), excl_congr (tailsOf_snoc_id hid)]

/-- building the tree from the filter list and projecting one document -/
theorem agg_run (fs : Fields) (fl : List String) (b : Bool) (ps : List Path)
    (hfl : fl.map splitDots = ps) (hnc : NoColl ps) :
    (do let cs ← combineSpec true (fl.map (fun k => (splitDots k, Val.int 1)))
        [Val.doc fs].mapM (aggProjectDoc cs b)) =
      .ok [.doc (if b = true then inclFields fs ps else exclFields fs ps)] := by
  have hpaths : (fl.map (fun k => (splitDots k, Val.int 1))).map (·.1) = ps := by
    rw [← hfl]; simp [List.map_map, Function.comp_def]
  obtain ⟨cs, hcs, hrep⟩ := combine_rep true (maxLen (fl.map (fun k => (splitDots k, Val.int 1))))
    (fl.map (fun k => (splitDots k, Val.int 1))) (Nat.le_refl _)
    (by
      intro it hit
      obtain ⟨k, _, e⟩ := List.mem_map.mp hit
      subst e; exact splitDots_ne_nil _)
    (by rw [hpaths]; exact hnc)
  rw [hpaths] at hrep
  simp only [combineSpec, hcs, bind, Except.bind, List.mapM_cons, List.mapM_nil, aggProjectDoc,
    pure, Except.pure]
  cases b
  · rw [(ap_rule.2.1 fs cs ps hrep).2]; rfl
  · rw [(ap_rule.2.1 fs cs ps hrep).1]; rfl

/-- **the `$project` stage on its domain is the rule** -/
theorem agg_exact (p d : Val) (h : aggReasons p d = []) :
    ∃ s, project p d = some s ∧ aggProject [d] p = .ok [s] := by
  unfold aggReasons at h
  split at h
  · rename_i fs f r
    obtain ⟨hk0, h⟩ := List.append_eq_nil_iff.mp h
    have hk : (dkeys fs).Nodup := (nodupB_iff _).mp (by simpa using hk0)
    obtain ⟨hs, n, hn⟩ := reasons_dict h
    have ok := specOk_of_reasons hs
    obtain ⟨hidv, hpaths, hfl, hempty⟩ := normDict_some hn
    refine ⟨.doc (projectNorm n fs), by simp [project, hn], ?_⟩
    have hall : (f :: r).all (fun kv => isFlag kv.2) = true := by
      refine List.all_eq_true.mpr fun kv hkv => ?_
      by_cases e : kv.1 = "_id"
      · obtain ⟨k, v⟩ := kv
        subst e
        rw [dget_of_mem_nodup ok.nodup hkv] at hidv
        exact isFlag_of_flagOf hidv
      · exact isFlag_of_flagOf (hfl kv (List.mem_filter.mpr ⟨hkv, by simpa using e⟩))
    obtain ⟨m, fl, hm, hfilter, hflp⟩ := aggFilterList_norm (List.cons_ne_nil f r) ok.nodup hn
    have hnil : fl.isEmpty = false := by
      cases fl with
      | cons => rfl
      | nil =>
        obtain ⟨h1, h2⟩ := List.append_eq_nil_iff.mp hflp.symm
        have hp := List.map_eq_nil_iff.mp (hpaths ▸ h1)
        rw [hempty hp] at h2
        simp at h2
    have hid : tailsOf "_id" n.paths = [] := hpaths ▸ ok.noIdPath
    have hrun := agg_run fs fl n.incl _ hflp (by
      have hnc : NoColl n.paths := hpaths ▸ noCollision_noColl _ ok.noColl
      split
      · refine noColl_snoc_id hnc hid fun p hp => ?_
        rw [hpaths] at hp
        obtain ⟨kv, _, e⟩ := List.mem_map.mp hp
        subst e; exact splitDots_ne_nil _
      · simpa using hnc)
    simp only [aggProject, hall, hfilter, hnil, hm, bind, Except.bind, Bool.not_true,
      Bool.false_eq_true, if_false] at hrun ⊢
    rw [hrun, rule_snoc_id _ _ hid]
    rfl
  · cases h

/-- **find_eq_agg**: the two separately coded projections agree on the common domain (the find
    path lists `_id` last in an inclusion) -/
theorem find_eq_agg (p d : Val) (hD : reasons p d = []) (hA : aggReasons p d = []) :
    ∃ a, aggProject [d] p = .ok [a] ∧
      copyOnlyFields d p = .ok (if modeOf p = some true then idLast a else a) := by
  obtain ⟨s, h1, h2⟩ := exact_main p d hD
  obtain ⟨s', h1', h2'⟩ := agg_exact p d hA
  rw [h1] at h1'; cases h1'
  exact ⟨s, h2', h2⟩

end MongoModel.Proofs.C12
