/-
  C19 — the dict-level consequences of exclusion + lock discipline: `_documents` never changes
  under a reader (`snapshot`), an iteration over it is never disturbed, and no error is ever
  raised by the store's own bookkeeping — also when threads create TTL indexes / drop indexes
  concurrently, because `_ttl_indexes` is only ever walked through a snapshot.  Hence what is
  raised at all is raised where the source says so (`raises_declared`).
-/
import Proofs.C19Lift
namespace MongoModel.RWLock

theorem disciplined_code {cfg : Cfg} (h : cfg.disciplined = true) (t : Nat) :
    docsGuarded (cfg.code t) = true ∧ docsIterScoped (cfg.code t) = true ∧
      noNestedDel (cfg.code t) = true ∧ ttlIterSnapshotted (cfg.code t) = true := by
  have := code_all (p := fun c => docsGuarded c && docsIterScoped c && noNestedDel c &&
    ttlIterSnapshotted c) rfl h t
  simpa [Bool.and_eq_true, and_assoc] using this

theorem scoped_at {code : Code} (hs : docsIterScoped code = true) {pc : Nat} {i : TInstr}
    (hi : code[pc]? = some i) :
    (inDocsLoop code pc = true → i.ph = .body false ∧ isProto i.op = false ∧
        ∀ pc' ∈ keepPcs code pc i.op, inDocsLoop code pc' = true) ∧
    (i.op = .iterBegin .docs → inDocsLoop code (pc + 1) = true) := by
  have := (allIdx_iff _ _ _).1 hs pc i hi
  simp only [Nat.zero_add, Bool.and_eq_true, Bool.or_eq_true, Bool.not_eq_true',
    List.all_eq_true, beq_iff_eq] at this
  refine ⟨fun hl => ?_, fun hop => ?_⟩
  · rcases this.1 with h1 | h1
    · cases hl.symm.trans h1
    · exact ⟨h1.1.1, h1.1.2, h1.2⟩
  · rcases this.2 with h2 | h2
    · simp [hop] at h2
    · exact h2

theorem guarded_at {code : Code} (hg : docsGuarded code = true) {pc : Nat} {i : TInstr}
    (hi : code[pc]? = some i) (hm : mutatesDocs i.op = true) : i.ph = .body true := by
  simp only [docsGuarded, List.all_eq_true, Bool.or_eq_true, Bool.not_eq_true', beq_iff_eq] at hg
  rcases hg i (List.mem_of_getElem? hi) with h | h
  · cases hm.symm.trans h
  · exact h

/-- while a thread is about to change `_documents` (it is inside a writer section then) nobody
    is inside a reader section -/
theorem mutator_alone {cfg : Cfg} (hd : cfg.disciplined = true) {s : State}
    (hex : exclusionViolated cfg s = false) {t : Nat} {th : Thread} {ins : TInstr}
    (hth : s.ths[t]? = some th) (hins : (cfg.code t)[th.pc]? = some ins)
    (hm : mutatesDocs ins.op = true) (u : Nat) : insideR cfg s u = false := by
  have hw : phaseAt cfg s t = .body true := by
    rw [tagAt_eq_phaseAt cfg s t th hth, tagAt, hins]
    exact guarded_at (disciplined_code hd t).1 hins hm
  refine Bool.eq_false_iff.2 fun hr => ?_
  have hu : u < s.ths.length := by
    rcases Nat.lt_or_ge u s.ths.length with h | h
    · exact h
    · simp [insideR, phaseAt, List.getElem?_eq_none h] at hr
  refine Bool.false_ne_true (hex.symm.trans ?_)
  simp only [exclusionViolated, List.any_eq_true, Bool.and_eq_true, tids, List.mem_range,
    bne_iff_ne, Bool.or_eq_true, insideW, beq_iff_eq]
  refine ⟨t, (List.getElem?_eq_some_iff.1 hth).1, hw, u, hu, ?_, Or.inr hr⟩
  rintro rfl
  simp only [insideR, beq_iff_eq] at hr
  cases hw.symm.trans hr

/-- a live `_documents` iterator is undisturbed (`d = false`) and inside its loop; no thread has
    recorded a fault -/
structure StoreInv (cfg : Cfg) (s : State) : Prop where
  iter : ∀ t th, s.ths[t]? = some th → ∀ p n d, th.dIt = some (p, n, d) →
    d = false ∧ inDocsLoop (cfg.code t) th.pc = true
  nofault : ∀ th ∈ s.ths, th.fault = none

theorem storeInv_init (cfg : Cfg) : StoreInv cfg (initState cfg) := by
  refine ⟨fun t th hth p n d hd => ?_, fun th hmem => ?_⟩
  · obtain ⟨_, _, rfl⟩ := List.mem_map.1 (List.mem_of_getElem? hth)
    cases hd
  · obtain ⟨_, _, rfl⟩ := List.mem_map.1 hmem
    rfl

/-- a thread with a live `_documents` iterator is inside a reader section -/
theorem iter_insideR {cfg : Cfg} (hd : cfg.disciplined = true) {s : State} (hinv : StoreInv cfg s)
    {u : Nat} {thu : Thread} (hu : s.ths[u]? = some thu) {p n : Nat} {d : Bool}
    (hit : thu.dIt = some (p, n, d)) : insideR cfg s u = true := by
  have hl := (hinv.iter u thu hu p n d hit).2
  simp only [insideR, beq_iff_eq]
  rw [tagAt_eq_phaseAt cfg s u thu hu, tagAt]
  cases hi : (cfg.code u)[thu.pc]? with
  | none => simp [inDocsLoop, hi] at hl
  | some i => exact ((scoped_at (disciplined_code hd u).2.1 hi).1 hl).1

theorem storeInv_step {cfg : Cfg} (hd : cfg.disciplined = true) {s s' : State} {t : Nat}
    (hex : exclusionViolated cfg s = false) (hnl' : noLockFault s') (hinv : StoreInv cfg s)
    (h : step cfg s t = some s') : StoreInv cfg s' := by
  obtain ⟨th, ins, e, hth, hins, he, ht, rfl⟩ := step_cases h
  have hf := exec_spec he
  obtain ⟨-, hscoped, hnodel, hsnap⟩ := disciplined_code hd t
  -- a mutation of `_documents` happens with no iterator alive anywhere, so nothing gets dirty
  have hclean : ∀ u y, (if t = u then some e.th else s.ths[u]?) = some y →
      mark e.mutated y = y := by
    intro u y hy
    cases hm : e.mutated with
    | false => rfl
    | true =>
      have hmd : mutatesDocs ins.op = true := by
        cases hmd : mutatesDocs ins.op with
        | true => rfl
        | false => cases hm.symm.trans (hf.docs hmd).2
      have hno : ∀ (v : Nat) (thv : Thread), s.ths[v]? = some thv → thv.dIt = none := by
        intro v thv hv
        cases hdit : thv.dIt with
        | none => rfl
        | some x =>
          cases (iter_insideR hd hinv hv hdit).symm.trans (mutator_alone hd hex hth hins hmd v)
      refine mark_noIter _ ?_
      split at hy
      · cases hy
        cases hx : e.th.dIt with
        | none => rfl
        | some x =>
          rcases hf.dIt hx with ⟨hop, _, _⟩ | ⟨p', hp2, _⟩
          · rw [hop] at hmd; cases hmd
          · cases (hno t th hth).symm.trans hp2
      · exact hno u y hy
  refine ⟨fun u thu hu p n d hit => ?_, fun x hx => ?_⟩
  · rw [step_get ht] at hu
    obtain ⟨y, hy, rfl⟩ := Option.map_eq_some_iff.1 hu
    rw [hclean u y hy] at hit ⊢
    split at hy
    · rename_i htu
      subst htu
      cases hy
      rcases hf.dIt hit with ⟨hop, hpc, hdf⟩ | ⟨p', hp2, hpc⟩
      · exact ⟨hdf, hpc ▸ (scoped_at hscoped hins).2 hop⟩
      · obtain ⟨hdf, hl⟩ := hinv.iter t th hth p' n d hp2
        obtain ⟨-, hnp, hkeep⟩ := (scoped_at hscoped hins).1 hl
        exact ⟨hdf, hkeep _ (hpc.resolve_left (by simp [hnp]))⟩
    · exact hinv.iter u y hy p n d hit
  · obtain ⟨y, hy, rfl⟩ := List.mem_map.1 hx
    rw [mark_fault]
    rcases List.mem_or_eq_of_mem_set hy with h1 | rfl
    · exact hinv.nofault y h1
    · cases hfl : e.th.fault with
      | none => rfl
      | some f =>
        exfalso
        rcases hf.fault hfl with h2 | ⟨_, p, n, h2⟩ | ⟨_, h2⟩ | ⟨_, dd, k, h2⟩ | ⟨rfl, _⟩
        · cases (hinv.nofault th (List.mem_of_getElem? hth)).symm.trans h2
        · cases (hinv.iter t th hth p n true h2).1
        · -- the live `_ttl_indexes` dict is never iterated: only snapshots of it are
          simp only [ttlIterSnapshotted, List.all_eq_true, Bool.not_eq_true',
            beq_eq_false_iff_ne] at hsnap
          exact hsnap ins (List.mem_of_getElem? hins) h2
        · have := List.all_eq_true.1 hnodel ins (List.mem_of_getElem? hins)
          rw [h2] at this; cases this
        · exact hnl' _ (List.mem_map.2 ⟨_, List.mem_set ht _, rfl⟩) ((mark_fault ..).trans hfl)

theorem reach_storeInv {P : Protocol} {cfg : Cfg} (hc : cfg.conformant P = true)
    (hg : PGood P cfg.codes.length) (hd : cfg.disciplined = true) :
    ∀ s, Reach cfg s → StoreInv cfg s := by
  intro s hr
  induction hr with
  | init => exact storeInv_init cfg
  | step hprev hstep ih =>
    exact storeInv_step hd (program_safe hc hg _ hprev).1
      (program_safe hc hg _ (Reach.step hprev hstep)).2.2.2 ih hstep

/-- with the lock discipline in place (which includes: `_ttl_indexes` is walked through snapshots
    only) no reachable state is bad (no exclusion violation, no error of any kind, no leaked
    lock) and none is deadlocked — whatever the threads do to `indexes` / `_ttl_indexes` -/
theorem program_correct {P : Protocol} {cfg : Cfg} (hc : cfg.conformant P = true)
    (hg : PGood P cfg.codes.length) (hd : cfg.disciplined = true)
    (s : State) (hr : Reach cfg s) : bad [] cfg s = false ∧ deadlocked cfg s = false := by
  obtain ⟨hex, hlk, hdl, _⟩ := program_safe hc hg s hr
  refine ⟨?_, hdl⟩
  simp only [bad, hex, hlk, Bool.or_false, Bool.false_or, faulted, List.any_eq_false]
  intro th hmem
  rw [(reach_storeInv hc hg hd s hr).nofault th hmem]
  exact Bool.false_ne_true

/-- while some thread is inside a reader section no step of any thread changes `_documents` -/
theorem snapshot {P : Protocol} {cfg : Cfg} (hc : cfg.conformant P = true)
    (hg : PGood P cfg.codes.length) (hd : cfg.disciplined = true) {s s' : State} {t u : Nat}
    (hr : Reach cfg s) (hu : insideR cfg s u = true) (h : step cfg s t = some s') :
    s'.sh.docs = s.sh.docs := by
  obtain ⟨th, ins, e, hth, hins, he, -, rfl⟩ := step_cases h
  cases hmd : mutatesDocs ins.op with
  | false => exact ((exec_spec he).docs hmd).1
  | true => cases hu.symm.trans (mutator_alone hd (program_safe hc hg s hr).1 hth hins hmd u)

/-- any N: whatever is raised in a reachable state of a conformant, disciplined program is raised
    by an instruction that declares it -/
theorem raises_declared {P : Protocol} {cfg : Cfg} (hc : cfg.conformant P = true)
    (hg : PGood P cfg.codes.length) (hd : cfg.disciplined = true) (s : State) (hr : Reach cfg s)
    (t : Nat) (x : Exc) (h : stepRaised cfg s t = some x) :
    ∃ th ins, s.ths[t]? = some th ∧ (cfg.code t)[th.pc]? = some ins ∧
      declaredRaise ins.op x = true := by
  unfold stepRaised at h
  split at h
  · cases h
  · rename_i th hth
    split at h
    · cases h
    · rename_i ins hins
      split at h
      · rename_i e he
        -- an undeclared exception would leave a fault behind, and no reachable state has one
        refine ⟨th, ins, hth, hins, ((exec_spec he).raised h).resolve_right fun ⟨g, hg'⟩ => ?_⟩
        have := (reach_storeInv hc hg hd _ (Reach.step hr (step_eq hth hins he))).nofault _
          (List.mem_map.2 ⟨_, List.mem_set (List.getElem?_eq_some_iff.1 hth).1 _, rfl⟩)
        cases hg'.symm.trans ((mark_fault ..).symm.trans this)
      · cases h

/-- the instructions through which a vanished key shows -/
def keyedAccess : Instr → Bool
  | .getItem .. | .delItem .. | .setItem _ .collHead => true
  | _ => false

/-- no thread reads `d[key]` or does `del d[key]`: scans, membership tests, lengths, inserts,
    `discard`s, expiry passes, index creation -/
def Cfg.noKeyedAccess (cfg : Cfg) : Bool := cfg.codes.all fun c => c.all fun i => !keyedAccess i.op

theorem declared_keyed {ins : Instr} (h : declaredRaise ins .keyError = true) :
    keyedAccess ins = true := by
  cases ins <;> first | rfl | cases h | (rename_i k; cases k <;> first | rfl | cases h)

theorem declared_not_runtime (ins : Instr) : declaredRaise ins .runtimeError = false := by
  cases ins <;> first | rfl | (rename_i k; cases k <;> rfl)

theorem no_keyed_access_quiet {P : Protocol} {cfg : Cfg} (hc : cfg.conformant P = true)
    (hg : PGood P cfg.codes.length) (hd : cfg.disciplined = true)
    (hq : cfg.noKeyedAccess = true) (s : State) (hr : Reach cfg s) (t : Nat) :
    stepRaised cfg s t = none ∨ stepRaised cfg s t = some .thrown := by
  cases hx : stepRaised cfg s t with
  | none => exact Or.inl rfl
  | some x =>
    obtain ⟨th, ins, _, hins, hdecl⟩ := raises_declared hc hg hd s hr t x hx
    have hq' := List.all_eq_true.1
      (code_all (p := fun c => c.all fun i => !keyedAccess i.op) rfl hq t) ins
      (List.mem_of_getElem? hins)
    cases x with
    | thrown => exact Or.inr rfl
    | keyError => rw [declared_keyed hdecl] at hq'; cases hq'
    | runtimeError => rw [declared_not_runtime] at hdecl; cases hdecl

end MongoModel.RWLock
