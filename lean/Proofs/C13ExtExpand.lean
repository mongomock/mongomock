/-
  Proofs.C13ExtExpand — `expandDots` at any depth.  A successful expansion holds the value `v` at
  the path `p` for every item `p: v` (`expand_paths`): each `expandOne` sets its own path and
  leaves every incomparable path as it was, and success itself makes the keys pairwise
  incomparable (`expand_ok_prefixFree`): the stated keys and the recorded proper prefixes that
  `edStep` and `expandOne` check make a key equal to, above or below an earlier one raise.
  Dotted keys as strings and as component lists: `joinDots` and `splitDots` are inverse to each
  other (on dot-free components), so "the key `a.b` is a dotted prefix of the key `a.b.c`" can be
  said on either side.
-/
import Spec.UpsertExt
import Proofs.C13Seed

namespace MongoModel.Proofs.C13Ext
open MongoModel MongoModel.Spec MongoModel.Proofs.C13Lemmas

theorem intercalate_cons_cons' {α} (sep x y : List α) (l : List (List α)) :
    sep.intercalate (x :: y :: l) = x ++ sep ++ sep.intercalate (y :: l) := by
  simp [List.intercalate, List.intersperse]

theorem splitChars_join : ∀ (cs cur : List Char),
    ['.'].intercalate ((splitDotsChars cs cur).map String.toList) = cur.reverse ++ cs
  | [], cur => by simp [splitDotsChars]
  | c :: r, cur => by
    by_cases hc : c = '.'
    · subst hc
      simp only [splitDotsChars, if_true, List.map_cons]
      have hne := splitDotsChars_ne_nil r []
      cases hs : splitDotsChars r [] with
      | nil => exact absurd hs hne
      | cons y l =>
        rw [List.map_cons, intercalate_cons_cons', ← List.map_cons, ← hs, splitChars_join r []]
        simp
    · simp only [splitDotsChars, hc, if_false]
      rw [splitChars_join r (c :: cur)]
      simp

theorem joinDots_splitDots (k : String) : joinDots (splitDots k) = k := by
  apply String.ext
  unfold joinDots splitDots
  rw [String.toList_intercalate]
  have : (".":String).toList = ['.'] := rfl
  rw [this, splitChars_join]
  simp

theorem splitChars_nodot_parts : ∀ (cs cur : List Char), cur.contains '.' = false →
    ∀ p ∈ splitDotsChars cs cur, p.toList.contains '.' = false
  | [], cur, hcur, p, hp => by
    simp only [splitDotsChars, List.mem_singleton] at hp
    subst hp
    simpa using hcur
  | c :: r, cur, hcur, p, hp => by
    by_cases hc : c = '.'
    · subst hc
      simp only [splitDotsChars, if_true, List.mem_cons] at hp
      rcases hp with rfl | hp
      · simpa using hcur
      · exact splitChars_nodot_parts r [] rfl p hp
    · simp only [splitDotsChars, hc, if_false] at hp
      refine splitChars_nodot_parts r (c :: cur) ?_ p hp
      simp only [List.contains_cons, Bool.or_eq_false_iff, beq_eq_false_iff_ne, ne_eq]
      exact ⟨fun e => hc e.symm, hcur⟩

theorem splitDots_nodot_parts (k : String) : ∀ p ∈ splitDots k, p.toList.contains '.' = false :=
  splitChars_nodot_parts _ [] rfl

theorem splitDots_joinDots : ∀ (ps : List String), ps ≠ [] →
    (∀ p ∈ ps, p.toList.contains '.' = false) → splitDots (joinDots ps) = ps
  | [], h, _ => absurd rfl h
  | [p], _, hnd => by
    have : joinDots [p] = p := rfl
    rw [this]; exact splitDots_nodot p (hnd p (by simp))
  | p :: q :: r, _, hnd => by
    have ih := splitDots_joinDots (q :: r) (by simp) (fun x hx => hnd x (List.mem_cons_of_mem _ hx))
    have e : joinDots (p :: q :: r) = p ++ "." ++ joinDots (q :: r) := by
      unfold joinDots; exact String.intercalate_cons_cons
    rw [e]
    unfold splitDots at ih ⊢
    have : (p ++ "." ++ joinDots (q :: r)).toList = p.toList ++ '.' :: (joinDots (q :: r)).toList := by
      simp [String.toList_append]
    rw [this, splitChars_dot _ _ (hnd p (by simp)), ih]
    simp

theorem splitDots_inj {a b : String} (h : splitDots a = splitDots b) : a = b := by
  rw [← joinDots_splitDots a, ← joinDots_splitDots b, h]

theorem take_nodot (k : String) (i : Nat) : ∀ p ∈ (splitDots k).take i, p.toList.contains '.' = false :=
  fun p hp => splitDots_nodot_parts k p (List.mem_of_mem_take hp)

/-- the key spelled by the first `i` components of `k` (`0 < i`) splits into those components -/
theorem splitDots_join_take (k : String) (i : Nat) (hi : 0 < i) :
    splitDots (joinDots ((splitDots k).take i)) = (splitDots k).take i := by
  apply splitDots_joinDots _ _ (take_nodot k i)
  intro e
  have hne := splitDotsChars_ne_nil k.toList []
  have : (splitDots k).take i = [] := e
  rw [List.take_eq_nil_iff] at this
  rcases this with h | h
  · omega
  · exact hne h

theorem mem_properPrefixes {parts : List String} {key : String} :
    key ∈ properPrefixes parts ↔ ∃ i, 0 < i ∧ i < parts.length ∧ key = joinDots (parts.take i) := by
  simp only [properPrefixes, List.mem_map, List.mem_range]
  constructor
  · rintro ⟨j, hj, rfl⟩
    exact ⟨j + 1, by omega, by omega, rfl⟩
  · rintro ⟨i, h0, hi, rfl⟩
    exact ⟨i - 1, by omega, by congr 2; omega⟩

/-- what `Spec.prefixFree` asks of the split keys of any two items (its lambda, up to unfolding) -/
def Incomp (p q : List String) : Prop := ¬ p <+: q ∧ ¬ q <+: p

theorem Incomp.symm {p q : List String} (h : Incomp p q) : Incomp q p := ⟨h.2, h.1⟩

theorem incomp_cons_same {a : String} {p q : List String} (h : Incomp (a :: p) (a :: q)) : Incomp p q := by
  constructor
  · intro hp; exact h.1 (by simpa using hp)
  · intro hp; exact h.2 (by simpa using hp)

theorem getPath_empty_doc (h : String) (t : List String) : getPath (h :: t) (.doc []) = none := by
  simp [getPath, dget]

theorem getPath_cons_some {h : String} {fs : Fields} {v : Val} (t : List String)
    (hd : dget h fs = some v) : getPath (h :: t) (.doc fs) = getPath t v := by
  simp [getPath, hd]

theorem getPath_cons_none {h : String} {fs : Fields} (t : List String)
    (hd : dget h fs = none) : getPath (h :: t) (.doc fs) = none := by
  simp [getPath, hd]

theorem getPath_cons_congr {h : String} {fs gs : Fields} (t : List String)
    (hd : dget h fs = dget h gs) : getPath (h :: t) (.doc fs) = getPath (h :: t) (.doc gs) := by
  simp [getPath, hd]

/-- the shape of a successful walk through a first component: the component is (re)set -/
theorem expandOne_head (given inter : List String) (v : Val) (part r1 : String) (rest pre : List String)
    (acc acc' : Fields) (h : expandOne given inter v (part :: r1 :: rest) pre acc = .ok acc') :
    given.contains (joinDots (pre ++ [part])) = false ∧
    ∃ sub0 sub, (dget part acc = none ∧ sub0 = [] ∨ dget part acc = some (.doc sub0)) ∧
      expandOne given inter v (r1 :: rest) (pre ++ [part]) sub0 = .ok sub ∧
      acc' = dset part (.doc sub) acc := by
  simp only [expandOne] at h
  split at h
  · rename_i hnone
    split at h
    · cases h
    · rename_i hg
      simp only [bind, Except.bind, pure, Except.pure] at h
      cases hs : expandOne given inter v (r1 :: rest) (pre ++ [part]) [] with
      | error e => rw [hs] at h; cases h
      | ok sub =>
        rw [hs] at h; cases h
        exact ⟨by simpa using hg, [], sub, Or.inl ⟨hnone, rfl⟩, hs, rfl⟩
  · rename_i sub0 hsome
    split at h
    · cases h
    · rename_i hg
      simp only [bind, Except.bind, pure, Except.pure] at h
      cases hs : expandOne given inter v (r1 :: rest) (pre ++ [part]) sub0 with
      | error e => rw [hs] at h; cases h
      | ok sub =>
        rw [hs] at h; cases h
        exact ⟨by simpa using hg, sub0, sub, Or.inr hsome, hs, rfl⟩
  · split at h <;> cases h

/-- effect: the new path holds the value -/
theorem expandOne_get (given inter : List String) (v : Val) : ∀ (p pre : List String) (acc acc' : Fields),
    p ≠ [] → expandOne given inter v p pre acc = .ok acc' → getPath p (.doc acc') = some v
  | [], _, _, _, hp, _ => absurd rfl hp
  | [last], pre, acc, acc', _, h => by
    cases h
    rw [getPath_cons_some [] (dget_dset_same last v acc)]
    rfl
  | part :: r1 :: rest, pre, acc, acc', _, h => by
    obtain ⟨_, sub0, sub, _, hs, rfl⟩ := expandOne_head given inter v part r1 rest pre acc acc' h
    rw [getPath_cons_some _ (dget_dset_same part _ acc)]
    exact expandOne_get given inter v (r1 :: rest) _ _ _ (List.cons_ne_nil _ _) hs

/-- frame: a path incomparable with the new one reads as before -/
theorem expandOne_frame (given inter : List String) (v : Val) : ∀ (p pre : List String) (acc acc' : Fields)
    (q : List String), expandOne given inter v p pre acc = .ok acc' → Incomp p q →
    getPath q (.doc acc') = getPath q (.doc acc)
  | [], _, _, _, q, _, hi => absurd (List.nil_prefix) hi.1
  | [last], pre, acc, acc', q, h, hi => by
    simp only [expandOne] at h
    cases h
    cases q with
    | nil => exact absurd List.nil_prefix hi.2
    | cons a t =>
      have hne : last ≠ a := by
        intro e; subst e
        exact hi.1 (by simp)
      exact getPath_cons_congr t (dget_dset_other v (Ne.symm hne) acc)
  | part :: r1 :: rest, pre, acc, acc', q, h, hi => by
    cases q with
    | nil => exact absurd List.nil_prefix hi.2
    | cons a t =>
      obtain ⟨_, sub0, sub, hcase, hs, rfl⟩ := expandOne_head given inter v part r1 rest pre acc acc' h
      by_cases hne : part = a
      · subst hne
        have hi' := incomp_cons_same hi
        rw [getPath_cons_some t (dget_dset_same part _ acc)]
        rw [expandOne_frame given inter v (r1 :: rest) _ _ _ t hs hi']
        rcases hcase with ⟨hnone, rfl⟩ | hsome
        · rw [getPath_cons_none t hnone]
          cases t with
          | nil => exact absurd List.nil_prefix hi'.2
          | cons b t' => exact getPath_empty_doc b t'
        · rw [getPath_cons_some t hsome]
      · exact getPath_cons_congr t (dget_dset_other _ (Ne.symm hne) acc)

/-- a successful walk passed through no key stated before -/
theorem expandOne_ok_not_given (given inter : List String) (v : Val) : ∀ (p pre : List String)
    (acc acc' : Fields), expandOne given inter v p pre acc = .ok acc' →
    ∀ i, 0 < i → i < p.length → given.contains (joinDots (pre ++ p.take i)) = false
  | [], _, _, _, _, i, _, hi => by simp at hi
  | [last], _, _, _, _, i, h0, hi => by simp at hi; omega
  | part :: r1 :: rest, pre, acc, acc', h, i, h0, hi => by
    obtain ⟨hg, sub0, sub, _, hs, _⟩ := expandOne_head given inter v part r1 rest pre acc acc' h
    cases i with
    | zero => omega
    | succ j =>
      cases j with
      | zero => simpa using hg
      | succ j' =>
        have := expandOne_ok_not_given given inter v (r1 :: rest) (pre ++ [part]) sub0 sub hs
          (j' + 1) (by omega) (by simp only [List.length_cons] at hi ⊢; omega)
        simpa [List.take_succ_cons, List.append_assoc] using this

/-- one step of `expandDots` is one `expandOne` on the accumulated document -/
theorem edStep_ok (st st1 : Fields × List String × List String) (kv : String × Val)
    (h : edStep st kv = .ok st1) :
    st.2.1.contains kv.1 = false ∧ st.2.2.contains kv.1 = false ∧
    expandOne (st.2.1 ++ [kv.1]) st.2.2 kv.2 (splitDots kv.1) [] st.1 = .ok st1.1 ∧
    st1.2.1 = st.2.1 ++ [kv.1] ∧ st1.2.2 = st.2.2 ++ properPrefixes (splitDots kv.1) := by
  unfold edStep at h
  split at h
  · cases h
  · rename_i hc
    simp only [Bool.or_eq_true, not_or, Bool.not_eq_true] at hc
    cases he : expandOne (st.2.1 ++ [kv.1]) st.2.2 kv.2 (splitDots kv.1) [] st.1 with
    | error e => rw [he] at h; cases h
    | ok acc' => rw [he] at h; cases h; exact ⟨hc.1, hc.2, rfl, rfl, rfl⟩

theorem fold_paths (ss : Fields) : ∀ (done : Fields) (st st' : Fields × List String × List String),
    ss.foldlM edStep st = .ok st' →
    ss.Pairwise (fun a b => Incomp (splitDots a.1) (splitDots b.1)) →
    (∀ a ∈ done, ∀ b ∈ ss, Incomp (splitDots a.1) (splitDots b.1)) →
    (∀ a ∈ done, getPath (splitDots a.1) (.doc st.1) = some a.2) →
    ∀ a ∈ done ++ ss, getPath (splitDots a.1) (.doc st'.1) = some a.2 := by
  induction ss with
  | nil =>
    intro done st st' h _ _ hdone
    cases h
    rw [List.append_nil]
    exact hdone
  | cons kv ss ih =>
    intro done st st' h hp hc hdone
    rw [List.foldlM_cons] at h
    obtain ⟨st1, h1, h⟩ := bind_ok h
    obtain ⟨_, _, hex, _, _⟩ := edStep_ok st st1 kv h1
    obtain ⟨hp1, hp2⟩ := List.pairwise_cons.1 hp
    have := ih (done ++ [kv]) st1 st' h hp2
      (fun a ha b hb => (List.mem_append.1 ha).elim
        (fun ha => hc a ha b (List.mem_cons_of_mem _ hb))
        (fun ha => List.mem_singleton.1 ha ▸ hp1 b hb))
      (fun a ha => (List.mem_append.1 ha).elim
        (fun ha => by
          rw [expandOne_frame _ _ kv.2 _ _ _ _ _ hex (hc a ha kv (List.mem_cons_self ..)).symm]
          exact hdone a ha)
        (fun ha => by
          rw [List.mem_singleton.1 ha]
          exact expandOne_get _ _ kv.2 _ _ _ _ (splitDots_ne_nil _) hex))
    rwa [List.append_assoc] at this

/-! ### a successful expansion means prefix-free keys: a key stated twice, a key that is a dotted
    prefix of an earlier one and a key that runs through an earlier one all raise -/

/-- the proper prefixes recorded for the keys of `done` -/
def recorded (done : Fields) : List String := done.flatMap (fun a => properPrefixes (splitDots a.1))

theorem recorded_append (done : Fields) (kv : String × Val) :
    recorded (done ++ [kv]) = recorded done ++ properPrefixes (splitDots kv.1) := by
  simp [recorded]

theorem prefix_cases {p q : List String} (h : p <+: q) :
    p = q ∨ (p.length < q.length ∧ q.take p.length = p) := by
  obtain ⟨t, rfl⟩ := h
  cases t with
  | nil => exact .inl (List.append_nil p).symm
  | cons x t => exact .inr ⟨by rw [List.length_append, List.length_cons]; omega, List.take_left⟩

/-- one successful step: the new key is incomparable with every key stated before -/
theorem edStep_incomp (done : Fields) (st st1 : Fields × List String × List String)
    (kv : String × Val) (hg : st.2.1 = dkeys done) (hi : st.2.2 = recorded done)
    (h : edStep st kv = .ok st1) :
    (∀ a ∈ done, Incomp (splitDots a.1) (splitDots kv.1)) ∧
    st1.2.1 = dkeys (done ++ [kv]) ∧ st1.2.2 = recorded (done ++ [kv]) := by
  obtain ⟨h1, h2, hex, h3, h4⟩ := edStep_ok st st1 kv h
  refine ⟨?_, by rw [h3, hg, dkeys, dkeys, List.map_append]; rfl, by rw [h4, hi, recorded_append]⟩
  rw [hg] at h1 hex
  rw [hi] at h2
  have h1' : kv.1 ∉ dkeys done := fun hm => by rw [List.contains_iff_mem.2 hm] at h1; cases h1
  intro a ha
  have hamem : a.1 ∈ dkeys done := List.mem_map.2 ⟨a, ha, rfl⟩
  have hpos : ∀ k : String, 0 < (splitDots k).length := fun k =>
    List.length_pos_iff.2 (splitDots_ne_nil k)
  constructor
  · -- an earlier key that is a prefix of the new one: equal, or the walk runs through it
    intro hp
    rcases prefix_cases hp with e | ⟨hlen, htake⟩
    · exact h1' (splitDots_inj e ▸ hamem)
    · have hng := expandOne_ok_not_given _ _ _ _ _ _ _ hex _ (hpos a.1) hlen
      rw [List.nil_append, htake, joinDots_splitDots,
        List.contains_iff_mem.2 (List.mem_append_left _ hamem)] at hng
      cases hng
  · -- the new key is a prefix of an earlier one: equal, or recorded as its proper prefix
    intro hp
    rcases prefix_cases hp with e | ⟨hlen, htake⟩
    · exact h1' (splitDots_inj e ▸ hamem)
    · have hm : kv.1 ∈ recorded done := List.mem_flatMap.2 ⟨a, ha,
        mem_properPrefixes.2 ⟨_, hpos kv.1, hlen, by rw [htake, joinDots_splitDots]⟩⟩
      rw [List.contains_iff_mem.2 hm] at h2
      cases h2

theorem fold_incomp : ∀ (ss done : Fields) (st st' : Fields × List String × List String),
    st.2.1 = dkeys done → st.2.2 = recorded done → ss.foldlM edStep st = .ok st' →
    ss.Pairwise (fun a b => Incomp (splitDots a.1) (splitDots b.1)) ∧
    ∀ a ∈ done, ∀ b ∈ ss, Incomp (splitDots a.1) (splitDots b.1)
  | [], _, _, _, _, _, _ => ⟨List.Pairwise.nil, by simp⟩
  | kv :: ss, done, st, st', hg, hi, h => by
    rw [List.foldlM_cons] at h
    cases h1 : edStep st kv with
    | error e => rw [h1] at h; cases h
    | ok st1 =>
      rw [h1] at h
      simp only [bind, Except.bind] at h
      obtain ⟨hinc, hg1, hi1⟩ := edStep_incomp done st st1 kv hg hi h1
      obtain ⟨hp, hc⟩ := fold_incomp ss (done ++ [kv]) st1 st' hg1 hi1 h
      refine ⟨List.pairwise_cons.2 ⟨fun b hb => hc kv (by simp) b hb, hp⟩, ?_⟩
      intro a ha b hb
      rcases List.mem_cons.1 hb with rfl | hb
      · exact hinc a ha
      · exact hc a (by simp [ha]) b hb

/-- `_expand_dots` succeeds only on prefix-free keys -/
theorem expand_ok_prefixFree (ss ex : Fields) (h : expandDots ss = .ok ex) : prefixFree ss := by
  rw [expandDots_eq] at h
  cases hf : ss.foldlM edStep ([], [], []) with
  | error e => rw [hf] at h; cases h
  | ok st' => exact (fold_incomp ss [] ([], [], []) st' rfl rfl hf).1

/-- a successful expansion holds every item of the filter at its path, at any depth (the keys are
    prefix-free: `expand_ok_prefixFree`) -/
theorem expand_paths (ss ex : Fields) (h : expandDots ss = .ok ex) :
    ∀ kv ∈ ss, getPath (splitDots kv.1) (.doc ex) = some kv.2 := by
  have hp := expand_ok_prefixFree ss ex h
  rw [expandDots_eq] at h
  cases hf : ss.foldlM edStep ([], [], []) with
  | error e => rw [hf] at h; cases h
  | ok st' =>
    rw [hf] at h
    cases h
    exact fold_paths ss [] ([], [], []) st' hf hp (fun _ ha => nomatch ha) (fun _ ha => nomatch ha)

end MongoModel.Proofs.C13Ext
