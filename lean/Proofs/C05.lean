/-
  Proofs.C05 — `step_inv_full`, `reachable_inv_full`, `id_immutable_full` of Props/C05.lean are
  false (`Proofs/C05Cex.lean`): the value universe contains association lists with duplicate
  keys, on which Python `==` as modelled is neither reflexive nor symmetric.  The invariant is
  proved on `GoodColl` collections (Spec/StoreInv.lean).
-/
import Proofs.C05Step

namespace MongoModel.Proofs.C05
open MongoModel MongoModel.Spec MongoModel.Proofs.C05Lemmas

theorem init_inv : IdInv ({} : Coll) := ⟨List.Pairwise.nil, fun p hp => by cases hp⟩

theorem ids_distinct (c : Coll) (h : IdInv c) (hs : ∀ p ∈ c.docs, SymmVal p.1) :
    c.docs.Pairwise (fun a b => ∀ ia ib, idOf a.2 = some ia → idOf b.2 = some ib →
      pyEq ia ib = false) := by
  obtain ⟨hd, hk⟩ := h
  refine List.Pairwise.imp_of_mem ?_ hd
  intro a b ha hb hab ia ib hia hib
  obtain ⟨ia', hia', hka⟩ := hk a ha
  obtain ⟨ib', hib', hkb⟩ := hk b hb
  rw [hia] at hia'; cases hia'
  rw [hib] at hib'; cases hib'
  cases hx : pyEq ia ib with
  | false => rfl
  | true =>
    have h2 : pyEq ib b.1 = true := by rw [← hs b hb ib]; exact hkb
    rw [pyEq_trans _ _ _ (pyEq_trans _ _ _ hka hx) h2] at hab
    cases hab

theorem scalar_symm (v : Val) (h : isScalar v = true) : SymmVal v := scalar_symm' v h

theorem scalar_refl (v : Val) (h : isScalar v = true) : pyEq v v = true :=
  C05Lemmas.scalar_refl v h

theorem dup_rejected (cfg : Cfg) (now : Int) (c c1 : Coll) (fs : Fields) (id : Val)
    (hid : dget "_id" (patchFields fs) = some id) (hk : storeKey id = .ok id)
    (he : expire now c = .ok c1) (hd : c1.hasKey id = true) :
    stepColl cfg now c (.arr [.str "insert_one", .doc fs]) = (c1, .err .dupKey) := by
  have hhas : dhas "_id" fs = true := by
    rw [C18.dget_patchFields] at hid
    cases hg : dget "_id" fs with
    | none => simp [hg] at hid
    | some w => simp [dhas, hg]
  have hins : insertDoc now c (.doc fs) = .error .dupKey := by
    rw [insertDoc_eq, if_pos hhas]
    unfold insertCore
    simp only [patchDT, patch, hid, Option.getD_some, bind, Except.bind, hk, he, hd, if_true]
  have hrej : insertRejected now c (.doc fs) = c1 := by
    unfold insertRejected insertStored
    simp only [patchDT, patch, hid, Option.getD_some, hk, he, hd, hhas, if_true, Bool.not_true]
    rfl
  rw [C09Lemmas.step_insert_one]
  simp only [hins, hrej]

theorem insert_fresh (now : Int) (c c' : Coll) (d id : Val) (hn : c.ttlIndexes = [])
    (h : insertDoc now c d = .ok (c', id)) :
    c.hasKey id = false ∧ c'.docs = c.docs ++ [(id, patchDT
      (match d with
       | .doc fs => .doc (if dhas "_id" fs then fs else dset "_id" id fs)
       | v => v))] := by
  cases d with
  | doc fs =>
    rw [insertDoc_eq] at h
    by_cases hh : dhas "_id" fs = true
    · rw [if_pos hh] at h
      obtain ⟨_, h2, h3⟩ := insertCore_fresh now c fs c' id hn hh h
      exact ⟨h2, by simpa [hh] using h3⟩
    · rw [if_neg hh] at h
      have hh' : dhas "_id" (dset "_id" (.oid c.nextOid) fs) = true := by
        simp [dhas, dget_dset_same]
      obtain ⟨h1, h2, h3⟩ := insertCore_fresh now { c with nextOid := c.nextOid + 1 } _ c' id hn hh' h
      rw [C18.dget_patchFields, dget_dset_same] at h1
      simp [patch] at h1
      subst h1
      exact ⟨h2, by simpa [hh] using h3⟩
  | _ => cases h

theorem step_inv_fine (cfg : Cfg) (s : St) (op : Val) (h : IdInv s.c)
    (hs : ∀ p ∈ s.c.docs, SymmVal p.1 ∧ ∃ fs, p.2 = .doc fs ∧ (dkeys fs).Nodup)
    (hr : ∀ p ∈ (step cfg s op).1.c.docs, pyEq p.1 p.1 = true) :
    IdInv (step cfg s op).1.c :=
  WInv.toId (step_winv cfg s op h hs) hr

theorem goodEntry_of_goodB (p : Val × Val) (h : goodB p = true) : GoodEntry p := by
  simp only [goodB, Bool.and_eq_true] at h
  refine ⟨scalar_symm p.1 h.1, scalar_refl p.1 h.1, ?_⟩
  have h2 := h.2
  split at h2
  · rename_i fs hfs; exact ⟨fs, hfs, by simpa using h2⟩
  · cases h2

/-- for a concrete history the hypothesis on the states can be checked by evaluation -/
theorem reachable_inv_check (cfg : Cfg) (ops : List Val)
    (h : (List.range (ops.length + 1)).all
      (fun n => (run cfg (ops.take n)).2.c.docs.all goodB) = true) :
    IdInv (run cfg ops).2.c := by
  rw [run_snd]
  refine (carriedId.of_runSt GoodColl C05Ext.bridge cfg ops {} ⟨init_inv, fun p hp => by cases hp⟩
    (fun n p hp => ?_)).1
  rw [← run_snd] at hp
  simp only [List.all_eq_true, List.mem_range] at h
  by_cases hn : n + 1 < ops.length + 1
  · exact goodEntry_of_goodB p (h _ hn p hp)
  · rw [List.take_of_length_le (by omega)] at hp
    have := h ops.length (by omega)
    rw [List.take_length] at this
    exact goodEntry_of_goodB p (this p hp)

end MongoModel.Proofs.C05
