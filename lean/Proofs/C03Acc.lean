/-
  Proofs.C03Acc — an accumulator of `$group` folds a list of values, not documents: `accValues`
  first evaluates its expression on the group, and the oracle's folds are met on that list.
-/
import Proofs.C03Basic
import Spec.Pipeline

namespace MongoModel.Pipe.Proofs
open MongoModel MongoModel.Pipe MongoModel.Spec.Pipe

/-- what an accumulator sees of the values `rs` its expression takes (`none` = missing):
    `$first` / `$last` read a missing value as null, the others skip it -/
def seenValues (firstLast : Bool) (rs : List (Option Val)) : List Val :=
  if firstLast then rs.map (fun r => r.getD .null) else specPush rs

/-- `accValues` = the expression (evaluated like a computed field) on every document of the
    group in order; missing values skipped, or null for `$first` / `$last` -/
theorem accValues_ok (fl : Bool) (key : Val) : ∀ (g : List Val) (vs : List Val),
    accValues fl key g = .ok vs →
    ∃ rs : List (Option Val), List.Forall₂ (fun d r => Expr.evalExpr d key = .ok r) g rs ∧
      vs = seenValues fl rs
  | [], vs, h => by cases h; exact ⟨[], .nil, by cases fl <;> rfl⟩
  | d :: ds, vs, h => by
    unfold accValues at h
    split at h
    · cases h
    next r hd =>
    split at h
    · cases h
    next ws hr =>
    cases h
    obtain ⟨rs, h1, rfl⟩ := accValues_ok fl key ds ws hr
    exact ⟨r :: rs, .cons hd h1, by cases r <;> cases fl <;> rfl⟩

theorem acc_push (values : List Val) : accApply "$push" values = .ok (.arr values) := by
  simp [accApply]

/-- `$first` / `$last` over what they see of `rs`: the value on the first / last document, null
    when it is missing there -/
theorem acc_first_seen (rs : List (Option Val)) :
    accApply "$first" (seenValues true rs) = .ok (specFirst rs) := by
  cases rs with
  | nil => simp [accApply, seenValues, specFirst]
  | cons r t => cases r <;> simp [accApply, seenValues, specFirst]

theorem acc_last_seen (rs : List (Option Val)) :
    accApply "$last" (seenValues true rs) = .ok (specLast rs) := by
  simp only [accApply, specLast, seenValues, if_true]
  simp only [show ("$last" = "$sum") = False by decide, show ("$last" = "$avg") = False by decide,
    show ("$last" = "$first") = False by decide, if_false]
  rw [List.getLast?_map]
  cases rs.getLast? with
  | none => rfl
  | some r => cases r <;> rfl

theorem seenValues_some (values : List Val) : seenValues true (values.map some) = values := by
  rw [seenValues, if_pos rfl, List.map_map]; exact List.map_id _

theorem sumNums_ints : ∀ (is : List Int) (a : Int),
    Expr.sumNums (is.map Expr.PyNum.i) (.i a) = .ok (.i (is.foldl (· + ·) a))
  | [], a => rfl
  | i :: r, a => by
    simp only [List.map_cons, Expr.sumNums, Expr.PyNum.add, Expr.PyNum.check, bind, Except.bind,
      List.foldl_cons]
    exact sumNums_ints r (a + i)

end MongoModel.Pipe.Proofs
