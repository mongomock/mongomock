/-
  C19 — a checker of certificates that the kernel evaluates cheaply, and `fastCert_sound`:
  `fastCert P C n = true → pcheckCert P C n = true` (this direction only).  `pcheckCert` decodes
  every key into a `PState`, runs `pstep` and encodes every successor again; `fastCert` works on
  the key itself: a lock operation reads and rewrites the two digits of one lock, a move rewrites
  one position digit, and a successor is looked up by word-parallel arithmetic on a whole leaf.

  The proof: a key that `fastKey` accepts is the key of the state it decodes to (`IsKey.decode`);
  the lock operations on digits agree with those on states (`kProtoOp_spec`), so the verdict `thr`
  on each thread and their `tally` answer what `pcheckState` asks (`thr_spec`, `fastKey_sound`).
  For a successor, `certHas` yields only `Cert.Has` (the position found by arithmetic is compared
  with the key), whereas `pcheckCert` searches with `Cert.mem` (binary search).  So `fastCert` also
  checks that the certificate is sorted (`Cert.sorted`): then `Cert.mem` finds every key that is
  there (`mem_complete`).
-/
import Proofs.C19Cert
namespace MongoModel.RWLock

/-- `g x`, with `x` evaluated first.  The kernel remembers the normal form of every closed term
    it has met, so work that depends on `x` alone is then done once for every value of `x`. -/
def force {α} (x : Nat) (g : Nat → α) : α := Nat.rec (g 0) (fun n _ => g (Nat.succ n)) x

def leafAt : Cert → Nat → Leaf
  | [], _ => default
  | l :: _, 0 => l
  | _ :: ls, i + 1 => leafAt ls i

/-- 1 in each of `cnt` fields of `W` bits -/
def onesOf (W cnt : Nat) : Nat :=
  Nat.div (Nat.sub (Nat.pow 2 (Nat.mul W cnt)) 1) (Nat.sub (Nat.pow 2 W) 1)

/-- how many of the `cnt` fields of `blob` are `≤ x`, when the fields and `x` are below `2^(W-1)`:
    `x` is written into every field with the top bit set, `blob` subtracted (no field borrows from
    its neighbour), and the top bits that survive are counted by a multiplication.  Nothing is
    proved about it: what it points at is compared with `x`. -/
def rank (W blob cnt x : Nat) : Nat :=
  keyAt W (Nat.mul (onesOf W cnt) (Nat.land (Nat.shiftRight (Nat.sub (Nat.add (Nat.mul x (onesOf W cnt))
    (Nat.shiftLeft (onesOf W cnt) (Nat.sub W 1))) blob) (Nat.sub W 1)) (onesOf W cnt))) (Nat.sub cnt 1)

/-- the first keys of all leaves, as one leaf -/
def dirBlob (W : Nat) : Cert → Nat
  | [] => 0
  | l :: ls => Nat.add l.lo (Nat.shiftLeft (dirBlob W ls) W)

def leafHas (W x : Nat) (l : Leaf) : Bool :=
  Nat.blt (Nat.sub (rank W l.blob l.cnt x) 1) l.cnt &&
    Nat.beq (keyAt W l.blob (Nat.sub (rank W l.blob l.cnt x) 1)) x

def certHas (W : Nat) (C : Cert) (x : Nat) : Bool :=
  force (Nat.sub (rank W (dirBlob W C) C.length x) 1) fun i =>
    Nat.blt i C.length && leafHas W x (leafAt C i)

/-- the key with digit `i` replaced by `v` -/
def setF (k i v : Nat) : Nat :=
  Nat.add (Nat.sub k (Nat.shiftLeft (fieldAt k i) (Nat.mul 8 i))) (Nat.shiftLeft v (Nat.mul 8 i))

/-- outcome of a lock-protocol instruction on a key; `fail`: a digit would leave its byte -/
inductive KRes
  | none | blocked | error | fail | ok (k : Nat)

/-- the digit that holds the owner of lock `l`; its count is the next one -/
def LockId.dig (l : LockId) : Nat := Nat.add (Nat.mul 2 l.idx) 1

/-- the digit that holds the code of counter `c` -/
def Ctr.dig : Ctr → Nat
  | .readCtr => 11 | .writeCtr => 12

def kLock (k : Nat) (l : LockId) : LockSt := ⟨fieldAt k l.dig, fieldAt k (Nat.add l.dig 1)⟩

def kSetLock (k : Nat) (l : LockId) (x : LockSt) : KRes :=
  bif Nat.blt x.owner 256 && Nat.blt x.count 256 then
    .ok (setF (setF k l.dig x.owner) (Nat.add l.dig 1) x.count)
  else .fail

def kAcq (re : List Bool) (k t : Nat) (l : LockId) : KRes :=
  match acqCell (isReentrant re l) (kLock k l) t with
  | some x => kSetLock k l x
  | none => .blocked

def kRel (re : List Bool) (k t : Nat) (l : LockId) : KRes :=
  match relCell (isReentrant re l) (kLock k l) t with
  | some x => kSetLock k l x
  | none => .error

def kSetCtr (k : Nat) (c : Ctr) (v : Int) : KRes :=
  bif Nat.blt (encInt v) 256 then .ok (setF k c.dig (encInt v)) else .fail

/-- `protoOp` on a key -/
def kProtoOp (re : List Bool) (k t : Nat) : Instr → KRes
  | .acq l => kAcq re k t l
  | .rel l => kRel re k t l
  | .inc c => kSetCtr k c (decInt (fieldAt k c.dig) + 1)
  | .dec c => kSetCtr k c (decInt (fieldAt k c.dig) - 1)
  | .acqIf c v l => bif Nat.beq (fieldAt k c.dig) (encInt v) then kAcq re k t l else .ok k
  | .relIf c v l => bif Nat.beq (fieldAt k c.dig) (encInt v) then kRel re k t l else .ok k
  | _ => .none

def kFree (k : Nat) : Bool :=
  Nat.beq (fieldAt k 2) 0 && Nat.beq (fieldAt k 4) 0 && Nat.beq (fieldAt k 6) 0 &&
    Nat.beq (fieldAt k 8) 0 && Nat.beq (fieldAt k 10) 0 && Nat.beq (fieldAt k 11) 0 &&
    Nat.beq (fieldAt k 12) 0

/-- the key `k` with thread `t` moved to position `p` is in the certificate -/
def succOk (W : Nat) (C : Cert) (k t : Nat) (p : Phase) : Bool :=
  Nat.blt (encPhase p) 256 && certHas W C (setF k (Nat.add 13 t) (encPhase p))

/-- thread `t` at position `p`: 0 = a successor is missing or the pending instruction raises,
    1 = cannot move, 2 = can move -/
def thr (P : Protocol) (W : Nat) (C : Cert) (k t : Nat) (p : Phase) : Nat :=
  match p with
  | .out => bif succOk W C k t (beginPos P false) && succOk W C k t (beginPos P true) then 1 else 0
  | .body w =>
    bif succOk W C k t (leavePos P w false) && succOk W C k t (leavePos P w true) then 2 else 0
  | p => match instrAt P p with
    | none => 1
    | some ins => match kProtoOp P.reentrant k t ins with
      | .none | .blocked => 1
      | .error | .fail => 0
      | .ok k' => bif succOk W C k' t (nextPos P p) then 2 else 0

def isOut : Phase → Bool
  | .out => true
  | _ => false

/-- what one pass over the threads collects -/
structure Tally where
  ok : Bool     -- every position digit is the code of a position, no thread has `thr` 0
  wb : Nat      -- threads in a writer's body
  bd : Nat      -- threads in a body
  mv : Bool     -- some thread can move
  out : Bool    -- every thread is outside

/-- threads `t ..` of the `n` remaining ones; the position digit is evaluated first, so that what
    depends on the position alone is computed once per position, not once per state -/
def tally (thr : Nat → Phase → Nat) (k : Nat) : Nat → Nat → Tally
  | _, 0 => ⟨true, 0, 0, false, true⟩
  | t, n + 1 => force (fieldAt k (Nat.add 13 t)) fun b =>
    ⟨Nat.beq (encPhase (decPhase b)) b && Nat.ble 1 (thr t (decPhase b)) &&
        (tally thr k (Nat.add t 1) n).ok,
     Nat.add (b2n (isWBody (decPhase b))) (tally thr k (Nat.add t 1) n).wb,
     Nat.add (b2n (isBody (decPhase b))) (tally thr k (Nat.add t 1) n).bd,
     Nat.ble 2 (thr t (decPhase b)) || (tally thr k (Nat.add t 1) n).mv,
     isOut (decPhase b) && (tally thr k (Nat.add t 1) n).out⟩

def Tally.good (r : Tally) (free : Bool) : Bool :=
  r.ok && !(Nat.ble 1 r.wb && Nat.ble 2 r.bd) && !(r.out && !free) && (r.out || r.mv)

/-- `true` only if `k` is the key of a state with `n` threads that passes `pcheckKey` -/
def fastKey (P : Protocol) (C : Cert) (n k : Nat) : Bool :=
  Nat.beq (fieldAt k 0) n && Nat.blt k (Nat.pow 256 (codeLen n)) &&
    (tally (thr P (keyWidth n) C k) k 0 n).good (kFree k)

/-- `g` holds of `0 .. m-1` -/
def allBelow (g : Nat → Bool) : Nat → Bool
  | 0 => true
  | i + 1 => g i && allBelow g i

/-- the keys of the leaf ascend, and there are fewer than `2^32` (the fuel of `bsearch`) -/
def leafOk (W : Nat) (l : Leaf) : Bool :=
  Nat.blt l.cnt 4294967296 &&
    allBelow (fun a => Nat.blt (keyAt W l.blob a) (keyAt W l.blob (Nat.add a 1))) (Nat.sub l.cnt 1)

/-- the last key of `l` is below the first key of `l'`, which `l'.lo` states -/
def linkOk (W : Nat) (l l' : Leaf) : Bool :=
  Nat.blt (keyAt W l.blob (Nat.sub l.cnt 1)) l'.lo && Nat.ble l'.lo (keyAt W l'.blob 0)

/-- what `Cert.mem` relies on.  Leaves are named by their index: a term that contained a leaf
    itself would be compared with every other such term whose numerals agree in the low 64 bits,
    which is all the kernel hashes of a numeral. -/
def Cert.sorted (W : Nat) (C : Cert) : Bool :=
  allBelow (fun i => leafOk W (leafAt C i)) C.length &&
    allBelow (fun i => linkOk W (leafAt C i) (leafAt C (Nat.add i 1))) (Nat.sub C.length 1)

def fastCert (P : Protocol) (C : Cert) (n : Nat) : Bool :=
  psuccIn C n (pinit n) && Cert.sorted (keyWidth n) C &&
    allBelow (fun i => leafAll (keyWidth n) (fastKey P C n) (leafAt C i).blob (leafAt C i).cnt) C.length

theorem force_eq {α} (x : Nat) (g : Nat → α) : force x g = g x := by cases x <;> rfl

theorem fieldAt_lt (k i : Nat) : fieldAt k i < 256 := by
  rw [fieldAt_eq]; exact Nat.mod_lt _ (by decide)

theorem setF_eq (k i v : Nat) : setF k i v = k - fieldAt k i * 256 ^ i + v * 256 ^ i := by
  show k - fieldAt k i <<< (8 * i) + v <<< (8 * i) = _
  rw [Nat.shiftLeft_eq, Nat.shiftLeft_eq, Nat.pow_mul]

theorem setF_packL : ∀ (ds : List Nat) (i v : Nat), (∀ b ∈ ds, b < 256) → i < ds.length →
    setF (packL ds) i v = packL (ds.set i v)
  | b :: bs, 0, v, h, _ => by
    have hb : b < 256 := h b (by simp)
    rw [setF_eq, fieldAt_packL _ _ h]
    simp [packL_cons]; omega
  | b :: bs, i + 1, v, h, hi => by
    have hs : ∀ x ∈ bs, x < 256 := fun x hx => h x (by simp [hx])
    have ih := setF_packL bs i v hs (by simpa using hi)
    have hx : fieldAt (packL bs) i * 256 ^ i ≤ packL bs := by
      rw [fieldAt_eq]
      exact Nat.le_trans (Nat.mul_le_mul_right _ (Nat.mod_le _ _)) (Nat.div_mul_le_self _ _)
    rw [setF_eq] at ih ⊢
    rw [fieldAt_packL _ _ h, List.getD_cons_succ, ← fieldAt_packL bs i hs, List.set_cons_succ,
      packL_cons, packL_cons, ← ih, Nat.pow_succ, ← Nat.mul_assoc, ← Nat.mul_assoc]
    generalize fieldAt (packL bs) i * 256 ^ i = A at hx ⊢
    generalize v * 256 ^ i = B
    omega

/-- `k` packs the digits `ds`, each of them a byte -/
def Digits (ds : List Nat) (k : Nat) : Prop := (∀ b ∈ ds, b < 256) ∧ packL ds = k

theorem Digits.field {ds : List Nat} {k : Nat} (h : Digits ds k) (i : Nat) :
    fieldAt k i = ds.getD i 0 := by rw [← h.2]; exact fieldAt_packL ds i h.1

theorem Digits.set {ds : List Nat} {k i v : Nat} (h : Digits ds k) (hi : i < ds.length)
    (hv : v < 256) : Digits (ds.set i v) (setF k i v) :=
  ⟨fun b hb => (List.mem_or_eq_of_mem_set hb).elim (h.1 b) (· ▸ hv),
   by rw [← h.2, setF_packL ds i v h.1 hi]⟩

theorem encInt_decInt (d : Nat) : encInt (decInt d) = d := by
  have h : 2 * (d / 2) + d % 2 = d := Nat.div_add_mod d 2
  show encInt (bif Nat.beq (d % 2) 0 then _ else _) = d
  rcases Nat.mod_two_eq_zero_or_one d with e | e <;> rw [e] at h ⊢ <;> exact h

theorem packL_fields (k : Nat) : ∀ (m i : Nat),
    packL ((List.range' i m).map (fieldAt k)) = k / 256 ^ i % 256 ^ m
  | 0, i => by simp [packL, Nat.mod_one]
  | m + 1, i => by
    rw [List.range'_succ, List.map_cons, packL_cons, packL_fields k m (i + 1), fieldAt_eq,
      Nat.pow_succ, Nat.pow_succ, Nat.mul_comm (256 ^ m), Nat.mod_mul, Nat.div_div_eq_div_mul]

theorem posFrom_codes (k : Nat) : ∀ (n i : Nat),
    (∀ j p, (posFrom k i n)[j]? = some p → encPhase p = fieldAt k (i + j)) →
    (posFrom k i n).map encPhase = (List.range' i n).map (fieldAt k)
  | 0, _, _ => rfl
  | n + 1, i, h => by
    rw [posFrom, List.range'_succ, List.map_cons, List.map_cons, h 0 _ rfl,
      posFrom_codes k n (i + 1) fun j p hj => by rw [h (j + 1) p hj]; congr 1; omega]
    rfl

theorem posFrom_length (k : Nat) : ∀ (n i : Nat), (posFrom k i n).length = n
  | 0, _ => rfl
  | n + 1, i => by rw [posFrom, List.length_cons, posFrom_length k n]

/-- `k` is the key of the state `s` with `n` threads -/
structure IsKey (n : Nat) (s : PState) (k : Nat) : Prop where
  locks : s.lk.locks.length = 5
  pos : s.pos.length = n
  digits : Digits (pencodeL s) k

/-- a number whose digits are `n`, ten bytes, two codes of counters and `n` codes of positions is
    the key of the state it decodes to -/
theorem IsKey.decode {n k : Nat} (h0 : fieldAt k 0 = n) (hk : k < 256 ^ (13 + n))
    (hp : ∀ j p, (posFrom k 13 n)[j]? = some p → encPhase p = fieldAt k (13 + j)) :
    IsKey n (pdecodeK n k) k := by
  have e : pencodeL (pdecodeK n k) = (List.range' 0 (n + 13)).map (fieldAt k) := by
    simp only [pencodeL, pdecodeK, encInt_decInt, posFrom_codes k n 13 hp, List.range'_succ,
      List.map_cons, Nat.zero_add, Nat.reduceAdd, h0, posFrom_length]
  refine ⟨rfl, posFrom_length k n 13, ?_⟩
  rw [Digits, e, packL_fields, Nat.pow_zero, Nat.div_one, Nat.add_comm n]
  refine ⟨fun b hb => ?_, Nat.mod_eq_of_lt hk⟩
  obtain ⟨i, _, rfl⟩ := List.mem_map.1 hb
  exact fieldAt_lt k i

theorem IsKey.shape {n : Nat} {s : PState} {k : Nat} (h : IsKey n s k) :
    ∃ a b c d e rc wc pos, s = ⟨⟨[a, b, c, d, e], rc, wc⟩, pos⟩ :=
  match s, h.locks with
  | ⟨⟨[a, b, c, d, e], rc, wc⟩, pos⟩, _ => ⟨a, b, c, d, e, rc, wc, pos, rfl⟩

theorem IsKey.len {n : Nat} {s : PState} {k : Nat} (h : IsKey n s k) :
    (pencodeL s).length = n + 13 := by
  obtain ⟨a, b, c, d, e, rc, wc, pos, rfl⟩ := h.shape
  simp only [pencodeL, List.length_cons, List.length_map, show pos.length = n from h.pos]

theorem leafAt_mem : ∀ (C : Cert) (i : Nat), i < C.length → leafAt C i ∈ C
  | l :: _, 0, _ => by simp [leafAt]
  | _ :: ls, i + 1, h => List.mem_cons_of_mem _ (leafAt_mem ls i (by simpa using h))

theorem mem_leafAt : ∀ (C : Cert) (l : Leaf), l ∈ C → ∃ i, i < C.length ∧ leafAt C i = l
  | l0 :: ls, l, h => by
    rcases List.mem_cons.1 h with rfl | h
    · exact ⟨0, by simp, rfl⟩
    · obtain ⟨i, hi, e⟩ := mem_leafAt ls l h
      exact ⟨i + 1, by simpa using hi, e⟩

theorem certHas_sound {W : Nat} {C : Cert} {x : Nat} (h : certHas W C x = true) :
    Cert.Has W C x := by
  rw [certHas, force_eq] at h
  simp only [leafHas, Bool.and_eq_true, Nat.blt_eq, Nat.beq_eq] at h
  exact ⟨_, leafAt_mem C _ h.1, _, h.2.1, h.2.2⟩

def LeafOk (W : Nat) (l : Leaf) : Prop :=
  l.cnt < 4294967296 ∧ ∀ a, a < l.cnt - 1 → keyAt W l.blob a < keyAt W l.blob (a + 1)

def Link (W : Nat) (l l' : Leaf) : Prop :=
  keyAt W l.blob (l.cnt - 1) < l'.lo ∧ l'.lo ≤ keyAt W l'.blob 0

/-- `Cert.sorted`, spelt out -/
structure Cert.Sorted (W : Nat) (C : Cert) : Prop where
  leaf : ∀ i, i < C.length → LeafOk W (leafAt C i)
  link : ∀ i, i + 1 < C.length → Link W (leafAt C i) (leafAt C (i + 1))

theorem LeafOk.mono {W : Nat} {l : Leaf} (h : LeafOk W l) {a : Nat} :
    ∀ {b : Nat}, a ≤ b → b < l.cnt → keyAt W l.blob a ≤ keyAt W l.blob b
  | 0, hab, _ => by rw [Nat.le_zero.1 hab]; exact Nat.le_refl _
  | b + 1, hab, hb => by
    rcases Nat.lt_or_ge a (b + 1) with h1 | h1
    · exact Nat.le_trans (h.mono (Nat.le_of_lt_succ h1) (by omega))
        (Nat.le_of_lt (h.2 b (by omega)))
    · rw [Nat.le_antisymm hab h1]; exact Nat.le_refl _

theorem LeafOk.strict {W : Nat} {l : Leaf} (h : LeafOk W l) {a b : Nat} (hab : a < b)
    (hb : b < l.cnt) : keyAt W l.blob a < keyAt W l.blob b :=
  Nat.lt_of_lt_of_le (h.2 a (by omega)) (h.mono (Nat.succ_le_of_lt hab) hb)

/-- in a leaf whose keys ascend `bsearch` finds every key -/
theorem bsearch_complete {W : Nat} {l : Leaf} (h : LeafOk W l) {j : Nat} :
    ∀ (f : List Unit) (lo hi : Nat), lo ≤ j → j < hi → hi ≤ l.cnt → hi - lo < 2 ^ f.length →
      bsearch W l.blob (keyAt W l.blob j) f lo hi = true
  | [], lo, hi, h1, h2, _, hf => by simp at hf; omega
  | _ :: f, lo, hi, h1, h2, h3, hf => by
    rw [List.length_cons, Nat.pow_succ] at hf
    rw [bsearch]
    simp only [Bool.cond_eq_ite, Nat.ble_eq, Nat.beq_eq, Nat.blt_eq]
    generalize hmid : Nat.div (Nat.add lo hi) 2 = mid
    have hm : mid = (lo + hi) / 2 := hmid.symm
    have hmh : mid < hi := by omega
    rw [if_neg (Nat.not_le.2 (Nat.lt_of_le_of_lt h1 h2))]
    rcases Nat.lt_trichotomy j mid with hj | rfl | hj
    · have := h.strict hj (Nat.lt_of_lt_of_le hmh h3)
      rw [if_neg (Nat.ne_of_gt this), if_pos this]
      exact bsearch_complete h f lo mid h1 hj (Nat.le_trans (Nat.le_of_lt hmh) h3)
        (by omega)
    · rw [if_pos rfl]
    · have := h.strict hj (Nat.lt_of_lt_of_le h2 h3)
      rw [if_neg (Nat.ne_of_lt this), if_neg (Nat.lt_asymm this)]
      exact bsearch_complete h f (mid + 1) hi hj h2 h3
        (by omega)

theorem Cert.Sorted.tail {W : Nat} {l : Leaf} {C : Cert} (h : Cert.Sorted W (l :: C)) :
    Cert.Sorted W C :=
  ⟨fun i hi => h.leaf (i + 1) (by simpa using hi), fun i hi => h.link (i + 1) (by simpa using hi)⟩

/-- every key of `l0 :: C` is at or above the first key of `l0` -/
theorem Cert.Sorted.lower {W : Nat} : ∀ {C : Cert} {l0 : Leaf}, Cert.Sorted W (l0 :: C) →
    ∀ {b : Nat}, b ≤ keyAt W l0.blob 0 → ∀ l ∈ l0 :: C, ∀ j, j < l.cnt → b ≤ keyAt W l.blob j
  | C, l0, h, b, hb, l, hl, j, hj => by
    have h0 : LeafOk W l0 := h.leaf 0 (by simp)
    rcases List.mem_cons.1 hl with rfl | hl
    · exact Nat.le_trans hb (h0.mono (Nat.zero_le j) hj)
    · match C, hl with
      | l1 :: C', hl =>
        have hk : Link W l0 l1 := h.link 0 (by simp)
        refine h.tail.lower (Nat.le_trans hb (Nat.le_trans ?_ (Nat.le_of_lt
          (Nat.lt_of_lt_of_le hk.1 hk.2)))) l hl j hj
        rcases Nat.eq_zero_or_pos l0.cnt with e | e
        · rw [e]; exact Nat.le_refl _
        · exact h0.mono (Nat.zero_le _) (by omega)

/-- `Cert.mem` finds every key of a sorted certificate -/
theorem mem_complete {W : Nat} : ∀ {C : Cert}, Cert.Sorted W C → ∀ l ∈ C, ∀ j, j < l.cnt →
    Cert.mem W (keyAt W l.blob j) C = true
  | [l0], h, l, hl, j, hj => by
    cases List.mem_singleton.1 hl
    have hk : LeafOk W l0 := h.leaf 0 (by simp)
    exact bsearch_complete hk fuel32 0 l0.cnt (Nat.zero_le j) hj (Nat.le_refl _) hk.1
  | l0 :: l1 :: rest, h, l, hl, j, hj => by
    have hk : Link W l0 l1 := h.link 0 (by simp)
    have h0 : LeafOk W l0 := h.leaf 0 (by simp)
    rw [Cert.mem]
    simp only [Bool.cond_eq_ite, Nat.blt_eq]
    rcases List.mem_cons.1 hl with rfl | hl
    · rw [if_pos (Nat.lt_of_le_of_lt (h0.mono (by omega) (by omega)) hk.1)]
      exact bsearch_complete h0 fuel32 0 l.cnt (Nat.zero_le j) hj (Nat.le_refl _) h0.1
    · rw [if_neg (Nat.not_lt.2 (h.tail.lower hk.2 l hl j hj))]
      exact mem_complete h.tail l hl j hj

theorem kLock_eq {n : Nat} {s : PState} {k : Nat} (h : IsKey n s k) (l : LockId) :
    kLock k l = s.lk.lock l := by
  rw [kLock, h.digits.field, h.digits.field]
  obtain ⟨a, b, c, d, e, rc, wc, pos, rfl⟩ := h.shape
  cases l <;> rfl

theorem ctr_digit {n : Nat} {s : PState} {k : Nat} (h : IsKey n s k) (c : Ctr) :
    fieldAt k c.dig = encInt (s.lk.ctr c) := by
  rw [h.digits.field]
  obtain ⟨a, b, c', d, e, rc, wc, pos, rfl⟩ := h.shape
  cases c <;> rfl

/-- the outcome on the key is the outcome on the state (`fail` promises nothing) -/
def KRes.Agrees (n : Nat) (pos : List Phase) : KRes → Option PRes → Prop
  | .none, Option.none | .blocked, some .blocked | .error, some .error | .fail, _ => True
  | .ok k', some (.ok lk') => IsKey n ⟨lk', pos⟩ k'
  | _, _ => False

theorem kSetLock_spec {n : Nat} {s : PState} {k : Nat} (h : IsKey n s k) (l : LockId) (x : LockSt) :
    (kSetLock k l x).Agrees n s.pos (some (.ok (s.lk.setLock l x))) := by
  unfold kSetLock
  cases hx : Nat.blt x.owner 256 && Nat.blt x.count 256
  · trivial
  · simp only [Bool.and_eq_true, Nat.blt_eq] at hx
    have hl : Nat.add l.dig 1 < n + 13 := by cases l <;> simp [LockId.dig, LockId.idx]
    have hd := (h.digits.set (i := l.dig) (by rw [h.len]; exact Nat.lt_of_succ_lt hl) hx.1).set
      (i := Nat.add l.dig 1) (by rw [List.length_set, h.len]; exact hl) hx.2
    obtain ⟨a, b, c, d, e, rc, wc, pos, rfl⟩ := h.shape
    refine ⟨by cases l <;> rfl, h.pos, ?_⟩
    cases l <;> exact hd

theorem kSetCtr_spec {n : Nat} {s : PState} {k : Nat} (h : IsKey n s k) (c : Ctr) (v : Int) :
    (kSetCtr k c v).Agrees n s.pos (some (.ok (s.lk.setCtr c v))) := by
  unfold kSetCtr
  cases hv : Nat.blt (encInt v) 256
  · trivial
  · have hd := h.digits.set (i := c.dig) (by rw [h.len]; cases c <;> simp [Ctr.dig])
      (Nat.blt_eq.mp hv)
    obtain ⟨a, b, c', d, e, rc, wc, pos, rfl⟩ := h.shape
    refine ⟨by cases c <;> rfl, h.pos, ?_⟩
    cases c <;> exact hd

theorem kAcq_spec {n : Nat} {s : PState} {k : Nat} (h : IsKey n s k) (re : List Bool) (t : Nat)
    (l : LockId) : (kAcq re k t l).Agrees n s.pos (some (acqRes re s.lk t l)) := by
  rw [kAcq, acqRes, acquire_eq, kLock_eq h]
  cases acqCell (isReentrant re l) (s.lk.lock l) t with
  | none => trivial
  | some x => exact kSetLock_spec h l x

theorem kRel_spec {n : Nat} {s : PState} {k : Nat} (h : IsKey n s k) (re : List Bool) (t : Nat)
    (l : LockId) : (kRel re k t l).Agrees n s.pos (some (relRes re s.lk t l)) := by
  rw [kRel, relRes, release_eq, kLock_eq h]
  cases relCell (isReentrant re l) (s.lk.lock l) t with
  | none => trivial
  | some x => exact kSetLock_spec h l x

theorem kProtoOp_spec {n : Nat} {s : PState} {k : Nat} (h : IsKey n s k) (re : List Bool) (t : Nat)
    (ins : Instr) : (kProtoOp re k t ins).Agrees n s.pos (protoOp re s.lk t ins) := by
  have hc : ∀ (c : Ctr) (v : Int), Nat.beq (fieldAt k c.dig) (encInt v) = (s.lk.ctr c == v) := by
    intro c v
    rw [ctr_digit h, Bool.eq_iff_iff, Nat.beq_eq, beq_iff_eq]
    exact ⟨fun e => by rw [← decInt_encInt (s.lk.ctr c), e, decInt_encInt], congrArg _⟩
  cases ins <;> try trivial
  case acq l => exact kAcq_spec h re t l
  case rel l => exact kRel_spec h re t l
  case inc c => rw [kProtoOp, ctr_digit h, decInt_encInt]; exact kSetCtr_spec h c _
  case dec c => rw [kProtoOp, ctr_digit h, decInt_encInt]; exact kSetCtr_spec h c _
  case acqIf c v l =>
    rw [kProtoOp, protoOp, hc]
    cases s.lk.ctr c == v
    · exact h
    · exact kAcq_spec h re t l
  case relIf c v l =>
    rw [kProtoOp, protoOp, hc]
    cases s.lk.ctr c == v
    · exact h
    · exact kRel_spec h re t l

theorem IsKey.setPos {n : Nat} {s : PState} {k t : Nat} (h : IsKey n s k) (ht : t < n) {p : Phase}
    (hp : encPhase p < 256) : IsKey n (s.setPos t p) (setF k (Nat.add 13 t) (encPhase p)) := by
  have hd := h.digits.set (i := t + 13) (by rw [h.len]; omega) hp
  obtain ⟨a, b, c, d, e, rc, wc, pos, rfl⟩ := h.shape
  refine ⟨rfl, (List.length_set ..).trans h.pos, ?_⟩
  rw [show Nat.add 13 t = t + 13 from Nat.add_comm 13 t]
  simpa only [pencodeL, PState.setPos, List.length_set, List.map_set, List.set_cons_succ] using hd

variable {P : Protocol} {C : Cert} {n : Nat}

theorem IsKey.succIn {s : PState} {k : Nat} (h : IsKey n s k) (hC : Cert.Sorted (keyWidth n) C)
    (hk : certHas (keyWidth n) C k = true) : psuccIn C n s = true := by
  obtain ⟨l, hl, j, hj, e⟩ := certHas_sound hk
  rw [psuccIn, (allSmall_iff _).2 h.digits.1, h.digits.2, ← e, mem_complete hC l hl j hj]; rfl

theorem succOk_spec {s : PState} {k t : Nat} (h : IsKey n s k) (hC : Cert.Sorted (keyWidth n) C)
    (ht : t < n) {p : Phase} (hk : succOk (keyWidth n) C k t p = true) :
    psuccIn C n (s.setPos t p) = true := by
  simp only [succOk, Bool.and_eq_true, Nat.blt_eq] at hk
  exact (h.setPos ht hk.1).succIn hC hk.2

/-- what `thr` promises of thread `t`, at position `p` in the state with key `k` -/
theorem thr_spec {s : PState} {k t : Nat} {p : Phase} (h : IsKey n s k)
    (hC : Cert.Sorted (keyWidth n) C) (ht : s.pos[t]? = some p) :
    (1 ≤ thr P (keyWidth n) C k t p → relErrAt P s.lk t p = false ∧
      ∀ lab ∈ labsAt p, ∀ s', pstep P s t lab = some s' → psuccIn C n s' = true) ∧
    (2 ≤ thr P (keyWidth n) C k t p → canMoveAt P s.lk t p = true) := by
  have htn : t < n := h.pos ▸ (List.getElem?_eq_some_iff.1 ht).1
  have no : ∀ {P : Prop}, 1 ≤ 0 → P := fun h => absurd h (by decide)
  cases p with
  | out =>
    simp only [thr, labsAt, pstep, ht, relErrAt, instrAt, List.mem_cons, List.mem_nil_iff, or_false]
    cases hb : succOk (keyWidth n) C k t (beginPos P false) &&
      succOk (keyWidth n) C k t (beginPos P true)
    · exact ⟨no, fun h2 => absurd h2 (by decide)⟩
    · rw [Bool.and_eq_true] at hb
      refine ⟨fun _ => ⟨trivial, ?_⟩, fun h2 => absurd h2 (by decide)⟩
      rintro lab (rfl | rfl) s' hs' <;> cases hs'
      · exact succOk_spec h hC htn hb.1
      · exact succOk_spec h hC htn hb.2
  | body w =>
    simp only [thr, labsAt, pstep, ht, relErrAt, instrAt, canMoveAt, List.mem_cons,
      List.mem_nil_iff, or_false]
    cases hb : succOk (keyWidth n) C k t (leavePos P w false) &&
      succOk (keyWidth n) C k t (leavePos P w true)
    · exact ⟨no, fun h2 => absurd h2 (by decide)⟩
    · rw [Bool.and_eq_true] at hb
      refine ⟨fun _ => ⟨trivial, ?_⟩, fun _ => trivial⟩
      rintro lab (rfl | rfl) s' hs' <;> cases hs'
      · exact succOk_spec h hC htn hb.1
      · exact succOk_spec h hC htn hb.2
  | _ =>
    simp only [thr, labsAt, pstep, ht, relErrAt, canMoveAt, List.mem_cons, List.mem_nil_iff,
      or_false, forall_eq]
    generalize instrAt P _ = oi
    generalize nextPos P _ = p'
    cases oi <;> dsimp only
    case none => exact ⟨fun _ => ⟨rfl, fun _ hs' => nomatch hs'⟩, fun h2 => absurd h2 (by decide)⟩
    case some ins =>
      have hk := kProtoOp_spec h P.reentrant t ins
      generalize kProtoOp P.reentrant k t ins = kr at hk ⊢
      generalize protoOp P.reentrant s.lk t ins = pr at hk ⊢
      -- `Agrees` refutes every pair of a key outcome and a state outcome that do not match; of
      -- the rest, `error` / `fail` make `thr` 0, `none` / `blocked` make it 1 with no step to take
      cases kr <;> rcases pr with _ | _ | lk' | _ <;> (try exact hk.elim) <;> dsimp only
      case ok.some.ok k' =>
        cases hb : succOk (keyWidth n) C k' t p'
        · exact ⟨no, fun h2 => absurd h2 (by decide)⟩
        · refine ⟨fun _ => ⟨beq_eq_false_iff_ne.2 nofun, fun s' hs' => ?_⟩, fun _ => rfl⟩
          cases hs'; exact succOk_spec (s := ⟨lk', s.pos⟩) hk hC htn hb
      all_goals first
        | exact ⟨no, fun h2 => absurd h2 (by decide)⟩
        | exact ⟨fun _ => ⟨rfl, fun _ hs' => nomatch hs'⟩, fun h2 => absurd h2 (by decide)⟩

theorem tally_eq (thr : Nat → Phase → Nat) (k : Nat) : ∀ (n t : Nat), tally thr k t n =
    ⟨allIdx (fun u p => Nat.beq (encPhase p) (fieldAt k (Nat.add 13 u)) && Nat.ble 1 (thr u p)) t
        (posFrom k (Nat.add 13 t) n),
     (posFrom k (Nat.add 13 t) n).countP isWBody, (posFrom k (Nat.add 13 t) n).countP isBody,
     anyIdx (fun u p => Nat.ble 2 (thr u p)) t (posFrom k (Nat.add 13 t) n),
     (posFrom k (Nat.add 13 t) n).all isOut⟩
  | 0, _ => rfl
  | n + 1, t => by
    rw [tally, force_eq, tally_eq thr k n,
      show Nat.add 13 (Nat.add t 1) = Nat.add (Nat.add 13 t) 1 from rfl]
    simp only [posFrom, allIdx, anyIdx, List.countP_cons, List.all_cons, Tally.mk.injEq,
      Bool.and_assoc, true_and]
    generalize decPhase _ = p
    constructor <;> cases p <;> try rename_i w <;> cases w
    all_goals simp [b2n, isWBody, isBody, Nat.add_comm]

theorem kFree_spec {n k : Nat} (h : kFree k = true) : (pdecodeK n k).lk.free = true := by
  have hz : ∀ d, d = 0 → decInt d = 0 := fun d e => e ▸ rfl
  simp only [kFree, Bool.and_eq_true, Nat.beq_eq] at h
  simp [Locks.free, pdecodeK, h, hz]

theorem fastKey_sound (hC : Cert.Sorted (keyWidth n) C) {k : Nat} (h : fastKey P C n k = true) :
    pcheckKey P C n k = true := by
  simp only [fastKey, Tally.good, tally_eq, Bool.and_eq_true, Nat.beq_eq, Nat.blt_eq, Nat.ble_eq,
    Bool.not_eq_true', allIdx_iff, Nat.zero_add, show Nat.add 13 0 = 13 from rfl] at h
  obtain ⟨⟨h0, hk⟩, ⟨⟨hok, hex⟩, hlk⟩, hdl⟩ := h
  have hkey := IsKey.decode h0 hk fun j p hj => (hok j p hj).1
  have hthr := fun j p (hj : (posFrom k 13 n)[j]? = some p) =>
    let ⟨h1, h2⟩ := thr_spec (P := P) hkey hC hj
    (⟨h1 (hok j p hj).2, h2⟩ : _ ∧ _)
  have hbad : pbad P (pdecodeK n k) = false := by
    rw [pbad, Bool.or_eq_false_iff, Bool.or_eq_false_iff]
    refine ⟨⟨hex, Bool.eq_false_iff.2 fun he => ?_⟩, ?_⟩
    · obtain ⟨j, p, hj, he⟩ := (anyIdx_iff _ _ _).1 he
      rw [Nat.zero_add, (hthr j p hj).1.1] at he; cases he
    · rw [pleaked, ← show isOut = (· == Phase.out) from funext fun p => by cases p <;> rfl]
      cases hf : kFree k
      · rw [hf, Bool.not_false, Bool.and_true] at hlk
        rw [show (pdecodeK n k).pos = posFrom k 13 n from rfl, hlk]; rfl
      · rw [kFree_spec hf]; exact Bool.and_false _
  have hdead : pdeadlocked P (pdecodeK n k) = false := by
    rw [pdeadlocked]
    rcases Bool.or_eq_true _ _ ▸ hdl with ho | hm
    · rw [show (pdecodeK n k).pos.any (· != .out) = false from
        List.any_eq_false.2 fun p hp => by
          have := List.all_eq_true.1 ho p hp
          cases p <;> simp_all [isOut]]
      rfl
    · obtain ⟨j, p, hj, hm⟩ := (anyIdx_iff _ _ _).1 hm
      refine Bool.and_eq_false_imp.2 fun _ => Bool.eq_false_iff.2 fun ha => ?_
      have := (allIdx_iff _ _ _).1 ha j p hj
      rw [Nat.zero_add] at hm this
      rw [(hthr j p hj).2 (Nat.ble_eq.mp hm)] at this; cases this
  rw [pcheckKey, pcheckState, hbad, hdead]
  refine (allIdx_iff _ _ _).2 fun j p hj => List.all_eq_true.2 fun lab hlab => ?_
  rw [Nat.zero_add]
  cases hs : pstep P (pdecodeK n k) j lab with
  | none => rfl
  | some s' => exact (hthr j p hj).1.2 lab hlab s' hs

theorem allBelow_iff (g : Nat → Bool) : ∀ (m : Nat), allBelow g m = true ↔ ∀ i, i < m → g i = true
  | 0 => by simp [allBelow]
  | m + 1 => by
    rw [allBelow, Bool.and_eq_true, allBelow_iff g m]
    exact ⟨fun ⟨h0, h⟩ i hi => (Nat.lt_succ_iff_lt_or_eq.1 hi).elim (h i) (· ▸ h0),
      fun h => ⟨h m (Nat.lt_succ_self m), fun i hi => h i (Nat.lt_succ_of_lt hi)⟩⟩

theorem sorted_spec {W : Nat} {C : Cert} (h : Cert.sorted W C = true) : Cert.Sorted W C := by
  simp only [Cert.sorted, leafOk, linkOk, Bool.and_eq_true, allBelow_iff, Nat.blt_eq,
    Nat.ble_eq] at h
  exact ⟨fun i hi => h.1 i hi, fun i hi => h.2 i (Nat.lt_sub_of_add_lt hi)⟩

theorem fastCert_sound {P : Protocol} {C : Cert} {n : Nat} (h : fastCert P C n = true) :
    pcheckCert P C n = true := by
  simp only [fastCert, Bool.and_eq_true, allBelow_iff] at h
  obtain ⟨⟨hi, hs⟩, ha⟩ := h
  rw [pcheckCert, hi, Bool.true_and, Cert.all, List.all_eq_true]
  intro l hl
  obtain ⟨i, hi, rfl⟩ := mem_leafAt C l hl
  exact (leafAll_iff _ _ _ _).2 fun j hj =>
    fastKey_sound (sorted_spec hs) ((leafAll_iff _ _ _ _).1 (ha i hi) j hj)

end MongoModel.RWLock
