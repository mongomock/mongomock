/-
  Proofs.C03Docs — `$unwind`, `$lookup` and `$addFields` / `$set` work document by document: each
  handler is read as a function of ONE document, mapped over the input (`Forall₂` input / output).
-/
import Proofs.C03Basic

namespace MongoModel.Pipe.Proofs
open MongoModel MongoModel.Pipe

/-- the items of an array are unwound one by one, each with its position -/
theorem unwindItems_eq_mapR (o : UnwindOpts) (d : Val) : ∀ (i : Nat) (xs : List Val),
    unwindItems o d i xs = mapR (fun xi => unwindItem o d (some xi.2) xi.1) (xs.zipIdx i)
  | _, [] => rfl
  | i, x :: xs => by
    rw [unwindItems, List.zipIdx_cons, mapR, unwindItems_eq_mapR o d (i + 1) xs]
    cases unwindItem o d (some i) x with
    | error e => rfl
    | ok nd => cases mapR (fun xi => unwindItem o d (some xi.2) xi.1) (xs.zipIdx (i + 1)) <;> rfl

/-- an empty array under `preserveNullAndEmptyArrays`: the field is deleted, the document kept -/
theorem unwindDoc_empty_keep (o : UnwindOpts) (d : Val) (hg : getByDot d o.path = .ok (.arr []))
    (hp : o.preserve = true) :
    unwindDoc o d = (match delByDot d o.path with
      | .error e => .error e
      | .ok nd => (preserved o nd).map (fun nd' => [nd'])) := by
  unfold unwindDoc; rw [hg]; simp only [hp, if_true]
  cases delByDot d o.path <;> rfl

theorem preserved_none (path : String) (pres : Bool) (d : Val) :
    preserved ⟨path, pres, none⟩ d = .ok d := rfl

theorem preserved_some (path : String) (pres : Bool) (ix : String) (fs : Fields) :
    preserved ⟨path, pres, some ix⟩ (.doc fs) = .ok (.doc (nestedSet fs (splitDots ix) .null)) := rfl

/-- what `find(filter)` answers is a sub-list of the collection, in its order: exactly the
    documents the matcher accepts -/
theorem findDocs_sub {f : Val} {docs ms : List Val} (h : findDocs f docs = .ok ms) :
    ms.Sublist docs ∧ ∀ x, x ∈ ms ↔ x ∈ docs ∧ filterApplies (patch f) x = .ok true := by
  cases docs with
  | nil =>
    simp only [findDocs] at h
    split at h <;> cases h
    simp
  | cons a as => exact filterR_sub h

theorem lookupStage_ok (db : Db) (o : Fields) (docs out : List Val)
    (h : lookupStage db (.doc o) docs = .ok out) :
    ∃ fr lf ff as, lookupArg o "from" = .ok fr ∧ lookupArg o "localField" = .ok lf ∧
      lookupArg o "foreignField" = .ok ff ∧ lookupArg o "as" = .ok as ∧
      List.Forall₂ (fun d r => lookupDoc (db.get fr) lf ff as d = .ok r) docs out := by
  rw [lookupStage] at h
  replace h := (of_ite_left_ne h nofun).2
  split at h
  next fr lf ff as h1 h2 h3 h4 =>
    exact ⟨fr, lf, ff, as, h1, h2, h3, h4,
      mapR_ok_iff.1 (of_ite_left_ne (of_ite_left_ne h nofun).2 nofun).2⟩
  · cases h

/-- each output is the input with `as` set to the foreign documents `find({foreignField: q})`
    selects, in stored form -/
theorem lookupDoc_ok (foreign : List Val) (lf ff as : String) (d r : Val)
    (h : lookupDoc foreign lf ff as d = .ok r) :
    ∃ fs q ms, d = .doc fs ∧ lookupQuery fs lf = .ok q ∧
      findDocs (.doc [(ff, q)]) foreign = .ok ms ∧ r = .doc (dset as (.arr (patchList ms)) fs) := by
  cases d with
  | doc fs =>
    rw [lookupDoc] at h
    split at h
    · cases h
    next q hq =>
    split at h
    · cases h
    next ms hf => cases h; exact ⟨fs, q, ms, rfl, hq, hf, rfl⟩
  | _ => cases h

/-- what the stage does to ONE document: every field of the specification in order -/
def afDoc : Fields → AfState → R AfState
  | [], s => .ok s
  | (f, e) :: rest, s =>
    match afStep f e s with
    | .error err => .error err
    | .ok s' => afDoc rest s'

def addFieldsDoc (fs : Fields) (d : Val) : R Val :=
  match afInit d with
  | .error e => .error e
  | .ok s =>
    match afDoc fs s with
    | .error e => .error e
    | .ok s' => .ok (.doc s'.outD)

theorem forall₂_trans {α β γ} {R : α → β → Prop} {S : β → γ → Prop} {T : α → γ → Prop}
    (h : ∀ a b c, R a b → S b c → T a c) {xs ys zs} (h1 : List.Forall₂ R xs ys)
    (h2 : List.Forall₂ S ys zs) : List.Forall₂ T xs zs := by
  induction h1 generalizing zs with
  | nil => cases h2; exact .nil
  | cons r _ ih => cases h2 with | cons s t => exact .cons (h _ _ _ r s) (ih t)

/-- the code loops field-major; on every state the result is that of the document-major loop -/
theorem afFields_ok : ∀ (fs : Fields) (st st' : List AfState), afFields fs st = .ok st' →
    List.Forall₂ (fun s s' => afDoc fs s = .ok s') st st'
  | [], st, st', h => by cases h; exact List.forall₂_same.2 fun _ _ => rfl
  | (f, e) :: rest, st, st', h => by
    unfold afFields at h
    split at h
    · cases h
    next mid hm =>
    exact forall₂_trans (fun s m s' h1 h2 => by rw [afDoc, h1]; exact h2)
      (mapR_ok_iff.1 hm) (afFields_ok rest mid st' h)

/-- the stage rewrites each document independently: output `i` is `addFieldsDoc` of input `i` -/
theorem addFieldsStage_ok (fs : Fields) (docs out : List Val)
    (h : addFieldsStage (.doc fs) docs = .ok out) :
    List.Forall₂ (fun d r => addFieldsDoc fs d = .ok r) docs out := by
  cases fs with
  | nil => cases h
  | cons kv rest =>
    simp only [addFieldsStage] at h
    split at h
    · cases h
    next st hi =>
    split at h
    · cases h
    next st' hf =>
    cases h
    exact List.forall₂_map_right_iff.2 <|
      forall₂_trans (fun d s s' h1 h2 => by simp only [addFieldsDoc, h1, h2])
        (mapR_ok_iff.1 hi) (afFields_ok _ _ _ hf)

end MongoModel.Pipe.Proofs
