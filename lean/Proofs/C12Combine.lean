/-
  Proofs.C12Combine — what `_combine_projection_spec` builds from a collision-free flat
  specification: a tree that represents the set of paths (`Rep`).
-/
import Proofs.C12Sub

namespace MongoModel.Proofs.C12
open MongoModel MongoModel.Spec.Proj

/-- no path is a prefix of (or equal to) another -/
def NoColl (ps : List Path) : Prop := ps.Pairwise (fun p q => ¬ p <+: q ∧ ¬ q <+: p)

/-- the tree `cs` represents the set of paths `ps` -/
inductive Rep : PSpec → List Path → Prop
  | mk (cs : PSpec) (ps : List Path)
      (hnone : ∀ k, tget k cs = none → tailsOf k ps = [])
      (hleaf : ∀ k v, tget k cs = some (.leaf v) → [] ∈ tailsOf k ps)
      (hnode1 : ∀ k sub, tget k cs = some (.node sub) → [] ∉ tailsOf k ps)
      (hnode2 : ∀ k sub, tget k cs = some (.node sub) → tailsOf k ps ≠ [])
      (hnode3 : ∀ k sub, tget k cs = some (.node sub) → Rep sub (tailsOf k ps)) : Rep cs ps

/-- what the tree holds under the key `k`, read off the remainders of the paths through `k` -/
theorem Rep.at {cs : PSpec} {ps : List Path} (h : Rep cs ps) (k : String) :
    match tget k cs with
    | none => tailsOf k ps = []
    | some (.leaf _) => [] ∈ tailsOf k ps
    | some (.node sub) => [] ∉ tailsOf k ps ∧ tailsOf k ps ≠ [] ∧ Rep sub (tailsOf k ps) := by
  obtain ⟨_, _, h0, hl, h1, h2, h3⟩ := h
  rcases ht : tget k cs with _ | ⟨v | sub⟩
  · exact h0 k ht
  · exact hl k v ht
  · exact ⟨h1 k sub ht, h2 k sub ht, h3 k sub ht⟩

theorem Rep.of_at {cs : PSpec} {ps : List Path}
    (h : ∀ k, match tget k cs with
      | none => tailsOf k ps = []
      | some (.leaf _) => [] ∈ tailsOf k ps
      | some (.node sub) => [] ∉ tailsOf k ps ∧ tailsOf k ps ≠ [] ∧ Rep sub (tailsOf k ps)) :
    Rep cs ps := by
  refine ⟨cs, ps, fun k ht => ?_, fun k v ht => ?_, fun k sub ht => ?_, fun k sub ht => ?_,
    fun k sub ht => ?_⟩ <;> have := h k <;> rw [ht] at this
  · exact this
  · exact this
  · exact this.1
  · exact this.2.1
  · exact this.2.2

def tailsItems (k : String) (items : Items) : Items :=
  items.filterMap (fun it => match it.1 with
    | h :: t => if h = k then some (t, it.2) else none
    | [] => none)

theorem tailsItems_paths (k : String) (items : Items) :
    (tailsItems k items).map (·.1) = tailsOf k (items.map (·.1)) := by
  induction items with
  | nil => rfl
  | cons it r ih =>
    obtain ⟨p, v⟩ := it
    cases p with
    | nil => simpa [tailsItems, tailsOf] using ih
    | cons h t =>
      by_cases e : h = k
      · simpa [tailsItems, tailsOf, e] using ih
      · simpa [tailsItems, tailsOf, e] using ih

theorem tailsItems_snoc (k f : String) (done : Items) (t : List String) (v : Val) :
    tailsItems k (done ++ [(f :: t, v)]) =
      if f = k then tailsItems k done ++ [(t, v)] else tailsItems k done := by
  by_cases e : f = k <;> simp [tailsItems, e]

theorem mem_tailsItems {k : String} {items : Items} {t : List String} {v : Val} :
    (t, v) ∈ tailsItems k items ↔ (k :: t, v) ∈ items := by
  simp only [tailsItems, List.mem_filterMap]
  constructor
  · rintro ⟨⟨p, v'⟩, hm, h⟩
    cases p with
    | nil => simp at h
    | cons h' t' =>
      simp only at h
      split at h
      · next e => cases h; subst e; exact hm
      · cases h
  · intro hm
    exact ⟨(k :: t, v), hm, by simp⟩

theorem sget_sset_same (f : String) (s : Slot) : ∀ acc : Slots, sget f (sset f s acc) = some s
  | [] => by simp [sset, sget]
  | (k', s') :: r => by
    by_cases e : k' = f
    · simp [sset, sget, e]
    · simp [sset, sget, e, sget_sset_same f s r]

theorem sget_sset_other {k f : String} (s : Slot) (hk : k ≠ f) :
    ∀ acc : Slots, sget k (sset f s acc) = sget k acc
  | [] => by simp [sset, sget, Ne.symm hk]
  | (k', s') :: r => by
    by_cases e : k' = f
    · subst e; simp [sset, sget, Ne.symm hk]
    · by_cases e2 : k' = k
      · subst e2; simp [sset, sget, e]
      · simp [sset, sget, e, e2, sget_sset_other s hk r]

theorem sset_absent {f : String} (s : Slot) : ∀ {acc : Slots}, sget f acc = none →
    sset f s acc = acc ++ [(f, s)]
  | [], _ => rfl
  | (k', s') :: r, h => by
    simp only [sget] at h
    split at h
    · cases h
    · next e => simp only [sset, e, if_false, sset_absent s h, List.cons_append]

theorem keys_sset (f : String) (s : Slot) : ∀ acc : Slots,
    (sset f s acc).map (·.1) = if (sget f acc).isSome then acc.map (·.1) else acc.map (·.1) ++ [f]
  | [] => by simp [sset, sget]
  | (k', s') :: r => by
    by_cases e : k' = f
    · simp [sset, sget, e]
    · simp only [sset, sget, e, if_false, List.map_cons, keys_sset f s r]
      split <;> simp

theorem sget_none_not_mem {f : String} : ∀ {acc : Slots}, sget f acc = none → f ∉ acc.map (·.1)
  | [], _ => by simp
  | (k', s') :: r, h => by
    simp only [sget] at h
    split at h
    · cases h
    · next e =>
      simp only [List.map_cons, List.mem_cons, not_or]
      exact ⟨fun e' => e e'.symm, sget_none_not_mem h⟩

theorem sget_of_mem {f : String} {s : Slot} : ∀ {acc : Slots},
    (acc.map (·.1)).Nodup → (f, s) ∈ acc → sget f acc = some s
  | [], _, h => by simp at h
  | (k', s') :: r, hn, h => by
    simp only [List.map_cons, List.nodup_cons] at hn
    rcases List.mem_cons.mp h with e | h
    · cases e; simp [sget]
    · have : k' ≠ f := by
        intro e; subst e
        exact hn.1 (List.mem_map.mpr ⟨(k', s), h, rfl⟩)
      simp [sget, this, sget_of_mem hn.2 h]

theorem sget_mem {f : String} {s : Slot} : ∀ {acc : Slots}, sget f acc = some s → (f, s) ∈ acc
  | [], h => by simp [sget] at h
  | (k', s') :: r, h => by
    simp only [sget] at h
    split at h
    · next e => cases h; subst e; simp
    · exact List.mem_cons_of_mem _ (sget_mem h)

/-- the state of the first loop after the items `done` -/
structure Inv (acc : Slots) (done : Items) : Prop where
  nodup : (acc.map (·.1)).Nodup
  none : ∀ k, sget k acc = none → tailsItems k done = []
  leaf : ∀ k v, sget k acc = some (.leaf v) → tailsItems k done = [([], v)]
  sub : ∀ k its, sget k acc = some (.sub its) →
    its = tailsItems k done ∧ its ≠ [] ∧ ∀ it ∈ its, it.1 ≠ []

theorem inv_nil : Inv [] [] :=
  ⟨by simp, fun _ _ => rfl, fun _ _ h => by simp [sget] at h, fun _ _ h => by simp [sget] at h⟩

theorem nodup_sset {f : String} {s : Slot} {acc : Slots} (h : (acc.map (·.1)).Nodup) :
    ((sset f s acc).map (·.1)).Nodup := by
  rw [keys_sset]
  split
  · exact h
  · next hs =>
    have : sget f acc = none := by
      cases hx : sget f acc with
      | none => rfl
      | some _ => simp [hx] at hs
    exact List.nodup_append.mpr ⟨h, by simp, by
      intro a ha b hb; simp at hb; subst hb
      exact fun e => sget_none_not_mem this (e ▸ ha)⟩

/-- what a slot says about the remainders collected under its key -/
def Holds : Slot → Items → Prop
  | .leaf v, its => its = [([], v)]
  | .sub s, its => s = its ∧ s ≠ [] ∧ ∀ it ∈ s, it.1 ≠ []

theorem inv_holds {acc : Slots} {done : Items} (hI : Inv acc done) {k : String} {s : Slot}
    (hs : sget k acc = some s) : Holds s (tailsItems k done) := by
  cases s with
  | leaf v => exact hI.leaf k v hs
  | sub its => exact hI.sub k its hs

theorem inv_sget_none {acc : Slots} {done : Items} (hI : Inv acc done) {k : String}
    (h : tailsItems k done = []) : sget k acc = none := by
  cases hs : sget k acc with
  | none => rfl
  | some s =>
    have := inv_holds hI hs
    rw [h] at this
    cases s with
    | leaf v => cases this
    | sub its => exact absurd this.1 this.2.1

/-- the loop step writes the slot of the first component: the invariant moves on when that slot
    holds the remainders collected so far and the new one -/
theorem inv_sset {acc : Slots} {done : Items} (hI : Inv acc done) {f : String} {t : List String}
    {v : Val} {s : Slot} (hs : Holds s (tailsItems f done ++ [(t, v)])) :
    Inv (sset f s acc) (done ++ [(f :: t, v)]) := by
  have key : ∀ k s', sget k (MongoModel.sset f s acc) = some s' →
      Holds s' (tailsItems k (done ++ [(f :: t, v)])) := by
    intro k s' hk
    rw [tailsItems_snoc]
    by_cases e : k = f
    · subst e
      rw [sget_sset_same] at hk; cases hk
      rwa [if_pos rfl]
    · rw [sget_sset_other _ e] at hk
      rw [if_neg (Ne.symm e)]
      exact inv_holds hI hk
  refine ⟨nodup_sset hI.nodup, fun k hk => ?_, fun k v' hk => key k _ hk, fun k its hk => key k _ hk⟩
  rw [tailsItems_snoc]
  by_cases e : k = f
  · subst e; rw [sget_sset_same] at hk; cases hk
  · rw [sget_sset_other _ e] at hk
    rw [if_neg (Ne.symm e)]
    exact hI.none k hk

theorem step_inv {agg : Bool} {acc : Slots} {done : Items} {p : List String} {v : Val}
    (hI : Inv acc done) (hp : p ≠ [])
    (hc : ∀ q ∈ done.map (·.1), ¬ p <+: q ∧ ¬ q <+: p) :
    ∃ acc', combineStep agg acc (p, v) = .ok acc' ∧ Inv acc' (done ++ [(p, v)]) := by
  match p, hp with
  | [f], _ =>
    -- a plain key: nothing with this head may have been seen
    have hempty : tailsItems f done = [] := by
      apply List.eq_nil_iff_forall_not_mem.mpr
      rintro ⟨t, w⟩ hm
      exact (hc (f :: t) (List.mem_map.mpr ⟨_, mem_tailsItems.mp hm, rfl⟩)).1 (by simp)
    refine ⟨sset f (.leaf v) acc, by simp [combineStep, inv_sget_none hI hempty], inv_sset hI ?_⟩
    rw [hempty]; rfl
  | f :: g :: r, _ =>
    -- a dotted key: the bare base field may not have been seen
    have hnoleaf : ∀ w, ([], w) ∉ tailsItems f done := fun w hm =>
      (hc [f] (List.mem_map.mpr ⟨_, mem_tailsItems.mp hm, rfl⟩)).2 (by simp)
    cases hs : sget f acc with
    | none =>
      refine ⟨sset f (.sub [(g :: r, v)]) acc, by simp [combineStep, hs, sset_absent _ hs],
        inv_sset hI ?_⟩
      rw [hI.none f hs]
      exact ⟨rfl, by simp, by simp⟩
    | some s =>
      have hh := inv_holds hI hs
      cases s with
      | leaf v' => exact absurd (hh ▸ List.mem_singleton.mpr rfl) (hnoleaf v')
      | sub its =>
        refine ⟨sset f (.sub (its ++ [(g :: r, v)])) acc, by simp [combineStep, hs], inv_sset hI ?_⟩
        refine ⟨by rw [hh.1], by simp, fun it hit => ?_⟩
        rcases List.mem_append.mp hit with h | h
        · exact hh.2.2 it (hh.1 ▸ h)
        · simp at h; subst h; simp

theorem loop_inv (agg : Bool) : ∀ (rest : Items) (acc : Slots) (done : Items), Inv acc done →
    (∀ it ∈ rest, it.1 ≠ []) → NoColl ((done ++ rest).map (·.1)) →
    ∃ acc', combineLoop agg acc rest = .ok acc' ∧ Inv acc' (done ++ rest)
  | [], acc, done, hI, _, _ => ⟨acc, rfl, by simpa using hI⟩
  | (p, v) :: rest, acc, done, hI, hne, hc => by
    have hc' : ∀ q ∈ done.map (·.1), ¬ p <+: q ∧ ¬ q <+: p := by
      unfold NoColl at hc
      rw [List.map_append, List.pairwise_append] at hc
      intro q hq
      have := hc.2.2 q hq p (by simp)
      exact ⟨this.2, this.1⟩
    obtain ⟨acc1, h1, hI1⟩ := step_inv (agg := agg) (v := v) hI (hne (p, v) (by simp)) hc'
    obtain ⟨acc', h2, hI2⟩ := loop_inv agg rest acc1 (done ++ [(p, v)]) hI1
      (fun it h => hne it (by simp [h])) (by simpa using hc)
    exact ⟨acc', by simp [combineLoop, h1, bind, Except.bind, h2], by simpa using hI2⟩

/-- the second loop turns every slot into the entry of the tree under the same key -/
theorem finish_ok (rec : Items → R PSpec) : ∀ slots : Slots,
    (∀ f its, (f, Slot.sub its) ∈ slots → ∃ s, rec its = .ok s) →
    ∃ cs, finishSlots rec slots = .ok cs ∧ ∀ k,
      match sget k slots with
      | none => tget k cs = none
      | some (.leaf v) => tget k cs = some (.leaf v)
      | some (.sub its) => ∃ s, rec its = .ok s ∧ tget k cs = some (.node s)
  | [], _ => ⟨[], rfl, fun _ => rfl⟩
  | (f, slot) :: r, h => by
    obtain ⟨cs, h0, h1⟩ := finish_ok rec r (fun f' its hm => h f' its (List.mem_cons_of_mem _ hm))
    have step : ∀ t, (match slot with
        | .leaf v => t = .leaf v
        | .sub its => ∃ s, rec its = .ok s ∧ t = .node s) →
        ∀ k, match sget k ((f, slot) :: r) with
          | none => tget k ((f, t) :: cs) = none
          | some (.leaf v) => tget k ((f, t) :: cs) = some (.leaf v)
          | some (.sub its) => ∃ s, rec its = .ok s ∧ tget k ((f, t) :: cs) = some (.node s) := by
      intro t ht k
      by_cases e : f = k
      · simp only [sget, tget, e, if_true]
        cases slot with
        | leaf v => exact congrArg some ht
        | sub its => obtain ⟨s, hs, rfl⟩ := ht; exact ⟨s, hs, rfl⟩
      · simp only [sget, tget, e, if_false]
        exact h1 k
    cases slot with
    | leaf v => exact ⟨_, by simp only [finishSlots, h0]; rfl, step _ rfl⟩
    | sub its =>
      obtain ⟨s, hs⟩ := h f its List.mem_cons_self
      exact ⟨_, by simp only [finishSlots, hs, h0]; rfl, step _ ⟨s, hs, rfl⟩⟩

theorem le_maxLen : ∀ {items : Items} {it : List String × Val}, it ∈ items →
    it.1.length ≤ maxLen items
  | (p, v) :: r, it, h => by
    rcases List.mem_cons.mp h with rfl | h
    · exact Nat.le_max_left _ _
    · exact Nat.le_trans (le_maxLen h) (Nat.le_max_right _ _)

theorem maxLen_le {n : Nat} : ∀ {items : Items}, (∀ it ∈ items, it.1.length ≤ n) →
    maxLen items ≤ n
  | [], _ => Nat.zero_le n
  | (p, v) :: _, h => Nat.max_le.mpr ⟨h (p, v) List.mem_cons_self,
      maxLen_le fun it hm => h it (List.mem_cons_of_mem _ hm)⟩

theorem noColl_tailsOf {ps : List Path} (k : String) (h : NoColl ps) : NoColl (tailsOf k ps) := by
  unfold NoColl tailsOf at *
  rw [List.pairwise_filterMap]
  refine h.imp ?_
  intro p q hpq b hb b' hb'
  cases p with
  | nil => simp at hb
  | cons hp tp =>
    cases q with
    | nil => simp at hb'
    | cons hq tq =>
      simp only at hb hb'
      split at hb
      · next e1 =>
        split at hb'
        · next e2 =>
          cases hb; cases hb'; subst e1; subst e2
          exact ⟨fun hh => hpq.1 (by simpa using hh), fun hh => hpq.2 (by simpa using hh)⟩
        · cases hb'
      · cases hb

/-- **what `_combine_projection_spec` builds**: on a collision-free specification it succeeds
    and the tree represents exactly the given set of paths.  The fuel is the length of the
    longest path plus one (what `combineSpec` passes): a call spends one unit and recurses on
    the remainders, each one component shorter (`hgroup`). -/
theorem combine_rep (agg : Bool) : ∀ (n : Nat) (items : Items), maxLen items ≤ n →
    (∀ it ∈ items, it.1 ≠ []) → NoColl (items.map (·.1)) →
    ∃ cs, combine agg (n + 1) items = .ok cs ∧ Rep cs (items.map (·.1)) := by
  intro n
  induction n using Nat.strongRecOn with
  | ind n ih =>
    intro items hlen hne hc
    obtain ⟨slots, hloop, hI⟩ := loop_inv agg items [] [] inv_nil hne (by simpa using hc)
    simp only [List.nil_append] at hI
    -- every collected group is a smaller, collision-free specification
    have hgroup : ∀ f its, (f, Slot.sub its) ∈ slots →
        ∃ m, n = m + 1 ∧ maxLen its ≤ m ∧ (∀ it ∈ its, it.1 ≠ []) ∧
          NoColl (its.map (·.1)) ∧ its = tailsItems f items := by
      intro f its hm
      have hs := sget_of_mem hI.nodup hm
      obtain ⟨he, hne', hall⟩ := hI.sub f its hs
      have hbound : ∀ it ∈ its, it.1.length + 1 ≤ n := by
        intro it hit
        obtain ⟨t, v⟩ := it
        rw [he] at hit
        have := le_maxLen (mem_tailsItems.mp hit)
        simp at this ⊢; omega
      obtain ⟨it0, hit0⟩ := List.exists_mem_of_ne_nil _ hne'
      have h0 := hbound it0 hit0
      have h0' : it0.1.length ≠ 0 := by
        intro e; exact hall it0 hit0 (List.length_eq_zero_iff.mp e)
      refine ⟨n - 1, by omega, maxLen_le (fun it hit => by have := hbound it hit; omega), hall,
        ?_, he⟩
      rw [he, tailsItems_paths]
      exact noColl_tailsOf f hc
    obtain ⟨cs, hfin, hcs⟩ := finish_ok (combine agg n) slots (by
      intro f its hm
      obtain ⟨m, hn, hl, hne', hc', _⟩ := hgroup f its hm
      subst hn
      obtain ⟨s, hs, _⟩ := ih m (by omega) its hl hne' hc'
      exact ⟨s, hs⟩)
    refine ⟨cs, by simp [combine, hloop, bind, Except.bind, hfin], Rep.of_at fun k => ?_⟩
    have := hcs k
    rw [← tailsItems_paths]
    rcases hs : sget k slots with _ | ⟨v | its⟩ <;> rw [hs] at this
    · rw [this, hI.none k hs]; rfl
    · rw [this, hI.leaf k v hs]; exact List.mem_singleton.mpr rfl
    · obtain ⟨s, hrec, ht⟩ := this
      obtain ⟨m, hn, hl, hne', hc', he⟩ := hgroup k its (sget_mem hs)
      subst hn
      obtain ⟨s', hs', hrep⟩ := ih m (by omega) its hl hne' hc'
      rw [hrec] at hs'; cases hs'
      obtain ⟨_, hne'', hall⟩ := hI.sub k its hs
      rw [ht, ← he]
      exact ⟨fun hm => let ⟨it, hit, e⟩ := List.mem_map.mp hm; hall it hit e,
        fun e => hne'' (List.map_eq_nil_iff.mp e), hrep⟩

end MongoModel.Proofs.C12
