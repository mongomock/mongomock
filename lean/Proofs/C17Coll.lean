/-
  Proofs.C17Coll — Python dicts as association lists, and one collection: the handle operations
  of the model against the oracle's.
-/
import Spec.CatalogDomain

namespace MongoModel.Proofs.C17
open MongoModel MongoModel.Catalog MongoModel.Spec.Catalog

section AL
variable {α : Type} [DecidableEq α] {β : Type}

theorem alGet?_upsert (k k' : α) (v : β) (l : List (α × β)) :
    alGet? k' (alUpsert k v l) = if k' = k then some v else alGet? k' l := by
  induction l with
  | nil =>
    by_cases h : k' = k
    · subst h; simp [alUpsert, alGet?]
    · have h' : ¬ k = k' := fun e => h e.symm
      simp [alUpsert, alGet?, h, h']
  | cons p r ih =>
    obtain ⟨a, b⟩ := p
    by_cases hak : a = k
    · subst hak
      by_cases h : k' = a
      · subst h; simp [alUpsert, alGet?]
      · have h' : ¬ a = k' := fun e => h e.symm
        simp [alUpsert, alGet?, h, h']
    · simp only [alUpsert, hak, if_false, alGet?]
      by_cases hak' : a = k'
      · subst hak'; simp [hak]
      · simp [hak', ih]

theorem alGet?_erase (k k' : α) (l : List (α × β)) :
    alGet? k' (alErase k l) = if k' = k then none else alGet? k' l := by
  induction l with
  | nil => simp [alErase, alGet?]
  | cons p r ih =>
    obtain ⟨a, b⟩ := p
    by_cases hak : a = k
    · subst hak
      by_cases h : k' = a
      · subst h; simp [alErase, ih]
      · have h' : ¬ a = k' := fun e => h e.symm
        simp [alErase, alGet?, ih, h, h']
    · simp only [alErase, hak, if_false, alGet?]
      by_cases hak' : a = k'
      · subst hak'; simp [hak]
      · simp [hak', ih]

theorem alGet?_isSome_iff (k : α) (l : List (α × β)) :
    (alGet? k l).isSome = true ↔ k ∈ alKeys l := by
  induction l with
  | nil => exact ⟨nofun, nofun⟩
  | cons p r ih =>
    unfold alGet? alKeys
    rw [List.map_cons, List.mem_cons]
    by_cases h : p.1 = k
    · rw [if_pos h]; exact ⟨fun _ => Or.inl h.symm, fun _ => rfl⟩
    · rw [if_neg h]; exact ih.trans ⟨Or.inr, fun o => o.resolve_left (Ne.symm h)⟩

theorem alGet?_mem {k : α} {v : β} {l : List (α × β)} (h : alGet? k l = some v) : (k, v) ∈ l := by
  induction l with
  | nil => simp [alGet?] at h
  | cons p r ih =>
    obtain ⟨a, b⟩ := p
    by_cases hk : a = k
    · simp [alGet?, hk] at h; subst hk; subst h; simp
    · simp [alGet?, hk] at h; exact List.mem_cons_of_mem _ (ih h)

theorem alGet?_of_mem {k : α} {v : β} {l : List (α × β)} (hn : (alKeys l).Nodup)
    (h : (k, v) ∈ l) : alGet? k l = some v := by
  induction l with
  | nil => simp at h
  | cons p r ih =>
    obtain ⟨a, b⟩ := p
    simp only [alKeys, List.map_cons, List.nodup_cons] at hn
    rcases List.mem_cons.mp h with h | h
    · cases h; simp [alGet?]
    · have hk : k ∈ r.map (·.1) := List.mem_map.mpr ⟨(k, v), h, rfl⟩
      have : a ≠ k := fun e => hn.1 (e ▸ hk)
      simp [alGet?, this, ih hn.2 h]

theorem alKeys_upsert (k : α) (v : β) (l : List (α × β)) :
    alKeys (alUpsert k v l) = if k ∈ alKeys l then alKeys l else alKeys l ++ [k] := by
  induction l with
  | nil => rfl
  | cons p r ih =>
    unfold alUpsert
    by_cases h : p.1 = k
    · rw [if_pos h, if_pos (h ▸ List.mem_cons_self)]
      exact congrArg (· :: alKeys r) h.symm
    · rw [if_neg h]
      show p.1 :: alKeys (alUpsert k v r) = if k ∈ p.1 :: alKeys r then _ else _
      rw [ih]
      by_cases hk : k ∈ alKeys r
      · rw [if_pos hk, if_pos (List.mem_cons_of_mem _ hk)]; rfl
      · rw [if_neg hk, if_neg fun hm => (List.mem_cons.mp hm).elim (fun e => h e.symm) hk]
        rfl

theorem nodup_upsert (k : α) (v : β) (l : List (α × β)) (h : (alKeys l).Nodup) :
    (alKeys (alUpsert k v l)).Nodup := by
  rw [alKeys_upsert]
  split
  · exact h
  · rename_i hk
    exact List.nodup_append.mpr ⟨h, by simp, by
      intro a ha b hb; simp at hb; subst hb; intro e; exact hk (e ▸ ha)⟩

theorem alErase_eq_filter (k : α) (l : List (α × β)) :
    alErase k l = l.filter (fun p => p.1 ≠ k) := by
  induction l with
  | nil => rfl
  | cons p r ih =>
    obtain ⟨a, b⟩ := p
    by_cases h : a = k <;> simp [alErase, h, ih]

theorem alKeys_erase (k : α) (l : List (α × β)) :
    alKeys (alErase k l) = (alKeys l).filter (· ≠ k) := by
  rw [alErase_eq_filter]; simp [alKeys, List.filter_map]; rfl

theorem nodup_erase (k : α) (l : List (α × β)) (h : (alKeys l).Nodup) :
    (alKeys (alErase k l)).Nodup := by
  rw [alKeys_erase]; exact h.filter _

theorem nodup_filter (p : α × β → Bool) (l : List (α × β)) (h : (alKeys l).Nodup) :
    (alKeys (l.filter p)).Nodup := by
  unfold alKeys at *
  exact h.sublist ((List.filter_sublist (l := l)).map _)

theorem alGet?_filter_key (q : α → Bool) (k : α) (l : List (α × β)) :
    alGet? k (l.filter (fun p => q p.1)) = if q k then alGet? k l else none := by
  induction l with
  | nil => simp [alGet?]
  | cons p r ih =>
    obtain ⟨a, b⟩ := p
    by_cases hq : q a = true
    · by_cases h : a = k
      · subst h; simp [List.filter, hq, alGet?]
      · simp [List.filter, hq, alGet?, h, ih]
    · by_cases h : a = k
      · subst h; simp [List.filter, hq, ih]
      · simp [List.filter, hq, alGet?, h, ih]

theorem alGet?_mapVal (f : α → β → β) (k : α) (l : List (α × β)) :
    alGet? k (l.map (fun p => (p.1, f p.1 p.2))) = (alGet? k l).map (f k) := by
  induction l with
  | nil => simp [alGet?]
  | cons p r ih =>
    obtain ⟨a, b⟩ := p
    by_cases h : a = k
    · subst h; simp [alGet?]
    · simp [alGet?, h, ih]

theorem alKeys_mapVal (f : α → β → β) (l : List (α × β)) :
    alKeys (l.map (fun p => (p.1, f p.1 p.2))) = alKeys l := by
  simp [alKeys, List.map_map]

end AL

theorem alUpsert_ne_nil {α β : Type} [DecidableEq α] (k : α) (v : β) (l : List (α × β)) :
    alUpsert k v l ≠ [] := by
  cases l with
  | nil => simp [alUpsert]
  | cons p r => obtain ⟨a, b⟩ := p; simp only [alUpsert]; split <;> simp

theorem isCreated_false_iff (c : Coll) : c.isCreated = false ↔ c = Coll.empty := by
  obtain ⟨docs, idx, f⟩ := c
  simp [Coll.isCreated, Coll.empty, and_assoc]

theorem toS_isSome (c : Coll) : (toS c).isSome = c.isCreated := by
  unfold toS; split <;> simp [*]

theorem recorded_cases {c : Coll} (h : c.recorded = true) :
    c.forceCreated = true ∨ c = Coll.empty := by
  obtain ⟨docs, idx, f⟩ := c
  cases f
  · exact Or.inr (by simpa [Coll.recorded, Coll.empty] using h)
  · exact Or.inl rfl

theorem recorded_of_flag {c : Coll} (h : c.forceCreated = true) : c.recorded = true := by
  simp [Coll.recorded, h]

theorem isCreated_of_flag {c : Coll} (h : c.forceCreated = true) : c.isCreated = true := by
  simp [Coll.isCreated, h]

/-- where existence is recorded, `is_created` is the flag -/
theorem isCreated_eq_flag {c : Coll} (h : c.recorded = true) : c.isCreated = c.forceCreated := by
  rcases recorded_cases h with hf | he
  · rw [isCreated_of_flag hf, hf]
  · subst he; rfl

theorem toS_flag (docs : List Nat) (idx : List (String × IndexInfo)) :
    toS ⟨docs, idx, true⟩ = some ⟨docs, idx⟩ := by
  simp [toS, Coll.isCreated]

/-- the model's and the oracle's operation run the same test: it suffices to compare branch by
    branch -/
theorem collOp_ite {c : Prop} [Decidable c] {a b : Coll × Out} {a' b' : Option SColl × Out}
    (ha : a.1.forceCreated = true ∧ toS a.1 = a'.1 ∧ a.2 = a'.2)
    (hb : b.1.forceCreated = true ∧ toS b.1 = b'.1 ∧ b.2 = b'.2) :
    (if c then a else b).1.forceCreated = true ∧
    toS (if c then a else b).1 = (if c then a' else b').1 ∧
    (if c then a else b).2 = (if c then a' else b').2 := by
  by_cases h : c
  · rw [if_pos h, if_pos h]; exact ha
  · rw [if_neg h, if_neg h]; exact hb

/-- on a store whose flag is set, a handle operation other than `drop` leaves the flag set and
    does to documents and indexes what the oracle's does to an existing collection, with the
    same output -/
theorem collOp_flagged (o : CollOp) (hd : o.isDrop = false) (docs : List Nat)
    (idx : List (String × IndexInfo)) :
    (collOp o ⟨docs, idx, true⟩).1.forceCreated = true ∧
    toS (collOp o ⟨docs, idx, true⟩).1 = (scollOp o (some ⟨docs, idx⟩)).1 ∧
    (collOp o ⟨docs, idx, true⟩).2 = (scollOp o (some ⟨docs, idx⟩)).2 := by
  cases o with
  | drop => cases hd
  | indexInformation => exact ⟨rfl, toS_flag _ _, by simp [collOp, scollOp, Coll.isCreated]⟩
  | insert id => exact collOp_ite ⟨rfl, toS_flag _ _, rfl⟩ ⟨rfl, toS_flag _ _, rfl⟩
  | deleteOne id => exact collOp_ite ⟨rfl, toS_flag _ _, rfl⟩ ⟨rfl, toS_flag _ _, rfl⟩
  | createIndex nm info =>
    simp only [collOp, scollOp]
    cases alGet? (nm.getD (genIndexName info.key)) idx with
    | none => exact ⟨rfl, toS_flag _ _, rfl⟩
    | some ex => exact collOp_ite ⟨rfl, toS_flag _ _, rfl⟩ ⟨rfl, toS_flag _ _, rfl⟩
  | dropIndex r => exact collOp_ite ⟨rfl, toS_flag _ _, rfl⟩ ⟨rfl, toS_flag _ _, rfl⟩
  | _ => exact ⟨rfl, toS_flag _ _, rfl⟩

/-- no handle operation but `drop` ever resets the flag -/
theorem collOp_flag (o : CollOp) (c : Coll) (hd : o.isDrop = false)
    (hf : c.forceCreated = true) : (collOp o c).1.forceCreated = true := by
  obtain ⟨docs, idx, f⟩ := c
  cases hf
  exact (collOp_flagged o hd docs idx).1

/-- on a store in which existence is recorded, a handle operation keeps it recorded and acts on
    the abstraction exactly as the oracle says, with the same output: nothing but `drop` makes
    the collection vanish -/
theorem collOp_refines (o : CollOp) (c : Coll) (h : c.recorded = true) :
    (collOp o c).1.recorded = true ∧
    toS (collOp o c).1 = (scollOp o (toS c)).1 ∧ (collOp o c).2 = (scollOp o (toS c)).2 := by
  rcases recorded_cases h with hf | rfl
  · cases hd : o.isDrop
    · obtain ⟨docs, idx, f⟩ := c
      cases hf
      rw [toS_flag]
      exact ⟨recorded_of_flag (collOp_flagged o hd docs idx).1, (collOp_flagged o hd docs idx).2⟩
    · cases o with
      | drop => cases toS c <;> exact ⟨rfl, rfl, rfl⟩
      | _ => cases hd
  · cases o <;> exact ⟨rfl, rfl, rfl⟩

end MongoModel.Proofs.C17
