/-
  Proofs.C20Tables — the theorems about the REGENERATED tables (lean/Generated/*.lean), decided
  by kernel evaluation over the whole finite table.  They are re-checked on every run against
  the working tree of /repo.
-/
import Proofs.C20
import Generated.Tables
import Generated.Vocab
import Generated.Options
import Generated.Sites

namespace MongoModel.Proofs.C20
open MongoModel.Vocab

/-- the numerals used for the names the model compares with literally are those names -/
theorem enc_consts :
    enc "$comment" = cComment ∧ enc "$expr" = cExpr ∧ enc "$not" = cNot ∧ enc "$all" = cAll ∧
    enc "$exists" = cExists ∧ enc "$ne" = cNe ∧ enc "$nin" = cNin ∧ enc "$each" = cEach ∧
    enc "$toInt" = cToInt ∧ enc "$toLong" = cToLong ∧ enc "$toDecimal" = cToDecimal ∧
    isOp (enc "$") = true := by
  decide +kernel

/-- The code tables are the string tables read off the source, encoded.  Every row of the
    vocabulary table: string = code, class = classification, observed = modelled, every observed
    `ignored` is a listed known finding.  Every row of the site table: class = classification;
    observed = modelled for the dispatcher, or raises; every observed `ignored` is a listed known
    finding; every refusal was tried again on an empty collection, and the refusals that are not
    repeated there are at the listed sites (`lazy-empty:<site>`).
    One evaluation for the three: the names of the code tables and those probed at the sites are
    names of the vocabulary, and the kernel encodes and classifies a name once. -/
theorem tables_rows_site_rows_ok :
    (Generated.rows.all (Row.okF Generated.tables Generated.knownIgnoredPairs) &&
      decide (Generated.tables = Generated.tablesS.map enc) &&
      Generated.siteRows.all (SiteRow.okF Generated.tables Generated.knownIgnoredSitePairs
        Generated.knownLazyEmptySites)) = true := by
  decide +kernel

theorem tables_encoded : Generated.tables = Generated.tablesS.map enc :=
  of_decide_eq_true (Bool.and_eq_true_iff.mp (Bool.and_eq_true_iff.mp tables_rows_site_rows_ok).1).2

theorem rows_ok :
    Generated.rows.all (Row.okF Generated.tables Generated.knownIgnoredPairs) = true :=
  (Bool.and_eq_true_iff.mp (Bool.and_eq_true_iff.mp tables_rows_site_rows_ok).1).1

theorem site_rows_ok :
    Generated.siteRows.all (SiteRow.okF Generated.tables Generated.knownIgnoredSitePairs
      Generated.knownLazyEmptySites) = true :=
  (Bool.and_eq_true_iff.mp tables_rows_site_rows_ok).2

/-- the list of ignored names, by name: `$ne` and `$nin` in a condition whose path reaches no
    value -/
theorem known_ignored_pairs_named :
    Generated.knownIgnoredPairs.all (fun p =>
      decide (p.1 = .queryFieldDeadEnd) && (p.2 == cNe || p.2 == cNin)) = true := by
  decide +kernel

/-- the structure over the REGENERATED tables: the pre-check of an update lets through only
    what the operator loop has a branch for -/
theorem update_precheck_within_loop_tbl :
    Generated.tables.updateChecked.all (fun k =>
      Generated.tables.updaters.contains k || Generated.tables.updateInline.contains k) = true := by
  decide +kernel

/-- … and the pre-check of the accumulators (`_validate_accumulators`) only what
    `_accumulate_group` has a branch for -/
theorem accumulator_precheck_within_loop_tbl :
    Generated.tables.groupChecked.all (fun k =>
      Generated.tables.groupingMap.contains k || Generated.tables.groupInline.contains k) = true := by
  decide +kernel

/-- … and `LOGICAL_OPERATOR_MAP` has no constant connective but `$not` -/
theorem logical_const_is_not_tbl :
    Generated.tables.logicalConst.all (fun k => k == cNot) = true := by
  decide +kernel

/-- over the regenerated tables the dispatch structure ignores NO name but `$ne` / `$nin` in a
    condition whose path reaches no value — for every name, probed or not -/
theorem generated_dispatch_ignores_only_ne_nin (pos : Position) (k : Code)
    (h : dispatch Generated.tables pos k = .ignored) :
    pos = .queryFieldDeadEnd ∧ (k = cNe ∨ k = cNin) := by
  rcases ignored_only_structurally Generated.tables pos k h with h1 | h1 | h1 | h1
  · have := List.all_eq_true.mp logical_const_is_not_tbl k h1.1
    exact absurd (by simpa using this) h1.2.2.1
  · exact h1
  · have := List.all_eq_true.mp update_precheck_within_loop_tbl k h1.2.1
    simp only [Bool.or_eq_true, List.contains_eq_mem, decide_eq_true_eq] at this
    rcases this with h2 | h2
    · exact absurd h2 h1.2.2.1
    · exact absurd h2 h1.2.2.2
  · have := List.all_eq_true.mp accumulator_precheck_within_loop_tbl k h1.2.1
    simp only [Bool.or_eq_true, List.contains_eq_mem, decide_eq_true_eq] at this
    rcases this with h2 | h2
    · exact absurd h2 h1.2.2.1
    · exact absurd h2 h1.2.2.2

/-- the full statement fails on the table: some entry is observed `ignored` -/
theorem some_entry_ignored :
    Generated.vocab.any (fun e => decide (e.disp = .ignored)) = true := by
  decide +kernel

/-- the family of the helper that site `i` hands its names to -/
def siteFamily (i : Nat) : Option Family := (Generated.sites[i]?).map (·.family)

/-- the listed sites are expression parts of stages, or a filter (`restrictSearchWithMatch`):
    no accumulator-name site, no sub-pipeline -/
theorem lazy_empty_families_tbl :
    Generated.knownLazyEmptySites.all (fun i =>
      siteFamily i == some .expr || siteFamily i == some .query) = true := by
  decide +kernel

/-- the full statement fails on the table: some refusal is not repeated on an empty collection -/
theorem some_site_silent_on_empty :
    Generated.siteVocab.any (fun e => e.disp.raises && decide (e.onEmpty = .silent)) = true := by
  decide +kernel

/-- non-vacuity of the accumulator part: refusals at accumulator-name sites, repeated on an empty
    collection -/
theorem some_accumulator_refused_on_empty :
    Generated.siteVocab.any (fun e => siteFamily e.site == some .accumulator && e.disp.raises &&
      decide (e.onEmpty = .raises)) = true := by
  decide +kernel

theorem every_site_has_a_refusal :
    (List.range Generated.sites.length).all (fun i =>
      Generated.siteVocab.any (fun e => e.site == i && e.disp.raises)) = true := by
  decide +kernel

/-- the three checks of an entry of the option matrix: a relevant option that is not opted out
    is refused or listed; outside the list an ignorable option is accepted exactly when opted
    out; an opt-out is honoured (no list) -/
def optOk (known : List (Nat × Opt)) (e : OptEntry) : Bool :=
  (e.optedOut || !e.relevant || decide (e.disp ≠ .accepted) || known.contains e.key) &&
  (!e.option.ignorable || decide (e.disp = .raisesOther) ||
    ((known.contains e.key || (decide (e.disp = .accepted) == e.optedOut)) &&
      (!e.optedOut || decide (e.disp = .accepted))))

theorem options_ok : Generated.options.all (optOk Generated.knownSilent) = true := by
  decide +kernel

theorem options_loud (e : OptEntry) (he : e ∈ Generated.options) (h1 : e.optedOut = false)
    (h2 : e.relevant = true) (h3 : e.disp = .accepted) : e.key ∈ Generated.knownSilent := by
  have := (Bool.and_eq_true_iff.mp (List.all_eq_true.mp options_ok e he)).1
  simpa [h1, h2, h3] using this

theorem some_option_silent :
    Generated.options.any (fun e => !e.optedOut && e.relevant && decide (e.disp = .accepted))
      = true := by
  decide +kernel

def pairLoud (known : List (Nat × Opt)) (e : OptPair) : Bool :=
  !e.relevant || decide (e.disp ≠ .accepted) || known.contains e.key

theorem options_pairs_tbl :
    Generated.optionPairs.all (pairLoud Generated.knownSilent) = true := by
  decide +kernel

theorem some_pair_rejected :
    Generated.optionPairs.any (fun e => e.relevant && e.aOptedOut &&
      decide (e.disp = .raisesNotImplemented)) = true := by
  decide +kernel

/-- the table does contain opted-out options that are let through -/
theorem some_optout_effective :
    Generated.options.any (fun e => e.option.ignorable && e.optedOut &&
      decide (e.disp = .accepted)) = true := by
  decide +kernel

/-- the full equivalence fails in one direction: an ignorable option that is accepted
    although the caller has not opted out (`find(collation=…)`) -/
theorem some_ignorable_silent :
    Generated.options.any (fun e => e.option.ignorable && !e.optedOut &&
      decide (e.disp = .accepted)) = true := by
  decide +kernel

theorem some_ignorable_loud :
    Generated.options.any (fun e => e.option.ignorable && !e.optedOut &&
      !Generated.knownSilent.contains e.key && decide (e.disp = .raisesNotImplemented)) = true := by
  decide +kernel

/-- the list of silently dropped options, by name: `Collection.find(collation)` -/
theorem known_silent_named :
    Generated.knownSilent.all (fun k =>
      decide (Generated.methods[k.1]? = some ("Collection", "find")) && decide (k.2 = .collation))
      = true := by
  decide +kernel

theorem known_silent_is_find_collation (k : Nat × Opt) (hk : k ∈ Generated.knownSilent) :
    Generated.methods[k.1]? = some ("Collection", "find") ∧ k.2 = .collation := by
  have := List.all_eq_true.mp known_silent_named k hk
  simpa using this

end MongoModel.Proofs.C20
