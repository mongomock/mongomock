/-
  Proofs.C06Ensure — what a successful `_ensure_uniques` guarantees: for every unique index, the
  look-up for the new document selects at most one of the documents left.
-/
import Proofs.C06Bridge

namespace MongoModel.Proofs.C06Lemmas
open MongoModel MongoModel.Spec
open MongoModel.Proofs.C05Lemmas (ensureStep ensureStep_ok ensureUniques_eq
  iterDocuments_ok loss_iter)

/-- the filter says `True` (and does not raise) -/
def isTrue : R Bool → Bool
  | .ok true => true
  | _ => false

/-- number of documents a filter selects -/
def hits (f : Val) (docs : List (Val × Val)) : Nat :=
  (docs.filter (fun p => isTrue (filterApplies f p.2))).length

theorem hits_sublist {f : Val} {l l' : List (Val × Val)} (h : l'.Sublist l) : hits f l' ≤ hits f l :=
  (h.filter _).length_le

/-- the scan returns the documents it selects -/
theorem filterMapM_hits (f : Val) : ∀ (docs : List (Val × Val)) (ms : List Val),
    docs.filterMapM (fun p => do
      let b ← filterApplies f p.2
      pure (if b then some p.2 else none)) = Except.ok ms → ms.length = hits f docs
  | [], ms, h => by cases h; rfl
  | p :: l, ms, h => by
    rw [List.filterMapM_cons] at h
    obtain ⟨o, ho, h⟩ := bind_ok h
    obtain ⟨b, hb, ho⟩ := bind_ok ho
    cases ho
    unfold hits
    rw [List.filter_cons, hb]
    cases b
    · exact filterMapM_hits f l ms h
    · obtain ⟨ms', hm, h⟩ := bind_ok h
      cases h
      exact congrArg (· + 1) (filterMapM_hits f l ms' hm)

theorem iter_hits {now : Int} {c c' : Coll} {f : Val} {ms : List Val}
    (h : iterDocuments now c f = .ok (c', ms)) : ms.length = hits f c'.docs :=
  filterMapM_hits f _ _ (iterDocuments_ok h).2

/-- what the check of one index leaves behind -/
def Checked (new : Val) (ix : Index) (docs : List (Val × Val)) : Prop :=
  ix.unique = true → ∀ kw, valuesFor ix.keys new = .ok kw →
    (ix.sparse && kw.all isNullCond) = false →
    hits (queryOf ix kw) docs ≤ 1

theorem Checked.sublist {new : Val} {ix : Index} {l l' : List (Val × Val)} (h : Checked new ix l)
    (hs : l'.Sublist l) : Checked new ix l' :=
  fun hu kw hv hk => Nat.le_trans (hits_sublist hs) (h hu kw hv hk)

theorem ensureFold_ok {now : Int} {new : Val} : ∀ (l : List Index) {c c' : Coll},
    l.foldlM (ensureStep now new) c = .ok c' →
    c'.docs.Sublist c.docs ∧ ∀ ix ∈ l, Checked new ix c'.docs
  | [], c, c', h => by cases h; exact ⟨.refl _, fun ix hix => by cases hix⟩
  | ix :: l, c, c', h => by
    rw [List.foldlM_cons] at h
    obtain ⟨c1, hs, h⟩ := bind_ok h
    obtain ⟨s2, k2⟩ := ensureFold_ok l h
    have k1 : c1.docs.Sublist c.docs ∧ Checked new ix c1.docs := by
      rcases ensureStep_ok hs with ⟨hu, rfl⟩ | ⟨kw, _, hv, ⟨hsk, rfl⟩ | ⟨_, ms, hi, hl⟩⟩
      · exact ⟨.refl _, fun hu' => by rw [hu] at hu'; cases hu'⟩
      · refine ⟨.refl _, fun _ kw' hv' hk' => ?_⟩
        rw [hv] at hv'; cases hv'
        rw [hsk] at hk'; cases hk'
      · refine ⟨(loss_iter hi).1, fun _ kw' hv' _ => ?_⟩
        rw [hv] at hv'; cases hv'
        rw [← iter_hits hi]; exact hl
    refine ⟨s2.trans k1.1, fun ix' hix' => ?_⟩
    rcases List.mem_cons.1 hix' with rfl | hm
    · exact k1.2.sublist s2
    · exact k2 ix' hm

theorem ensureUniques_ok {now : Int} {new : Val} {c c' : Coll}
    (h : ensureUniques now c new = .ok c') : ∀ ix ∈ c.indexes, Checked new ix c'.docs :=
  (ensureFold_ok _ (ensureUniques_eq now c new ▸ h)).2

end MongoModel.Proofs.C06Lemmas
