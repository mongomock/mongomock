/-
  Proofs.C10ExtInsert — `inserted_id(s)` are exactly the `_id`s of the appended documents.
-/
import Mathlib.Data.List.Forall2
import Spec.CountsExt
import Proofs.C10
import Proofs.C05
import Proofs.C09Ops

namespace MongoModel.Proofs.C10Ext
open MongoModel MongoModel.Spec
open MongoModel.Proofs.C10Lemmas MongoModel.Proofs.C09Lemmas MongoModel.Proofs.C05Lemmas

theorem insertCore_appends (now : Int) (c0 : Coll) (fs1 : Fields) (c' : Coll) (id : Val)
    (hn : c0.ttlIndexes = []) (hid : dhas "_id" fs1 = true)
    (h : insertCore now c0 fs1 = .ok (c', id)) :
    c'.docs = c0.docs ++ [(id, patchDT (.doc fs1))] ∧ idOf (patchDT (.doc fs1)) = some id ∧
      c'.ttlIndexes = [] ∧ c0.hasKey id = false := by
  obtain ⟨h1, h2, h3⟩ := insertCore_fresh now c0 fs1 c' id hn hid h
  refine ⟨h3, by rw [C18.patchDT_doc]; exact h1, ?_, h2⟩
  obtain ⟨_, _, c1, he, _, hu⟩ := insertCore_spec now c0 fs1 c' id hid h
  rw [expire_nil now c0 hn] at he
  cases he
  have := ensureUniques_noTtl now _ _ c' (by rw [storeDoc_ttlIndexes, setDoc_ttl]; exact hn) hu
  rw [this, storeDoc_ttlIndexes, setDoc_ttl]
  exact hn

theorem insertDoc_appends (now : Int) (c c' : Coll) (d id : Val) (hn : c.ttlIndexes = [])
    (h : insertDoc now c d = .ok (c', id)) :
    c'.docs = c.docs ++ [(id, storedForm d id)] ∧ idOf (storedForm d id) = some id ∧
      c'.ttlIndexes = [] ∧ c.hasKey id = false := by
  cases d with
  | doc fs =>
    rw [C05Lemmas.insertDoc_eq] at h
    by_cases hh : dhas "_id" fs = true
    · rw [if_pos hh] at h
      have := insertCore_appends now c fs c' id hn hh h
      simpa only [storedForm, hh, if_true] using this
    · rw [if_neg hh] at h
      have hh' : dhas "_id" (dset "_id" (.oid c.nextOid) fs) = true := by
        simp [dhas, dget_dset_same]
      obtain ⟨h1, _, _⟩ := insertCore_fresh now { c with nextOid := c.nextOid + 1 } _ c' id hn hh' h
      rw [C18.dget_patchFields, dget_dset_same] at h1
      simp [patchDT, patch] at h1
      subst h1
      obtain ⟨g1, g2, g3, g4⟩ := insertCore_appends now { c with nextOid := c.nextOid + 1 } _ c' _ hn hh' h
      simp only [storedForm, hh, Bool.false_eq_true, if_false]
      exact ⟨g1, g2, g3, g4⟩
  | _ => simp [insertDoc] at h

theorem insert_one_id (cfg : Cfg) (now : Int) (c c' : Coll) (d out : Val) (hn : c.ttlIndexes = [])
    (h : stepColl cfg now c (.arr [.str "insert_one", d]) = (c', .val out)) :
    c'.docs = c.docs ++ [(out, storedForm d out)] ∧ idOf (storedForm d out) = some out ∧
      c.hasKey out = false := by
  rw [step_insert_one] at h
  cases d with
  | doc fs =>
    dsimp only at h
    cases hins : insertDoc now c (.doc fs) with
    | error e => rw [hins] at h; cases h
    | ok r =>
      obtain ⟨c2, id⟩ := r
      rw [hins] at h
      cases h
      obtain ⟨h1, h2, _, h4⟩ := insertDoc_appends now c c' (.doc fs) out hn hins
      exact ⟨h1, h2, h4⟩
  | _ => cases h

/-- once a write error was collected the batch cannot answer a value -/
theorem loop_errs_noval (now : Int) (ordered : Bool) :
    ∀ (ds : List Val) (idx : Nat) (c : Coll) (ids errs : List Val) (n : Nat) (c' : Coll) (out : Val),
      errs ≠ [] → insertManyLoop now ordered ds idx c ids errs n ≠ (c', .val out) := by
  intro ds
  induction ds with
  | nil =>
    intro idx c ids errs n c' out hne h
    simp only [insertManyLoop, insertManyDone] at h
    cases errs with
    | nil => exact hne rfl
    | cons e es => simp at h
  | cons d rest ih =>
    intro idx c ids errs n c' out hne h
    rw [insertManyLoop_cons] at h
    cases hins : insertDoc now c d with
    | ok r =>
      obtain ⟨c2, id⟩ := r
      rw [hins] at h
      exact ih _ _ _ _ _ _ _ hne h
    | error e =>
      rw [hins] at h
      dsimp only at h
      split at h
      · split at h
        · simp only [insertManyDone] at h
          split at h
          · rename_i hemp
            simp at hemp
          · cases h
        · exact ih _ _ _ _ _ _ _ (by simp) h
      · cases h

theorem insert_many_loop (now : Int) (ordered : Bool) :
    ∀ (ds : List Val) (idx : Nat) (c : Coll) (ids : List Val) (n : Nat) (c' : Coll) (out : Val),
      c.ttlIndexes = [] →
      insertManyLoop now ordered ds idx c ids [] n = (c', .val out) →
      ∃ new, c'.docs = c.docs ++ new ∧ out = .arr (ids ++ new.map (·.1)) ∧
        List.Forall₂ (fun d (p : Val × Val) => p.2 = storedForm d p.1 ∧ idOf p.2 = some p.1) ds new := by
  intro ds
  induction ds with
  | nil =>
    intro idx c ids n c' out _ h
    simp only [insertManyLoop, insertManyDone, List.isEmpty_nil, if_true, Prod.mk.injEq,
      Out.val.injEq] at h
    obtain ⟨rfl, rfl⟩ := h
    exact ⟨[], by simp, by simp, .nil⟩
  | cons d rest ih =>
    intro idx c ids n c' out hn h
    rw [insertManyLoop_cons] at h
    cases hins : insertDoc now c d with
    | ok r =>
      obtain ⟨c2, id⟩ := r
      rw [hins] at h
      dsimp only at h
      obtain ⟨h1, h2, h3, _⟩ := insertDoc_appends now c c2 d id hn hins
      obtain ⟨new, g1, g2, g3⟩ := ih _ _ _ _ _ _ h3 h
      refine ⟨(id, storedForm d id) :: new, ?_, ?_, .cons ⟨rfl, h2⟩ g3⟩
      · rw [g1, h1]; simp
      · rw [g2]; simp
    | error e =>
      exfalso
      rw [hins] at h
      dsimp only at h
      split at h
      · split at h
        · simp [insertManyDone] at h
        · exact loop_errs_noval now ordered _ _ _ _ _ _ _ _ (by simp) h
      · cases h

theorem insert_many_ids (cfg : Cfg) (now : Int) (c c' : Coll) (ds : List Val) (ordered out : Val)
    (hn : c.ttlIndexes = [])
    (h : stepColl cfg now c (.arr [.str "insert_many", .arr ds, ordered]) = (c', .val out)) :
    ∃ new, c'.docs = c.docs ++ new ∧ out = .arr (new.map (·.1)) ∧
      List.Forall₂ (fun d (p : Val × Val) => p.2 = storedForm d p.1 ∧ idOf p.2 = some p.1) ds new := by
  rw [step_insert_many] at h
  split at h
  · cases h
  · split at h
    · cases h
    · obtain ⟨new, h1, h2, h3⟩ := insert_many_loop now (boolOf ordered) ds 0 c [] 0 c' out hn h
      exact ⟨new, h1, by simpa using h2, h3⟩

end MongoModel.Proofs.C10Ext
