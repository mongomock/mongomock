/-
  Proofs.C03ExtStage — every stage the extended oracle speaks about, pipelines of them, `$facet`.
-/
import Proofs.C03ExtFields
import Proofs.C03ExtBucket

namespace MongoModel.Pipe.Proofs
open MongoModel MongoModel.Pipe MongoModel.Spec MongoModel.Spec.Pipe

theorem stageX_eq_spec (db : Db) (op : String) (opts : Val) (docs s : List Val)
    (hD : stageReasonsX db op opts docs = []) (hs : specStageX db op opts docs = some s) :
    simpleStage db op opts docs = .ok s := by
  unfold stageReasonsX at hD
  unfold specStageX at hs
  by_cases h1 : op = "$group"
  · rw [if_pos h1] at hD hs
    subst h1
    simpa only [simpleStage, String.reduceEq, if_false, if_true]
      using group_eq_spec_sorted opts docs s hD hs
  rw [if_neg h1] at hD hs
  by_cases h2 : op = "$lookup"
  · rw [if_pos h2] at hD hs
    subst h2
    simpa only [simpleStage, String.reduceEq, if_false, if_true]
      using lookup_eq_spec db opts docs s hD hs
  rw [if_neg h2] at hD hs
  by_cases h3 : (op = "$addFields" || op = "$set") = true
  · rw [if_pos h3] at hD hs
    have := addFields_eq_spec opts docs s hD hs
    rcases Bool.or_eq_true _ _ ▸ h3 with h | h <;> cases of_decide_eq_true h <;>
      simpa only [simpleStage, String.reduceEq, if_false, if_true, Bool.or_true, Bool.or_false,
        decide_true, decide_false, Bool.true_or, Bool.false_or] using this
  rw [if_neg h3] at hD hs
  by_cases h4 : op = "$replaceRoot"
  · rw [if_pos h4] at hD hs
    subst h4
    simpa only [simpleStage, String.reduceEq, if_false, if_true, Bool.or_self, decide_false,
      Bool.false_eq_true] using replaceRoot_eq_spec opts docs s hD hs
  rw [if_neg h4] at hD hs
  by_cases h5 : op = "$bucket"
  · rw [if_pos h5] at hD hs
    subst h5
    simpa only [simpleStage, String.reduceEq, if_false, if_true, Bool.or_self, decide_false,
      Bool.false_eq_true] using bucket_eq_spec opts docs s hD hs
  rw [if_neg h5] at hD hs
  exact stage_eq_spec db op opts docs s hD hs

theorem specStageX_not_facet (db : Db) (opts : Val) (docs : List Val) :
    specStageX db "$facet" opts docs = none := by
  simp [specStageX, specStage]

theorem pipelineX_eq_spec (db : Db) : ∀ (p : List Val) (docs s : List Val),
    pipelineReasonsX db p docs = [] → specPipelineX db p docs = some s →
    runPipeline db p docs = .ok s
  | [], docs, s, _, hs => by cases hs; rfl
  | st :: rest, docs, s, hD, hs => by
    -- the oracle speaks about one-operator stage documents only
    rcases st with _ | _ | _ | _ | _ | _ | _ | (_ | ⟨⟨op, opts⟩, _ | _⟩) | _ <;> try cases hs
    obtain ⟨out, hst, hs⟩ := Option.bind_eq_some_iff.mp hs
    simp only [pipelineReasonsX, hst, List.append_eq_nil_iff] at hD
    have hne : op ≠ "$facet" := by
      intro h; subst h; rw [specStageX_not_facet] at hst; cases hst
    simp only [runPipeline, runStage_single, runOp_simple db op opts docs hne,
      stageX_eq_spec db op opts docs out hD.1 hst]
    exact pipelineX_eq_spec db rest out s hD.2 hs

theorem facetBranches_eq_spec (db : Db) : ∀ (gs : Fields) (docs : List Val) (fs : Fields),
    facetReasons db gs docs = [] → specFacet db gs docs = some fs →
    facetBranches db gs docs = .ok fs
  | [], docs, fs, _, hs => by simp [specFacet] at hs; subst hs; rfl
  | (name, v) :: rest, docs, fs, hD, hs => by
    cases v with
    | arr p =>
      simp only [facetReasons, List.append_eq_nil_iff] at hD
      simp only [specFacet] at hs
      cases hp : specPipelineX db p docs with
      | none => simp [hp] at hs
      | some out =>
        cases hr : specFacet db rest docs with
        | none => simp [hp, hr] at hs
        | some r =>
          simp only [hp, hr, Option.some.injEq] at hs
          subst hs
          simp only [facetBranches, pipelineX_eq_spec db p docs out hD.1 hp,
            facetBranches_eq_spec db rest docs r hD.2 hr]
    | _ => simp [specFacet] at hs

theorem facet_eq_spec (db : Db) (gs : Fields) (docs : List Val) (fs : Fields)
    (hD : facetReasons db gs docs = []) (hs : specFacet db gs docs = some fs) :
    runOp db "$facet" (.doc gs) docs = .ok [.doc fs] := by
  simp only [runOp, if_true, facetBranches_eq_spec db gs docs fs hD hs]

end MongoModel.Pipe.Proofs
