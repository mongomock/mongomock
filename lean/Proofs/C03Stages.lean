/-
  Proofs.C03Stages — `$match`, `$sort`, `$skip`, `$limit`, `$count`: agreement with the find path,
  conservation laws, and the three argument-checked handlers written in the oracle's reading of
  their argument (`Spec.Pipe.sliceCount`, `Spec.Pipe.countName`).
-/
import Proofs.C03Group
import Props.C11
import Spec.Counts
import Spec.Pipeline

namespace MongoModel.Pipe.Proofs
open MongoModel MongoModel.Pipe MongoModel.Proofs.C11 MongoModel.Spec.Pipe

/-- an accepted `$match` is the plain filter (on an empty input: the empty list) -/
theorem matchStage_filterR {f : Val} {docs out : List Val} (h : matchStage f docs = .ok out) :
    filterR (fun d => filterApplies (patch f) (patch d)) docs = .ok out := by
  cases docs with
  | nil =>
    simp only [matchStage] at h
    split at h <;> cases h
    rfl
  | cons d ds => exact h

/-- on stored (already normalised) documents `$match` runs the very test `find` runs — also on
    an empty collection, where both validate the filter against `{}` -/
theorem matchStage_eq_findDocs (f : Val) (docs : List Val) (hn : ∀ d ∈ docs, patch d = d) :
    matchStage f docs = findDocs f docs := by
  cases docs with
  | nil => rfl
  | cons d ds => exact filterR_congr _ fun x hx => by rw [hn x hx]

/-- `Spec.selectDocs` (the selection C10 relates every entry point to) over (key, document)
    pairs is `findDocs` over the documents -/
theorem selectDocs_eq_filterR (f : Val) : ∀ (ps : List (Val × Val)),
    (Spec.selectDocs f ps).map (fun l => l.map (·.2)) = filterR (filterApplies f) (ps.map (·.2))
  | [] => rfl
  | p :: ps => by
    rw [List.map_cons, filterR, ← selectDocs_eq_filterR f ps, Spec.selectDocs]
    cases filterApplies f p.2 with
    | error e => rfl
    | ok b =>
      cases Spec.selectDocs f ps with
      | error e => rfl
      | ok more => cases b <;> rfl

theorem sortFields_int (spec : SortSpec) (docs : List Val) :
    sortFields (spec.map (fun kd => (kd.1, Val.int kd.2))) docs = aggSort spec docs := by
  induction spec with
  | nil => rfl
  | cons kd rest ih =>
    simp only [List.map_cons, sortFields, aggSort, sortRounds] at ih ⊢
    rw [ih]
    cases sortRounds (fun kd ds => sortedByKey kd.1 (decide (kd.2 < 0)) ds) rest docs <;> rfl

theorem sortFields_perm : ∀ (fs : Fields) (docs out : List Val),
    sortFields fs docs = .ok out → out.Perm docs
  | [], docs, out, h => by cases h; exact .refl _
  | (k, dir) :: rest, docs, out, h => by
    unfold sortFields at h
    split at h
    · cases h
    next ds hr =>
    split at h
    · cases h
    · exact (sortedByKey_perm _ _ _ _ h).trans (sortFields_perm rest docs ds hr)

/-! ### `$skip`, `$limit`, `$count`: the handler is what the oracle's reading of the argument says -/

/-- the count the handlers read is the count the rules read: an integer, or a double that holds
    a whole number -/
theorem stageCount_eq_spec (v : Val) : stageCount v = sliceCount v := by
  cases v <;> rfl

theorem skipStage_eq (o : Val) (docs : List Val) :
    skipStage o docs =
      (match sliceCount o with
       | some n => if 0 ≤ n then .ok (docs.drop n.toNat) else .error .opFail
       | none => .error .opFail) := by
  rw [skipStage, stageCount_eq_spec]
  cases sliceCount o with
  | none => rfl
  | some n => by_cases hn : 0 ≤ n <;> simp [hn, Int.not_lt.mpr, Int.not_le.mp]

theorem limitStage_eq (o : Val) (docs : List Val) :
    limitStage o docs =
      (match sliceCount o with
       | some n => if 0 < n then .ok (docs.take n.toNat) else .error .opFail
       | none => .error .opFail) := by
  rw [limitStage, stageCount_eq_spec]
  cases sliceCount o with
  | none => rfl
  | some n => by_cases hn : 0 < n <;> simp [hn, Int.not_lt.mp, Int.not_le.mpr]

theorem countStage_eq (s : String) (docs : List Val) :
    countStage (.str s) docs =
      if countName s then .ok (if docs.isEmpty then [] else [.doc [(s, .int docs.length)]])
      else .error .opFail := by
  unfold countStage countName
  by_cases h1 : s = ""
  · simp [h1]
  by_cases h2 : startsWithDollar s = true
  · simp [h1, h2]
  by_cases h3 : '.' ∈ s.toList
  · simp [h1, h2, h3]
  · by_cases h4 : docs.isEmpty <;> simp [h1, h2, h3, h4]

end MongoModel.Pipe.Proofs
