/-
  Proofs.C05Update — `applyUpdate` maps a document with pairwise distinct top-level keys to a
  document with pairwise distinct top-level keys: the operators edit one top-level key at a time
  (`C02Lemmas.Touches`), a replacement is built by `dset` from at most `_id`.
-/
import Proofs.C02PosFrame

namespace MongoModel.Proofs.C05Lemmas
open MongoModel MongoModel.Spec

/-- a document whose top-level keys are pairwise distinct (what a Python `dict` is) -/
def TopOK (d : Val) : Prop := ∃ fs, d = .doc fs ∧ (dkeys fs).Nodup

theorem dkeys_derase_sublist (k : String) (fs : Fields) : (dkeys (derase k fs)).Sublist (dkeys fs) := by
  induction fs with
  | nil => exact .refl _
  | cons kv fs ih =>
    obtain ⟨k', v'⟩ := kv
    simp only [derase]
    split
    · exact .cons _ (.refl _)
    · exact .cons_cons _ ih

theorem Touch.nodup {p : String} {fs fs' : Fields} (h : C02Lemmas.Touch p fs fs')
    (hn : (dkeys fs).Nodup) : (dkeys fs').Nodup := by
  rcases h with rfl | ⟨x, rfl⟩ | rfl
  · exact hn
  · exact nodup_dset _ _ _ hn
  · exact hn.sublist (dkeys_derase_sublist _ _)

theorem replaceWhole_top (document : Fields) (d r : Val) (h : replaceWhole document d = .ok r) :
    TopOK r := by
  unfold replaceWhole at h
  split at h
  · cases h
  · split at h
    · rename_i es
      have hm := nodup_foldl_dset document (match dget "_id" es with
          | some x => [("_id", x)]
          | none => ([] : Fields)) (by split <;> simp [dkeys])
      simp only at h
      split at h
      · split at h
        · cases h
        · cases h; exact ⟨_, rfl, hm⟩
      · cases h; exact ⟨_, rfl, hm⟩
    · cases h

theorem applyUpdate_top (spec document now : Val) (wasInsert : Bool) (existing r : Val)
    (hd : TopOK existing) (h : applyUpdate spec document now wasInsert existing = .ok r) : TopOK r := by
  obtain ⟨fs, rfl, hn⟩ := hd
  have key : ∀ {whole fs1 : Fields} {ks : List String}, C02Lemmas.Touches ks fs fs1 →
      (r = .doc fs1 ∨ replaceWhole whole (.doc fs1) = .ok r) → TopOK r := by
    intro whole fs1 ks ht hr
    rcases hr with rfl | hr
    · exact ⟨fs1, rfl, ht.preserves (fun _ _ _ _ h => Touch.nodup h) hn⟩
    · exact replaceWhole_top _ _ r hr
  unfold applyUpdate at h
  split at h
  · simp only at h
    split at h <;> cases h <;> exact ⟨_, rfl, by simp [dkeys]⟩
  · split at h
    · obtain ⟨fs1, ht, hr⟩ := C02Lemmas.applyOpsPos_touches spec now wasInsert _ _ _ _ fs r h
      exact key ht hr
    · obtain ⟨fs1, ht, hr⟩ := C02Lemmas.applyOps_touches spec now wasInsert _ _ _ fs r h
      exact key ht hr
  · cases h

end MongoModel.Proofs.C05Lemmas
