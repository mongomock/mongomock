/-
  Proofs.C05ExtStep — the extended step `stepX` / `stepXS` (find_one, find_one_and_*, bulk_write,
  the bulk builder) and whole histories (`Spec.runX`) carry whatever the store carries.

  Generic in a `Carried` pair `P` (what an update needs of the collection it starts from), `Q`
  (what every operation leaves), and a bridge `G` with `Q c → G c → P c` that is asked of the
  collections between the requests of a bulk (`Spec.midColls`) and between the operations of a
  history (`Spec.traceX`).  Instantiated for C05 (`Q` = the weak invariant `WInv`, `G` =
  `GoodColl`), C06 (`P` = `Q` = `UniqS`, no `G`) and for `Coll.Recorded`.
-/
import Spec.HistoryExt
import Proofs.C05Loop
import Proofs.C15Once
import Proofs.StepShape

namespace MongoModel.Proofs.ExtGen
open MongoModel MongoModel.Spec MongoModel.Proofs.C05Lemmas

variable {cfg : Cfg} {P Q : Coll → Prop}

theorem loss_findOne (now : Int) (c : Coll) (f proj : Val) (sort : Option SortSpec) :
    Loss c (findOneColl now c f proj sort).1 := by
  unfold findOneColl
  extract_lets filter
  split
  · exact Loss.refl c
  · rename_i c1 ms h; exact loss_iter h

/-- the write and read-back that end `_find_and_modify` -/
theorem famWrite_pres (H : Carried P Q) (now : Int) (c : Coll) (q proj u : Val)
    (upsert after : Bool) (old : Option Val) (hP : P c) :
    Q (Shape.famWrite cfg now c q proj u upsert after old).1 := by
  unfold Shape.famWrite
  split
  · exact H.weaken hP
  · have hQ := H.of_applyUpdateColl cfg now c q u upsert false hP
    generalize applyUpdateColl cfg now c q u upsert false = x at hQ
    obtain ⟨c2, r⟩ := x
    cases r with
    | error e => exact hQ
    | ok res =>
      dsimp only
      split
      · exact H.lossQ hQ (loss_findOne ..)
      · exact hQ

theorem fam_go (H : Carried P Q) (now : Int) (c : Coll) (query proj : Val) (update : Option Val)
    (upsert : Bool) (sort : Option SortSpec) (after : Bool) (hP : P c) :
    Q (findAndModify.go cfg now c query proj update upsert sort after).1 := by
  have hP1 := H.lossP hP (loss_findOne now c query .null sort)
  rw [Shape.go_eq]
  generalize findOneColl now c query .null sort = x at hP1
  obtain ⟨c1, r1⟩ := x
  cases r1 with
  | error e => exact H.weaken hP1
  | ok t =>
    cases t with
    | none =>
      dsimp only
      split
      · exact H.weaken hP1
      · cases update with
        | none => exact H.weaken hP1
        | some u => exact famWrite_pres H now c1 query proj u true after none hP1
    | some target =>
      dsimp only
      have hP2 := H.lossP hP1 (loss_findOne now c1 (.doc [("_id", idOfDoc target)]) proj none)
      generalize findOneColl now c1 (.doc [("_id", idOfDoc target)]) proj none = y at hP2
      obtain ⟨c2, r2⟩ := y
      cases r2 with
      | error e => exact H.weaken hP2
      | ok old =>
        cases update with
        | none =>
          dsimp only
          have hQ3 := H.lossQ (H.weaken hP2) (loss_delete now c2 (.doc [("_id", idOfDoc target)]) false)
          generalize deleteColl now c2 (.doc [("_id", idOfDoc target)]) false = z at hQ3
          obtain ⟨c3, r3⟩ := z
          cases r3 <;> exact hQ3
        | some u => exact famWrite_pres H now c2 _ proj u upsert after old hP2

theorem fam_pres (H : Carried P Q) (now : Int) (c : Coll) (query proj : Val) (update : Option Val)
    (upsert : Bool) (sort : Option SortSpec) (after : Bool) (hP : P c) :
    Q (findAndModify cfg now c query proj update upsert sort after).1 := by
  unfold findAndModify
  split
  · split
    · exact fam_go H now c query proj _ upsert sort after hP
    · split
      · exact H.weaken hP
      · exact fam_go H now c query proj _ upsert sort after hP
  · exact fam_go H now c query proj _ upsert sort after hP

theorem bulkOne_pres (H : Carried P Q) (now : Int) (c : Coll) (idx : Nat) (req : Val) (hP : P c) :
    Q (bulkOne cfg now c idx req).1 := by
  have hupd : ∀ f u up multi, Q (Shape.bulkUpd cfg now c idx f u up multi).1 := by
    intro f u up multi
    have hQ := H.of_applyUpdateColl cfg now c f u up multi hP
    unfold Shape.bulkUpd
    generalize applyUpdateColl cfg now c f u up multi = x at hQ
    obtain ⟨c', r⟩ := x
    cases r <;> exact hQ
  have hdel : ∀ f multi, Q (Shape.bulkDel now c f multi).1 := by
    intro f multi
    have hQ : Q (bulkOne.deleteBulk now c f multi).1 := by
      unfold bulkOne.deleteBulk
      split
      · exact H.lossQ (H.weaken hP) (loss_delete now c _ multi)
      · exact H.weaken hP
    unfold Shape.bulkDel
    generalize bulkOne.deleteBulk now c f multi = x at hQ
    obtain ⟨c', r⟩ := x
    cases r <;> exact hQ
  rcases Shape.bulkOne_cases req with hs | hs
  · cases hs with
    | insertOne d =>
      rw [Shape.bulkOne_InsertOne]
      have hQ := H.of_stepColl cfg now c (.arr [.str "insert_one", d]) hP
      unfold Shape.bulkIns
      generalize stepColl cfg now c (.arr [.str "insert_one", d]) = x at hQ
      obtain ⟨c', o⟩ := x
      cases o <;> exact hQ
    | updateOne f u up => rw [Shape.bulkOne_UpdateOne]; exact hupd ..
    | updateMany f u up => rw [Shape.bulkOne_UpdateMany]; exact hupd ..
    | replaceOne f u up => rw [Shape.bulkOne_ReplaceOne]; exact hupd ..
    | deleteOne f => rw [Shape.bulkOne_DeleteOne]; exact hdel ..
    | deleteMany f => rw [Shape.bulkOne_DeleteMany]; exact hdel ..
  · rw [hs]; exact H.weaken hP

/-- a bulk of one request leaves what its executor leaves, whatever the outcome -/
theorem loop_single_fst (cfg : Cfg) (now : Int) (ordered : Bool) (r : Val) (idx : Nat) (c : Coll)
    (t : BulkTotals) :
    (bulkLoop cfg now ordered [r] idx c t).1 = (bulkOne cfg now c idx r).1 := by
  rw [C15Lemmas.loop_cons]
  generalize bulkOne cfg now c idx r = x
  obtain ⟨c', o⟩ := x
  cases o with
  | ok f => exact C15Lemmas.loop_nil_fst _ _ _ _ _ _
  | writeErr e =>
    simp only
    split
    · rfl
    · exact C15Lemmas.loop_nil_fst _ _ _ _ _ _
  | abort e => rfl

/-- the loop carries `Q`, provided the collections between the requests satisfy the bridge `G` -/
theorem bulkLoop_pres (H : Carried P Q) (G : Coll → Prop) (hG : ∀ c, Q c → G c → P c)
    (now : Int) (ordered : Bool) :
    ∀ (reqs : List Val) (idx : Nat) (c : Coll) (t : BulkTotals), P c →
      (∀ n, G (bulkLoop cfg now ordered (reqs.take n) idx c t).1) →
      Q (bulkLoop cfg now ordered reqs idx c t).1 := by
  intro reqs
  induction reqs with
  | nil =>
    intro idx c t hP _
    rw [C15Lemmas.loop_nil_fst]; exact H.weaken hP
  | cons r rest ih =>
    intro idx c t hP hg
    have hQ1 := bulkOne_pres (cfg := cfg) H now c idx r hP
    have hG1 : G (bulkOne cfg now c idx r).1 := by
      have := hg 1
      rwa [List.take_succ_cons, List.take_zero, loop_single_fst] at this
    have hP1 := hG _ hQ1 hG1
    have hgn : ∀ n, G (bulkLoop cfg now ordered (r :: rest.take n) idx c t).1 := by
      intro n
      have := hg (n + 1)
      rwa [List.take_succ_cons] at this
    rw [C15Lemmas.loop_cons]
    generalize hx : bulkOne cfg now c idx r = x at hQ1 hP1
    obtain ⟨c', o⟩ := x
    cases o with
    | ok f =>
      simp only
      refine ih _ _ _ hP1 (fun n => ?_)
      have := hgn n
      rwa [C15Lemmas.loop_cons, hx] at this
    | writeErr e =>
      cases ordered with
      | true => exact hQ1
      | false =>
        refine ih _ _ _ hP1 (fun n => ?_)
        have := hgn n
        rwa [C15Lemmas.loop_cons, hx] at this
    | abort e => exact hQ1

theorem execute_pres (H : Carried P Q) (G : Coll → Prop) (hG : ∀ c, Q c → G c → P c)
    (now : Int) (c : Coll) (b : Builder) (hP : P c)
    (hg : ∀ n, G (bulkLoop cfg now b.ordered (b.reqs.take n) 0 c {}).1) :
    Q (b.execute cfg now c).1 := by
  by_cases he : b.reqs = []
  · rw [C15Once.execute_empty cfg now c b he]; exact H.weaken hP
  · cases hd : b.done with
    | true => rw [C15Once.execute_done cfg now c b hd]; exact H.weaken hP
    | false =>
      rw [C15Once.execute_fresh cfg now c b he hd]
      exact bulkLoop_pres H G hG now b.ordered b.reqs 0 c {} hP hg

theorem executeTimes_pres (H : Carried P Q) (G : Coll → Prop) (hG : ∀ c, Q c → G c → P c)
    (now : Int) (n : Nat) (c : Coll) (b : Builder) (hP : P c)
    (hg : ∀ n, G (bulkLoop cfg now b.ordered (b.reqs.take n) 0 c {}).1) :
    Q (executeTimes cfg now n c b).1 := by
  cases n with
  | zero => exact H.weaken hP
  | succ n =>
    rw [C15Once.executeTimes_spec]
    exact execute_pres H G hG now c b hP hg

theorem forM_take {α : Type} (f : α → R Unit) :
    ∀ (l : List α) (n : Nat), l.forM f = .ok () → (l.take n).forM f = .ok () := by
  intro l
  induction l with
  | nil => intro n h; simpa using h
  | cons a l ih =>
    intro n h
    cases n with
    | zero => rfl
    | succ n =>
      rw [List.take_succ_cons]
      have h' : (f a >>= fun _ => l.forM f) = .ok () := h
      show (f a >>= fun _ => (l.take n).forM f) = .ok ()
      cases ha : f a with
      | error e => rw [ha] at h'; cases h'
      | ok u =>
        rw [ha] at h'
        exact ih n h'

theorem precheck_take (reqs : List Val) (n : Nat) (h : bulkPrecheck reqs = .ok ()) :
    bulkPrecheck (reqs.take n) = .ok () :=
  forM_take _ reqs n h

/-- what `bulk_write` of a prefix leaves is what the loop over that prefix leaves -/
theorem bulkWrite_take_fst (cfg : Cfg) (now : Int) (c : Coll) (reqs : List Val) (ordered : Bool)
    (n : Nat) (h : bulkPrecheck reqs = .ok ()) :
    (bulkWrite cfg now c (reqs.take n) ordered).1 =
      (bulkLoop cfg now ordered (reqs.take n) 0 c {}).1 := by
  unfold bulkWrite
  rw [precheck_take reqs n h]
  simp only
  split
  · rename_i he
    have : reqs.take n = [] := by simpa using he
    rw [this, C15Lemmas.loop_nil_fst]
  · rfl

/-- the bridge hypothesis in terms of `bulk_write` of the prefixes (what `Spec.midColls` lists) -/
theorem mids_loop (G : Coll → Prop) (cfg : Cfg) (now : Int) (c : Coll) (reqs : List Val)
    (ordered : Bool) (h : bulkPrecheck reqs = .ok ())
    (hm : ∀ n, n < reqs.length + 1 → G (bulkWrite cfg now c (reqs.take n) ordered).1) :
    ∀ n, G (bulkLoop cfg now ordered (reqs.take n) 0 c {}).1 := by
  intro n
  by_cases hn : n < reqs.length + 1
  · rw [← bulkWrite_take_fst cfg now c reqs ordered n h]; exact hm n hn
  · have h1 : reqs.take n = reqs.take reqs.length := by
      rw [List.take_of_length_le (by omega), List.take_length]
    rw [h1, ← bulkWrite_take_fst cfg now c reqs ordered _ h]
    exact hm _ (by omega)

theorem bulkWrite_pres (H : Carried P Q) (G : Coll → Prop) (hG : ∀ c, Q c → G c → P c)
    (now : Int) (c : Coll) (reqs : List Val) (ordered : Bool) (hP : P c)
    (hm : ∀ n, n < reqs.length + 1 → G (bulkWrite cfg now c (reqs.take n) ordered).1) :
    Q (bulkWrite cfg now c reqs ordered).1 := by
  unfold bulkWrite
  split
  · exact H.weaken hP
  · rename_i hp
    split
    · exact H.weaken hP
    · exact bulkLoop_pres H G hG now ordered reqs 0 c {} hP (mids_loop G cfg now c reqs ordered hp hm)

theorem bulkBuilder_pres (H : Carried P Q) (G : Coll → Prop) (hG : ∀ c, Q c → G c → P c)
    (now : Int) (c : Coll) (reqs : List Val) (ordered : Bool) (times : Nat) (hP : P c)
    (hm : ∀ n, n < reqs.length + 1 → G (bulkWrite cfg now c (reqs.take n) ordered).1) :
    Q (bulkBuilder cfg now c reqs ordered times).1 := by
  unfold bulkBuilder
  split
  · exact H.weaken hP
  · rename_i hp
    have := executeTimes_pres H G hG now times c { reqs := reqs, ordered := ordered } hP
      (mids_loop G cfg now c reqs ordered hp hm)
    simp only
    split <;> exact this

theorem stepX_bulk_write (cfg : Cfg) (now : Int) (c : Coll) (reqs : List Val) (ordered : Val) :
    stepX cfg now c (.arr [.str "bulk_write", .arr reqs, ordered]) =
      bulkWrite cfg now c reqs (boolOf ordered) :=
  Shape.stepX_bulk_write cfg now c reqs ordered

theorem mids_of_reqs (G : Coll → Prop) (cfg : Cfg) (now : Int) (c : Coll) (op : Val)
    (reqs : List Val) (ordered : Val) (hb : bulkReqs op = some (reqs, ordered))
    (hm : ∀ m ∈ midColls cfg now c op, G m) :
    ∀ n, n < reqs.length + 1 → G (bulkWrite cfg now c (reqs.take n) (boolOf ordered)).1 := by
  intro n hn
  rw [← stepX_bulk_write]
  apply hm
  unfold midColls
  rw [hb]
  simp only [List.mem_map, List.mem_range]
  exact ⟨n, hn, rfl⟩

theorem stepX_pres (H : Carried P Q) (G : Coll → Prop) (hG : ∀ c, Q c → G c → P c)
    (now : Int) (c : Coll) (op : Val) (hP : P c) (hm : ∀ m ∈ midColls cfg now c op, G m) :
    Q (stepX cfg now c op).1 := by
  have hQ := H.weaken hP
  have hfam : ∀ query proj update sortV upsert after,
      Q (Shape.famStep cfg now c query proj update sortV upsert after).1 := by
    intro query proj update sortV upsert after
    unfold Shape.famStep
    split
    · split
      · exact hQ
      · exact fam_pres H now c _ proj update upsert _ after hP
    · exact hQ
  rcases Shape.stepX_cases op with hs | hs
  · cases hs with
    | findOne f proj sortV =>
      rw [Shape.stepX_find_one]
      split
      · exact hQ
      · exact H.lossQ hQ (loss_findOne ..)
    | fau f u proj sortV up after =>
      rw [Shape.stepX_fau]
      split
      · exact hQ
      · exact hfam ..
    | far f u proj sortV up after =>
      rw [Shape.stepX_far]
      split
      · exact hQ
      · exact hfam ..
    | fad f proj sortV => rw [Shape.stepX_fad]; exact hfam ..
    | bulkWrite reqs ordered =>
      rw [Shape.stepX_bulk_write]
      exact bulkWrite_pres H G hG now c reqs (boolOf ordered) hP
        (mids_of_reqs G cfg now c _ reqs ordered rfl hm)
    | bulkBuilder reqs ordered times =>
      rw [Shape.stepX_bulk_builder]
      exact bulkBuilder_pres H G hG now c reqs (boolOf ordered) times.toNat hP
        (mids_of_reqs G cfg now c _ reqs ordered rfl hm)
  · rw [hs]; exact H.of_stepColl cfg now c op hP

theorem stepXS_pres (H : Carried P Q) (G : Coll → Prop) (hG : ∀ c, Q c → G c → P c)
    (s : St) (op : Val) (hP : P s.c) (hm : ∀ m ∈ midColls cfg s.now s.c op, G m) :
    Q (stepXS cfg s op).1.c := by
  unfold stepXS
  split
  · exact H.weaken hP
  · exact stepX_pres H G hG s.now s.c op hP hm

/-- the state component of `runX` -/
def runStX (cfg : Cfg) (ops : List Val) (s : St) : St :=
  ops.foldl (fun s op => (observe (stepXS cfg s op).1).1) s

theorem runX_snd (cfg : Cfg) (ops : List Val) (s : St) : (runX cfg ops s).2 = runStX cfg ops s :=
  foldl_snd (stepXS cfg) observe ops [] s

theorem trace_head (cfg : Cfg) (ops : List Val) (s : St) : s.c ∈ traceXFrom cfg ops s := by
  cases ops <;> simp [traceXFrom]

/-- a whole history: `P` in the final state, provided every collection passed through satisfies
    the bridge -/
theorem history_pres (H : Carried P Q) (G : Coll → Prop) (hG : ∀ c, Q c → G c → P c) :
    ∀ (ops : List Val) (s : St), P s.c → (∀ m ∈ traceXFrom cfg ops s, G m) →
      P (runStX cfg ops s).c := by
  intro ops
  induction ops with
  | nil => intro s hP _; exact hP
  | cons op ops ih =>
    intro s hP hg
    simp only [traceXFrom, List.mem_cons, List.mem_append] at hg
    have hQ1 : Q (stepXS cfg s op).1.c :=
      stepXS_pres H G hG s op hP (fun m hm => hg m (Or.inl (Or.inr hm)))
    have hQ2 := H.lossQ hQ1 (loss_observe _)
    have hP2 := hG _ hQ2 (hg _ (Or.inr (trace_head cfg ops _)))
    have := ih _ hP2 (fun m hm => hg m (Or.inr hm))
    simpa [runStX] using this

end MongoModel.Proofs.ExtGen
