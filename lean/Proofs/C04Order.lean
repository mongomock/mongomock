/-
  Proofs.C04Order — the BSON order of the rules (`Spec.ord`) is a total preorder on flat values
  (scalars and arrays of scalars: the values the comparison theorems of C04 are about), proved by
  an order embedding `embF` into a linear order: a scalar goes to ℕ ×ₗ ℚ ×ₗ String (rank, numeric
  payload, string payload; numbers compared by cross multiplication are compared as rationals
  m / 2^e), an array to the list of its items' images, lists being ordered lexicographically.
  `flat_iff` says that `ord` reads that order; orientation and transitivity are then those of the
  linear order.  Consequence (`keepBetter_bound`): the rules' `$max` / `$min`
  (`Spec.extremumS`) is a greatest / least value.
-/
import Mathlib.Data.Prod.Lex
import Mathlib.Data.String.Basic
import Mathlib.Algebra.Order.Field.Basic
import Mathlib.Algebra.Order.Field.Rat
import Mathlib.Data.List.Lex
import Proofs.C04Cmp

set_option linter.unusedSimpArgs false
set_option linter.unnecessarySeqFocus false

namespace MongoModel.Proofs.C04
open MongoModel MongoModel.Expr MongoModel.Spec

/-! ### ranks decide between values of different classes -/

theorem ord_of_rank_ne (a b : Val) (h : rank a ≠ rank b) : ord a b = compare (rank a) (rank b) := by
  rw [ord.eq_def]
  split <;> first | exact absurd rfl h | rfl

/-! ### numbers -/

def qOf (x : Num) : ℚ := (x.m : ℚ) / 2 ^ x.e

theorem numLt_q (a b : Num) : Num.lt a b = true ↔ qOf a < qOf b := by
  unfold qOf
  rw [div_lt_div_iff₀ (pow_pos two_pos _) (pow_pos two_pos _)]
  simp only [Num.lt, decide_eq_true_eq]
  exact_mod_cast Iff.rfl

theorem numEq_q (a b : Num) : Num.eq a b = true ↔ qOf a = qOf b := by
  unfold qOf
  rw [div_eq_div_iff (pow_ne_zero _ two_ne_zero) (pow_ne_zero _ two_ne_zero)]
  simp only [Num.eq, beq_iff_eq]
  exact_mod_cast Iff.rfl

theorem numOrd_iff (x y : Num) :
    (numOrd x y = .lt ↔ qOf x < qOf y) ∧ (numOrd x y = .eq ↔ qOf x = qOf y) := by
  rw [← numLt_q, ← numEq_q]
  unfold numOrd
  cases h : Num.lt x y <;> cases h' : Num.eq x y <;> simp
  exact absurd (numEq_not_lt x y h') (by simp [h])


/-! ### scalars: null, booleans, numbers, strings, naive dates -/

def payQ : Val → ℚ
  | .bool b => if b then 1 else 0
  | .int i => i
  | .dbl m e => (m : ℚ) / 2 ^ e
  | .date u _ => (u : ℤ)
  | _ => 0

def payS : Val → String
  | .str s => s
  | _ => ""

def embS (v : Val) : ℕ ×ₗ ℚ ×ₗ String := toLex (rank v, toLex (payQ v, payS v))

theorem scalar_iff (a b : Val) (ha : cmpScalar a = true) (hb : cmpScalar b = true) :
    (ord a b = .lt ↔ embS a < embS b) ∧ (ord a b = .eq ↔ embS a = embS b) := by
  unfold embS
  rw [Prod.Lex.toLex_lt_toLex]
  by_cases ht : rank a = rank b
  · rcases cmpScalar_cases a ha with rfl | ⟨x, rfl⟩ | ⟨i, rfl⟩ | ⟨m, e, rfl⟩ | ⟨s, rfl⟩ | ⟨u, rfl⟩ <;>
    rcases cmpScalar_cases b hb with rfl | ⟨y, rfl⟩ | ⟨j, rfl⟩ | ⟨m', e', rfl⟩ | ⟨s', rfl⟩ | ⟨u', rfl⟩ <;>
    simp [rank] at ht <;>
    simp [ord, rank, payQ, payS, Prod.Lex.toLex_lt_toLex, numOrd_iff, qOf, compare_lt_iff_lt, compare_eq_iff_eq,
      Int.compare_eq_lt, dateUtc]
    case inr.inl.inr.inl => cases x <;> cases y <;> simp
  · rw [ord_of_rank_ne a b ht]
    simp [ht, Nat.compare_eq_lt]


/-! ### arrays of scalars, in the lexicographic order of lists -/

theorem list_iff (xs ys : List Val) (hx : ∀ x ∈ xs, cmpScalar x = true)
    (hy : ∀ y ∈ ys, cmpScalar y = true) :
    (ordList xs ys = .lt ↔ xs.map embS < ys.map embS) ∧
      (ordList xs ys = .eq ↔ xs.map embS = ys.map embS) := by
  induction xs generalizing ys with
  | nil => cases ys <;> simp [ordList]
  | cons x xs ih =>
    cases ys with
    | nil => simp [ordList]
    | cons y ys =>
      obtain ⟨hl, he⟩ := scalar_iff x y (hx x (by simp)) (hy y (by simp))
      obtain ⟨il, ie⟩ := ih ys (fun a ha => hx a (by simp [ha])) (fun b hb => hy b (by simp [hb]))
      cases h : ord x y <;> simp [h] at hl he <;>
        simp [ordList, h, List.cons_lt_cons_iff, hl, he, il, ie]


/-! ### flat values -/

def items : Val → List (ℕ ×ₗ ℚ ×ₗ String)
  | .arr xs => xs.map embS
  | _ => []

/-- the embedding: class and scalar payload first (an array has none), then the items -/
def embF (v : Val) : (ℕ ×ₗ ℚ ×ₗ String) ×ₗ List (ℕ ×ₗ ℚ ×ₗ String) := toLex (embS v, items v)

theorem rank_ne_iff (a b : Val) (hr : rank a ≠ rank b) :
    (ord a b = .lt ↔ embS a < embS b) ∧ (ord a b = .eq ↔ embS a = embS b) := by
  unfold embS
  rw [Prod.Lex.toLex_lt_toLex, ord_of_rank_ne a b hr]
  simp [hr, Nat.compare_eq_lt]

theorem isArr_iff_rank (a : Val) : a.isArr = true ↔ rank a = 5 := by
  cases a <;> simp [rank, Val.isArr]

theorem flat_iff (a b : Val) (ha : cmpFlat a = true) (hb : cmpFlat b = true) :
    (ord a b = .lt ↔ embF a < embF b) ∧ (ord a b = .eq ↔ embF a = embF b) := by
  -- when the scalar parts decide (two scalars; values of different classes), the items do not matter
  have lift : ((ord a b = .lt ↔ embS a < embS b) ∧ (ord a b = .eq ↔ embS a = embS b)) →
      (embS a = embS b → items a = [] ∧ items b = []) →
      (ord a b = .lt ↔ embF a < embF b) ∧ (ord a b = .eq ↔ embF a = embF b) := by
    intro h hi
    unfold embF
    rw [Prod.Lex.toLex_lt_toLex, h.1, h.2]
    refine ⟨⟨Or.inl, ?_⟩, fun e => by simp [e, hi e], fun e => by
      simpa using congrArg (·.1) (toLex.injective e)⟩
    rintro (h' | ⟨e, h'⟩)
    · exact h'
    · simp [hi e] at h'
  by_cases hr : rank a = rank b
  · have hbb : b.isArr = a.isArr := by rw [Bool.eq_iff_iff, isArr_iff_rank, isArr_iff_rank, hr]
    cases haa : a.isArr <;> rw [haa] at hbb
    · refine lift (scalar_iff a b (flat_not_arr a ha haa) (flat_not_arr b hb hbb)) fun _ => ⟨?_, ?_⟩
      · cases a <;> first | rfl | cases haa
      · cases b <;> first | rfl | cases hbb
    · obtain ⟨xs, rfl⟩ := isArr_eq a haa
      obtain ⟨ys, rfl⟩ := isArr_eq b hbb
      simp only [cmpFlat, List.all_eq_true] at ha hb
      unfold embF
      rw [Prod.Lex.toLex_lt_toLex]
      simpa [ord, items, embS, rank, payQ, payS] using list_iff xs ys ha hb
  · exact lift (rank_ne_iff a b hr) fun e => absurd (by simpa [embS] using e : _ ∧ _).1 hr

/-! ### a total preorder -/

theorem flat_le_iff (a b : Val) (ha : cmpFlat a = true) (hb : cmpFlat b = true) :
    ord a b ≠ .gt ↔ embF a ≤ embF b := by
  obtain ⟨hl, he⟩ := flat_iff a b ha hb
  rw [le_iff_lt_or_eq, ← hl, ← he]
  cases ord a b <;> simp

theorem flat_gt_iff (a b : Val) (ha : cmpFlat a = true) (hb : cmpFlat b = true) :
    ord a b = .gt ↔ embF b < embF a := by
  rw [← not_le, ← flat_le_iff a b ha hb, not_not]

/-- the order is oriented on flat values -/
theorem flat_swap (a b : Val) (ha : cmpFlat a = true) (hb : cmpFlat b = true) :
    ord b a = (ord a b).swap := by
  cases h : ord a b
  · exact (flat_gt_iff b a hb ha).mpr ((flat_iff a b ha hb).1.mp h)
  · exact (flat_iff b a hb ha).2.mpr ((flat_iff a b ha hb).2.mp h).symm
  · exact (flat_iff b a hb ha).1.mpr ((flat_gt_iff a b ha hb).mp h)

theorem flat_refl (a : Val) (ha : cmpFlat a = true) : ord a a = .eq := (flat_iff a a ha ha).2.mpr rfl

/-- and transitive -/
theorem flat_trans (a b c : Val) (ha : cmpFlat a = true) (hb : cmpFlat b = true)
    (hc : cmpFlat c = true) (h1 : ord a b ≠ .gt) (h2 : ord b c ≠ .gt) : ord a c ≠ .gt := by
  rw [flat_le_iff _ _ ‹_› ‹_›] at *
  exact le_trans h1 h2

/-! ### `$max` / `$min` of the rules are a greatest / a least value -/

/-- a fold that keeps the better of two values, under a comparison that is oriented and transitive
    on flat values, ends on a value that none is better than (`ext` is `extremumS true` with
    `ord`, `extremumS false` with the converse of `ord`) -/
theorem keepBetter_bound (cmp : Val → Val → Ordering) (ext : List Val → Val → Val)
    (hswap : ∀ a b, cmpFlat a = true → cmpFlat b = true → cmp b a = (cmp a b).swap)
    (htrans : ∀ a b c, cmpFlat a = true → cmpFlat b = true → cmpFlat c = true →
      cmp a b ≠ .gt → cmp b c ≠ .gt → cmp a c ≠ .gt)
    (hmem : ∀ r b, ext r b ∈ b :: r) (h0 : ∀ b, ext [] b = b)
    (h1 : ∀ w r b, ext (w :: r) b = ext r (if cmp b w == .lt then w else b))
    (r : List Val) (best : Val) (h : ∀ v ∈ best :: r, cmpFlat v = true) :
    ∀ v ∈ best :: r, cmp v (ext r best) ≠ .gt := by
  have hrefl : ∀ a, cmpFlat a = true → cmp a a = .eq := by
    intro a ha
    have := hswap a a ha ha
    cases h : cmp a a <;> rw [h] at this <;> simp [Ordering.swap] at this
  induction r generalizing best with
  | nil =>
    intro v hv
    simp only [List.mem_singleton] at hv
    subst hv
    simp [h0, hrefl v (h v (by simp))]
  | cons w r ih =>
    have fb := h best (by simp)
    have fw := h w (by simp)
    rw [h1]
    generalize hb' : (if cmp best w == .lt then w else best) = best'
    have hfl' : ∀ v ∈ best' :: r, cmpFlat v = true := by
      intro v hv
      simp only [List.mem_cons] at hv
      rcases hv with rfl | hv
      · rw [← hb']; split <;> assumption
      · exact h v (by simp [hv])
    have ih' := ih best' hfl'
    have fb' := hfl' best' (by simp)
    have fres := hfl' _ (hmem r best')
    -- both the old best and the new value are at most the new best
    have hb_le : cmp best best' ≠ .gt := by
      rw [← hb']
      cases hc : cmp best w <;> simp [hrefl best fb, hc]
    have hw_le : cmp w best' ≠ .gt := by
      rw [← hb']
      cases hc : cmp best w <;> simp [hrefl w fw, hswap best w fb fw, hc, Ordering.swap]
    intro v hv
    simp only [List.mem_cons] at hv
    rcases hv with rfl | rfl | hv
    · exact htrans _ _ _ fb fb' fres hb_le (ih' best' (by simp))
    · exact htrans _ _ _ fw fb' fres hw_le (ih' best' (by simp))
    · exact ih' v (by simp [hv])

end MongoModel.Proofs.C04
