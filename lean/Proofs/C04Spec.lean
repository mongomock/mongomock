/-
  Proofs.C04Spec — `eval_eq_spec`: the three shapes of an operator's argument (a list, a
  document, anything else), the induction over the expression, and the theorem.
-/
import Proofs.C04SpecStrict
import Proofs.C04SpecNamed

set_option linter.unusedSimpArgs false

namespace MongoModel.Proofs.C04
open MongoModel MongoModel.Expr MongoModel.Spec

theorem unproved_nil (k : String) (h : unproved k = []) : provedStrict.contains k = true := by
  unfold unproved at h
  cases h' : provedStrict.contains k with
  | true => rfl
  | false =>
    have : ¬ k ∈ provedStrict := by simpa using h'
    simp [this] at h

/-- inside D an expression has a value under the rules, and the model computes it -/
theorem Agrees.ok {v : Val} (hag : Agrees v) {c : Ctx} {root : Val} {env : Env}
    (hr : EnvRel c root env) (h1 : okReasons (sEval root env v) = [])
    (h2 : rExpr root env v = []) : ∃ a, sEval root env v = .ok a ∧ eval c v = .ok a := by
  obtain ⟨a, ha⟩ := okReasons_nil _ h1
  exact ⟨a, ha, ha ▸ hag c root env hr h2 h1⟩

/-- `{$op: [operands]}` -/
theorem op_list_case (c : Ctx) (root : Val) (env : Env) (hr : EnvRel c root env) (k : String)
    (xs : List Val) (hsub : AllSubList Agrees xs)
    (hre : rOperator root env [(k, .arr xs)] = [])
    (hok : okReasons (sOperator root env [(k, .arr xs)]) = []) :
    eval c (.doc [(k, .arr xs)]) = sOperator root env [(k, .arr xs)] := by
  obtain ⟨res, hres⟩ := okReasons_nil _ hok
  rw [hres]
  rw [rOperator.eq_def] at hre
  rw [sOperator.eq_def] at hres
  dsimp only at hre hres
  by_cases hlit : k = "$literal"
  · subst hlit
    rw [if_pos rfl] at hres
    rw [literal_id, hres]
  rw [if_neg hlit] at hre hres
  by_cases hst : strictOps.contains k = true
  · rw [if_pos hst] at hre hres
    obtain ⟨h12, h34⟩ := append_nil2 hre
    obtain ⟨h12, h3⟩ := append_nil2 h12
    obtain ⟨hunp, hlist⟩ := append_nil2 h12
    obtain ⟨vs, hv1, hv2⟩ := list_agree c root env hr xs hsub hlist
    rw [sList_ok root env xs vs hv1] at h34 hres
    exact (list_strict c hr.hign k (unproved_nil k hunp) xs vs hv2 ((ite_nil _ _).mp h3) h34 res
      hres).1
  rw [if_neg hst] at hre hres
  -- the other operators evaluate some of their operands only; inside D all of them have a value
  have hlist : rList root env xs = [] := by
    split at hre
    · exact (append_nil2 hre).2
    · cases hre
  obtain ⟨vs, hv1, hv2⟩ := list_agree c root env hr xs hsub hlist
  by_cases hand : k = "$and"
  · subst hand
    rw [if_pos rfl, sAnd_ok root env xs vs hv1] at hres
    rw [and_spec c xs vs hv2, ← hres]; rfl
  rw [if_neg hand] at hres
  by_cases hor : k = "$or"
  · subst hor
    rw [if_pos rfl, sOr_ok root env xs vs hv1] at hres
    rw [or_spec c xs vs hv2, ← hres]; rfl
  rw [if_neg hor] at hres
  by_cases hcond : k = "$cond"
  · subst hcond
    rw [if_pos rfl] at hres
    rcases xs with _ | ⟨a, _ | ⟨b, _ | ⟨d, _ | _⟩⟩⟩ <;> first | cases hres | skip
    rcases vs with _ | ⟨va, _ | ⟨vb, _ | ⟨vd, _ | _⟩⟩⟩ <;> first | (simp at hv1; done) | skip
    simp only [List.map_cons, List.map_nil, List.cons.injEq, and_true] at hv1 hv2
    rw [cond_list, hv2.1, hv2.2.1, hv2.2.2, ← hv1.2.1, ← hv1.2.2, ← hres, sCond3, hv1.1]
    rfl
  rw [if_neg hcond] at hres
  by_cases hifn : k = "$ifNull"
  · subst hifn
    rw [if_pos rfl] at hres
    split at hres
    · cases hres
    · rename_i hlen
      rw [ifNull_list c xs (by omega), ifNull_agree c root env xs vs hv1 hv2 (by
        intro e; subst e; simp at hlen), hres]
  · rw [if_neg hifn] at hres
    split at hres <;> cases hres

/-! ### one operand that is not written as a list -/

/-- a strict operator -/
theorem whole_core (c : Ctx) (root : Val) (env : Env) (hr : EnvRel c root env) (k : String)
    (v : Val) (hag : Agrees v) (ha : v.isArr = false) (htz : hasTzKeys v = false)
    (hacc : accOps.contains k = false)
    (h1 : unproved k = []) (h2 : okReasons (sEval root env v) = [])
    (h3 : rExpr root env v = [])
    (h5 : (match sEval root env v with
         | .ok r => strictReasons k [r]
         | .error _ => []) = [])
    (res : Option Val)
    (hres : (do applyStrict k [← sEval root env v]) = .ok res) :
    eval c (.doc [(k, v)]) = .ok res := by
  obtain ⟨a, ha', hev⟩ := hag.ok hr h2 h3
  rw [ha'] at hres h5
  exact bare_strict c hr.hign k (unproved_nil k h1) hacc v ha htz a hev h5 res hres

/-- `$sum $avg $min $max`: an array value is ranged over, any other value is the one value, a
    missing one leaves nothing to range over -/
theorem acc_scalar_core (c : Ctx) (root : Val) (env : Env) (hr : EnvRel c root env) (k : String)
    (hk : accOps.contains k = true) (v : Val) (hag : Agrees v) (ha : v.isArr = false)
    (h1 : okReasons (sEval root env v) = []) (h2 : rExpr root env v = [])
    (h3 : (match sEval root env v with
         | .ok (some (.arr xs)) => strictReasons k (xs.map some)
         | .ok (some _) => []
         | .ok none => []
         | .error _ => []) = [])
    (res : Option Val)
    (hres : (do (accBareS k (← sEval root env v)).map some) = .ok res) :
    eval c (.doc [(k, v)]) = .ok res := by
  obtain ⟨a, ha', hev⟩ := hag.ok hr h1 h2
  rw [ha'] at hres h3
  have hk' := accOps_cases k hk
  rw [← hres]
  rcases a with _ | x
  · exact acc_bare_missing c k hk' v ha hev
  · cases hx : x.isArr with
    | true =>
      obtain ⟨ys, rfl⟩ : ∃ ys, x = .arr ys := by cases x <;> first | exact ⟨_, rfl⟩ | cases hx
      exact acc_bare_eval c hr.hign k hk' v ha ys hev h3
    | false =>
      rw [acc_bare_eval_val c k hk' v ha x hx hev]
      cases x <;> first | rfl | cases hx

/-- `$and` / `$or` -/
theorem andor_bare (c : Ctx) (root : Val) (env : Env) (hr : EnvRel c root env) (k : String)
    (hk : (k = "$and" || k = "$or") = true) (v : Val) (hag : Agrees v) (ha : v.isArr = false)
    (h1 : okReasons (sEval root env v) = []) (h2 : rExpr root env v = []) (res : Option Val)
    (hres : (do pure (some (Val.bool (Spec.toBool (← sEval root env v))))) = .ok res) :
    eval c (.doc [(k, v)]) = .ok res := by
  obtain ⟨a, ha', hev⟩ := hag.ok hr h1 h2
  rw [ha'] at hres
  have hk' : k = "$and" ∨ k = "$or" := by simpa using hk
  rw [← hres, bare_eq_list c k (by rcases hk' with rfl | rfl <;> simp [variadicOps]) v ha]
  rcases hk' with rfl | rfl
  · rw [and_spec c [v] [a] (by simp [hev])]; simp; rfl
  · rw [or_spec c [v] [a] (by simp [hev])]; simp; rfl

/-- `{$op: operand}` with an operand that is neither a list nor a document -/
theorem op_scalar_case (c : Ctx) (root : Val) (env : Env) (hr : EnvRel c root env) (k : String)
    (v : Val) (hag : Agrees v) (ha : v.isArr = false) (hd : v.isDoc = false)
    (hre : rOperator root env [(k, v)] = [])
    (hok : okReasons (sOperator root env [(k, v)]) = []) :
    eval c (.doc [(k, v)]) = sOperator root env [(k, v)] := by
  obtain ⟨res, hres⟩ := okReasons_nil _ hok
  rw [hres]
  have hna : ∀ xs, v = .arr xs → False := fun xs e => by subst e; cases ha
  have hnd : ∀ gs, v = .doc gs → False := fun gs e => by subst e; cases hd
  have htz : hasTzKeys v = false := by cases v <;> first | rfl | cases hd
  rw [rOperator.eq_3 root env k v hna hnd] at hre
  rw [sOperator.eq_3 root env k v hna hnd] at hres
  by_cases hlit : k = "$literal"
  · subst hlit
    rw [if_pos rfl] at hres
    rw [literal_id, hres]
  rw [if_neg hlit] at hre hres
  by_cases hacc : accOps.contains k = true
  · rw [if_pos hacc] at hre hres
    obtain ⟨h12, h3⟩ := append_nil2 hre
    obtain ⟨h1, h2⟩ := append_nil2 h12
    exact acc_scalar_core c root env hr k hacc v hag ha h1 h2 h3 res hres
  rw [if_neg hacc] at hre hres
  by_cases hst : strictOps.contains k = true
  · rw [if_pos hst] at hre hres
    obtain ⟨h1234, h5⟩ := append_nil2 hre
    obtain ⟨h123, h4⟩ := append_nil2 h1234
    obtain ⟨h12, h3⟩ := append_nil2 h123
    obtain ⟨h1, h2⟩ := append_nil2 h12
    exact whole_core c root env hr k v hag ha htz (by simpa using hacc) h1 h2 h3 h5 res hres
  rw [if_neg hst] at hre hres
  by_cases hao : (k = "$and" || k = "$or") = true
  · rw [if_pos hao] at hre hres
    obtain ⟨h1, h2⟩ := append_nil2 hre
    exact andor_bare c root env hr k hao v hag ha h1 h2 res hres
  · rw [if_neg hao] at hre; cases hre

/-- `{$op: {…}}` -/
theorem op_doc_case (c : Ctx) (root : Val) (env : Env) (hr : EnvRel c root env) (k : String)
    (gs : Fields) (hsub : AllSub Agrees (.doc gs))
    (hre : rOperator root env [(k, .doc gs)] = [])
    (hok : okReasons (sOperator root env [(k, .doc gs)]) = []) :
    eval c (.doc [(k, .doc gs)]) = sOperator root env [(k, .doc gs)] := by
  obtain ⟨res, hres⟩ := okReasons_nil _ hok
  rw [hres]
  rw [rOperator.eq_def] at hre
  rw [sOperator.eq_def] at hres
  dsimp only at hre hres
  have hf := hsub.fields
  by_cases hlit : k = "$literal"
  · subst hlit
    rw [if_pos rfl] at hres
    rw [literal_id, hres]
  rw [if_neg hlit] at hre hres
  by_cases hlet : k = "$let"
  · subst hlet
    rw [if_pos rfl] at hre hres
    exact let_case c root env hr gs hf hre res hres
  rw [if_neg hlet] at hre hres
  by_cases hmap : k = "$map"
  · subst hmap
    rw [if_pos rfl] at hre hres
    exact iter_case c root env hr gs hf "$map" "in" mapItems _ _ map_loop (map_unfold c gs) hre
      res hres
  rw [if_neg hmap] at hre hres
  by_cases hfil : k = "$filter"
  · subst hfil
    rw [if_pos rfl] at hre hres
    exact iter_case c root env hr gs hf "$filter" "cond" filterItems _ _ filter_loop
      (filter_unfold c gs) hre res hres
  rw [if_neg hfil] at hre hres
  by_cases hcond : k = "$cond"
  · subst hcond
    rw [if_pos rfl] at hre hres
    exact cond_doc_case c root env hr gs hf hre res hres
  rw [if_neg hcond] at hre hres
  by_cases hsw : k = "$switch"
  · subst hsw
    rw [if_pos rfl] at hre hres
    exact switch_case c root env hr gs hf hre res hres
  rw [if_neg hsw] at hre hres
  by_cases hacc : accOps.contains k = true
  · rw [if_pos hacc] at hre hres
    obtain ⟨h12, h3⟩ := append_nil2 hre
    obtain ⟨h1, h2⟩ := append_nil2 h12
    exact acc_scalar_core c root env hr k hacc (.doc gs) hsub.self rfl h1 h2 h3 res hres
  rw [if_neg hacc] at hre hres
  by_cases hst : strictOps.contains k = true
  · rw [if_pos hst] at hre hres
    obtain ⟨h12345, h6⟩ := append_nil2 hre
    obtain ⟨h1234, h5⟩ := append_nil2 h12345
    obtain ⟨h123, h4⟩ := append_nil2 h1234
    obtain ⟨h12, h3⟩ := append_nil2 h123
    obtain ⟨h1, h2⟩ := append_nil2 h12
    exact whole_core c root env hr k (.doc gs) hsub.self rfl ((ite_nil _ _).mp h2)
      (by simpa using hacc) h1 h3 h4 h6 res hres
  rw [if_neg hst] at hre hres
  by_cases hao : (k = "$and" || k = "$or") = true
  · rw [if_pos hao] at hre hres
    obtain ⟨h1, h2⟩ := append_nil2 hre
    exact andor_bare c root env hr k hao (.doc gs) hsub.self rfl h1 h2 res hres
  · rw [if_neg hao] at hre; split at hre <;> cases hre

theorem sOperator_many (root : Val) (env : Env) (a b : String × Val) (r : Fields) :
    sOperator root env (a :: b :: r) = .error .opFail := by
  obtain ⟨k1, v1⟩ := a
  cases v1 <;> rfl

theorem evalItems_ok (c : Ctx) (xs : List Val) (vs : List (Option Val))
    (h : xs.map (eval c) = vs.map .ok) : evalItems c xs = .ok (vs.map (·.getD .null)) := by
  induction xs generalizing vs with
  | nil => cases vs <;> simp_all [evalItems]
  | cons x xs ih =>
    cases vs with
    | nil => simp at h
    | cons v vs =>
      simp only [List.map_cons, List.cons.injEq] at h
      simp [evalItems, h.1, ih vs h.2, bind, Except.bind, pure, Except.pure]

/-- **the induction**: every expression agrees with the oracle inside D, and so does everything
    below it -/
theorem agrees_all : ∀ v, AllSub Agrees v := by
  apply allSub_of_step
  · -- documents: a literal, or an operator
    intro fs hsub c root env hr hre hok
    simp only [rExpr] at hre
    simp only [sEval] at hok ⊢
    cases hdk : hasDollarKey' fs with
    | false =>
      simp only [hdk, Bool.false_eq_true, if_false] at hre hok ⊢
      obtain ⟨hn, hrf⟩ := append_nil2 hre
      have hnd : nodupKeys fs = true := by
        cases h : nodupKeys fs with
        | true => rfl
        | false => rw [h] at hn; simp at hn
      obtain ⟨gs, g1, g2, _⟩ := fields_agree c root env hr fs hsub hrf hdk hnd [] (by simp [dhas, dget])
      have hany : fs.any (fun kv => startsDollar kv.1) = false := by simpa [hasDollarKey'] using hdk
      simp [eval, hany, g2, g1]
    | true =>
      simp only [hdk, if_true] at hre hok ⊢
      match fs, hsub, hre, hok, hdk with
      | [(k, v)], hsub, hre, hok, _ =>
        simp only [AllSubFields] at hsub
        cases v with
        | arr xs => exact op_list_case c root env hr k xs hsub.1.items hre hok
        | doc gs => exact op_doc_case c root env hr k gs hsub.1 hre hok
        | _ => all_goals exact op_scalar_case c root env hr k _ hsub.1.self rfl rfl hre hok
      | [], _, _, _, hdk => simp [hasDollarKey'] at hdk
      | a :: b :: r, _, _, hok, _ =>
        rw [sOperator_many] at hok
        simp [okReasons] at hok
  · -- array literals: every item is evaluated, a missing value gives a null item
    intro xs hsub c root env hr hre hok
    simp only [rExpr] at hre
    obtain ⟨vs, hv1, hv2⟩ := list_agree c root env hr xs hsub hre
    rw [eval_arr, evalItems_ok c xs vs hv2]
    simp only [sEval, sList_ok root env xs vs hv1, bind, Except.bind, pure, Except.pure, Except.map]
  · -- scalars and strings
    intro v hd ha c root env hr hre hok
    cases v with
    | str s =>
      simp only [rExpr] at hre
      exact str_case c root env hr s hre hok
    | doc fs => simp [Val.isDoc] at hd
    | arr xs => simp [Val.isArr] at ha
    | _ => rfl

/-- **eval_eq_spec**: inside D the model of the code computes the value the rules define -/
theorem eval_eq_spec (e d : Val) (h : exprInD e d = true) : evalExpr d e = specEval d e := by
  have hnil : exprReasons e d = [] := by simpa [exprInD] using h
  unfold exprReasons at hnil
  have : okReasons (specEval d e) ++ rExpr d [] e = [] := by
    cases hl : okReasons (specEval d e) ++ rExpr d [] e with
    | nil => rfl
    | cons a r => rw [hl] at hnil; simp [List.eraseDups_cons] at hnil
  obtain ⟨h1, h2⟩ := append_nil2 this
  exact (agrees_all e).self (Ctx.init true d) d [] (EnvRel.init d) h2 h1

end MongoModel.Proofs.C04
