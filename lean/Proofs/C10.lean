/-
  Proofs.C10 — `find`, `count_documents`, `delete_one/many` and the `matched_count` of
  `update_one/many` against the shared selection.  `find_is_selection` and the two
  `delete_…_eq_find` need documents left by the expiry pass (`hne`: with none the scan validates
  the filter on `{}` instead); the counts (`delete_count_all`, `update_count`,
  `delete_count_eq_size_drop`) hold on any collection, that one included.  Last, the
  counterexample without distinct store keys.
-/
import Spec.Counts
import Proofs.C10Keys
import Proofs.C10Update

namespace MongoModel.Proofs.C10
open MongoModel MongoModel.Spec
open MongoModel.Proofs.C10Lemmas MongoModel.Proofs.C09Lemmas

theorem find_is_selection (now : Int) (c c1 : Coll) (fs : Fields) (he : expire now c = .ok c1)
    (hne : c1.docs ≠ []) :
    (findColl now c (.doc fs)).2 = (selectDocs (patchDT (.doc fs)) c1.docs).map (·.map (·.2)) := by
  simp only [findColl]
  rw [iter_eq now c c1 _ he hne]
  cases selectDocs (patchDT (.doc fs)) c1.docs <;> rfl

theorem count_eq_find (now : Int) (c : Coll) (fs : Fields) :
    (countColl now c (.doc fs) 0 none).2 = (findColl now c (.doc fs)).2.map (fun ms => (ms.length : Int)) := by
  simp only [countColl, findColl]
  cases iterDocuments now c (patchDT (.doc fs)) with
  | error e => rfl
  | ok r =>
    obtain ⟨c1, ms⟩ := r
    simp only [Except.map, Except.ok.injEq]
    omega

theorem count_skip_limit (now : Int) (c : Coll) (fs : Fields) (skip lim : Int) (hl : 0 < lim) :
    (countColl now c (.doc fs) skip (some (.int lim))).2 =
      (findColl now c (.doc fs)).2.map (fun ms => min (max ((ms.length : Int) - skip) 0) lim) := by
  have hl' : ¬ lim ≤ 0 := by omega
  simp only [countColl, findColl, hl', if_false]
  cases iterDocuments now c (patchDT (.doc fs)) with
  | error e => rfl
  | ok r =>
    obtain ⟨c1, ms⟩ := r
    rfl

/-- `delete_one` / `delete_many` once the scan has answered `sel`: the `_id`s of the victims are
    deleted from the collection the expiry pass leaves -/
theorem delete_of_iter (now : Int) (c c1 : Coll) (fs : Fields) (sel : List (Val × Val))
    (multi : Bool) (hit : iterDocuments now c (patchDT (.doc fs)) = .ok (c1, sel.map (·.2))) :
    deleteColl now c (.doc fs) multi =
      (((((if multi then sel else sel.take 1).map (·.2)).filterMap idOf).foldl
            (fun acc k => acc.delDoc k) c1),
       .ok (((if multi then sel else sel.take 1).map (·.2)).filterMap idOf).length) := by
  unfold deleteColl
  rw [patch_doc_twice]
  rw [C18.patchDT_doc] at hit ⊢
  simp only [hit]
  cases multi
  · simp only [Bool.false_eq_true, if_false, List.map_take]
    rfl
  · rfl

theorem delete_eq (now : Int) (c c1 : Coll) (fs : Fields) (sel : List (Val × Val)) (multi : Bool)
    (he : expire now c = .ok c1) (hne : c1.docs ≠ [])
    (hs : selectDocs (patchDT (.doc fs)) c1.docs = .ok sel) :
    deleteColl now c (.doc fs) multi =
      (((((if multi then sel else sel.take 1).map (·.2)).filterMap idOf).foldl
            (fun acc k => acc.delDoc k) c1),
       .ok (((if multi then sel else sel.take 1).map (·.2)).filterMap idOf).length) :=
  delete_of_iter now c c1 fs sel multi (by rw [iter_eq now c c1 _ he hne, hs]; rfl)

theorem inv_expired (now : Int) (c c1 : Coll) (he : expire now c = .ok c1) (hi : IdInv c)
    (hg : GoodKeys c) : DK c1.docs ∧ GK c1.docs ∧ KI c1.docs := by
  have hsub := (expire_ok now c c1 he).1
  exact ⟨DK.sublist hi.1 hsub, GK.subset hg (fun p hp => hsub.subset hp),
    KI.subset hi.2 (fun p hp => hsub.subset hp)⟩

/-- a delete whose scan answered `sel` removes exactly its victims (all of `sel`, or the first)
    and reports their number -/
theorem delete_spec (now : Int) (c c1 : Coll) (fs : Fields) (sel : List (Val × Val)) (multi : Bool)
    (he : expire now c = .ok c1) (hi : IdInv c) (hg : GoodKeys c)
    (hs : selectDocs (patchDT (.doc fs)) c1.docs = .ok sel)
    (hit : iterDocuments now c (patchDT (.doc fs)) = .ok (c1, sel.map (·.2))) :
    (deleteColl now c (.doc fs) multi).2 = .ok (if multi then sel else sel.take 1).length ∧
    (deleteColl now c (.doc fs) multi).1.docs =
      c1.docs.filter (fun p => !(if multi then sel else sel.take 1).any (fun q => pyEq q.1 p.1)) ∧
    (deleteColl now c (.doc fs) multi).1.docs.length + (if multi then sel else sel.take 1).length
      = c1.docs.length := by
  obtain ⟨hd, hgk, hk⟩ := inv_expired now c c1 he hi hg
  rw [delete_of_iter now c c1 fs sel multi hit]
  have hsub : (if multi then sel else sel.take 1).Sublist c1.docs := by
    cases multi
    · exact (List.take_sublist 1 sel).trans (select_sublist _ _ _ hs)
    · exact select_sublist _ _ _ hs
  obtain ⟨h1, h2, h3⟩ := delete_victims c1 _ hsub hd hgk hk
  exact ⟨by rw [h1], h2, h3⟩

theorem delete_many_eq_find (now : Int) (c c1 : Coll) (fs : Fields) (sel : List (Val × Val))
    (he : expire now c = .ok c1) (hne : c1.docs ≠ []) (hi : IdInv c) (hg : GoodKeys c)
    (hs : selectDocs (patchDT (.doc fs)) c1.docs = .ok sel) :
    (deleteColl now c (.doc fs) true).2 = .ok sel.length ∧
    (deleteColl now c (.doc fs) true).1.docs = c1.docs.filter (fun p => !sel.any (fun q => pyEq q.1 p.1)) ∧
    (deleteColl now c (.doc fs) true).1.docs.length + sel.length = c1.docs.length :=
  delete_spec now c c1 fs sel true he hi hg hs (by rw [iter_eq now c c1 _ he hne, hs]; rfl)

theorem delete_one_eq_find (now : Int) (c c1 : Coll) (fs : Fields) (sel : List (Val × Val))
    (he : expire now c = .ok c1) (hne : c1.docs ≠ []) (hi : IdInv c) (hg : GoodKeys c)
    (hs : selectDocs (patchDT (.doc fs)) c1.docs = .ok sel) :
    (deleteColl now c (.doc fs) false).2 = .ok (min sel.length 1) ∧
    (deleteColl now c (.doc fs) false).1.docs.length + min sel.length 1 = c1.docs.length := by
  obtain ⟨h1, _, h3⟩ := delete_spec now c c1 fs sel false he hi hg hs
    (by rw [iter_eq now c c1 _ he hne, hs]; rfl)
  rw [if_neg Bool.false_ne_true, List.length_take, Nat.min_comm] at h1 h3
  exact ⟨h1, h3⟩

/-- a delete that answers, on any collection — the one the expiry pass leaves empty included:
    its scan answered the selection -/
theorem delete_ok (now : Int) (c c1 : Coll) (fs : Fields) (multi : Bool) (n : Nat)
    (he : expire now c = .ok c1) (h : (deleteColl now c (.doc fs) multi).2 = .ok n) :
    ∃ sel, selectDocs (patchDT (.doc fs)) c1.docs = .ok sel ∧
      iterDocuments now c (patchDT (.doc fs)) = .ok (c1, sel.map (·.2)) := by
  cases hit : iterDocuments now c (patchDT (.doc fs)) with
  | error e =>
    unfold deleteColl at h
    rw [patch_doc_twice] at h
    rw [C18.patchDT_doc] at h hit
    simp only [hit] at h
    cases h
  | ok r =>
    obtain ⟨he', sel, hs, hms⟩ := iter_ok hit
    cases he.symm.trans he'
    exact ⟨sel, hs, by rw [← hms]⟩

/-- `deleted_count`, whatever the collection -/
theorem delete_count_all (now : Int) (c c1 : Coll) (fs : Fields) (sel : List (Val × Val))
    (multi : Bool) (n : Nat)
    (he : expire now c = .ok c1) (hi : IdInv c) (hg : GoodKeys c)
    (hs : selectDocs (patchDT (.doc fs)) c1.docs = .ok sel)
    (h : (deleteColl now c (.doc fs) multi).2 = .ok n) :
    n = (if multi then sel.length else min sel.length 1) := by
  obtain ⟨sel', hs', hit⟩ := delete_ok now c c1 fs multi n he h
  cases hs.symm.trans hs'
  rw [(delete_spec now c c1 fs sel multi he hi hg hs hit).1] at h
  cases h
  cases multi
  · rw [if_neg Bool.false_ne_true, if_neg Bool.false_ne_true, List.length_take, Nat.min_comm]
  · rfl

theorem pre_eq (now : Int) (c c1 : Coll) (spec : Val) (he : expire now c = .ok c1)
    (hne : c1.docs ≠ []) :
    (do
      let c1 ← expire now c
      if c1.docs.isEmpty then
        let _ ← filterApplies spec (.doc [])
      expire now c1) = Except.ok c1 := by
  have hemp : c1.docs.isEmpty = false := by
    cases hd : c1.docs with
    | nil => exact absurd hd hne
    | cons a l => rfl
  rw [he]
  simp only [bind, Except.bind, hemp, Bool.false_eq_true, if_false]
  exact expire_idem now c c1 he

theorem linv_start (now : Int) (c c1 : Coll) (he : expire now c = .ok c1) (hk : KeysDistinct c)
    (hg : GoodKeys c) : LInv now c1.ttlIndexes c1.docs c1 := by
  have he' := he
  rw [expire_eq_pass] at he'
  obtain ⟨hsub, hmeta, _, hclean⟩ := pass_ok now _ c c1 he'
  refine ⟨DK.sublist hk hsub, GK.subset hg (fun p hp => hsub.subset hp), rfl, ?_⟩
  intro p hp
  refine ⟨hp, ?_⟩
  intro ix hix f s hfs
  rw [hmeta.2.1] at hix
  exact hclean ix hix f s hfs p hp

/-- `matched_count` of a non-upserting update, whatever the collection — the one the expiry pass
    leaves empty included -/
theorem update_count (cfg : Cfg) (now : Int) (c c1 c' : Coll) (fs : Fields) (u : Val)
    (sel : List (Val × Val)) (res : UpdateResult) (multi : Bool)
    (he : expire now c = .ok c1) (hk : KeysDistinct c) (hg : GoodKeys c)
    (hs : selectDocs (patchDT (.doc fs)) c1.docs = .ok sel)
    (h : applyUpdateColl cfg now c (.doc fs) u false multi = (c', .ok res)) :
    res.n = (if multi then sel.length else min sel.length 1) ∧ res.nModified ≤ res.n ∧
      res.upserted = none := by
  obtain ⟨dfs, c2, c3, m, up, _, he', hloop, h⟩ := applyUpdateColl_ok h
  cases he.symm.trans he'
  rw [afterLoop_plain _ _ _ _ _ _ _ _ _ _ rfl] at h
  cases h
  have hinv := linv_start now c c1 he hk hg
  rw [C18.patchDT_doc] at hs
  obtain ⟨h1, h2⟩ := loop_count now _ _ _ multi c1.ttlIndexes c1.docs c1 0 0 _ m up sel hinv.dk
    hinv hs hloop (Nat.le_refl 0)
  refine ⟨by simpa using h1, ?_, rfl⟩
  dsimp only
  split <;> omega

theorem update_many_matched_eq_find (cfg : Cfg) (now : Int) (c c1 c' : Coll) (fs : Fields) (u : Val)
    (sel : List (Val × Val)) (res : UpdateResult)
    (he : expire now c = .ok c1) (hne : c1.docs ≠ []) (hi : IdInv c) (hg : GoodKeys c)
    (hs : selectDocs (patchDT (.doc fs)) c1.docs = .ok sel)
    (h : applyUpdateColl cfg now c (.doc fs) u false true = (c', .ok res)) :
    res.n = sel.length ∧ res.nModified ≤ res.n ∧ res.upserted = none := by
  simpa using update_count cfg now c c1 c' fs u sel res true he hi.1 hg hs h

/-! The counterexample to `Props.C10.update_one_target_iff_partial` without its invariant
hypotheses.  Two documents are stored under the same key `1` (so `KeysDistinct` fails): the filter
`{a: 2}` selects the second one, but the loop looks both snapshot entries up by key, finds the
first document both times, and matches nothing. -/

def cexColl : Coll :=
  { docs := [(.int 1, .doc [("_id", .int 1), ("a", .int 1)]),
             (.int 1, .doc [("_id", .int 1), ("a", .int 2)])] }

def cexUpdate : Val := .doc [("$set", .doc [("x", .int 1)])]

theorem update_one_target_iff_counterexample :
    ¬ (∀ (cfg : Cfg) (now : Int) (c c1 c' : Coll) (fs : Fields) (u : Val)
        (sel : List (Val × Val)) (res : UpdateResult),
        expire now c = .ok c1 → c1.docs ≠ [] →
        selectDocs (patchDT (.doc fs)) c1.docs = .ok sel →
        applyUpdateColl cfg now c (.doc fs) u false false = (c', .ok res) →
        res.n = min sel.length 1) := by
  intro H
  have k1 : (match applyUpdateColl {} 0 cexColl (.doc [("a", .int 2)]) cexUpdate false false with
      | (_, .ok r) => r.n == 0
      | _ => false) = true := by decide +kernel
  have k2 : (match selectDocs (patchDT (.doc [("a", .int 2)])) cexColl.docs with
      | .ok sel => sel.length == 1
      | _ => false) = true := by decide +kernel
  generalize hx : applyUpdateColl {} 0 cexColl (.doc [("a", .int 2)]) cexUpdate false false = x at k1
  obtain ⟨c', r⟩ := x
  cases r with
  | error e => simp at k1
  | ok res =>
    generalize hy : selectDocs (patchDT (.doc [("a", .int 2)])) cexColl.docs = y at k2
    cases y with
    | error e => simp at k2
    | ok sel =>
      simp only [beq_iff_eq] at k1 k2
      have := H {} 0 cexColl cexColl c' [("a", .int 2)] cexUpdate sel res rfl (by simp [cexColl]) hy hx
      rw [k1, k2] at this
      cases this

end MongoModel.Proofs.C10

namespace MongoModel.Proofs.C10Ext
open MongoModel MongoModel.Spec

/-- `deleted_count` is the drop in size, whatever the collection -/
theorem delete_count_eq_size_drop (now : Int) (c c1 : Coll) (fs : Fields) (multi : Bool) (n : Nat)
    (he : expire now c = .ok c1) (hi : IdInv c) (hg : GoodKeys c)
    (h : (deleteColl now c (.doc fs) multi).2 = .ok n) :
    (deleteColl now c (.doc fs) multi).1.docs.length + n = c1.docs.length := by
  obtain ⟨sel, hs, hit⟩ := MongoModel.Proofs.C10.delete_ok now c c1 fs multi n he h
  obtain ⟨h1, _, h3⟩ := MongoModel.Proofs.C10.delete_spec now c c1 fs sel multi he hi hg hs hit
  rw [h1] at h
  cases h
  exact h3

end MongoModel.Proofs.C10Ext
