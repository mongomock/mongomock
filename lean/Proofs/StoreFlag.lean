/-
  Proofs.StoreFlag — the created flag of the collection store (`Coll.forceCreated`): the
  projections of `storeDoc` (`__setitem__`) and `markStored` (a rejected insert), which touch
  that flag only.
-/
import MongoModel.Ops

namespace MongoModel

/-- `__setitem__` differs from the bare dict assignment by the created flag only -/
@[simp] theorem storeDoc_docs (c : Coll) (k d : Val) : (c.storeDoc k d).docs = (c.setDoc k d).docs := rfl
@[simp] theorem storeDoc_indexes (c : Coll) (k d : Val) :
    (c.storeDoc k d).indexes = (c.setDoc k d).indexes := rfl
@[simp] theorem storeDoc_ttlIndexes (c : Coll) (k d : Val) :
    (c.storeDoc k d).ttlIndexes = (c.setDoc k d).ttlIndexes := rfl
@[simp] theorem storeDoc_nextOid (c : Coll) (k d : Val) :
    (c.storeDoc k d).nextOid = (c.setDoc k d).nextOid := rfl
@[simp] theorem storeDoc_forceCreated (c : Coll) (k d : Val) :
    (c.storeDoc k d).forceCreated = true := rfl

/-- marking a rejected insert touches the created flag only -/
@[simp] theorem markStored_docs (c : Coll) (b : Bool) : (c.markStored b).docs = c.docs := by
  cases b <;> rfl
@[simp] theorem markStored_indexes (c : Coll) (b : Bool) : (c.markStored b).indexes = c.indexes := by
  cases b <;> rfl
@[simp] theorem markStored_ttlIndexes (c : Coll) (b : Bool) :
    (c.markStored b).ttlIndexes = c.ttlIndexes := by
  cases b <;> rfl
@[simp] theorem markStored_nextOid (c : Coll) (b : Bool) : (c.markStored b).nextOid = c.nextOid := by
  cases b <;> rfl
@[simp] theorem markStored_false (c : Coll) : c.markStored false = c := rfl
@[simp] theorem markStored_true (c : Coll) : c.markStored true = { c with forceCreated := true } := rfl

theorem markStored_bump (c : Coll) (b : Bool) (n : Nat) :
    ({ c.markStored b with nextOid := n } : Coll) = ({ c with nextOid := n } : Coll).markStored b := by
  cases b <;> rfl

theorem markStored_markStored (c : Coll) (a b : Bool) :
    (c.markStored a).markStored b = c.markStored (a || b) := by
  cases a <;> cases b <;> rfl

theorem markStored_of_flag (c : Coll) (b : Bool) (hf : c.forceCreated = true) :
    c.markStored b = c := by
  cases b with
  | false => rfl
  | true =>
    show ({ c with forceCreated := true } : Coll) = c
    rw [← hf]

/-- on a collection that has an index the mark changes nothing `index_information()` shows -/
theorem indexNames_markStored (c : Coll) (b : Bool) (h : b = true → c.indexes ≠ []) :
    indexNames (c.markStored b) = indexNames c := by
  cases b with
  | false => rfl
  | true =>
    have hi := h rfl
    cases hx : c.indexes with
    | nil => exact absurd hx hi
    | cons i r => simp [indexNames, Coll.isCreated, hx]

/-- where existence is recorded and there is an index, the mark changes nothing at all -/
theorem markStored_of_recorded (c : Coll) (b : Bool) (hr : c.Recorded)
    (h : b = true → c.indexes ≠ []) : c.markStored b = c := by
  cases b with
  | false => rfl
  | true => exact markStored_of_flag c true (hr (.inr (h rfl)))

end MongoModel
