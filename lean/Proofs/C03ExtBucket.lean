/-
  Proofs.C03ExtBucket — `$bucket` against the oracle `specBucketStage` of Spec/PipelineExt.lean on
  the domain `bucketReasons = []`: the bisection of `_get_bucket_id` (aggregate.py:1521) finds the
  boundary `bᵢ` with `bᵢ ≤ x < bᵢ₊₁`, the sort on `(is_default_last, id)` is the sort on the id in
  the BSON order, and the runs of `itertools.groupby` are the groups of a `$group` on the bucket
  id.
-/
import Proofs.C03ExtGroup
import Proofs.C03Bucket

namespace MongoModel.Pipe.Proofs
open MongoModel MongoModel.Pipe MongoModel.Spec MongoModel.Spec.Pipe MongoModel.Spec.Order
  MongoModel.Proofs.C11 MongoModel.Expr

/-- `a < b`, `¬ d < b` ("b ≤ d") give `a < d` -/
theorem valLt_of_lt_of_le {a b d : Val} (h1 : valLt a b = true) (h2 : valLt d b = false) :
    valLt a d = true := by
  cases h : valLt a d with
  | true => rfl
  | false =>
    have := strictWeak_valLt.negTrans b d a h2 h
    rw [h1] at this; cases this

theorem valLt_trans {a b c : Val} (h1 : valLt a b = true) (h2 : valLt b c = true) :
    valLt a c = true :=
  valLt_of_lt_of_le h1 (strictWeak_valLt.asymm b c h2)

theorem number_cases {P : Val → Prop} (hi : ∀ i, P (.int i)) (hd : ∀ m e, P (.dbl m e)) :
    ∀ v, v.isNumber = true → P v
  | .int _, _ => hi _
  | .dbl _ _, _ => hd _ _

theorem isNumber_ok : ∀ (v : Val), v.isNumber = true → groupKeyOk v = true :=
  number_cases (fun _ => rfl) (fun _ _ => rfl)

theorem null_lt_number : ∀ (v : Val), v.isNumber = true → valLt .null v = true :=
  number_cases (fun _ => rfl) (fun _ _ => rfl)

theorem Num.le_eq_not_lt (a b : Num) : Num.le b a = !Num.lt a b := by
  simp only [Num.le, Num.lt, ← Int.not_lt, decide_not]

/-- Python's `<` / `<=` on two numbers are the BSON order -/
theorem num_cmp : ∀ (x : Val), x.isNumber = true → ∀ (y : Val), y.isNumber = true →
    ∃ nx ny, x.num? = some nx ∧ y.num? = some ny ∧ Num.lt nx ny = valLt x y ∧
      Num.le ny nx = !valLt x y :=
  number_cases
    (fun a => number_cases
      (fun b =>
        have e : Num.lt ⟨a, 0⟩ ⟨b, 0⟩ = valLt (.int a) (.int b) := by
          simp only [Num.lt, Int.pow_zero, Int.mul_one]; rfl
        ⟨_, _, rfl, rfl, e, e ▸ Num.le_eq_not_lt _ _⟩)
      (fun _ _ => ⟨_, _, rfl, rfl, rfl, Num.le_eq_not_lt _ _⟩))
    (fun _ _ => number_cases
      (fun _ => ⟨_, _, rfl, rfl, rfl, Num.le_eq_not_lt _ _⟩)
      (fun _ _ => ⟨_, _, rfl, rfl, rfl, Num.le_eq_not_lt _ _⟩))

/-! ### the bisection finds the boundary `bᵢ ≤ x < bᵢ₊₁` -/

/-- `bisect_right` (aggregate.py:1532) on ascending boundaries: the number of boundaries `≤ x` -/
def leCount (bs : List Val) (x : Val) : Nat := (bs.filter (fun b => !valLt x b)).length

theorem leCount_cons (b : Val) (r : List Val) (x : Val) (h : valLt x b = false) :
    leCount (b :: r) x = leCount r x + 1 := by
  simp only [leCount, List.filter_cons, h, Bool.not_false, if_true, List.length_cons]

/-- below the first boundary: no slot, nothing counted -/
theorem slot_of_lt (x : Val) : ∀ (b : Val) (r : List Val), valLt x b = true →
    strictAsc (b :: r) = true → specSlot (b :: r) x = none ∧ leCount (b :: r) x = 0
  | _, [], hx, _ => by
    simp only [specSlot, leCount, List.filter_cons, hx, Bool.not_true, Bool.false_eq_true, if_false,
      List.filter_nil, List.length_nil, and_self]
  | b, c :: r, hx, hs => by
    rw [strictAsc, Bool.and_eq_true] at hs
    obtain ⟨i1, i2⟩ := slot_of_lt x c r (valLt_trans hx hs.1) hs.2
    unfold leCount at i2 ⊢
    rw [specSlot, List.filter_cons]
    simp only [hx, Bool.not_true, Bool.false_and, Bool.false_eq_true, if_false, i1, i2, and_self]

/-- at or above the first boundary: the slot is the last boundary counted, if one is left over -/
theorem slot_of_le (x : Val) : ∀ (b : Val) (r : List Val), strictAsc (b :: r) = true →
    valLt x b = false →
    specSlot (b :: r) x = if leCount r x < r.length then (b :: r)[leCount r x]? else none
  | _, [], _, _ => rfl
  | b, c :: r, hs, hx => by
    rw [strictAsc, Bool.and_eq_true] at hs
    rw [specSlot]
    cases hc : valLt x c with
    | true =>
      simp only [hx, Bool.not_false, Bool.true_and, if_true, (slot_of_lt x c r hc hs.2).2,
        List.length_cons, Nat.zero_lt_succ, List.getElem?_cons_zero]
    | false =>
      simp only [hx, Bool.not_false, Bool.true_and, Bool.false_eq_true, if_false,
        slot_of_le x c r hs.2 hc, leCount_cons c r x hc, List.length_cons,
        Nat.add_lt_add_iff_right, List.getElem?_cons_succ]

theorem slot_eq (x : Val) (bs : List Val) (hs : strictAsc bs = true) :
    specSlot bs x =
      (if leCount bs x ≠ 0 ∧ leCount bs x < bs.length then bs[leCount bs x - 1]? else none) := by
  match bs, hs with
  | [], _ => rfl
  | b :: r, hs =>
    cases hb : valLt x b with
    | true =>
      obtain ⟨i1, i2⟩ := slot_of_lt x b r hb hs
      rw [i1, i2]; rfl
    | false =>
      rw [slot_of_le x b r hs hb, leCount_cons b r x hb]
      simp only [ne_eq, Nat.succ_ne_zero, not_false_eq_true, true_and, List.length_cons,
        Nat.add_lt_add_iff_right, Nat.add_sub_cancel]

theorem index_eq (bs : List Val) (v : Val) (nx : Num) (hb : ∀ b ∈ bs, b.isNumber = true)
    (hv : v.isNumber = true) (hn : v.num? = some nx) :
    (bs.filter (fun b => match b.num? with
                         | some y => Num.le y nx | none => false)).length = leCount bs v := by
  unfold leCount
  congr 1
  apply List.filter_congr
  intro b hb'
  obtain ⟨nx', ny, h1, h2, _, h4⟩ := num_cmp v hv b (hb b hb')
  rw [hn] at h1; cases h1
  simp only [h2, h4]

theorem specSlot_mem_dropLast (x c : Val) : ∀ (bs : List Val), specSlot bs x = some c →
    c ∈ bs.dropLast
  | [], h | [_], h => by cases h
  | b :: b' :: r, h => by
    rw [specSlot] at h
    rw [List.dropLast_cons_cons]
    split at h
    · cases h; exact List.mem_cons_self
    · exact List.mem_cons_of_mem _ (specSlot_mem_dropLast x c (b' :: r) h)

theorem asc_dropLast_lt (hi : Val) : ∀ (bs : List Val), strictAsc bs = true →
    bs.getLast? = some hi → ∀ c ∈ bs.dropLast, valLt c hi = true
  | [], _, _, c, hc | [_], _, _, c, hc => by cases hc
  | b :: b' :: r, hs, hl, c, hc => by
    rw [strictAsc, Bool.and_eq_true] at hs
    rw [List.dropLast_cons_cons] at hc
    rw [List.getLast?_cons_cons] at hl
    -- everything before the last is below it; the head is below its neighbour
    have ih := asc_dropLast_lt hi (b' :: r) hs.2 hl
    have hb' : valLt b hi = true := by
      cases r with
      | nil => cases hl; exact hs.1
      | cons b'' r' =>
        exact valLt_trans hs.1 (ih b' (by rw [List.dropLast_cons_cons]; exact List.mem_cons_self))
    rcases List.mem_cons.mp hc with rfl | hc
    · exact hb'
    · exact ih c hc

theorem specSlot_null (bs : List Val) (hb : ∀ b ∈ bs, b.isNumber = true)
    (hs : strictAsc bs = true) : specSlot bs .null = none :=
  match bs, hb, hs with
  | [], _, _ => rfl
  | b :: r, hb, hs => (slot_of_lt .null b r (null_lt_number b (hb b List.mem_cons_self)) hs).1

/-- a path is read the same way with and without `ignore_missing_keys` (aggregate.py:301) -/
theorem evalExprStrict_str (d : Val) (s : String) :
    evalExprStrict d (.str s) = evalExpr d (.str s) := by
  simp only [evalExprStrict, evalExpr]
  rw [eval, eval]
  simp only [evalBasic]
  cases strKind s <;> rfl

/-- the ids the code carries with the flag `false`: the boundaries but the last, and a default
    that is not "last" -/
def lowIds (bs : List Val) (dflt : Option Val) (last : Bool) : List Val :=
  bs.dropLast ++ (match dflt with | some d => if last then [] else [d] | none => [])

/-- the default carried with the flag `true` -/
def topId (dflt : Option Val) (last : Bool) : Option Val :=
  match dflt with | some d => if last then some d else none | none => none

def Shape (L : List Val) (D : Option Val) (k : BKey) : Prop :=
  (k.1 = false ∧ k.2 ∈ L) ∨ (k.1 = true ∧ D = some k.2)

theorem shape_default (bs : List Val) (d : Val) (last : Bool) :
    Shape (lowIds bs (some d) last) (topId (some d) last) (last, d) := by
  cases last with
  | true => exact Or.inr ⟨rfl, rfl⟩
  | false => exact Or.inl ⟨rfl, List.mem_append_right _ List.mem_cons_self⟩

theorem isNumber_of_reasons (v : Val) (h : bucketValueReasons (some v) = []) :
    v.isNumber = true := by
  cases v <;> first | rfl | cases h

def strip (p : BKey × Val) : Val × Val := (p.1.2, p.2)

section keyed
variable (a : BucketArgs) (last : Bool) {s : String} (hgb : a.groupBy = .str s)
  (hb : ∀ b ∈ a.bounds, b.isNumber = true) (hasc : strictAsc a.bounds = true)
include hgb hb hasc

/-- the code's bucket id is the oracle's slot, else the default, else the stage fails -/
theorem bucketId_eq (d : Val) (r : Option Val) (hE : exprReasons a.groupBy d = [])
    (hv : exprValue a.groupBy d = some r) (hV : bucketValueReasons r = []) :
    bucketId ⟨a.groupBy, a.bounds, a.default, last⟩ d =
      (match specSlot a.bounds (r.getD .null) with
       | some b => .ok (false, b)
       | none =>
         match a.default with
         | some v => .ok (last, v)
         | none => .error .opFail) := by
  have hev : evalExprStrict d a.groupBy = .ok r := by
    rw [hgb, evalExprStrict_str, ← hgb]; exact evalExpr_of_value hE hv
  unfold bucketId
  cases r with
  | none => simp only [hev, Option.getD_none, specSlot_null a.bounds hb hasc]; rfl
  | some v =>
    have hnum := isNumber_of_reasons v hV
    obtain ⟨nx, _, hnx, -⟩ := num_cmp v hnum v hnum
    simp only [hev, hnx, Option.getD_some, slot_eq v a.bounds hasc]
    generalize hidx : (List.filter _ a.bounds).length = idx
    have : idx = leCount a.bounds v := hidx.symm.trans (index_eq a.bounds v nx hb hnum hnx)
    subst this
    by_cases hc : leCount a.bounds v ≠ 0 ∧ leCount a.bounds v < a.bounds.length
    · have hi : leCount a.bounds v - 1 < a.bounds.length := Nat.lt_of_le_of_lt (Nat.sub_le _ _) hc.2
      simp only [hc.1, hc.2, ne_eq, not_false_eq_true, decide_true, Bool.and_self, if_true,
        and_self, List.getElem?_eq_getElem hi]
    · rw [if_neg hc, if_neg (by simpa only [Bool.and_eq_true, decide_eq_true_eq] using hc)]
      rfl

theorem bucketId_spec (d : Val) (hE : exprReasons a.groupBy d = [])
    (hV : ∃ r, exprValue a.groupBy d = some r ∧ bucketValueReasons r = []) :
    match specBucketKey a d with
    | some k => ∃ f, bucketId ⟨a.groupBy, a.bounds, a.default, last⟩ d = .ok (f, k) ∧
        Shape (lowIds a.bounds a.default last) (topId a.default last) (f, k)
    | none => bucketId ⟨a.groupBy, a.bounds, a.default, last⟩ d = .error .opFail := by
  obtain ⟨r, hv, hV⟩ := hV
  rw [bucketId_eq a last hgb hb hasc d r hE hv hV]
  unfold specBucketKey
  rw [hv, Option.bind_some]
  cases hsl : specSlot a.bounds (r.getD .null) with
  | some b =>
    exact ⟨false, rfl, Or.inl ⟨rfl, List.mem_append_left _ (specSlot_mem_dropLast _ b _ hsl)⟩⟩
  | none =>
    cases hd : a.default with
    | some k => exact ⟨last, rfl, shape_default _ _ _⟩
    | none => rfl

theorem bucketKeyed_spec : ∀ (docs : List Val),
    (∀ d ∈ docs, exprReasons a.groupBy d = []) →
    (∀ d ∈ docs, ∃ r, exprValue a.groupBy d = some r ∧ bucketValueReasons r = []) →
    match specBucketKeyed a docs with
    | some kds => ∃ kb : List (BKey × Val),
        bucketKeyed ⟨a.groupBy, a.bounds, a.default, last⟩ docs = .ok kb ∧ kb.map strip = kds ∧
        ∀ p ∈ kb, Shape (lowIds a.bounds a.default last) (topId a.default last) p.1
    | none => bucketKeyed ⟨a.groupBy, a.bounds, a.default, last⟩ docs = .error .opFail
  | [], _, _ => ⟨[], rfl, rfl, nofun⟩
  | d :: ds, hE, hV => by
    obtain ⟨hEd, hEds⟩ := List.forall_mem_cons.mp hE
    obtain ⟨hVd, hVds⟩ := List.forall_mem_cons.mp hV
    have h1 := bucketId_spec a last hgb hb hasc d hEd hVd
    have h2 := bucketKeyed_spec ds hEds hVds
    unfold specBucketKeyed at h2 ⊢
    unfold bucketKeyed
    rw [mapOpt]
    cases hk : specBucketKey a d with
    | none => rw [hk] at h1; rw [h1]; rfl
    | some k =>
      rw [hk] at h1
      obtain ⟨f, j1, j2⟩ := h1
      rw [j1]
      cases hr : mapOpt (fun d => (specBucketKey a d).map (fun k => (k, d))) ds with
      | none => rw [hr] at h2; rw [h2]; rfl
      | some r =>
        rw [hr] at h2
        obtain ⟨kb, i1, i2, i3⟩ := h2
        rw [i1]
        refine ⟨((f, k), d) :: kb, rfl, by rw [List.map_cons, i2]; rfl, ?_⟩
        intro p hp
        rcases List.mem_cons.mp hp with rfl | hp
        · exact j2
        · exact i3 p hp

end keyed

/-! ### the sort on `(is_default_last, id)` is the sort on the id -/

/-- a comparison that answers on every pair of the list sorts it as its answers do -/
theorem pySorted_of_ok {α} (lt : α → α → R Bool) (f : α → α → Bool) (l : List α)
    (h : ∀ a ∈ l, ∀ b ∈ l, lt a b = .ok (f a b)) : pySorted lt false l = .ok (isort f l) := by
  have hok : pairsOk lt l = true := pairsOk_of lt l fun a ha b hb => by rw [h a ha b hb]; rfl
  simp only [pySorted, hok, if_true, Bool.false_eq_true, if_false]
  congr 1
  exact isort_congr l fun a ha b hb => by rw [h a ha b hb]; cases f a b <;> rfl

section order
variable {L : List Val} {D : Option Val}
  (hL : ∀ c ∈ L, c.isNumber = true)
  (hDok : ∀ t, D = some t → groupKeyOk t = true)
include hL hDok

theorem shape_ok (k : BKey) (h : Shape L D k) : groupKeyOk k.2 = true := by
  rcases h with ⟨_, h⟩ | ⟨_, h⟩
  · exact isNumber_ok _ (hL _ h)
  · exact hDok _ h

variable (hLD : ∀ c ∈ L, ∀ t, D = some t → valLt c t = true)
include hLD

/-- on ids of that shape the tuple comparisons of the code are the BSON order and Python's `==`
    on the ids -/
theorem bkey_shape (a b : BKey) (da db : Val) (ha : Shape L D a) (hb : Shape L D b) :
    bkeyLt (a, da) (b, db) = .ok (valLt a.2 b.2) ∧ bkeyEq a b = pyEq a.2 b.2 := by
  have ht := pyEq_eq_tie a.2 b.2 (shape_ok hL hDok a ha) (shape_ok hL hDok b hb)
  obtain ⟨fa, ka⟩ := a
  obtain ⟨fb, kb⟩ := b
  rcases ha with ⟨rfl, ha⟩ | ⟨rfl, ha⟩ <;> rcases hb with ⟨rfl, hb⟩ | ⟨rfl, hb⟩
  · -- two boundaries: numbers
    obtain ⟨nx, ny, hx, hy, hlt, _⟩ := num_cmp ka (hL _ ha) kb (hL _ hb)
    refine ⟨?_, Bool.true_and _⟩
    simp only [bkeyLt, ne_eq, not_true_eq_false, if_false, hx, hy, hlt]
    cases hp : pyEq ka kb with
    | false => rfl
    | true =>
      rw [hp, tie, eq_comm, Bool.and_eq_true, Bool.not_eq_true'] at ht
      rw [if_pos rfl, ht.1]
  · -- a boundary against the default carried last, which lies above
    have h1 : valLt ka kb = true := hLD _ ha _ hb
    rw [tie, h1] at ht
    exact ⟨by simp [bkeyLt, h1], by rw [ht]; rfl⟩
  · have h1 : valLt kb ka = true := hLD _ hb _ ha
    rw [tie, h1, Bool.not_true, Bool.and_false] at ht
    exact ⟨by simp [bkeyLt, strictWeak_valLt.asymm _ _ h1], by rw [ht]; rfl⟩
  · -- the default against itself
    cases ha.symm.trans hb
    rw [tie_self strictWeak_valLt] at ht
    exact ⟨by simp [bkeyLt, ht, strictWeak_valLt.irrefl], Bool.true_and _⟩

theorem bucket_sort_eq (kb : List (BKey × Val)) (hS : ∀ p ∈ kb, Shape L D p.1) :
    pySorted bkeyLt false kb =
      .ok (isort (fun a b : BKey × Val => valLt a.1.2 b.1.2) kb) :=
  pySorted_of_ok _ _ kb fun a ha b hb =>
    (bkey_shape hL hDok hLD a.1 b.1 a.2 b.2 (hS a ha) (hS b hb)).1

theorem bucketGo_eq_groupGo (cur : BKey) (hc : Shape L D cur) :
    ∀ (acc : List Val) (l : List (BKey × Val)), (∀ p ∈ l, Shape L D p.1) →
    bucketGo cur acc l = groupGo cur.2 acc (l.map strip)
  | acc, [], _ => rfl
  | acc, (k, d) :: rest, h => by
    obtain ⟨hk, hr⟩ := List.forall_mem_cons.mp h
    simp only [bucketGo, List.map_cons, strip, groupGo, (bkey_shape hL hDok hLD cur k d d hc hk).2]
    split
    · exact bucketGo_eq_groupGo cur hc (d :: acc) rest hr
    · rw [bucketGo_eq_groupGo k hk [d] rest hr]

theorem bucketRuns_eq_groupRuns : ∀ (l : List (BKey × Val)), (∀ p ∈ l, Shape L D p.1) →
    bucketRuns l = groupRuns (l.map strip)
  | [], _ => rfl
  | (k, d) :: rest, h => by
    simp only [bucketRuns, List.map_cons, strip, groupRuns]
    obtain ⟨hk, hr⟩ := List.forall_mem_cons.mp h
    exact bucketGo_eq_groupGo hL hDok hLD k hk [d] rest hr

end order

theorem insertBy_map {α β} (f : α → β) (lt : β → β → Bool) (x : α) : ∀ (l : List α),
    (insertBy (fun a b => lt (f a) (f b)) x l).map f = insertBy lt (f x) (l.map f)
  | [] => rfl
  | y :: ys => by
    simp only [insertBy, List.map_cons]
    split
    · simp only [List.map_cons, insertBy_map f lt x ys]
    · rfl

theorem isort_map {α β} (f : α → β) (lt : β → β → Bool) : ∀ (l : List α),
    (isort (fun a b => lt (f a) (f b)) l).map f = isort lt (l.map f)
  | [] => rfl
  | x :: xs => by
    simp only [isort, List.map_cons, insertBy_map, isort_map f lt xs]

/-- `is_default_last` (aggregate.py:1509) -/
def lastOf (dflt : Option Val) (bs : List Val) : Bool :=
  match dflt, bs.getLast? with
  | some v, some b =>
    (match v.num?, b.num? with
     | some x, some y => Num.le y x
     | _, _ => true)
  | _, _ => true

theorem sortedNums_of_strictAsc : ∀ (bs : List Val), (∀ b ∈ bs, b.isNumber = true) →
    strictAsc bs = true → sortedNums (bs.filterMap Val.num?) = true
  | [], _, _ => rfl
  | [b], h, _ => by
    obtain ⟨nb, _, hb, _, _, _⟩ := num_cmp b (h b List.mem_cons_self) b (h b List.mem_cons_self)
    simp only [List.filterMap_cons, hb, List.filterMap_nil, sortedNums]
  | b :: b' :: r, h, hs => by
    rw [strictAsc, Bool.and_eq_true] at hs
    have ih := sortedNums_of_strictAsc (b' :: r) (fun c hc => h c (List.mem_cons_of_mem _ hc)) hs.2
    obtain ⟨nb', nb, hb', hb, _, hle⟩ := num_cmp b'
      (h b' (List.mem_cons_of_mem _ List.mem_cons_self)) b (h b List.mem_cons_self)
    rw [strictWeak_valLt.asymm _ _ hs.1] at hle
    simp only [List.filterMap_cons, hb, hb'] at ih ⊢
    simp only [sortedNums, hle, Bool.not_false, Bool.true_and]
    exact ih

/-- the stage once the oracle has read its options: the code has accepted them too -/
theorem bucketStage_args (opts : Val) (a : BucketArgs) (docs : List Val)
    (h : bucketArgs opts = some a) :
    (∀ b ∈ a.bounds, b.isNumber = true) ∧ strictAsc a.bounds = true ∧ 2 ≤ a.bounds.length ∧
    bucketStage opts docs =
      (match bucketKeyed ⟨a.groupBy, a.bounds, a.default, lastOf a.default a.bounds⟩ docs with
       | .error e => .error e
       | .ok kds =>
         match pySorted bkeyLt false kds with
         | .error e => .error e
         | .ok sorted => emitGroups a.output (bucketRuns sorted)) := by
  cases opts with
  | doc o =>
    simp only [bucketArgs] at h
    obtain ⟨hunk, h⟩ := Option.ite_none_left_eq_some.mp h
    split at h
    · rename_i gb bs hgb hbs
      obtain ⟨hchk, h⟩ := Option.ite_none_left_eq_some.mp h
      simp only [Bool.or_eq_true, Bool.not_eq_true', not_or, Bool.not_eq_false,
        decide_eq_true_eq, Nat.not_lt] at hchk
      obtain ⟨⟨⟨_, hlen⟩, hall⟩, hasc⟩ := hchk
      have hall' : ∀ b ∈ bs, b.isNumber = true := List.all_eq_true.mp hall
      cases hout : bucketOutput o with
      | none => rw [hout] at h; cases h
      | some out =>
      rw [hout] at h
      obtain ⟨hacc, h⟩ := Option.ite_none_left_eq_some.mp h
      rw [Bool.or_eq_true, not_or, Bool.not_eq_true', Bool.not_eq_false] at hacc
      have ha : a = ⟨gb, bs, dget "default" o, out⟩ := by
        cases hd : dget "default" o with
        | none => rw [hd] at h; exact (Option.some.inj h).symm
        | some d =>
          rw [hd] at h
          exact (Option.some.inj (Option.ite_none_right_eq_some.mp h).2).symm
      subst ha
      refine ⟨hall', hasc, hlen, ?_⟩
      unfold bucketOutput at hout
      simp only [bucketStage, if_neg hunk, hgb, hbs, if_neg (Nat.not_lt.mpr hlen), hall, Bool.not_true, Bool.false_eq_true,
        if_false, sortedNums_of_strictAsc bs hall' hasc]
      split
      · rename_i heq; cases hout.symm.trans heq
      · rename_i heq
        cases hout.symm.trans heq
        simp only [validateAccs_of_specsOk out hacc.1]
        rfl
    · cases h
  | _ => cases h

/-! ### the default bucket among the boundaries -/

/-- a default the domain admits is a number, or a string / naive date, which lies above every
    number and is never a number for Python -/
theorem default_cases : ∀ (d : Val), bucketDefaultReasons (some d) = [] →
    groupKeyOk d = true ∧
      (d.isNumber = true ∨ (d.num? = none ∧ ∀ c, c.isNumber = true → valLt c d = true))
  | .int _, _ | .dbl _ _, _ => ⟨rfl, Or.inl rfl⟩
  | .str _, _ | .date _ none, _ =>
    ⟨rfl, Or.inr ⟨rfl, number_cases (fun _ => rfl) (fun _ _ => rfl)⟩⟩

theorem lastOf_number (d hi : Val) (bs : List Val) (hl : bs.getLast? = some hi)
    (hd : d.isNumber = true) (hh : hi.isNumber = true) :
    lastOf (some d) bs = !valLt d hi := by
  obtain ⟨nd, nhi, h1, h2, _, h4⟩ := num_cmp d hd hi hh
  simp only [lastOf, hl, h1, h2, h4]

theorem order_facts (bs : List Val) (dflt : Option Val)
    (hb : ∀ b ∈ bs, b.isNumber = true) (hasc : strictAsc bs = true) (hlen : 2 ≤ bs.length)
    (hdef : bucketDefaultReasons dflt = []) :
    (∀ c ∈ lowIds bs dflt (lastOf dflt bs), c.isNumber = true) ∧
    (∀ c ∈ lowIds bs dflt (lastOf dflt bs), ∀ t, topId dflt (lastOf dflt bs) = some t →
      valLt c t = true) ∧
    (∀ t, topId dflt (lastOf dflt bs) = some t → groupKeyOk t = true) := by
  have hdl : ∀ c ∈ bs.dropLast, c.isNumber = true := fun c hc => hb c (List.mem_of_mem_dropLast hc)
  cases dflt with
  | none =>
    refine ⟨?_, nofun, nofun⟩
    intro c hc
    rw [lowIds, List.append_nil] at hc
    exact hdl c hc
  | some d =>
    obtain ⟨hok, hd⟩ := default_cases d hdef
    have hne : bs ≠ [] := by intro e; subst e; cases hlen
    have hl := List.getLast?_eq_some_getLast hne
    generalize bs.getLast hne = hi at hl
    -- the default is carried last, above every boundary but the last, or it is a number below
    have key : (lastOf (some d) bs = true ∧ ∀ c ∈ bs.dropLast, valLt c d = true) ∨
        (lastOf (some d) bs = false ∧ d.isNumber = true) := by
      rcases hd with hnum | ⟨hnone, habove⟩
      · rw [lastOf_number d hi bs hl hnum (hb hi (List.mem_of_getLast? hl))]
        cases hv : valLt d hi with
        | true => exact Or.inr ⟨rfl, hnum⟩
        | false =>
          exact Or.inl ⟨rfl, fun c hc =>
            valLt_of_lt_of_le (asc_dropLast_lt hi bs hasc hl c hc) hv⟩
      · exact Or.inl ⟨by simp only [lastOf, hl, hnone], fun c hc => habove c (hdl c hc)⟩
    rcases key with ⟨hlast, habove⟩ | ⟨hlast, hnum⟩ <;> rw [hlast]
    · have hlow : lowIds bs (some d) true = bs.dropLast := List.append_nil _
      rw [hlow]
      exact ⟨hdl, fun c hc t ht => by cases ht; exact habove c hc, fun t ht => by cases ht; exact hok⟩
    · refine ⟨?_, nofun, nofun⟩
      intro c hc
      rcases List.mem_append.mp hc with hc | hc
      · exact hdl c hc
      · cases List.mem_singleton.mp hc; exact hnum

/-- **`$bucket` = the oracle** on the domain -/
theorem bucket_eq_spec (opts : Val) (docs s : List Val)
    (hD : bucketReasons opts docs = []) (hs : specBucketStage opts docs = some s) :
    bucketStage opts docs = .ok s := by
  unfold specBucketStage at hs
  unfold bucketReasons at hD
  cases ha : bucketArgs opts with
  | none => rw [ha] at hs; cases hs
  | some a =>
    simp only [ha, Option.bind_some, List.append_eq_nil_iff] at hs hD
    obtain ⟨⟨⟨⟨hform, htags⟩, hvals⟩, hdef⟩, haccs⟩ := hD
    obtain ⟨str, hgb⟩ : ∃ str, a.groupBy = .str str := by
      cases hg : a.groupBy with
      | str s => exact ⟨s, rfl⟩
      | _ => rw [hg] at hform; cases hform
    have hvals' : ∀ d ∈ docs, ∃ r, exprValue a.groupBy d = some r ∧ bucketValueReasons r = [] := by
      intro d hd
      have := List.flatMap_eq_nil_iff.mp hvals d hd
      cases hr : exprValue a.groupBy d with
      | none => rw [hr] at this; cases this
      | some r => rw [hr] at this; exact ⟨r, rfl, this⟩
    obtain ⟨hb, hasc, hlen, hmodel⟩ := bucketStage_args opts a docs ha
    obtain ⟨hL, hLD, hDok⟩ := order_facts a.bounds a.default hb hasc hlen hdef
    have hkeyed := bucketKeyed_spec a (lastOf a.default a.bounds) hgb hb hasc docs
      (exprTags_nil _ _ htags) hvals'
    cases hk : specBucketKeyed a docs with
    | none => rw [hk] at hs; cases hs
    | some kds =>
      rw [hk] at hkeyed
      simp only [hk, Option.bind_some] at hs haccs
      obtain ⟨sd, hsd, rfl⟩ := Option.map_eq_some_iff.mp hs
      obtain ⟨kb, k1, k2, k3⟩ := hkeyed
      have hS : ∀ p ∈ isort (fun x y : BKey × Val => valLt x.1.2 y.1.2) kb, Shape _ _ p.1 :=
        fun p hp => k3 p ((isort_perm _ kb).mem_iff.1 hp)
      have hK : ∀ p ∈ kds, groupKeyOk p.1 = true := by
        intro p hp
        rw [← k2] at hp
        obtain ⟨q, hq, rfl⟩ := List.mem_map.mp hp
        exact shape_ok hL hDok q.1 (k3 q hq)
      rw [hmodel, k1]
      simp only [bucket_sort_eq hL hDok hLD kb k3, bucketRuns_eq_groupRuns hL hDok hLD _ hS]
      rw [show (isort (fun x y : BKey × Val => valLt x.1.2 y.1.2) kb).map strip = _ from
        isort_map strip (fun x y : Val × Val => valLt x.1 y.1) kb, k2]
      exact emit_sorted_runs a.output kds sd hK haccs hsd

end MongoModel.Pipe.Proofs
