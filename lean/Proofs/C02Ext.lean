/-
  Proofs.C02Ext — the whole update against its entries run alone (the pointwise theorems of
  Props/C02.lean). A non-positional operator update is the fold of one step per entry
  (`applyUpdate_whole`, `flat_ok`); each step is local at the keys its entry addresses
  (`estep_local`), and `(addressed u).Nodup` makes these key sets disjoint, so `fold_outcome`
  compares the fold with every entry applied alone to the original document.
-/
import Proofs.C02
import Proofs.C02ExtFlat


namespace MongoModel.Proofs.C02Lemmas
open MongoModel MongoModel.Spec

/-- a non-empty operator update runs its operators one after the other -/
theorem applyUpdate_whole (spec now : Val) (wi : Bool) (u : Fields) (d : Val)
    (hu : u.all (fun kv => kv.1.startsWith "$") = true) (hne : u ≠ [])
    (hpos : positionalUpdate u = false) :
    applyUpdate spec (.doc u) now wi d =
      u.foldlM (fun acc kv => opRun spec now wi kv.1 kv.2 acc) d := by
  have hw := any_of_all_ne hu hne
  cases u with
  | nil => exact absurd rfl hne
  | cons kv r =>
    simp only [applyUpdate, hpos, Bool.false_eq_true, if_false]
    exact applyOps_eq spec now wi _ hw _ true d

/-- the entry is positional: a positional operator on a path with a `$` (the test of
    `positionalUpdate`, on one entry; `positionalUpdate_entries`) -/
def posEntry (e : Entry) : Bool := positionalOperators.contains e.1 && hasDollarPart e.2.1

theorem positionalUpdate_entries : ∀ (u : Fields),
    positionalUpdate u = (entries u).any posEntry
  | [] => rfl
  | (k, v) :: rest => by
    rw [entries_cons, List.any_append, ← positionalUpdate_entries rest]
    simp only [positionalUpdate, List.any_cons]
    congr 1
    cases v with
    | doc body =>
      simp only [entriesOf, List.any_map]
      cases hc : positionalOperators.contains k
      · have hm : k ∉ positionalOperators := by simpa using hc
        simp [posEntry, Function.comp_def, hm]
      · have hm : k ∈ positionalOperators := by simpa using hc
        simp [posEntry, Function.comp_def, hm]
    | _ => simp [entriesOf]

theorem positionalUpdate_single (e : Entry) : positionalUpdate (single e) = posEntry e := by
  simp [positionalUpdate, single, posEntry]

theorem single_not_positional {u : Fields} (hpos : positionalUpdate u = false) {e : Entry}
    (he : e ∈ entries u) : positionalUpdate (single e) = false := by
  rw [positionalUpdate_single]
  rw [positionalUpdate_entries, List.any_eq_false] at hpos
  simpa using hpos e he

theorem positionalUpdate_perm {u u' : Fields} (hp : (entries u).Perm (entries u')) :
    positionalUpdate u' = positionalUpdate u := by
  rw [positionalUpdate_entries, positionalUpdate_entries]
  cases h : (entries u).any posEntry with
  | true =>
    obtain ⟨e, he, hpe⟩ := List.any_eq_true.mp h
    exact List.any_eq_true.mpr ⟨e, hp.mem_iff.mp he, hpe⟩
  | false =>
    rw [List.any_eq_false] at h ⊢
    intro e he
    exact h e (hp.mem_iff.mpr he)

theorem entries_key_mem {u : Fields} {e : Entry} (he : e ∈ entries u) :
    ∃ v, (e.1, v) ∈ u := by
  simp only [entries, List.mem_flatMap] at he
  obtain ⟨kv, hkv, hin⟩ := he
  obtain ⟨k, v⟩ := kv
  cases v with
  | doc body =>
    simp only [List.mem_map] at hin
    obtain ⟨fv, _, rfl⟩ := hin
    exact ⟨_, hkv⟩
  | _ => simp at hin

theorem entries_dollar {u : Fields} (hu : u.all (fun kv => kv.1.startsWith "$") = true)
    {e : Entry} (he : e ∈ entries u) : e.1.startsWith "$" = true := by
  obtain ⟨v, hv⟩ := entries_key_mem he
  exact List.all_eq_true.mp hu (e.1, v) hv

theorem operatorNames_dollar {k : String} (hk : operatorNames.contains k = true) :
    k.startsWith "$" = true :=
  List.all_eq_true.mp (by decide +kernel : operatorNames.all (·.startsWith "$") = true) k
    (List.contains_iff_mem.mp hk)

theorem wellShaped_dollar {u : Fields} (hs : wellShaped u = true) :
    u.all (fun kv => kv.1.startsWith "$") = true := by
  simp only [wellShaped, List.all_eq_true, Bool.and_eq_true] at hs ⊢
  intro kv hkv
  exact operatorNames_dollar (hs kv hkv).1

theorem err_iff_of_ok_iff {x y : R Val} (h : ∀ r, x = .ok r ↔ y = .ok r) :
    (∃ e, x = .error e) ↔ ∃ e, y = .error e := by
  cases x with
  | ok r =>
    rw [(h r).mp rfl]
  | error e =>
    cases y with
    | ok r => exact absurd ((h r).mpr rfl) (by simp)
    | error e' => simp

theorem proj_absent {k : String} : ∀ {fs : Fields}, k ∉ dkeys fs → proj k fs = []
  | [], _ => rfl
  | (k', v) :: r, h => by
    simp only [dkeys, List.map_cons, List.mem_cons, not_or] at h
    have e : ¬ k' = k := fun e => h.1 e.symm
    rw [proj_cons]
    simp only [e, if_false]
    exact proj_absent (fs := r) h.2

/-- without duplicate keys the entries under `k` are the one `dget` finds -/
theorem proj_of_nodup (k : String) : ∀ {fs : Fields}, (dkeys fs).Nodup →
    proj k fs = (match dget k fs with | some v => [(k, v)] | none => [])
  | [], _ => rfl
  | (k', v) :: r, h => by
    simp only [dkeys, List.map_cons, List.nodup_cons] at h
    rw [proj_cons]
    by_cases e : k' = k
    · subst e
      simp only [if_true, dget, proj_absent (fs := r) h.1]
    · simp only [e, if_false, dget]
      exact proj_of_nodup k (fs := r) h.2

/-- a local step, on two documents without duplicate keys that hold the same values under its
    keys: it fails alike, or succeeds on both and leaves the same values under those keys -/
theorem Local.reads {H : List String} {F : Val → R Val} (hF : Local H F) {fs gs : Fields}
    (hk : (dkeys fs).Nodup) (hk' : (dkeys gs).Nodup) (hag : ∀ k, k ∈ H → dget k fs = dget k gs) :
    (∀ err, F (.doc fs) = .error err → F (.doc gs) = .error err) ∧
    (∀ fs', F (.doc fs) = .ok (.doc fs') →
      ∃ gs', F (.doc gs) = .ok (.doc gs') ∧ ∀ k, k ∈ H → dget k fs' = dget k gs') := by
  have hr := hF fs gs fun k hkm => by rw [proj_of_nodup k hk, proj_of_nodup k hk', hag k hkm]
  generalize F (.doc fs) = x at hr ⊢
  generalize F (.doc gs) = y at hr ⊢
  cases hr with
  | err e0 => exact ⟨fun _ h => h, fun _ h => nomatch h⟩
  | ok fs1 gs1 hag1 _ _ =>
    refine ⟨fun _ h => (nomatch h), fun fs' h => ?_⟩
    cases h
    exact ⟨gs1, rfl, fun k hkm => hag1.dget hkm⟩

/-- what an update shares with one that has the same entries in another order -/
theorem perm_update {u u' : Fields} (hpos : positionalUpdate u = false) (hd : (addressed u).Nodup)
    (hp : (entries u).Perm (entries u')) :
    (addressed u).Perm (addressed u') ∧ (addressed u').Nodup ∧ positionalUpdate u' = false := by
  have hpa : (addressed u).Perm (addressed u') := by
    rw [addressed_entries, addressed_entries]; exact hp.flatMap_right _
  exact ⟨hpa, hpa.nodup hd, by rw [positionalUpdate_perm hp]; exact hpos⟩

end MongoModel.Proofs.C02Lemmas

namespace MongoModel.Proofs.C02
open MongoModel MongoModel.Spec MongoModel.Proofs.C02Lemmas

theorem entry_reads_only_its_fields (spec now : Val) (wasInsert : Bool) (e : Entry)
    (fs gs : Fields) (he : e.1.startsWith "$" = true)
    (hpos : positionalUpdate (single e) = false)
    (hk : (dkeys fs).Nodup) (hk' : (dkeys gs).Nodup)
    (hag : ∀ k, k ∈ addressed (single e) → dget k fs = dget k gs) :
    (∀ err, applyUpdate spec (.doc (single e)) now wasInsert (.doc fs) = .error err →
      applyUpdate spec (.doc (single e)) now wasInsert (.doc gs) = .error err) ∧
    (∀ fs', applyUpdate spec (.doc (single e)) now wasInsert (.doc fs) = .ok (.doc fs') →
      ∃ gs', applyUpdate spec (.doc (single e)) now wasInsert (.doc gs) = .ok (.doc gs') ∧
        ∀ k, k ∈ addressed (single e) → dget k fs' = dget k gs') := by
  rw [applyUpdate_single spec now wasInsert e _ he hpos,
    applyUpdate_single spec now wasInsert e _ he hpos]
  rw [addressed_single] at hag ⊢
  exact (estep_local spec now wasInsert e).reads hk hk' hag

theorem update_is_pointwise (spec now : Val) (wasInsert : Bool) (u fs fs' : Fields)
    (hu : u.all (fun kv => kv.1.startsWith "$") = true) (hne : u ≠ [])
    (hpos : positionalUpdate u = false) (hd : (addressed u).Nodup)
    (h : applyUpdate spec (.doc u) now wasInsert (.doc fs) = .ok (.doc fs')) :
    ∀ e, e ∈ entries u → ∃ fs₁,
      applyUpdate spec (.doc (single e)) now wasInsert (.doc fs) = .ok (.doc fs₁) ∧
      ∀ k, k ∈ addressed (single e) → dget k fs' = dget k fs₁ := by
  rw [applyUpdate_whole spec now wasInsert u _ hu hne hpos] at h
  rw [addressed_entries] at hd
  have hout := fold_outcome (estep spec now wasInsert) eheads (entries u)
    (fun s _ => estep_local spec now wasInsert s) hd fs fs (Agree.refl _ _)
  rw [flat_ok spec now wasInsert u _ _ h] at hout
  obtain ⟨fs'', e', hall⟩ := hout
  cases e'
  intro e he
  obtain ⟨gs1, h1, hag⟩ := hall e he
  refine ⟨gs1, ?_, ?_⟩
  · rw [applyUpdate_single spec now wasInsert e _ (entries_dollar hu he)
      (single_not_positional hpos he)]; exact h1
  · intro k hk
    rw [addressed_single] at hk
    exact hag.dget hk

theorem update_error_of_entry (spec now : Val) (wasInsert : Bool) (u fs : Fields)
    (hu : u.all (fun kv => kv.1.startsWith "$") = true) (hne : u ≠ [])
    (hpos : positionalUpdate u = false) (hd : (addressed u).Nodup) (e : Entry) (he : e ∈ entries u) (err : Err)
    (h : applyUpdate spec (.doc (single e)) now wasInsert (.doc fs) = .error err) :
    ∃ err', applyUpdate spec (.doc u) now wasInsert (.doc fs) = .error err' := by
  rw [applyUpdate_single spec now wasInsert e _ (entries_dollar hu he)
    (single_not_positional hpos he)] at h
  rw [addressed_entries] at hd
  have hout := fold_outcome (estep spec now wasInsert) eheads (entries u)
    (fun s _ => estep_local spec now wasInsert s) hd fs fs (Agree.refl _ _)
  rw [applyUpdate_whole spec now wasInsert u _ hu hne hpos]
  cases hx : u.foldlM (fun acc kv => opRun spec now wasInsert kv.1 kv.2 acc) (.doc fs) with
  | error e' => exact ⟨e', rfl⟩
  | ok r =>
    rw [flat_ok spec now wasInsert u _ _ hx] at hout
    obtain ⟨_, _, hall⟩ := hout
    obtain ⟨_, h1, _⟩ := hall e he
    rw [h] at h1
    cases h1

theorem update_error_iff (spec now : Val) (wasInsert : Bool) (u fs : Fields) (hne : u ≠ [])
    (hs : wellShaped u = true) (hpos : positionalUpdate u = false) (hd : (addressed u).Nodup) :
    (∃ err, applyUpdate spec (.doc u) now wasInsert (.doc fs) = .error err) ↔
      ∃ e, e ∈ entries u ∧
        ∃ err, applyUpdate spec (.doc (single e)) now wasInsert (.doc fs) = .error err := by
  have hu := wellShaped_dollar hs
  constructor
  · intro h
    rw [applyUpdate_whole spec now wasInsert u _ hu hne hpos] at h
    have h2 := (err_iff_of_ok_iff (fun r =>
      ⟨flat_ok spec now wasInsert u (.doc fs) r, flat_ok_conv spec now wasInsert u (.doc fs) r hs⟩)).mp h
    rw [addressed_entries] at hd
    have hout := fold_outcome (estep spec now wasInsert) eheads (entries u)
      (fun s _ => estep_local spec now wasInsert s) hd fs fs (Agree.refl _ _)
    obtain ⟨err2, h2⟩ := h2
    rw [h2] at hout
    obtain ⟨e, he, err, h3⟩ := hout
    refine ⟨e, he, err, ?_⟩
    rw [applyUpdate_single spec now wasInsert e _ (entries_dollar hu he)
      (single_not_positional hpos he)]; exact h3
  · rintro ⟨e, he, err, h⟩
    exact update_error_of_entry spec now wasInsert u fs hu hne hpos hd e he err h

theorem update_order_irrelevant (spec now : Val) (wasInsert : Bool) (u u' fs fs' fs'' : Fields)
    (hu : u.all (fun kv => kv.1.startsWith "$") = true) (hne : u ≠ [])
    (hu' : u'.all (fun kv => kv.1.startsWith "$") = true) (hne' : u' ≠ [])
    (hpos : positionalUpdate u = false)
    (hd : (addressed u).Nodup) (hp : (entries u).Perm (entries u'))
    (h : applyUpdate spec (.doc u) now wasInsert (.doc fs) = .ok (.doc fs'))
    (h' : applyUpdate spec (.doc u') now wasInsert (.doc fs) = .ok (.doc fs'')) :
    ∀ k, dget k fs' = dget k fs'' := by
  obtain ⟨hpa, hd', hpos'⟩ := perm_update hpos hd hp
  intro k
  by_cases hk : k ∈ addressed u
  · rw [addressed_entries, List.mem_flatMap] at hk
    obtain ⟨e, he, hke⟩ := hk
    rw [← addressed_single] at hke
    obtain ⟨fs1, h1, hg1⟩ := update_is_pointwise spec now wasInsert u fs fs' hu hne hpos hd h e he
    obtain ⟨fs2, h2, hg2⟩ := update_is_pointwise spec now wasInsert u' fs fs'' hu' hne' hpos' hd' h' e
      (hp.mem_iff.mp he)
    rw [h1] at h2; cases h2
    rw [hg1 k hke, hg2 k hke]
  · have hk' : k ∉ addressed u' := fun h => hk (hpa.mem_iff.mpr h)
    rw [untouched_fields spec now wasInsert u fs fs' hu hne h k hk,
      untouched_fields spec now wasInsert u' fs fs'' hu' hne' h' k hk']

theorem update_order_success (spec now : Val) (wasInsert : Bool) (u u' fs fs' : Fields)
    (hu : u.all (fun kv => kv.1.startsWith "$") = true) (hne : u ≠ []) (hne' : u' ≠ [])
    (hs' : wellShaped u' = true) (hpos : positionalUpdate u = false)
    (hd : (addressed u).Nodup) (hp : (entries u).Perm (entries u'))
    (h : applyUpdate spec (.doc u) now wasInsert (.doc fs) = .ok (.doc fs')) :
    ∃ fs'', applyUpdate spec (.doc u') now wasInsert (.doc fs) = .ok (.doc fs'') := by
  obtain ⟨hpa, hd', hpos'⟩ := perm_update hpos hd hp
  cases hx : applyUpdate spec (.doc u') now wasInsert (.doc fs) with
  | ok r =>
    obtain ⟨fs'', rfl⟩ := update_stays_document spec now wasInsert u' fs r
      (wellShaped_dollar hs') hne' hx
    exact ⟨fs'', rfl⟩
  | error err =>
    obtain ⟨e, he, err1, h1⟩ := (update_error_iff spec now wasInsert u' fs hne' hs' hpos' hd').mp
      ⟨err, hx⟩
    obtain ⟨err2, h2⟩ := update_error_of_entry spec now wasInsert u fs hu hne hpos hd e
      (hp.mem_iff.mpr he) err1 h1
    rw [h] at h2; cases h2

end MongoModel.Proofs.C02
