/-
  Proofs.C02ExtFlat — a whole operator update succeeds with result `r` exactly when the run of
  its entries, one after the other, does (`flat_ok`; the converse `flat_ok_conv` needs the update
  to be well shaped: an unknown operator or a non-document argument has no entries but fails).
-/
import Proofs.C02ExtMain


namespace MongoModel.Proofs.C02Lemmas
open MongoModel MongoModel.Spec

theorem updateFields_singles (u : Updater) (now : Val) :
    ∀ (body : Fields) (d r : Val),
      body.foldlM (fun acc fv => updateFields u now (.doc [fv]) acc) d = .ok r ↔
        (body.any (fun kv => hasDollarPart kv.1) = false ∧
          body.foldlM (fun acc kv =>
            if !keyOk kv.1 then unmodelled
            else updateSingleField u now kv.2 (splitDots kv.1) acc) d = .ok r)
  | [], d, r => by simp [List.foldlM_nil]
  | (p, a) :: body, d, r => by
    simp only [List.foldlM_cons, List.any_cons, Bool.or_eq_false_iff, bind_ok_iff,
      updateFields_single]
    by_cases h1 : hasDollarPart p = true
    · simp [h1, unmodelled]
    · simp only [h1, if_false, Bool.false_eq_true] at h1 ⊢
      simp only [true_and]
      constructor
      · rintro ⟨s, hs, hr⟩
        have := (updateFields_singles u now body s r).mp hr
        exact ⟨this.1, s, hs, this.2⟩
      · rintro ⟨hb, s, hs, hr⟩
        exact ⟨s, hs, (updateFields_singles u now body s r).mpr ⟨hb, hr⟩⟩

theorem updateFields_flat (u : Updater) (now : Val) (body : Fields) (d r : Val) :
    updateFields u now (.doc body) d = .ok r ↔
      body.foldlM (fun acc fv => updateFields u now (.doc [fv]) acc) d = .ok r := by
  rw [updateFields_singles]
  simp only [updateFields]
  by_cases h : body.any (fun kv => hasDollarPart kv.1) = true
  · simp [h, unmodelled]
  · simp only [h, if_false, Bool.false_eq_true]
    simp

theorem updateFields_nondoc (u : Updater) (now v d r : Val) (hv : ∀ body, v ≠ .doc body) :
    updateFields u now v d ≠ .ok r := by
  cases v <;> first | exact absurd rfl (hv _) | simp [updateFields]

theorem eachField_flat (f : Val → String → Val → R Val) (body : Fields) (d : Val) :
    eachField (.doc body) d f = body.foldlM (fun acc fv => eachField (.doc [fv]) acc f) d := by
  simp only [eachField]
  congr 1
  funext acc fv
  exact (eachField_single f fv.1 fv.2 acc).symm

theorem eachField_nondoc (f : Val → String → Val → R Val) (v d r : Val)
    (hv : ∀ body, v ≠ .doc body) : eachField v d f ≠ .ok r := by
  cases v <;> first | exact absurd rfl (hv _) | simp [eachField]

theorem foldlM_id_ok {σ : Type} (g : Val → σ → R Val) (hg : ∀ d s, g d s = .ok d) :
    ∀ (l : List σ) (d : Val), l.foldlM g d = .ok d
  | [], d => rfl
  | s :: l, d => by
    simp only [List.foldlM_cons, hg]
    exact foldlM_id_ok g hg l d

theorem entriesOf_fold (spec now : Val) (wi : Bool) (k : String) (body : Fields) (d : Val) :
    (entriesOf k (.doc body)).foldlM (estep spec now wi) d =
      body.foldlM (fun acc fv => opRun spec now wi k (.doc [fv]) acc) d := by
  simp only [entriesOf, List.foldlM_map, estep]

theorem entriesOf_nondoc (k : String) (v : Val) (hv : ∀ body, v ≠ .doc body) :
    entriesOf k v = [] := by
  cases v <;> first | exact absurd rfl (hv _) | rfl

theorem opRun_flat_ok (spec now : Val) (wi : Bool) (k : String) (v d r : Val)
    (h : opRun spec now wi k v d = .ok r) :
    (entriesOf k v).foldlM (estep spec now wi) d = .ok r := by
  by_cases hv : ∃ body, v = .doc body
  · obtain ⟨body, rfl⟩ := hv
    rw [entriesOf_fold]
    unfold opRun at h ⊢
    generalize opClass wi k = c at h ⊢
    cases c with
    | fields u => exact (updateFields_flat u now body d r).mp h
    | each a => exact (eachField_flat _ body d).symm.trans h
    | rename =>
      simp only [opRun?, Option.getD_some, renameFields] at h ⊢
      exact (eachField_flat _ body d).symm.trans h
    | skip => cases h; exact foldlM_id_ok _ (fun d s => rfl) _ _
    | unknown => cases h
  · rw [entriesOf_nondoc k v (fun body e => hv ⟨body, e⟩)]
    unfold opRun at h
    generalize opClass wi k = c at h
    cases c with
    | fields u => exact absurd h (updateFields_nondoc u now v d r (fun body e => hv ⟨body, e⟩))
    | each a => exact absurd h (eachField_nondoc _ v d r (fun body e => hv ⟨body, e⟩))
    | rename =>
      simp only [opRun?, Option.getD_some, renameFields] at h
      exact absurd h (eachField_nondoc _ v d r (fun body e => hv ⟨body, e⟩))
    | skip => exact h
    | unknown => cases h

theorem opRun_flat_conv (spec now : Val) (wi : Bool) (k : String) (body : Fields) (d r : Val)
    (hk : operatorNames.contains k = true)
    (h : (entriesOf k (.doc body)).foldlM (estep spec now wi) d = .ok r) :
    opRun spec now wi k (.doc body) d = .ok r := by
  rw [entriesOf_fold] at h
  have hkey := opClass_key wi k
  unfold opRun at h ⊢
  generalize opClass wi k = c at h hkey ⊢
  cases c with
  | fields u => exact (updateFields_flat u now body d r).mpr h
  | each a => exact (eachField_flat _ body d).trans h
  | rename =>
    simp only [opRun?, Option.getD_some, renameFields] at h ⊢
    exact (eachField_flat _ body d).trans h
  | skip => exact (foldlM_id_ok _ (fun d s => rfl) _ _).symm.trans h
  | unknown => rw [hk] at hkey; cases hkey

theorem flat_ok (spec now : Val) (wi : Bool) :
    ∀ (ops : Fields) (d r : Val),
      ops.foldlM (fun acc kv => opRun spec now wi kv.1 kv.2 acc) d = .ok r →
      (entries ops).foldlM (estep spec now wi) d = .ok r
  | [], d, r, h => h
  | (k, v) :: rest, d, r, h => by
    simp only [List.foldlM_cons] at h
    obtain ⟨d1, h1, h2⟩ := bind_ok_iff.mp h
    rw [entries_cons, List.foldlM_append]
    exact bind_ok_iff.mpr ⟨d1, opRun_flat_ok spec now wi k v d d1 h1,
      flat_ok spec now wi rest d1 r h2⟩

theorem flat_ok_conv (spec now : Val) (wi : Bool) :
    ∀ (ops : Fields) (d r : Val), wellShaped ops = true →
      (entries ops).foldlM (estep spec now wi) d = .ok r →
      ops.foldlM (fun acc kv => opRun spec now wi kv.1 kv.2 acc) d = .ok r
  | [], d, r, _, h => h
  | (k, v) :: rest, d, r, hs, h => by
    simp only [wellShaped, List.all_cons, Bool.and_eq_true] at hs
    obtain ⟨⟨hk, hv⟩, hrest⟩ := hs
    rw [entries_cons, List.foldlM_append] at h
    obtain ⟨d1, h1, h2⟩ := bind_ok_iff.mp h
    simp only [List.foldlM_cons]
    cases v with
    | doc body =>
      exact bind_ok_iff.mpr ⟨d1, opRun_flat_conv spec now wi k body d d1 hk h1,
        flat_ok_conv spec now wi rest d1 r (by simpa only [wellShaped] using hrest) h2⟩
    | _ => simp at hv

end MongoModel.Proofs.C02Lemmas
