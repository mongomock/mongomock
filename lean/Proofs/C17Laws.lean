/-
  Proofs.C17Laws — the laws of the catalogue.  Facts about the model's state are pulled back from
  the oracle: a well-formed `w` is related to `abs w` (`rel_abs`), so existence persists because it
  does in the oracle (`spec_persists`, carried across `step_refines`), and the listings are read off
  the relation (`rel_srv`).  What a step leaves alone comes from `step_frame`; the create and drop
  laws unfold the step itself.
-/
import Proofs.C17Refine

namespace MongoModel.Proofs.C17
open MongoModel MongoModel.Catalog MongoModel.Spec.Catalog

theorem read_step_coll (σ : Nat → Nat) (w : World) (op : Op) (hr : isRead op = true)
    (i : Nat) (d n : String) :
    ((Catalog.step σ w op).1.store i).coll d n = (w.store i).coll d n := by
  rcases (step_frame σ w op).store_eq i with e | ⟨rfl, hp⟩
  · rw [e]
  · exact hp hr d n

theorem read_run_coll (σ : Nat → Nat) (ops : List Op) : ∀ (w : World),
    ops.all isRead = true → ∀ i d n,
    ((Catalog.run σ w ops).1.store i).coll d n = (w.store i).coll d n := by
  induction ops with
  | nil => intro w _ i d n; rfl
  | cons op ops ih =>
    intro w hr i d n
    have hr := Bool.and_eq_true_iff.mp hr
    exact (ih _ hr.2 i d n).trans (read_step_coll σ w op hr.1 i d n)

theorem reads_never_create (σ : Nat → Nat) (w : World) (ops : List Op) (hw : WF w)
    (hr : ops.all isRead = true) :
    (∀ i d n, ((Catalog.run σ w ops).1.store i).coll d n = (w.store i).coll d n) ∧
    (∀ i d, (((Catalog.run σ w ops).1.store i).listColls d).Perm ((w.store i).listColls d)) ∧
    (∀ i, ((Catalog.run σ w ops).1.store i).listDbs.Perm (w.store i).listDbs) := by
  have hc := read_run_coll σ ops w hr
  -- both stores stand in the relation to the abstraction of the old one, so list the same names
  have r := fun i => rel_srv (rel_abs hw) i
  have r' := fun i => (r i).congr ((wf_run σ ops w hw).1 i) (hc i)
  exact ⟨hc, fun i d => ((r' i).listColls_perm d).trans ((r i).listColls_perm d).symm,
    fun i => (r' i).listDbs_perm.trans (r i).listDbs_perm.symm⟩

theorem created_iff_isSome {w : World} {s : SWorld} (hR : Rel w s) (i : Nat) (d n : String) :
    created w i d n = (alGet? (d, n) (s i)).isSome :=
  (rel_srv hR i).created d n

/-- an existing collection survives every handle operation of the oracle but `drop` -/
theorem scollOp_some (o : CollOp) (c : SColl) (h : o.isDrop = false) :
    ((scollOp o (some c)).1).isSome = true := by
  obtain ⟨hf, ht, _⟩ := collOp_flagged o h c.docs c.indexes
  exact (congrArg Option.isSome ht).symm.trans ((toS_isSome _).trans (isCreated_of_flag hf))

theorem isSome_upd {s : SWorld} {i j : Nat} {k : Ns} {st : SStore}
    (hex : (alGet? k (s i)).isSome = true) (h : j = i → (alGet? k st).isSome = true) :
    (alGet? k (upd s j st i)).isSome = true := by
  unfold upd
  by_cases e : i = j
  · rw [if_pos e]; exact h e.symm
  · rw [if_neg e]; exact hex

theorem spec_persists (σ : Nat → Nat) (s : SWorld) (op : Op) (i : Nat) (d n : String)
    (hne : mayRemove σ i d n op = false) (hex : (alGet? (d, n) (s i)).isSome = true) :
    (alGet? (d, n) ((Spec.Catalog.step σ s op).1 i)).isSome = true := by
  -- the oracle's rename and drops, on the store the key lives in
  have rn : ∀ (h : DbH) (m n' : String) (dt : Bool),
      (σ h.client == i && h.db == d && (m == n || n' == n)) = false →
      (alGet? (d, n) ((Spec.Catalog.step σ s (.renameCollection h m n' dt)).1 i)).isSome = true :=
    fun h m n' dt hne => isSome_upd hex fun e => by
      subst e
      rw [(srenameStep_spec (s (σ h.client)) h.db m n' dt).2.2, moved_of_ne]
      · exact hex
      · rintro ⟨⟩; simp at hne
      · rintro ⟨⟩; simp at hne
  have dc : ∀ (h : DbH) (m : String), (σ h.client == i && h.db == d && m == n) = false →
      (alGet? (d, n) ((Spec.Catalog.step σ s (.dropCollection h (.byName m))).1 i)).isSome = true :=
    fun h m hne => isSome_upd hex fun e => by
      subst e
      rw [alGet?_erase, if_neg]
      · exact hex
      · rintro ⟨⟩; simp at hne
  have dd : ∀ (c : Nat) (e : String), (σ c == i && e == d) = false →
      (alGet? (d, n) ((Spec.Catalog.step σ s (.dropDatabase c (.byName e))).1 i)).isSome = true :=
    fun c e hne => isSome_upd hex fun e => by
      subst e
      rw [alGet?_dropDb, if_neg]
      · exact hex
      · rintro rfl; simp at hne
  cases op with
  | getDb c e => exact hex
  | getColl h m => exact hex
  | coll h o =>
    refine isSome_upd hex fun e => ?_
    subst e
    rw [alGet?_setOpt]
    by_cases hk : (d, n) = (h.db, h.coll)
    · cases hk
      rw [if_pos rfl]
      cases hg : alGet? (h.db, h.coll) (s (σ h.client)) with
      | none => rw [hg] at hex; cases hex
      | some c => exact scollOp_some o c (by simpa only [mayRemove, beq_self_eq_true, Bool.and_true] using hne)
    · rw [if_neg hk]; exact hex
  | collRename h n' dt => exact rn h.dbh h.coll n' dt hne
  | renameCollection h m n' dt => exact rn h m n' dt hne
  | createCollection h m =>
    have ite : ∀ {c : Prop} [Decidable c] {a b : SWorld × Out},
        (alGet? (d, n) (a.1 i)).isSome = true → (alGet? (d, n) (b.1 i)).isSome = true →
        (alGet? (d, n) ((if c then a else b).1 i)).isSome = true := fun {c} _ _ _ ha hb => by
      by_cases hc : c
      · rw [if_pos hc]; exact ha
      · rw [if_neg hc]; exact hb
    refine ite hex (ite hex (isSome_upd hex fun e => ?_))
    subst e
    rw [alGet?_upsert]
    by_cases hk : (d, n) = (h.db, m)
    · rw [if_pos hk]; rfl
    · rw [if_neg hk]; exact hex
  | dropCollection h t =>
    cases t with
    | byName m => exact dc h m hne
    | byHandle h' => exact dc h h'.coll hne
  | listCollectionNames h f => cases f <;> exact hex
  | listDatabaseNames c => exact hex
  | dropDatabase c t =>
    cases t with
    | byName e => exact dd c e hne
    | byHandle h => exact dd c h.db hne

/-- one step - in or out of the scope of the model - that is no drop of the namespace, no rename
    from or onto it and no drop of its database leaves it existing -/
theorem exists_persists_step (σ : Nat → Nat) (w : World) (op : Op) (i : Nat) (d n : String)
    (hw : WF w) (hne : mayRemove σ i d n op = false)
    (hex : created w i d n = true) : created (Catalog.step σ w op).1 i d n = true := by
  cases hD : inD σ w op with
  | false => rw [step_outside_D σ w op hD]; exact hex
  | true =>
    have hR := rel_abs hw
    rw [created_iff_isSome (step_refines σ w (abs w) op hR hD).1]
    exact spec_persists σ (abs w) op i d n hne ((created_iff_isSome hR i d n).symm.trans hex)

theorem exists_until_drop (σ : Nat → Nat) (i : Nat) (d n : String) (ops : List Op) :
    ∀ (w : World), WF w →
    ops.all (fun op => !mayRemove σ i d n op) = true →
    created w i d n = true → created (Catalog.run σ w ops).1 i d n = true := by
  induction ops with
  | nil => intro w _ _ h; exact h
  | cons op ops ih =>
    intro w hw hne hex
    have hne := Bool.and_eq_true_iff.mp hne
    exact ih _ (wf_step σ w op hw) hne.2
      (exists_persists_step σ w op i d n hw ((Bool.not_eq_true' _).mp hne.1) hex)

theorem created_listed {w : World} (hw : WF w) (i : Nat) (d n : String)
    (hex : created w i d n = true) :
    d ∈ (w.store i).listDbs ∧ (isSystem n = false → n ∈ (w.store i).listColls d) :=
  ⟨(mem_listDbs (hw.1 i) d).mpr ⟨n, hex⟩, fun hs => (mem_listColls (hw.1 i) d n).mpr ⟨hex, hs⟩⟩

theorem create_existing_fails (σ : Nat → Nat) (w : World) (h : DbH) (n : String)
    (hob : obtainedDb w h = true) (hv : validName n = true)
    (hex : created w (σ h.client) h.db n = true) :
    Catalog.step σ w (.createCollection h n) = (w, .err .collInvalid) := by
  rw [step_createCollection σ w h n hob, hv,
    if_pos (List.contains_iff_mem.mpr (mem_createdColls_of_created hex))]
  rfl

theorem create_new_succeeds (σ : Nat → Nat) (w : World) (h : DbH) (n : String) (hw : WF w)
    (hob : obtainedDb w h = true) (hv : validName n = true)
    (hex : created w (σ h.client) h.db n = false) :
    (Catalog.step σ w (.createCollection h n)).2 = .ok ∧
    created (Catalog.step σ w (.createCollection h n)).1 (σ h.client) h.db n = true := by
  unfold created at hex ⊢
  rw [step_createCollection σ w h n hob, hv, contains_createdColls (hw.1 _),
    if_neg (Bool.eq_false_iff.mp hex)]
  refine ⟨rfl, ?_⟩
  show (((addCollCache _ _ _ _).store _).coll _ _).isCreated = true
  rw [store_addCollCache, store_setStore, if_pos rfl, coll_setColl, if_pos rfl]
  exact isCreated_of_flag rfl

/-- on a store in which existence is recorded, an insert and an index creation - successful or
    not - leave a store that counts as created -/
theorem collOp_creates {o : CollOp} {c : Coll} (hc : c.recorded = true)
    (ho : (∃ id, o = .insert id) ∨ (∃ nm info, o = .createIndex nm info)) :
    (collOp o c).1.isCreated = true := by
  rcases recorded_cases hc with hf | rfl
  · exact isCreated_of_flag (collOp_flag o c (by rcases ho with ⟨_, rfl⟩ | ⟨_, _, rfl⟩ <;> rfl) hf)
  · rcases ho with ⟨_, rfl⟩ | ⟨_, _, rfl⟩ <;> rfl

/-- in every well-formed state a collection exists iff its store carries the flag -/
theorem created_eq_flag {w : World} (hw : WF w) (i : Nat) (d n : String) :
    created w i d n = ((w.store i).coll d n).forceCreated :=
  isCreated_eq_flag (hw.2.2 i d n)

theorem reachable_wf (σ : Nat → Nat) (w : World) (h : Reachable σ w) : WF w := by
  obtain ⟨ops, rfl⟩ := h
  exact wf_run σ ops _ (rel_init).1

theorem obtainedColl_run (σ : Nat → Nat) (ops : List Op) (h : CollH) : ∀ (w : World),
    obtainedColl w h = true → obtainedColl (Catalog.run σ w ops).1 h = true := by
  induction ops with
  | nil => intro w hob; exact hob
  | cons op ops ih => intro w hob; exact ih _ ((step_frame σ w op).obtainedColl hob)

theorem other_stores_untouched (σ : Nat → Nat) (w : World) (op : Op) (j : Nat)
    (hj : σ (opClient op) ≠ j) : (Catalog.step σ w op).1.store j = w.store j :=
  ((step_frame σ w op).store_eq j).resolve_right fun h => hj h.1.symm

theorem other_stores_untouched_run (σ : Nat → Nat) (j : Nat) (ops : List Op) : ∀ (w : World),
    ops.all (fun op => σ (opClient op) != j) = true →
    (Catalog.run σ w ops).1.store j = w.store j := by
  induction ops with
  | nil => intro w _; rfl
  | cons op ops ih =>
    intro w h
    have h := Bool.and_eq_true_iff.mp h
    exact (ih _ h.2).trans (other_stores_untouched σ w op j (bne_iff_ne.mp h.1))

theorem index_information_of_rel (σ : Nat → Nat) {w : World} {s : SWorld} (hR : Rel w s)
    (h : CollH) (hob : obtainedColl w h = true) :
    (Catalog.step σ w (.coll h .indexInformation)).2 =
      .indexes (match alGet? (h.db, h.coll) (s (σ h.client)) with
        | some c => ("_id_", idIndex) :: c.indexes
        | none => []) := by
  rw [step_coll σ w h _ hob, ← hR.2.2 (σ h.client) h.db h.coll]
  simp only [collOp, toS]
  cases ((w.store (σ h.client)).coll h.db h.coll).isCreated <;> rfl

theorem dropDatabaseStep_empties (σ : Nat → Nat) (w : World) (c : Nat) (d : String) (n : String) :
    (dropDatabaseStep σ w c d).2 = .ok ∧
    ((dropDatabaseStep σ w c d).1.store (σ c)).coll d n = Coll.empty := by
  simp only [dropDatabaseStep]
  cases hc : dbCreated (((w.store (σ c)).touchDb d).db d)
  · rw [if_neg Bool.false_ne_true]
    exact ⟨rfl, by rw [store_setStore, if_pos rfl]; exact coll_of_not_dbCreated hc n⟩
  · rw [if_pos rfl]
    exact ⟨rfl, by rw [store_addDbCache, store_setStore, if_pos rfl, coll_dropAll, if_pos rfl]⟩

/-- each of the five drops answers `ok` and leaves the empty store under the dropped name -/
theorem drop_empties (σ : Nat → Nat) (w : World) (op : Op) (h : CollH) (hdrop : Drops σ w op h) :
    (Catalog.step σ w op).2 = .ok ∧
    ((Catalog.step σ w op).1.store (σ h.client)).coll h.db h.coll = Coll.empty := by
  have byName : ∀ hd : DbH, obtainedDb w hd = true → σ hd.client = σ h.client → hd.db = h.db →
      (Catalog.step σ w (.dropCollection hd (.byName h.coll))).2 = .ok ∧
      ((Catalog.step σ w (.dropCollection hd (.byName h.coll))).1.store (σ h.client)).coll h.db h.coll
        = Coll.empty := fun hd hob hσ hdb => by
    rw [step_dropByName σ w hd _ hob]
    exact ⟨rfl, by rw [store_setStore, hσ, if_pos rfl, hdb, coll_setColl, if_pos rfl]⟩
  rcases hdrop with ⟨hd, rfl, hobd, hσ, hdb⟩ | ⟨h', rfl, hobh, hσ, hdb, hn⟩ | ⟨c, rfl, hσ⟩ |
    ⟨hd, h', rfl, hobd, hobh, hσ, hdb, hn⟩ | ⟨c, hd, rfl, hobd, hσ, hdb⟩
  · exact byName hd hobd hσ hdb
  · rw [step_coll σ w h' _ hobh]
    exact ⟨rfl, by rw [store_setStore, hσ, if_pos rfl, hdb, hn, coll_setColl, if_pos rfl]; rfl⟩
  · exact hσ ▸ dropDatabaseStep_empties σ w c h.db h.coll
  · rw [step_dropByHandle σ w hd h' hobd hobh, hn]; exact byName hd hobd hσ hdb
  · rw [step_dropDbByHandle σ w c hd hobd, hdb]; exact hσ ▸ dropDatabaseStep_empties σ w c h.db h.coll

theorem empty_handle_usable (σ : Nat → Nat) (w : World) (h : CollH)
    (hob : obtainedColl w h = true)
    (he : (w.store (σ h.client)).coll h.db h.coll = Coll.empty) :
    (Catalog.step σ w (.coll h .find)).2 = .ids [] ∧
    (Catalog.step σ w (.coll h .indexInformation)).2 = .indexes [] ∧
    ∀ id, (Catalog.step σ w (.coll h (.insert id))).2 = .ok ∧
      (Catalog.step σ (Catalog.step σ w (.coll h (.insert id))).1 (.coll h .find)).2 = .ids [id] := by
  refine ⟨by rw [step_coll σ w h _ hob, he]; rfl, by rw [step_coll σ w h _ hob, he]; rfl, fun id => ?_⟩
  rw [step_coll σ _ h .find ((step_frame σ w _).obtainedColl hob), step_coll σ w h _ hob, he,
    store_setStore, if_pos rfl, coll_setColl, if_pos rfl]
  exact ⟨rfl, rfl⟩

/-- after any of the drops the name does not exist and is not listed -/
theorem dropped_not_listed (σ : Nat → Nat) (w : World) (op : Op) (h : CollH) (hw : WF w)
    (hdrop : Drops σ w op h) :
    created (Catalog.step σ w op).1 (σ h.client) h.db h.coll = false ∧
    h.coll ∉ ((Catalog.step σ w op).1.store (σ h.client)).listColls h.db := by
  have hc : created (Catalog.step σ w op).1 (σ h.client) h.db h.coll = false := by
    unfold created; rw [(drop_empties σ w op h hdrop).2]; rfl
  exact ⟨hc, fun hm => Bool.false_ne_true
    (hc.symm.trans ((mem_listColls ((wf_step σ w op hw).1 _) _ _).mp hm).1)⟩

end MongoModel.Proofs.C17
