/-
  Proofs.C13ExtSeed — a document holding `k: v` for every plain equality condition `k: v` of a
  filter is matched by that filter; the upsert seed of such a filter (with or without an `_id`
  added) is such a document.
-/
import Spec.UpsertExt
import Proofs.C13Seed
import Proofs.C01Main

namespace MongoModel.Proofs.C13Ext
open MongoModel MongoModel.Spec MongoModel.Proofs.C13Lemmas MongoModel.Proofs.C01Lemmas

theorem scalar_refl (v : Val) (h : isScalar v = true) : pyEq v v = true :=
  C05Lemmas.scalar_refl v h

theorem scalar_not_doc (v : Val) (h : isScalar v = true) : ∀ fs, v = .doc fs → False := by
  intro fs e; subst e; simp [isScalar] at h

theorem plainMatch_self (v : Val) (h : isScalar v = true) : plainMatch v (some v) = true := by
  cases v with
  | doc _ => simp [isScalar] at h
  | arr _ => simp [isScalar] at h
  | _ => exact scalar_refl _ h

/-- the three facts `plainEqualities` states about one entry -/
theorem plainEq_entry {ss : Fields} (h : plainEqualities ss = true) {kv : String × Val} (hm : kv ∈ ss) :
    kv.1.toList.contains '.' = false ∧ kv.1.startsWith "$" = false ∧ isScalar kv.2 = true := by
  have := List.all_eq_true.1 h kv hm
  simp only [Bool.and_eq_true, Bool.not_eq_true'] at this
  exact ⟨this.1.1, this.1.2, this.2⟩

/-- an undotted key (the empty one included) looks the field of that name up -/
theorem candsKey_plain (k : String) (fs : Fields)
    (hd : k.toList.contains '.' = false) : candsKey k (.doc fs) = .ok [dget k fs] := by
  unfold candsKey
  rw [splitDots_nodot k hd]
  rfl

theorem applyHead_plain (k : String) (v : Val) (fs : Fields)
    (hd : k.toList.contains '.' = false) (hk : k.startsWith "$" = false) (hv : isScalar v = true)
    (hg : dget k fs = some v) : applyHead k v (.doc fs) = .ok true := by
  have n1 : k ≠ "$comment" := ne_of_not_dollar hk (by decide +kernel)
  have n2 : k ≠ "$expr" := ne_of_not_dollar hk (by decide +kernel)
  have n3 : logicalKeys.contains k = false := by
    simp only [logicalKeys, List.contains_cons, List.contains_nil, Bool.or_false, Bool.or_eq_false_iff,
      beq_eq_false_iff_ne, ne_eq]
    exact ⟨ne_of_not_dollar hk (by decide +kernel), ne_of_not_dollar hk (by decide +kernel),
      ne_of_not_dollar hk (by decide +kernel), ne_of_not_dollar hk (by decide +kernel)⟩
  have n4 : topLevelOperators.contains k = false := by
    simp only [topLevelOperators, List.contains_cons, List.contains_nil, Bool.or_false,
      Bool.or_eq_false_iff, beq_eq_false_iff_ne, ne_eq]
    exact ⟨ne_of_not_dollar hk (by decide +kernel), ne_of_not_dollar hk (by decide +kernel),
      ne_of_not_dollar hk (by decide +kernel), ne_of_not_dollar hk (by decide +kernel)⟩
  unfold applyHead
  simp only [n1, n2, n3, n4, hk, if_false, Bool.false_eq_true]
  rw [applyKey_plain_nondoc v k _ _ (scalar_not_doc v hv) (candsKey_plain k fs hd), hg]
  simp [plainMatch_self v hv]

theorem holds_matches (ss : Fields) (fs : Fields) (hk : plainEqualities ss = true)
    (hf : HoldsAll ss fs) : filterApplies (.doc ss) (.doc fs) = .ok true := by
  show applyFields ss (.doc fs) = .ok true
  induction ss with
  | nil => rfl
  | cons kv r ih =>
    obtain ⟨k, v⟩ := kv
    obtain ⟨h2, h3, h4⟩ := plainEq_entry hk (List.mem_cons_self ..)
    have hk' : plainEqualities r = true := by
      simp only [plainEqualities, List.all_cons, Bool.and_eq_true] at hk ⊢
      exact hk.2
    rw [applyFields_cons, applyHead_plain k v fs h2 h3 h4 (hf (k, v) (List.mem_cons_self ..))]
    simp only [bind, Except.bind, if_true]
    exact ih hk' (fun kv hm => hf kv (List.mem_cons_of_mem _ hm))

theorem holdsAll_self (ss : Fields) (hd : (dkeys ss).Nodup) : HoldsAll ss ss :=
  fun _ hm => dget_of_mem_nodup hd hm

theorem dget_none_of_not_mem {k : String} : ∀ {fs : Fields}, k ∉ dkeys fs → dget k fs = none :=
  fun h => dget_none_iff.2 h

/-- adding a key `k` the filter does not have (used with `_id`): the pairs of the filter stay,
    the keys stay distinct -/
theorem holdsAll_dset (ss : Fields) (k : String) (x : Val) (hd : (dkeys ss).Nodup)
    (hn : dget k ss = none) :
    HoldsAll ss (dset k x ss) ∧ (dkeys (dset k x ss)).Nodup := by
  refine ⟨?_, nodup_dset k x ss hd⟩
  intro kv hm
  have hne : kv.1 ≠ k := by
    rintro rfl; exact dget_none_iff.1 hn (List.mem_map.2 ⟨kv, hm, rfl⟩)
  rw [dget_dset_other x hne]
  exact dget_of_mem_nodup hd hm

/-- what `keep` leaves of `ss'` holds every pair of the plain-equality filter `ss` that `ss'`
    holds -/
theorem seed_holds (ss ss' : Fields) (hk : plainEqualities ss = true) (hd : (dkeys ss').Nodup)
    (hs : HoldsAll ss ss') : HoldsAll ss (keep ss' []) := by
  intro kv hm
  rw [dget_keep kv.1 kv.2 ss' [] hd (hs kv hm), discardOps_scalar kv.2 (plainEq_entry hk hm).2.2]
  rfl

theorem id_nodollar : ("_id" : String).startsWith "$" = false := by decide +kernel
theorem id_nodot : ("_id" : String).toList.contains '.' = false := by decide +kernel

/-- a filter with plain keys keeps them when `_id` is added -/
theorem plain_dset_id {ss : Fields} {idv : Val}
    (hp : ∀ kv ∈ ss, kv.1.toList.contains '.' = false ∧ kv.1.startsWith "$" = false) :
    ∀ kv ∈ dset "_id" idv ss, kv.1.toList.contains '.' = false ∧ kv.1.startsWith "$" = false := by
  intro kv hm
  rcases mem_dset hm with hm | rfl
  · exact hp kv hm
  · exact ⟨id_nodot, id_nodollar⟩

/-- the seed of a plain-equality filter, whatever `_id` is chosen (the filter's own when it has
    one): the upsert seed exists and holds every pair of the filter -/
theorem seed_any_id (ss : Fields) (hk : plainEqualities ss = true) (hd : (dkeys ss).Nodup)
    (idv : Val) (hid : ∀ v, dget "_id" ss = some v → idv = v) :
    ∃ sf, upsertSeed ss idv = .ok (.doc sf) ∧ HoldsAll ss sf := by
  refine ⟨_, upsertSeed_plain ss idv (plain_dset_id fun kv hm =>
    ⟨(plainEq_entry hk hm).1, (plainEq_entry hk hm).2.1⟩), ?_⟩
  cases hg : dget "_id" ss with
  | some v =>
    rw [hid v hg, dset_self hg]
    exact seed_holds ss ss hk hd (holdsAll_self ss hd)
  | none =>
    obtain ⟨ha, hb⟩ := holdsAll_dset ss "_id" idv hd hg
    exact seed_holds ss _ hk hb ha

theorem seed_matches_filter (ss : Fields) (hk : plainEqualities ss = true) (hd : (dkeys ss).Nodup)
    (idv : Val) (hid : ∀ v, dget "_id" ss = some v → idv = v) :
    ∃ sf, upsertSeed ss idv = .ok (.doc sf) ∧ HoldsAll ss sf ∧
      filterApplies (.doc ss) (.doc sf) = .ok true := by
  obtain ⟨sf, h1, h2⟩ := seed_any_id ss hk hd idv hid
  exact ⟨sf, h1, h2, holds_matches ss sf hk h2⟩

end MongoModel.Proofs.C13Ext
