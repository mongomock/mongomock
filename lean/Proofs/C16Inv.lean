/-
  Proofs.C16Inv — the invariant "everything the running call works on was allocated by the call,
  in a window of run-local identities no persistent object lives in" carried through every stage
  of `MongoModel.AggHeap` under the reference discipline.
-/
import Proofs.C16

namespace MongoModel.Proofs.C16
open MongoModel MongoModel.AggHeap

abbrev Dr : Disc := Disc.reference

theorem dr_arrayConst : Dr.arrayConst = .evaluated := rfl

/-- a new container around children of the window; the conclusion reads
    `some (node …) = some v → …` because that is the goal the `carr` and `obj` cases of
    `evalExpr_win` (whose result is an `Option HV`) are left with -/
theorem node_win {b n n' : Nat} {d : Bool} {ks : Kids} (hb : b ≤ n)
    (h : n + 1 ≤ n' ∧ allKids (inR b n') ks = true) :
    n ≤ n' ∧ ∀ v, some (HV.node (.tmp n) d ks) = some v → v.all (inR b n') = true :=
  ⟨by omega, fun v hv => by
    cases hv; simp only [HV.all, Bool.and_eq_true]; exact ⟨inR_tmp hb (by omega), h.2⟩⟩

mutual
  theorem evalExpr_win {b : Nat} (pipe doc : HV) : ∀ (e : AExpr) (n : Nat) (r : Option HV) (n' : Nat),
      b ≤ n → doc.all (inR b n) = true → evalExpr Dr pipe doc e n = .ok (r, n') →
      n ≤ n' ∧ ∀ v, r = some v → v.all (inR b n') = true
    | e, n, r, n', hb, hd, h => by
      cases e with
      | const c => cases h; exact ⟨Nat.le_refl _, fun v hv => by cases hv; rfl⟩
      | field p =>
        unfold evalExpr at h
        cases hg : getPath p doc with
        | error e => rw [hg] at h; cases h
        | ok x =>
          rw [hg] at h; cases h
          exact ⟨Nat.le_refl _, fun v hv => all_getPath p doc v hd (hv ▸ hg)⟩
      | root => cases h; exact ⟨Nat.le_refl _, fun v hv => by cases hv; exact hd⟩
      | lit loc =>
        unfold evalExpr at h
        split at h <;> cases h
        · next v _ =>
          exact ⟨(deepTmp_win v n hb).1, fun x hx => by cases hx; exact (deepTmp_win v n hb).2⟩
        · exact ⟨Nat.le_refl _, fun v hv => by cases hv⟩
      | carr loc items =>
        simp only [evalExpr, dr_arrayConst] at h
        split at h <;> cases h
        next hk => exact node_win hb (evalKids_win pipe doc true items (n + 1) _ n' (by omega)
          (all_le (Nat.le_succ _) hd) hk)
      | obj kids =>
        unfold evalExpr at h
        split at h <;> cases h
        next hk => exact node_win hb (evalKids_win pipe doc false kids (n + 1) _ n' (by omega)
          (all_le (Nat.le_succ _) hd) hk)
      | unmodelled => cases h
  theorem evalKids_win {b : Nat} (pipe doc : HV) (nm : Bool) : ∀ (kids : List (String × AExpr)) (n : Nat) (ks : Kids) (n' : Nat),
      b ≤ n → doc.all (inR b n) = true → evalKids Dr pipe doc nm kids n = .ok (ks, n') →
      n ≤ n' ∧ allKids (inR b n') ks = true
    | [], n, ks, n', _, _, h => by cases h; exact ⟨Nat.le_refl _, rfl⟩
    | (k, e) :: r, n, ks, n', hb, hd, h => by
      unfold evalKids at h
      split at h
      · cases h
      · next n1 he =>
        have h1 := evalExpr_win (b := b) pipe doc e n none n1 hb hd he
        have ih := fun ks hk => evalKids_win (b := b) pipe doc nm r n1 ks n' (by omega) (all_le h1.1 hd) hk
        split at h
        · split at h <;> cases h
          next hk =>
            simp only [allKids, HV.all, Bool.true_and]
            exact ⟨by have := ih _ hk; omega, (ih _ hk).2⟩
        · exact ⟨by have := ih _ h; omega, (ih _ h).2⟩
      · next v n1 he =>
        have h1 := evalExpr_win (b := b) pipe doc e n (some v) n1 hb hd he
        split at h <;> cases h
        next hk =>
          have h2 := evalKids_win (b := b) pipe doc nm r n1 _ n' (by omega) (all_le h1.1 hd) hk
          simp only [allKids, Bool.and_eq_true]
          exact ⟨by omega, all_le h2.1 (h1.2 v rfl), h2.2⟩
end

abbrev notTmp : Id → Bool := fun i => !i.isTmp

theorem inR_not_notTmp {b m : Nat} (i : Id) : inR b m i = true → notTmp i = false := by
  cases i <;> simp [inR, notTmp, Id.isTmp]

/-- everything the call works on (`work`, `out`) was allocated by the call in the window
    `[b, nextTmp)`; the collections contain no run-local identity at all, and nothing else that
    outlives the stage (pipeline object, the call's copy of it, the lists an enclosing `$facet`
    keeps alive) contains an identity of that window -/
structure WInv (b : Nat) (w : World) : Prop where
  hb : b ≤ w.nextTmp
  work : allL (inR b w.nextTmp) w.work = true
  out : allL (inR b w.nextTmp) w.out = true
  colls : allColls notTmp w.colls = true
  pipe : w.pipe.all (below b) = true
  cpipe : w.cpipe.all (below b) = true
  stack : allLL (below b) w.stack = true

/-- what a stage without `$out` must leave alone -/
structure Same (w w' : World) : Prop where
  colls : w'.colls = w.colls
  idx : w'.idx = w.idx
  pipe : w'.pipe = w.pipe
  cpipe : w'.cpipe = w.cpipe
  stack : w'.stack = w.stack
  nextSt : w'.nextSt = w.nextSt

theorem Same.rfl' (w : World) : Same w w := ⟨rfl, rfl, rfl, rfl, rfl, rfl⟩

theorem Same.trans {a b c : World} (h1 : Same a b) (h2 : Same b c) : Same a c :=
  ⟨h2.colls.trans h1.colls, h2.idx.trans h1.idx, h2.pipe.trans h1.pipe, h2.cpipe.trans h1.cpipe,
   h2.stack.trans h1.stack, h2.nextSt.trans h1.nextSt⟩

/-- the conclusion every step lemma has -/
structure Step (b : Nat) (w w' : World) : Prop where
  inv : WInv b w'
  same : Same w w'
  mono : w.nextTmp ≤ w'.nextTmp

theorem Step.trans {b : Nat} {a c d : World} (h1 : Step b a c) (h2 : Step b c d) : Step b a d :=
  ⟨h2.inv, h1.same.trans h2.same, Nat.le_trans h1.mono h2.mono⟩

theorem Step.refl {b : Nat} {w : World} (h : WInv b w) : Step b w w := ⟨h, Same.rfl' w, Nat.le_refl _⟩

/-- a stage that replaces the working list and the list under construction by values of the
    window, and raises the counter -/
theorem WInv.setLists {b : Nat} {w : World} (h : WInv b w) (vs os : List HV) (n' : Nat)
    (hn : w.nextTmp ≤ n') (hv : allL (inR b n') vs = true) (ho : allL (inR b n') os = true) :
    Step b w { w with work := vs, out := os, nextTmp := n' } :=
  ⟨⟨Nat.le_trans h.hb hn, hv, ho, h.colls, h.pipe, h.cpipe, h.stack⟩, ⟨rfl, rfl, rfl, rfl, rfl, rfl⟩, hn⟩

theorem WInv.bump {b : Nat} {w : World} (h : WInv b w) (n : Nat) (hn : w.nextTmp ≤ n) :
    Step b w { w with nextTmp := n } :=
  h.setLists w.work w.out n hn (allL_le hn h.work) (allL_le hn h.out)

/-- a stage that replaces the working list by values of the window -/
theorem WInv.setWork {b : Nat} {w : World} (h : WInv b w) (vs : List HV) (n' : Nat)
    (hn : w.nextTmp ≤ n') (hv : allL (inR b n') vs = true) :
    Step b w { w with work := vs, nextTmp := n' } :=
  h.setLists vs w.out n' hn hv (allL_le hn h.out)

/-- **an in-place write into an object of the window**, of values of the window -/
theorem WInv.mutate {b : Nat} {w : World} (h : WInv b w) (id : Id) (f : Kids → Kids)
    (hid : inR b w.nextTmp id = true)
    (hf : ∀ ks, allKids (inR b w.nextTmp) ks = true → allKids (inR b w.nextTmp) (f ks) = true) :
    Step b w (w.mutate id f) := by
  have hc : (w.mutate id f).colls = w.colls :=
    mutateColls_noop notTmp id f (inR_not_notTmp id hid) _ h.colls
  have hp : (w.mutate id f).pipe = w.pipe := mutate_noop (below b) id f (inR_not_below id hid) _ h.pipe
  have hq : (w.mutate id f).cpipe = w.cpipe :=
    mutate_noop (below b) id f (inR_not_below id hid) _ h.cpipe
  have hs : (w.mutate id f).stack = w.stack :=
    mutateLL_noop (below b) id f (inR_not_below id hid) _ h.stack
  exact ⟨⟨h.hb, mutateL_all id f hf _ h.work, mutateL_all id f hf _ h.out, hc ▸ h.colls,
    hp ▸ h.pipe, hq ▸ h.cpipe, hs ▸ h.stack⟩, ⟨hc, rfl, hp, hq, hs, rfl⟩, Nat.le_refl _⟩

theorem dr_addFieldsNested : Dr.addFieldsNested = .shallow := rfl

/-- writing one field of one document under construction: a purely local rebuild of that
    document — nothing else in the world changes -/
theorem setOut_step {b : Nat} (w : World) (j : Nat) (path : List String) (v : HV) (w' : World)
    (h : WInv b w) (hv : v.all (inR b w.nextTmp) = true) (hs : setOut Dr w j path v = .ok w') :
    Step b w w' := by
  simp only [setOut, dr_addFieldsNested] at hs
  split at hs <;> cases hs
  · next top ht =>
    have hp := addFieldTop_win Dr.addFieldsItemValue v path top w.nextTmp h.hb
      (allL_getElem? _ _ _ h.out ht) hv
    exact h.setLists _ _ _ hp.1 (allL_le hp.1 h.work) (allL_set _ _ _ (allL_le hp.1 h.out) hp.2)
  · exact Step.refl h

theorem addField_step {b : Nat} (path : List String) (e : AExpr) :
    ∀ (fuel : Nat) (w : World) (j : Nat) (w' : World), WInv b w →
      addField Dr w path e fuel j = .ok w' → Step b w w' := by
  intro fuel
  induction fuel with
  | zero => intro w j w' h hs; cases hs; exact Step.refl h
  | succ fuel ih =>
    intro w j w' h hs
    unfold addField at hs
    split at hs
    · cases hs; exact Step.refl h
    · next inDoc hd =>
      have hdoc := allL_getElem? _ _ _ h.work hd
      split at hs
      · cases hs
      · next n' he =>
        have hb1 := h.bump n' (evalExpr_win w.cpipe inDoc e _ none n' h.hb hdoc he).1
        exact hb1.trans (ih _ (j + 1) w' hb1.inv hs)
      · next v n' he =>
        have h1 := evalExpr_win w.cpipe inDoc e _ (some v) n' h.hb hdoc he
        have hb1 := h.bump n' h1.1
        split at hs
        · next w1 hso =>
          have h2 := setOut_step _ j path v w1 hb1.inv (h1.2 v rfl) hso
          exact (hb1.trans h2).trans (ih w1 (j + 1) w' h2.inv hs)
        · cases hs

theorem addFieldsAll_step {b : Nat} : ∀ (fields : List (String × AExpr)) (w w' : World), WInv b w →
    addFieldsAll Dr w fields = .ok w' → Step b w w' := by
  intro fields
  induction fields with
  | nil => intro w w' h hs; cases hs; exact Step.refl h
  | cons fe r ih =>
    intro w w' h hs
    unfold addFieldsAll at hs
    split at hs
    · next w1 h1 =>
      have s1 := addField_step (splitDots fe.1) fe.2 _ w 0 w1 h h1
      exact s1.trans (ih w1 w' s1.inv hs)
    · cases hs

theorem lookupAll_step {b : Nat} (sem : Sem) (frm loc frn as : String) :
    ∀ (fuel : Nat) (w : World) (j : Nat) (w' : World), WInv b w → w.out = [] →
      lookupAll Dr sem frm loc frn as w fuel j = .ok w' → Step b w w' ∧ w'.out = [] := by
  intro fuel
  induction fuel with
  | zero => intro w j w' h ho hs; cases hs; exact ⟨Step.refl h, ho⟩
  | succ fuel ih =>
    intro w j w' h ho hs
    unfold lookupAll at hs
    split at hs
    · cases hs; exact ⟨Step.refl h, ho⟩
    · next doc hd =>
      split at hs
      · cases hs
      · next idxs hj =>
        split at hs
        · cases hs
        · next id hid =>
          simp only [Dr, Disc.reference, if_true] at hs
          rw [runL_deep_eq] at hs
          have hc := deepTmpL_win (b := b) (pick (getColl frm w.colls) idxs) (w.nextTmp + 1)
            (Nat.le_succ_of_le h.hb)
          have hb1 := h.bump (deepTmpL (pick (getColl frm w.colls) idxs) (w.nextTmp + 1)).2 (by omega)
          have hm := hb1.inv.mutate id (kset as (.node (.tmp w.nextTmp) false
              ((deepTmpL (pick (getColl frm w.colls) idxs) (w.nextTmp + 1)).1.map (fun v => ("", v)))))
            (inR_mono (Nat.le_refl _) hb1.mono _
              (all_id? doc id (allL_getElem? _ _ _ h.work hd) hid))
            (allKids_kset as _ (by
              simp only [HV.all, Bool.and_eq_true, allKids_mapList]
              exact ⟨inR_tmp h.hb (Nat.lt_of_succ_le hc.1), hc.2⟩))
          have ih := ih _ (j + 1) w' hm.inv (by simp only [World.mutate, ho, mutateL]) hs
          exact ⟨(hb1.trans hm).trans ih.1, ih.2⟩

theorem dr_unwindDoc : Dr.unwindDoc = .deep := rfl
theorem dr_unwindIndexed : Dr.unwindIndexed = .deep := rfl
theorem dr_unwindItem : Dr.unwindItem = .deep := rfl
theorem dr_indexPrivate : Dr.indexPrivate = true := rfl

theorem allKids_getElem? {p : Id → Bool} : ∀ (ks : Kids) (i : Nat) (kv : String × HV),
    allKids p ks = true → ks[i]? = some kv → kv.2.all p = true
  | (_, _) :: _, 0, _, h, e => by
    cases e; simp only [allKids, Bool.and_eq_true] at h; exact h.1
  | (_, _) :: r, i + 1, kv, h, e => by
    simp only [allKids, Bool.and_eq_true] at h
    exact allKids_getElem? r i kv h.2 (by simpa using e)

theorem all_itemAt {p : Id → Bool} (key : String) (i : Nat) (x v : HV) (hx : x.all p = true)
    (h : itemAt key i x = some v) : v.all p = true := by
  unfold itemAt at h
  split at h
  · next id items hg =>
    have hl := all_get key x _ hx hg
    simp only [HV.all, Bool.and_eq_true] at hl
    obtain ⟨kv, hi, rfl⟩ := Option.map_eq_some_iff.mp h
    exact allKids_getElem? items i kv hl.2 hi
  · cases h

theorem unwoundValue_all {p : Id → Bool} (key : String) (c other : HV)
    (hc : c.all p = true) (ho : other.all p = true) : (unwoundValue Dr key c other).all p = true := by
  simp only [unwoundValue, dr_unwindItem]
  cases h : c.get key with
  | none => exact ho
  | some v => exact all_get key c v hc h

theorem unwoundItem_all {p : Id → Bool} (key : String) (i : Nat) (c item : HV)
    (hc : c.all p = true) (hi : item.all p = true) : (unwoundItem Dr key i c item).all p = true := by
  simp only [unwoundItem, dr_unwindItem]
  cases h : itemAt key i c with
  | none => exact hi
  | some v => exact all_itemAt key i c v hc h

theorem setIndex_win {b : Nat} (idx : Option (List String)) (v : Val) (x : HV) (n : Nat)
    (hb : b ≤ n) (hx : x.all (inR b n) = true) :
    n ≤ (setIndex idx v x n).2 ∧ (setIndex idx v x n).1.all (inR b (setIndex idx v x n).2) = true := by
  cases idx with
  | none => exact ⟨Nat.le_refl _, hx⟩
  | some p => exact setPathCopy_win .none (.atom v) p x n hb hx rfl

theorem keptDoc_win {b : Nat} (idx : Option (List String)) (doc : HV) (n : Nat)
    (hb : b ≤ n) (hd : doc.all (inR b n) = true) :
    n ≤ (keptDoc Dr idx doc n).2 ∧ (keptDoc Dr idx doc n).1.all (inR b (keptDoc Dr idx doc n).2) = true := by
  cases idx with
  | none => exact ⟨Nat.le_refl _, hd⟩
  | some p =>
    have hc := deepTmp_win (b := b) doc n hb
    have hp := setIndex_win (some p) .null _ _ (Nat.le_trans hb hc.1) hc.2
    exact ⟨Nat.le_trans hc.1 hp.1, hp.2⟩

/-- the document an element of the unwound field is handed on in: a deep copy of `doc` holding
    `x` (something of the copy, or of the window) at `key`, with the index written -/
theorem unwound_win {b : Nat} (key : String) (idx : Option (List String)) (iv : Val) (doc : HV)
    (n : Nat) (hb : b ≤ n) (x : HV) (hx : x.all (inR b (deepTmp doc n).2) = true) :
    n ≤ (setIndex idx iv ((deepTmp doc n).1.setLocal key x) (deepTmp doc n).2).2 ∧
      (setIndex idx iv ((deepTmp doc n).1.setLocal key x) (deepTmp doc n).2).1.all
        (inR b (setIndex idx iv ((deepTmp doc n).1.setLocal key x) (deepTmp doc n).2).2) = true := by
  have hc := deepTmp_win (b := b) doc n hb
  have hs := setIndex_win idx iv _ _ (Nat.le_trans hb hc.1) (all_setLocal key _ x hc.2 hx)
  exact ⟨Nat.le_trans hc.1 hs.1, hs.2⟩

theorem unwindItems_win {b : Nat} (key : String) (idx : Option (List String)) (doc : HV) :
    ∀ (items : Kids) (i n : Nat), b ≤ n → doc.all (inR b n) = true → allKids (inR b n) items = true →
      n ≤ (unwindItems Dr key idx doc items i n).2 ∧
      allL (inR b (unwindItems Dr key idx doc items i n).2) (unwindItems Dr key idx doc items i n).1 = true := by
  intro items
  induction items with
  | nil => exact fun _ n _ _ _ => ⟨Nat.le_refl _, rfl⟩
  | cons kx r ih =>
    intro i n hb hd hi
    obtain ⟨k, x⟩ := kx
    simp only [allKids, Bool.and_eq_true] at hi
    have hc := deepTmp_win (b := b) doc n hb
    have hs := unwound_win key idx (.int i) doc n hb _
      (unwoundItem_all key i _ x hc.2 (all_le hc.1 hi.1))
    have ih := ih (i + 1) _ (Nat.le_trans hb hs.1) (all_le hs.1 hd) (allKids_le hs.1 hi.2)
    simp only [unwindItems, dr_unwindDoc, Copy.run, allL, Bool.and_eq_true]
    exact ⟨Nat.le_trans hs.1 ih.1, all_le ih.1 hs.2, ih.2⟩

theorem unwindDoc_win {b : Nat} (key : String) (preserve : Bool) (idx : Option (List String))
    (doc : HV) (n : Nat) (hb : b ≤ n) (hd : doc.all (inR b n) = true) :
    n ≤ (unwindDoc Dr key preserve idx doc n).2 ∧
      allL (inR b (unwindDoc Dr key preserve idx doc n).2) (unwindDoc Dr key preserve idx doc n).1 = true := by
  have hc := deepTmp_win (b := b) doc n hb
  have hk := keptDoc_win (b := b) idx doc n hb hd
  unfold unwindDoc
  split
  · split
    · simp only [allL, Bool.and_true]; exact hk
    · exact ⟨Nat.le_refl _, rfl⟩
  · split
    · simp only [allL, Bool.and_true]; exact hk
    · exact ⟨Nat.le_refl _, rfl⟩
  · split
    · simp only [dr_unwindDoc, Copy.run, allL, Bool.and_true]
      have hk2 := keptDoc_win idx _ _ (Nat.le_trans hb hc.1) (all_delLocal key _ hc.2)
      exact ⟨Nat.le_trans hc.1 hk2.1, hk2.2⟩
    · exact ⟨Nat.le_refl _, rfl⟩
  · next items _ hg =>
    have hit := all_get key doc _ hd hg
    simp only [HV.all, Bool.and_eq_true] at hit
    exact unwindItems_win key idx doc items 0 n hb hd hit.2
  · next other _ _ _ hg =>
    simp only [dr_unwindDoc, Copy.run, allL, Bool.and_true]
    exact unwound_win key idx .null doc n hb _
      (unwoundValue_all key _ other hc.2 (all_le hc.1 (all_get key doc _ hd hg)))

theorem unwindAll_win {b : Nat} (key : String) (preserve : Bool) (idx : Option (List String)) : ∀ (l : List HV) (n : Nat),
    b ≤ n → allL (inR b n) l = true →
    n ≤ (unwindAll Dr key preserve idx l n).2 ∧
      allL (inR b (unwindAll Dr key preserve idx l n).2) (unwindAll Dr key preserve idx l n).1 = true := by
  intro l
  induction l with
  | nil => exact fun n _ _ => ⟨Nat.le_refl _, rfl⟩
  | cons d r ih =>
    intro n hb hl
    simp only [allL, Bool.and_eq_true] at hl
    have h1 := unwindDoc_win (b := b) key preserve idx d n hb hl.1
    have h2 := ih _ (Nat.le_trans hb h1.1) (allL_le h1.1 hl.2)
    simp only [unwindAll, allL_append, Bool.and_eq_true]
    exact ⟨Nat.le_trans h1.1 h2.1, allL_le h2.1 h1.2, h2.2⟩

theorem allKids_projKeep {p : Id → Bool} (incl : List String) : ∀ ks : Kids,
    allKids p ks = true → allKids p (projKeep incl ks) = true
  | [], _ => rfl
  | (k, v) :: r, h => by
    simp only [allKids, Bool.and_eq_true] at h
    rw [projKeep]
    split
    · simp only [allKids, Bool.and_eq_true]; exact ⟨h.1, allKids_projKeep incl r h.2⟩
    · exact allKids_projKeep incl r h.2

theorem allKids_foldl_kset {p : Id → Bool} : ∀ (ks keep : Kids),
    allKids p ks = true → allKids p keep = true →
    allKids p (ks.foldl (fun acc kv => kset kv.1 kv.2 acc) keep) = true
  | [], keep, _, hk => hk
  | (k, v) :: r, keep, h, hk => by
    simp only [allKids, Bool.and_eq_true] at h
    exact allKids_foldl_kset r _ h.2 (allKids_kset k v h.1 keep hk)

theorem projectDoc_win {b : Nat} (pipe : HV) (noId : Bool) (incl : List String)
    (computed : List (String × AExpr)) (doc : HV) (n : Nat) (v : HV) (n' : Nat)
    (hb : b ≤ n) (hd : doc.all (inR b n) = true)
    (h : projectDoc Dr pipe noId incl computed doc n = .ok (v, n')) :
    n ≤ n' ∧ v.all (inR b n') = true := by
  unfold projectDoc at h
  split at h
  · next i kids =>
    split at h <;> cases h
    next hk =>
      have h1 := evalKids_win (b := b) pipe _ false computed (n + 1) _ n' (by omega)
        (all_le (Nat.le_succ _) hd) hk
      simp only [HV.all, Bool.and_eq_true] at hd ⊢
      exact ⟨by omega, inR_tmp hb (by omega), allKids_foldl_kset _ _ h1.2
        (allKids_projKeep _ kids (allKids_le (by omega) hd.2))⟩
  · cases h

theorem projectAll_win {b : Nat} (pipe : HV) (noId : Bool) (incl : List String)
    (computed : List (String × AExpr)) : ∀ (l : List HV) (n : Nat) (vs : List HV) (n' : Nat),
    b ≤ n → allL (inR b n) l = true → projectAll Dr pipe noId incl computed l n = .ok (vs, n') →
    n ≤ n' ∧ allL (inR b n') vs = true := by
  intro l
  induction l with
  | nil => intro n vs n' _ _ h; cases h; exact ⟨Nat.le_refl _, rfl⟩
  | cons d r ih =>
    intro n vs n' hb hl h
    simp only [allL, Bool.and_eq_true] at hl
    unfold projectAll at h
    split at h
    · cases h
    · next v n1 hp =>
      have h1 := projectDoc_win (b := b) pipe noId incl computed d n v n1 hb hl.1 hp
      split at h <;> cases h
      next hr =>
        have h2 := ih n1 _ n' (by omega) (allL_le h1.1 hl.2) hr
        simp only [allL, Bool.and_eq_true]
        exact ⟨by omega, all_le h2.1 h1.2, h2.2⟩

theorem replaceRootAll_win {b : Nat} (pipe : HV) (e : AExpr) :
    ∀ (l : List HV) (n : Nat) (vs : List HV) (n' : Nat),
    b ≤ n → allL (inR b n) l = true → replaceRootAll Dr pipe e l n = .ok (vs, n') →
    n ≤ n' ∧ allL (inR b n') vs = true := by
  intro l
  induction l with
  | nil => intro n vs n' _ _ h; cases h; exact ⟨Nat.le_refl _, rfl⟩
  | cons d r ih =>
    intro n vs n' hb hl h
    simp only [allL, Bool.and_eq_true] at hl
    unfold replaceRootAll at h
    split at h
    · cases h
    · next i ks n1 he =>
      have h1 := evalExpr_win (b := b) pipe d e n _ n1 hb hl.1 he
      split at h <;> cases h
      next hr =>
        have h2 := ih n1 _ n' (by omega) (allL_le h1.1 hl.2) hr
        simp only [allL, Bool.and_eq_true]
        exact ⟨by omega, all_le h2.1 (h1.2 _ rfl), h2.2⟩
    · cases h

theorem dr_samplePops : Dr.samplePops = false := rfl
theorem dr_facetShares : Dr.facetSharesInput = false := rfl
theorem dr_addFieldsTop : Dr.addFieldsTop = .shallow := rfl
theorem dr_source : Dr.source = .deep := rfl

/-- what a successful `$sample` has read and done, under a discipline that does not pop -/
theorem sampleStage_ok {D : Disc} {sem : Sem} {loc : List Nat} {w w' : World}
    (h1 : D.samplePops = false) (hs : sampleStage D sem loc w = .ok w') :
    ∃ (id : Id) (kids : Kids) (n : Int), subAt loc w.cpipe = some (.node id true kids) ∧
      kget "size" kids = some (.atom (.int n)) ∧
      w' = { w with work := (pick w.work (sem.shuffle w.work.length)).take n.toNat } := by
  simp only [sampleStage, h1, Bool.false_eq_true, if_false] at hs
  split at hs
  · next id kids hsub =>
    split at hs
    · next n hk =>
      split at hs
      · split at hs <;> cases hs
        exact ⟨id, kids, n, hsub, hk, rfl⟩
      · cases hs
    all_goals cases hs
  · cases hs

/-- what EVERY stage leaves alone — `$out` included: the caller's pipeline object, the call's
    copy of it, and the lists an enclosing `$facet` keeps alive -/
structure Kept (w w' : World) : Prop where
  pipe : w'.pipe = w.pipe
  cpipe : w'.cpipe = w.cpipe
  stack : w'.stack = w.stack

theorem Kept.trans {a b c : World} (h1 : Kept a b) (h2 : Kept b c) : Kept a c :=
  ⟨h2.pipe.trans h1.pipe, h2.cpipe.trans h1.cpipe, h2.stack.trans h1.stack⟩

/-- the conclusion of the step lemmas for arbitrary stages -/
structure StepK (b : Nat) (w w' : World) : Prop where
  inv : WInv b w'
  kept : Kept w w'
  mono : w.nextTmp ≤ w'.nextTmp

theorem Step.toK {b : Nat} {w w' : World} (h : Step b w w') : StepK b w w' :=
  ⟨h.inv, ⟨h.same.pipe, h.same.cpipe, h.same.stack⟩, h.mono⟩

theorem StepK.trans {b : Nat} {a c d : World} (h1 : StepK b a c) (h2 : StepK b c d) : StepK b a d :=
  ⟨h2.inv, h1.kept.trans h2.kept, Nat.le_trans h1.mono h2.mono⟩

theorem StepK.refl {b : Nat} {w : World} (h : WInv b w) : StepK b w w :=
  ⟨h, ⟨rfl, rfl, rfl⟩, Nat.le_refl _⟩

/-- what a stage that contains no `$out` leaves alone on top of that -/
structure SameStore (w w' : World) : Prop where
  colls : w'.colls = w.colls
  idx : w'.idx = w.idx
  nextSt : w'.nextSt = w.nextSt

theorem SameStore.trans {a b c : World} (h1 : SameStore a b) (h2 : SameStore b c) : SameStore a c :=
  ⟨h2.colls.trans h1.colls, h2.idx.trans h1.idx, h2.nextSt.trans h1.nextSt⟩

theorem Same.store {w w' : World} (h : Same w w') : SameStore w w' := ⟨h.colls, h.idx, h.nextSt⟩

/-- the stages other than `$facet` and `$out` -/
theorem runStage_simple (sem : Sem) : ∀ (st : Stage) (b : Nat) (w w' : World), WInv b w → w.out = [] →
    (∀ bs, st ≠ .facet bs) → st.noOut = true → runStage Dr sem w st = .ok w' → Step b w w' ∧ w'.out = [] := by
  intro st b w w' h ho hf hno hs
  cases st with
  | select op opts =>
    unfold runStage at hs
    split at hs <;> cases hs
    exact ⟨h.setWork _ _ (Nat.le_refl _) (allL_pick _ h.work _), ho⟩
  | sample loc =>
    obtain ⟨_, _, _, _, _, rfl⟩ := sampleStage_ok dr_samplePops hs
    exact ⟨h.setWork _ _ (Nat.le_refl _) (allL_take _ _ (allL_pick _ h.work _)), ho⟩
  | addFields fields =>
    simp only [runStage, dr_addFieldsTop] at hs
    split at hs
    · cases hs
    · split at hs <;> cases hs
      next w1 ha =>
        have hc := runL_shallow_win w.work w.nextTmp h.hb h.work
        have s0 := h.setLists w.work _ _ hc.1 (allL_le hc.1 h.work) hc.2
        have s1 := s0.trans (addFieldsAll_step fields _ w1 s0.inv ha)
        -- the stage ends with `work := w1.out, out := []`: `s1.inv.out` is the `work` field here
        exact ⟨⟨⟨s1.inv.hb, s1.inv.out, rfl, s1.inv.colls, s1.inv.pipe, s1.inv.cpipe, s1.inv.stack⟩,
          ⟨s1.same.colls, s1.same.idx, s1.same.pipe, s1.same.cpipe, s1.same.stack, s1.same.nextSt⟩,
          s1.mono⟩, rfl⟩
  | project noId incl computed =>
    unfold runStage at hs
    split at hs <;> cases hs
    next hp =>
      have h1 := projectAll_win w.cpipe noId incl computed w.work w.nextTmp _ _ h.hb h.work hp
      exact ⟨h.setWork _ _ h1.1 h1.2, ho⟩
  | unwind key preserve idx =>
    unfold runStage at hs
    split at hs
    · cases hs
    · split at hs
      · cases hs
      · split at hs <;> cases hs
        have h1 := unwindAll_win key preserve idx w.work w.nextTmp h.hb h.work
        exact ⟨h.setWork _ _ h1.1 h1.2, ho⟩
  | lookup frm loc frn as => exact lookupAll_step sem frm loc frn as _ w 0 w' h ho hs
  | replaceRoot e =>
    unfold runStage at hs
    split at hs <;> cases hs
    next hp =>
      have h1 := replaceRootAll_win w.cpipe e w.work w.nextTmp _ _ h.hb h.work hp
      exact ⟨h.setWork _ _ h1.1 h1.2, ho⟩
  | count name =>
    unfold runStage at hs
    split at hs <;> cases hs
    · exact ⟨h.setWork _ _ (Nat.le_refl _) rfl, ho⟩
    · refine ⟨h.setWork _ _ (Nat.le_succ _) ?_, ho⟩
      simp only [allL, HV.all, allKids, Bool.and_true]
      exact inR_tmp h.hb (Nat.lt_succ_self _)
  | facet bs => exact absurd rfl (hf bs)
  | out target => cases hno
  | fail e => cases hs

/-! ### `$out` keeps the invariant (it changes the store, and nothing else that persists) -/

mutual
  theorem deepSt_st : ∀ (v : HV) (n : Nat), (deepSt v n).1.all Id.isSt = true
    | .atom _, _ => rfl
    | .node _ d kids, n => by
      simp only [deepSt, HV.all, Id.isSt, Bool.true_and]
      exact deepStKids_st kids (n + 1)
  theorem deepStKids_st : ∀ (ks : Kids) (n : Nat), allKids Id.isSt (deepStKids ks n).1 = true
    | [], _ => rfl
    | (k, v) :: r, n => by
      simp only [deepStKids, allKids, Bool.and_eq_true]
      exact ⟨deepSt_st v n, deepStKids_st r _⟩
end

theorem isSt_notTmp (i : Id) : i.isSt = true → notTmp i = true := by
  cases i <;> simp [notTmp, Id.isTmp, Id.isSt]

theorem allColls_getColl {p : Id → Bool} (t : String) : ∀ c : List (String × List HV),
    allColls p c = true → allL p (getColl t c) = true
  | [], _ => rfl
  | (n, l) :: r, h => by
    simp only [allColls, Bool.and_eq_true] at h
    rw [getColl]
    split
    · exact h.1
    · exact allColls_getColl t r h.2

theorem allColls_setColl {p : Id → Bool} (t : String) (docs : List HV) (hd : allL p docs = true) :
    ∀ c : List (String × List HV), allColls p c = true → allColls p (setColl t docs c) = true
  | [], _ => by simp only [setColl, allColls, hd, Bool.and_self]
  | (n, l) :: r, h => by
    simp only [allColls, Bool.and_eq_true] at h
    rw [setColl]
    split <;> simp only [allColls, Bool.and_eq_true]
    · exact ⟨hd, h.2⟩
    · exact ⟨h.1, allColls_setColl t docs hd r h.2⟩

/-- changing the store (collections, catalog, counter) to collections without run-local
    identities keeps the invariant -/
theorem WInv.setStore {b : Nat} {w : World} (h : WInv b w) (colls : List (String × List HV))
    (idx : List (String × List String)) (nSt : Nat) (hc : allColls notTmp colls = true) :
    WInv b { w with colls := colls, idx := idx, nextSt := nSt } :=
  ⟨h.hb, h.work, h.out, hc, h.pipe, h.cpipe, h.stack⟩

theorem dr_outStores' : Dr.outStores = .deep := rfl

/-- what `$out` keeps: the invariant, what every stage keeps, the counter and the empty list
    under construction -/
def OutRes (b : Nat) (w w' : World) : Prop :=
  WInv b w' ∧ Kept w w' ∧ w'.nextTmp = w.nextTmp ∧ w'.out = []

theorem OutRes.trans {b : Nat} {w w1 w2 : World} (h1 : OutRes b w w1) (h2 : OutRes b w1 w2) :
    OutRes b w w2 :=
  ⟨h2.1, h1.2.1.trans h2.2.1, h2.2.2.1.trans h1.2.2.1, h2.2.2.2⟩

theorem outInsert_inv {b : Nat} (sem : Sem) (target : String) :
    ∀ (fuel : Nat) (w : World) (j : Nat) (r : World × Option Err), WInv b w → w.out = [] →
      outInsert Dr sem target w fuel j = r → OutRes b w r.1 := by
  intro fuel
  induction fuel with
  | zero => intro w j r h ho hr; cases hr; exact ⟨h, ⟨rfl, rfl, rfl⟩, rfl, ho⟩
  | succ fuel ih =>
    intro w j r h ho hr
    have hrefl : OutRes b w w := ⟨h, ⟨rfl, rfl, rfl⟩, rfl, ho⟩
    simp only [outInsert] at hr
    split at hr
    · cases hr; exact hrefl
    · next doc hd =>
      have hdoc := allL_getElem? _ _ _ h.work hd
      split at hr
      · next id kids =>
        simp only [HV.all, Bool.and_eq_true] at hdoc
        -- the world after the generated `_id` was written (or not)
        have hw1 : OutRes b w (if (kget "_id" kids).isSome = true then w
            else w.mutate id (kset "_id" (.atom (.oid (1000 + w.nextSt))))) := by
          split
          · exact hrefl
          · have hm := h.mutate id (kset "_id" (.atom (.oid (1000 + w.nextSt)))) hdoc.1
              (allKids_kset "_id" _ rfl)
            exact ⟨hm.inv, hm.toK.kept, rfl, by simp only [World.mutate, ho, mutateL]⟩
        generalize (if (kget "_id" kids).isSome = true then w
            else w.mutate id (kset "_id" (.atom (.oid (1000 + w.nextSt))))) = w1 at hw1 hr
        split at hr
        · next id1 kids1 hd1 =>
          split at hr
          · cases hr; exact hw1
          · simp only [dr_outStores'] at hr
            have i2 := hw1.1.setStore _ w1.idx (deepSt (.node id1 true kids1) w1.nextSt).2
              (allColls_setColl target
                (getColl target w1.colls ++ [(deepSt (.node id1 true kids1) w1.nextSt).1]) (by
                simp only [allL_append, allL, Bool.and_true, Bool.and_eq_true]
                exact ⟨allColls_getColl target _ hw1.1.colls,
                  all_mono isSt_notTmp _ (deepSt_st (.node id1 true kids1) w1.nextSt)⟩) _ hw1.1.colls)
            exact (hw1.trans ⟨i2, ⟨rfl, rfl, rfl⟩, rfl, hw1.2.2.2⟩).trans
              (ih _ (j + 1) r i2 hw1.2.2.2 hr)
        · cases hr; exact hw1
      · cases hr; exact hrefl

/-- **`$out`** writes into the documents it is handed (objects of the call) and into the store;
    the invariant holds afterwards, and the caller's pipeline object, the call's copy of it and
    the lists a `$facet` keeps alive are what they were -/
theorem outStage_step {b : Nat} (sem : Sem) (target : String) (w w' : World) (h : WInv b w)
    (ho : w.out = []) (hs : outStage Dr sem target w = .ok w') : StepK b w w' ∧ w'.out = [] := by
  have r : OutRes b w (outStageW Dr sem target w).1 := by
    rw [outStageW]
    split
    · exact outInsert_inv sem target _ w 0 _ h ho rfl
    · have h0 := h.setStore _ (dropIdx target w.idx) w.nextSt (allColls_setColl target [] rfl _ h.colls)
      exact OutRes.trans ⟨h0, ⟨rfl, rfl, rfl⟩, rfl, ho⟩ (outInsert_inv sem target _ _ 0 _ h0 ho rfl)
  rw [outStage] at hs
  split at hs <;> cases hs
  next he => rw [he] at r; exact ⟨⟨r.1, r.2.1, Nat.le_of_eq r.2.2.1.symm⟩, r.2.2.2⟩

/-- nothing alive contains an identity the call has not allocated yet -/
structure Alive (w : World) : Prop where
  colls : allColls notTmp w.colls = true
  pipe : w.pipe.all (below w.nextTmp) = true
  cpipe : w.cpipe.all (below w.nextTmp) = true
  stack : allLL (below w.nextTmp) w.stack = true

/-- pushing the working list of a world the invariant holds in, at a later counter -/
theorem WInv.alive {b : Nat} {w : World} (h : WInv b w) (n : Nat) (hn : w.nextTmp ≤ n)
    (rest : List (List HV)) (hr : allLL (below n) rest = true) :
    Alive { w with stack := w.work :: rest, nextTmp := n } :=
  ⟨h.colls, all_mono (below_mono (Nat.le_trans h.hb hn)) _ h.pipe,
    all_mono (below_mono (Nat.le_trans h.hb hn)) _ h.cpipe, by
    simp only [allLL, Bool.and_eq_true]
    exact ⟨allL_mono (fun i hi => below_mono hn i (inR_below i hi)) _ h.work, hr⟩⟩

/-- two lists related element by element -/
inductive All2 {α β : Type} (R : α → β → Prop) : List α → List β → Prop
  | nil : All2 R [] []
  | cons {a : α} {b : β} {l₁ : List α} {l₂ : List β} : R a b → All2 R l₁ l₂ → All2 R (a :: l₁) (b :: l₂)

theorem All2.imp {α β : Type} {R S : α → β → Prop} (h : ∀ a b, R a b → S a b) :
    ∀ {l₁ : List α} {l₂ : List β}, All2 R l₁ l₂ → All2 S l₁ l₂
  | _, _, .nil => .nil
  | _, _, .cons hab r => .cons (h _ _ hab) (All2.imp h r)

theorem All2.length_eq {α β : Type} {R : α → β → Prop} :
    ∀ {l₁ : List α} {l₂ : List β}, All2 R l₁ l₂ → l₁.length = l₂.length
  | _, _, .nil => rfl
  | _, _, .cons _ r => by simp [All2.length_eq r]

/-- `br` run ALONE: on a fresh deep copy of `input` (numbered from some `n`), against the
    collections, catalog and pipeline object of `w`; `stk` is whatever enclosing stages keep alive -/
def BranchAlone (sem : Sem) (w : World) (input : List HV) (br : String × List Stage) (o : List HV) : Prop :=
  ∃ (n : Nat) (stk : List (List HV)) (ws' : World),
    runStages Dr sem { colls := w.colls, idx := w.idx, pipe := w.pipe, cpipe := w.cpipe, stack := stk,
                       work := (deepTmpL input n).1, out := [], nextTmp := (deepTmpL input n).2,
                       nextSt := w.nextSt } br.2 = .ok ws' ∧ o = ws'.work

theorem BranchAlone.congr {sem : Sem} {w v : World} {input : List HV} {br : String × List Stage}
    {o : List HV} (hc : v.colls = w.colls) (hi : v.idx = w.idx) (hp : v.pipe = w.pipe)
    (hq : v.cpipe = w.cpipe)
    (hn : v.nextSt = w.nextSt) (h : BranchAlone sem v input br o) : BranchAlone sem w input br o := by
  obtain ⟨n, stk, ws', h1, h2⟩ := h
  rw [hc, hi, hp, hq, hn] at h1
  exact ⟨n, stk, ws', h1, h2⟩

/-- what `runBranches` does to the world: nothing but pushing the branches' outputs `outs`, each
    made of objects allocated meanwhile; without `$out` the store is left alone, and every output
    is what its branch returns when it is run alone.  `outs` is in stack order, the last branch
    first: it is `outs.reverse` that matches `bs` -/
structure BrRes (sem : Sem) (w w' : World) (input : List HV) (rest : List (List HV))
    (bs : List (String × List Stage)) (outs : List (List HV)) : Prop where
  pipe : w'.pipe = w.pipe
  cpipe : w'.cpipe = w.cpipe
  alive : Alive w'
  mono : w.nextTmp ≤ w'.nextTmp
  out : w'.out = []
  stack : w'.stack = input :: (outs ++ rest)
  len : outs.length = bs.length
  fresh : allLL (inR w.nextTmp w'.nextTmp) outs = true
  noOut : noOutBranches bs = true →
    SameStore w w' ∧ All2 (BranchAlone sem w input) bs outs.reverse

theorem allLL_reverse (p : Id → Bool) (l : List (List HV)) : allLL p l.reverse = allLL p l := by
  rw [Bool.eq_iff_iff]; simp only [allLL_iff, List.mem_reverse]

theorem facetDoc_all {p : Id → Bool} (n K : Nat) (hp : ∀ i, i < K → p (.tmp (n + 1 + i)) = true) :
    ∀ (titles : List String) (ls : List (List HV)) (k : Nat), k + ls.length ≤ K → allLL p ls = true →
      allKids p (((titles.zip ls).zipIdx k).map (fun (tl, i) =>
        (tl.1, HV.node (.tmp (n + 1 + i)) false (tl.2.map (fun v => ("", v)))))) = true
  | [], _, _, _, _ => rfl
  | _ :: _, [], _, _, _ => rfl
  | t :: ts, l :: ls, k, hk, hl => by
    simp only [allLL, Bool.and_eq_true, List.length_cons] at hl hk
    simp only [List.zip_cons_cons, List.zipIdx_cons, List.map_cons, allKids, HV.all, Bool.and_eq_true,
      allKids_mapList]
    exact ⟨⟨hp k (by omega), hl.1⟩, facetDoc_all n K hp ts ls (k + 1) (by omega) hl.2⟩

mutual
  /-- EVERY stage keeps the invariant and leaves the caller's pipeline object, the call's copy of
      it and the lists an enclosing `$facet` keeps alive as they are; a stage that contains no
      `$out` leaves the store alone too -/
  theorem runStage_step (sem : Sem) : ∀ (st : Stage) (b : Nat) (w w' : World), WInv b w → w.out = [] →
      runStage Dr sem w st = .ok w' →
      StepK b w w' ∧ w'.out = [] ∧ (st.noOut = true → SameStore w w')
    | st, b, w, w', h, ho, hs => by
      cases st with
      | facet bs =>
        unfold runStage at hs
        split at hs <;> cases hs
        next w2 hr =>
          obtain ⟨outs, hb⟩ := runBranches_step sem bs { w with stack := w.work :: w.stack } w2 w.work
            w.stack (h.alive _ (Nat.le_refl _) _ (allLL_mono (below_mono h.hb) _ h.stack)) ho rfl hr
          have hmono : w.nextTmp ≤ w2.nextTmp := hb.mono
          have hdrop : w2.stack.drop (1 + bs.length) = w.stack := by
            rw [hb.stack, ← hb.len, Nat.add_comm]; simp
          have htake : (w2.stack.drop 1).take bs.length = outs := by
            rw [hb.stack, ← hb.len]; simp
          have hbn := h.hb
          -- `facetDoc` is allocated at `w2.nextTmp`, the list of branch `i` at `w2.nextTmp + 1 + i`:
          -- the counter ends at `w2.nextTmp + 1 + bs.length`
          have hout : allL (inR b (w2.nextTmp + 1 + bs.length)) w2.out = true := by rw [hb.out]; rfl
          refine ⟨⟨⟨by simp only; omega, ?_, hout, hb.alive.colls, hb.pipe ▸ h.pipe,
            hb.cpipe ▸ h.cpipe, hdrop ▸ h.stack⟩, ⟨hb.pipe, hb.cpipe, hdrop⟩, by simp only; omega⟩,
            hb.out, fun hno => let ⟨c, i, n⟩ := (hb.noOut hno).1; ⟨c, i, n⟩⟩
          simp only [facetDoc, allL, HV.all, Bool.and_true, Bool.and_eq_true, htake]
          exact ⟨inR_tmp (by omega) (by omega), facetDoc_all w2.nextTmp bs.length
            (fun i hi => inR_tmp (by omega) (by omega)) _ _ 0 (by simp [hb.len])
            ((allLL_reverse _ _).trans (allLL_mono (inR_mono h.hb (by omega)) _ hb.fresh))⟩
      | out target =>
        have s1 := outStage_step sem target w w' h ho hs
        exact ⟨s1.1, s1.2, fun hno => by cases hno⟩
      | fail e => cases hs
      | _ =>
        have s1 := runStage_simple sem _ b w w' h ho (fun _ e => by cases e) rfl hs
        exact ⟨s1.1.toK, s1.2, fun _ => s1.1.same.store⟩
  theorem runStages_step (sem : Sem) : ∀ (ss : List Stage) (b : Nat) (w w' : World), WInv b w → w.out = [] →
      runStages Dr sem w ss = .ok w' →
      StepK b w w' ∧ w'.out = [] ∧ (noOutStages ss = true → SameStore w w')
    | ss, b, w, w', h, ho, hs => by
      cases ss with
      | nil => cases hs; exact ⟨StepK.refl h, ho, fun _ => ⟨rfl, rfl, rfl⟩⟩
      | cons st r =>
        unfold runStages at hs
        split at hs
        · next w1 h1 =>
          have s1 := runStage_step sem st b w w1 h ho h1
          have s2 := runStages_step sem r b w1 w' s1.1.inv s1.2.1 hs
          refine ⟨s1.1.trans s2.1, s2.2.1, fun hno => ?_⟩
          simp only [noOutStages, Bool.and_eq_true] at hno
          exact (s1.2.2 hno.1).trans (s2.2.2 hno.2)
        · cases hs
  /-- the sub-pipelines of a `$facet`, each started on its own deep copy of the stage's input in
      a window that begins at the counter: everything alive lies below it -/
  theorem runBranches_step (sem : Sem) : ∀ (bs : List (String × List Stage)) (w w' : World)
      (input : List HV) (rest : List (List HV)), Alive w → w.out = [] → w.stack = input :: rest →
      runBranches Dr sem w bs = .ok w' → ∃ outs, BrRes sem w w' input rest bs outs
    | bs, w, w', input, rest, hal, ho, hstk, hs => by
      cases bs with
      | nil =>
        cases hs
        exact ⟨[], rfl, rfl, hal, Nat.le_refl _, ho, hstk, rfl, rfl, fun _ => ⟨⟨rfl, rfl, rfl⟩, .nil⟩⟩
      | cons tsub r =>
        obtain ⟨t, sub⟩ := tsub
        simp only [runBranches, hstk, dr_facetShares, Bool.not_false, Bool.true_and,
          Bool.false_eq_true, if_false] at hs
        split at hs
        · cases hs
        · rw [runL_deep_eq] at hs
          have hc := deepTmpL_win (b := w.nextTmp) input w.nextTmp (Nat.le_refl _)
          have hstk0 := hstk ▸ hal.stack
          split at hs
          · next w1 h1 =>
            have h0 : WInv w.nextTmp { w with stack := input :: rest, work := (deepTmpL input w.nextTmp).1,
                                              nextTmp := (deepTmpL input w.nextTmp).2 } :=
              ⟨hc.1, hc.2, by rw [ho]; rfl, hal.colls, hal.pipe, hal.cpipe, hstk0⟩
            have s1 := runStages_step sem sub w.nextTmp _ w1 h0 ho h1
            rw [show w1.stack = input :: rest from s1.1.kept.stack] at hs
            have hm1 : w.nextTmp ≤ w1.nextTmp := Nat.le_trans hc.1 s1.1.mono
            simp only [allLL, Bool.and_eq_true] at hstk0
            have hal1 : Alive { w1 with stack := input :: w1.work :: rest } :=
              ⟨s1.1.inv.colls, all_mono (below_mono hm1) _ s1.1.inv.pipe,
                all_mono (below_mono hm1) _ s1.1.inv.cpipe, by
                simp only [allLL, Bool.and_eq_true]
                exact ⟨allL_mono (below_mono hm1) _ hstk0.1, allL_mono inR_below _ s1.1.inv.work,
                  allLL_mono (below_mono hm1) _ hstk0.2⟩⟩
            obtain ⟨outs, ih⟩ := runBranches_step sem r { w1 with stack := input :: w1.work :: rest } w'
              input (w1.work :: rest) hal1 s1.2.1 rfl hs
            refine ⟨outs ++ [w1.work], ih.pipe.trans s1.1.kept.pipe, ih.cpipe.trans s1.1.kept.cpipe,
              ih.alive, Nat.le_trans hm1 ih.mono, ih.out, by rw [ih.stack]; simp, by simp [ih.len], ?_,
              fun hno => ?_⟩
            · simp only [allLL_append, allLL, Bool.and_true, Bool.and_eq_true]
              exact ⟨allLL_mono (inR_mono hm1 (Nat.le_refl _)) _ ih.fresh,
                allL_mono (inR_mono (Nat.le_refl _) ih.mono) _ s1.1.inv.work⟩
            · simp only [noOutBranches, Bool.and_eq_true] at hno
              have a1 := s1.2.2 hno.1
              have a2 := ih.noOut hno.2
              refine ⟨⟨a2.1.colls.trans a1.colls, a2.1.idx.trans a1.idx, a2.1.nextSt.trans a1.nextSt⟩, ?_⟩
              rw [List.reverse_append]
              exact .cons ⟨w.nextTmp, input :: rest, w1, ho ▸ h1, rfl⟩ (a2.2.imp fun _ _ hab =>
                BranchAlone.congr (w := w) a1.colls a1.idx s1.1.kept.pipe s1.1.kept.cpipe a1.nextSt hab)
          · cases hs
end

end MongoModel.Proofs.C16
