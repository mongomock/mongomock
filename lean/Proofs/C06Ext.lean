/-
  Proofs.C06Ext — uniqueness (`UniqInv`) through the EXTENDED step (`stepX` / `stepXS`:
  find_one, find_one_and_update / _replace / _delete, bulk_write, the bulk builder, and every
  operation of `stepColl`) and through every history over all modelled operations (`Spec.runX`).

  Instance of the generic preservation of Proofs/C05ExtStep.lean with `P` = `Q` = the carried
  invariant `UniqS` ("uniqueness among the value-keyed, covered documents"), which every basic
  entry point preserves with no hypothesis; nothing is asked of the collections between the
  requests of a bulk.
-/
import Proofs.C06
import Proofs.C05ExtStep

namespace MongoModel.Proofs.C06Ext
open MongoModel MongoModel.Spec MongoModel.Proofs.C06Lemmas MongoModel.Proofs.ExtGen

/-- the carried invariant through the extended step: no hypothesis on the documents -/
theorem stepX_carried (cfg : Cfg) (now : Int) (c : Coll) (op : Val) (hU : UniqS c) :
    UniqS (stepX cfg now c op).1 :=
  stepX_pres carried (fun _ => True) (fun _ h _ => h) now c op hU (fun _ _ => trivial)

theorem stepX_uniq_inv_alt (cfg : Cfg) (now : Int) (c : Coll) (op : Val)
    (hu : UniqInv c) (hs' : ValueInv (stepX cfg now c op).1) : UniqInv (stepX cfg now c op).1 :=
  uniqInv_of_uniqS (stepX_carried cfg now c op (uniqS_of_uniqInv hu)) hs'

theorem stepX_uniq_inv_check (cfg : Cfg) (now : Int) (c : Coll) (op : Val)
    (h : (uniqB c && valB (stepX cfg now c op).1) = true) : UniqInv (stepX cfg now c op).1 := by
  simp only [Bool.and_eq_true] at h
  exact stepX_uniq_inv_alt cfg now c op ((uniqB_iff c).1 h.1) ((valB_iff _).1 h.2)

theorem reachableX_uniq_alt (cfg : Cfg) (ops : List Val)
    (hs : ValueInv (runX cfg ops).2.c) : UniqInv (runX cfg ops).2.c := by
  refine uniqInv_of_uniqS ?_ hs
  rw [runX_snd]
  exact history_pres carried (fun _ => True) (fun _ h _ => h) ops {} (fun ix hix => by cases hix) (fun _ _ => trivial)

theorem reachableX_uniq_check (cfg : Cfg) (ops : List Val)
    (h : valB (runX cfg ops).2.c = true) : UniqInv (runX cfg ops).2.c :=
  reachableX_uniq_alt cfg ops ((valB_iff _).1 h)

/-- `InsertOne` of a document the single insert rejects with DuplicateKeyError: the executor
    reports a write error; with no TTL index and an `_id` in the document nothing changes (the
    created flag, which the rejected insert has set once more, was set already) -/
theorem bulkOne_insert_dup (cfg : Cfg) (now : Int) (c : Coll) (idx : Nat) (fs : Fields)
    (hnt : c.ttlIndexes = []) (hid : dhas "_id" fs = true) (hf : c.forceCreated = true)
    (h : insertDoc now c (.doc fs) = .error .dupKey) :
    bulkOne cfg now c idx (.arr [.str "InsertOne", .doc fs]) = (c, .writeErr .dupKey) := by
  have he : expire now c = .ok c := C09Lemmas.expire_nil now c hnt
  have hrej : insertRejected now c (.doc fs) = c := by
    unfold insertRejected
    simp only [hid, if_true, he]
    exact markStored_of_flag c _ hf
  rw [Shape.bulkOne_InsertOne, Shape.bulkIns, C09Lemmas.step_insert_one]
  simp only [h, hrej]
  rfl

theorem bulk_dup_write_rejected (cfg : Cfg) (now : Int) (c : Coll) (idx : Nat) (d : Val)
    (ix : Index) (p : Val × Val)
    (hr : c.Recorded)
    (hs : ValueInv c) (hix : ix ∈ c.indexes) (hu : ix.unique = true) (hnt : c.ttlIndexes = [])
    (hp : p ∈ c.docs) (hcp : covers ix p.2 = true) (hcd : covers ix (patchDT d) = true)
    (hsd : valueKeys ix (patchDT d) = true)
    (heq : keyEq (keyVals ix p.2) (keyVals ix (patchDT d)) = true)
    (hid : ∃ fs, d = .doc fs ∧ dhas "_id" fs = true)
    (hk : ∃ k, storeKey (idOfDoc (patchDT d)) = .ok k)
    (hone : ∀ i ∈ c.indexes, i.unique = true → i = ix)
    (hpf : ∀ f, ix.partialFilter = some f → ∀ q ∈ c.docs, ∃ b, filterApplies f q.2 = .ok b) :
    bulkOne cfg now c idx (.arr [.str "InsertOne", d]) = (c, .writeErr .dupKey) := by
  have h := C06.dup_write_rejected_dupkey_alt now c d ix p hs hix hu hnt hp hcp hcd hsd heq hid hk hone hpf
  obtain ⟨fs, rfl, hid'⟩ := hid
  have hf : c.forceCreated = true := hr (Or.inr (List.ne_nil_of_mem hix))
  exact bulkOne_insert_dup cfg now c idx fs hnt hid' hf h

/-! ### the unrestricted statement fails (an array along the indexed path, inside a bulk) -/

/-- `bulk_write([InsertOne({_id: 2, a: {$size: "x"}})])` against `cexColl` (`{_id: 1, a: [{b: 1}]}`,
    unique index on `a.b`): `get_value_by_dot` finds no `a.b` in either document (null twice), but
    the look-up walks into the stored array and matches nothing (known finding `multikey`) -/
def cexBulk : Val :=
  .arr [.str "bulk_write", .arr [.arr [.str "InsertOne", .doc [("_id", .int 2), ("a", .doc [("$size", .str "x")])]]],
    .bool true]

theorem cexBulk_after : uniqB (stepX {} 0 cexColl cexBulk).1 = false := by decide +kernel

end MongoModel.Proofs.C06Ext
