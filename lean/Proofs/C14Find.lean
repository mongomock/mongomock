/-
  Proofs.C14Find — `findOneColl` is "sort the selection, project, take the head" (`findOne_eq`,
  `headProj`), and the sort returns a permutation of its input, so that head is a selected
  document.
-/
import Proofs.C14Update
import Proofs.C11Sort

namespace MongoModel.Proofs.C14Lemmas
open MongoModel MongoModel.Spec
open MongoModel.Proofs.C10Lemmas MongoModel.Proofs.C09Lemmas

theorem applySortKey_perm (kd : String × Int) (docs l : List Val)
    (h : applySortKey kd docs = .ok l) : l.Perm docs := by
  unfold applySortKey at h
  split at h
  · cases h
    split
    · exact List.reverse_perm _
    · exact List.Perm.refl _
  · split at h
    · cases h
    · exact C11.sortedByKey_perm _ _ _ _ h

theorem sortRounds_perm (round : String × Int → List Val → R (List Val))
    (hr : ∀ kd docs l, round kd docs = .ok l → l.Perm docs) :
    ∀ (spec : SortSpec) (docs l : List Val), sortRounds round spec docs = .ok l → l.Perm docs := by
  intro spec
  induction spec with
  | nil => intro docs l h; simp only [sortRounds] at h; cases h; exact List.Perm.refl _
  | cons kd rest ih =>
    intro docs l h
    simp only [sortRounds] at h
    cases hx : sortRounds round rest docs with
    | error e => rw [hx] at h; cases h
    | ok mid =>
      rw [hx] at h
      exact (hr kd mid l h).trans (ih docs mid hx)

theorem getDataset_perm (sort : Option SortSpec) (docs l : List Val)
    (h : getDataset sort docs = .ok l) : l.Perm docs := by
  unfold getDataset at h
  split at h
  · cases h; exact List.Perm.refl _
  · exact sortRounds_perm _ applySortKey_perm _ _ _ h

theorem getDataset_nil (sort : Option SortSpec) (l : List Val)
    (h : getDataset sort [] = .ok l) : l = [] :=
  (getDataset_perm sort [] l h).eq_nil

/-- the value `findOneColl` returns, given the selected documents -/
def headProj (proj : Val) (sort : Option SortSpec) (ms : List Val) : R (Option Val) := do
  let sorted ← getDataset sort ms
  let outs ← sorted.mapM (fun d => copyOnlyFields d proj)
  pure outs.head?

theorem findOne_eq (now : Int) (c c1 : Coll) (fs : Fields) (proj : Val) (sort : Option SortSpec)
    (sel : List (Val × Val)) (he : expire now c = .ok c1) (hne : c1.docs ≠ [])
    (hs : selectDocs (patchDT (.doc fs)) c1.docs = .ok sel) :
    findOneColl now c (.doc fs) proj sort = (c1, headProj proj sort (sel.map (·.2))) := by
  unfold findOneColl
  dsimp only
  rw [iter_eq now c c1 _ he hne, hs]
  rfl

theorem mapM_head {α β} (f : α → R β) (l : List α) (outs : List β) (h : l.mapM f = .ok outs) :
    match l.head? with
    | none => outs = []
    | some d => ∃ o os, f d = .ok o ∧ outs = o :: os := by
  cases l with
  | nil => simp only [List.mapM_nil, pure, Except.pure] at h; cases h; rfl
  | cons d ds =>
    rw [List.mapM_cons] at h
    simp only [bind, Except.bind, pure, Except.pure] at h
    simp only [List.head?_cons]
    cases hd : f d with
    | error e => rw [hd] at h; cases h
    | ok o =>
      rw [hd] at h
      dsimp only at h
      cases hm : List.mapM f ds with
      | error e => rw [hm] at h; cases h
      | ok os => rw [hm] at h; cases h; exact ⟨o, os, rfl, rfl⟩

theorem headProj_ok (proj : Val) (sort : Option SortSpec) (ms : List Val) (out : Option Val)
    (h : headProj proj sort ms = .ok out) :
    ∃ sorted, getDataset sort ms = .ok sorted ∧
      match sorted.head? with
      | none => out = none
      | some d => ∃ o, copyOnlyFields d proj = .ok o ∧ out = some o := by
  unfold headProj at h
  cases hg : getDataset sort ms with
  | error e => rw [hg] at h; cases h
  | ok sorted =>
    rw [hg] at h
    simp only [bind, Except.bind] at h
    cases hm : sorted.mapM (fun d => copyOnlyFields d proj) with
    | error e => rw [hm] at h; cases h
    | ok outs =>
      rw [hm] at h
      simp only [pure, Except.pure] at h
      cases h
      refine ⟨sorted, rfl, ?_⟩
      have := mapM_head _ sorted outs hm
      cases hh : sorted.head? with
      | none => rw [hh] at this; subst this; rfl
      | some d =>
        rw [hh] at this
        obtain ⟨o, os, h1, rfl⟩ := this
        exact ⟨o, h1, rfl⟩

end MongoModel.Proofs.C14Lemmas
