/-
  Proofs.C04Cmp — the comparison operators: `$gt/$gte/$lt/$lte` are the four readings of one
  three-way comparison (`bsonCmp`), and on flat values without a boolean/number clash `$eq` is its
  third outcome, so exactly one of `$lt`, `$eq`, `$gt` holds; on such values `bsonCmp` is the BSON
  order of the rules (`flat_ord`).
-/
import Proofs.C04Bind

set_option linter.unusedSimpArgs false

namespace MongoModel.Proofs.C04
open MongoModel MongoModel.Expr MongoModel.Spec

/-- values of different comparison classes are ordered by class -/
theorem bsonCmp_tc_ne (a b : Val) (h : a.tc ≠ b.tc) : bsonCmp a b = .ok (natCmp a.tc b.tc) := by
  unfold bsonCmp
  split
  · cases h rfl
  · cases h rfl
  · rw [if_neg h]

/-- `bson_compare(op, a, b)` with `can_compare_types=True` reads the three-way comparison -/
theorem bsonCompare_eq (op : CmpOp) (a b : Val) :
    bsonCompare op a b true = (bsonCmp a b).map op.holds := by
  by_cases h : a.tc = b.tc
  · simp [bsonCompare, h]
  · simp [bsonCompare, h, bsonCmp_tc_ne a b h, Except.map]

theorem ordering_ops (a b : Val) (o : Ordering) (h : bsonCmp a b = .ok o) :
    compareOp "$lt" a b = .ok (.bool (o == .lt)) ∧ compareOp "$gt" a b = .ok (.bool (o == .gt)) ∧
    compareOp "$lte" a b = .ok (.bool (o != .gt)) ∧ compareOp "$gte" a b = .ok (.bool (o != .lt)) := by
  simp [compareOp, bsonCompare_eq, h, Except.map, CmpOp.holds]

/-! ### `$eq` against the three-way comparison -/

theorem numEq_not_lt (x y : Num) (h : Num.eq x y = true) : Num.lt x y = false := by
  simp only [Num.eq, beq_iff_eq] at h
  simp [Num.lt, h]

theorem num_three (x y : Num) :
    ((if Num.lt x y then Ordering.lt else if Num.eq x y then .eq else .gt) == .eq) = Num.eq x y := by
  cases he : Num.eq x y
  · cases Num.lt x y <;> simp
  · simp [numEq_not_lt x y he]

theorem natCmp_ne (a b : Nat) (h : a ≠ b) : (natCmp a b == .eq) = false := by
  simp only [natCmp, beq_eq_false_iff_ne, ne_eq]
  intro e
  exact h (Nat.compare_eq_eq.mp e)

theorem boolNat (a b : Bool) : (compare a.toNat b.toNat == .eq) = (a == b) := by
  cases a <;> cases b <;> decide

/-- a comparison whose "equal" outcome is equality, read as a boolean test -/
theorem beq_eq_of_iff {α : Type} [BEq α] [LawfulBEq α] {o : Ordering} {a b : α}
    (h : o = .eq ↔ a = b) : (o == .eq) = (a == b) := by
  rw [Bool.eq_iff_iff]
  simpa using h

theorem strThree (a b : String) : (strCmp a b == .eq) = (a == b) :=
  beq_eq_of_iff Std.compare_eq_iff_eq

theorem intThree (a b : Int) : (compare a b == .eq) = (a == b) :=
  beq_eq_of_iff Int.compare_eq_eq

theorem numEq_comm' (x y : Num) : Num.eq x y = Num.eq y x := BEq.comm

/-- what the domain condition gives for a boolean against a number -/
theorem bool_num_ne (b : Bool) (n : Num) (h : is01 n = false) :
    Num.eq ⟨if b then 1 else 0, 0⟩ n = false := by
  simp only [is01, Bool.or_eq_false_iff] at h
  cases b
  · simpa [numEq_comm' n] using h.1
  · simpa [numEq_comm' n] using h.2

theorem cmpScalar_cases (a : Val) (h : cmpScalar a = true) :
    a = .null ∨ (∃ b, a = .bool b) ∨ (∃ i, a = .int i) ∨ (∃ m e, a = .dbl m e) ∨
    (∃ s, a = .str s) ∨ (∃ u, a = .date u none) := by
  cases a with
  | date u o => cases o <;> simp [cmpScalar] at h ⊢
  | _ => simp [cmpScalar] at h ⊢

/-- scalars: the comparison does not raise, and Python `==` is its "equal" outcome -/
theorem scalar_eq_cmp (a b : Val) (ha : cmpScalar a = true) (hb : cmpScalar b = true)
    (hc : boolNumClash a b = false) :
    ∃ o, bsonCmp a b = .ok o ∧ pyEq a b = (o == .eq) := by
  by_cases htc : a.tc = b.tc
  · -- same comparison class
    cases a with
    | null => cases b <;> simp [Val.tc] at htc; exact ⟨.eq, by simp [bsonCmp, leafCmp, Val.tc], by simp [pyEq]⟩
    | bool x =>
      cases b <;> simp [Val.tc] at htc
      rename_i y
      exact ⟨compare x.toNat y.toNat, by simp [bsonCmp, leafCmp, Val.tc], by simp [pyEq, boolNat]⟩
    | int i =>
      cases b <;> simp [Val.tc] at htc
      · rename_i j
        exact ⟨_, by simp [bsonCmp, leafCmp, Val.tc, Val.num?]; rfl, by
          rw [num_three]; simp [pyEq, Num.eq]⟩
      · rename_i m e
        exact ⟨_, by simp [bsonCmp, leafCmp, Val.tc, Val.num?]; rfl, by
          rw [num_three]; simp [pyEq]⟩
    | dbl m e =>
      cases b <;> simp [Val.tc] at htc
      · rename_i j
        exact ⟨_, by simp [bsonCmp, leafCmp, Val.tc, Val.num?]; rfl, by
          rw [num_three]; simp [pyEq, numEq_comm' ⟨j, 0⟩]⟩
      · rename_i m' e'
        exact ⟨_, by simp [bsonCmp, leafCmp, Val.tc, Val.num?]; rfl, by
          rw [num_three]; simp [pyEq]⟩
    | str x =>
      cases b <;> simp [Val.tc] at htc
      rename_i y
      exact ⟨strCmp x y, by simp [bsonCmp, leafCmp, Val.tc], by simp [pyEq, strThree]⟩
    | date u o =>
      cases o <;> simp [cmpScalar] at ha
      cases b <;> simp [Val.tc] at htc
      rename_i u' o'
      cases o' <;> simp [cmpScalar] at hb
      exact ⟨compare u u', by simp [bsonCmp, leafCmp, Val.tc], by simp [pyEq, intThree]⟩
    | oid n => simp [cmpScalar] at ha
    | doc fs => simp [cmpScalar] at ha
    | arr xs => simp [cmpScalar] at ha
  · -- different classes: never equal, unless a boolean meets 0/1 — which the domain excludes
    refine ⟨_, bsonCmp_tc_ne a b htc, ?_⟩
    rw [natCmp_ne _ _ htc]
    rcases cmpScalar_cases a ha with rfl | ⟨x, rfl⟩ | ⟨i, rfl⟩ | ⟨m, e, rfl⟩ | ⟨s, rfl⟩ | ⟨u, rfl⟩ <;>
    rcases cmpScalar_cases b hb with rfl | ⟨y, rfl⟩ | ⟨j, rfl⟩ | ⟨m', e', rfl⟩ | ⟨s', rfl⟩ | ⟨u', rfl⟩ <;>
    first
      | rfl
      | (exfalso; exact htc rfl)
      | skip
    · simp only [boolNumClash, hasBool, has01, Bool.true_or, Bool.true_and, Bool.or_false] at hc
      have := bool_num_ne x ⟨j, 0⟩ (by simpa [is01, Num.eq] using hc)
      simpa [pyEq, Num.eq] using this
    · simp only [boolNumClash, hasBool, has01, Bool.true_or, Bool.true_and, Bool.or_false] at hc
      simpa [pyEq] using bool_num_ne x ⟨m', e'⟩ hc
    · simp only [boolNumClash, hasBool, has01, Bool.or_true, Bool.true_and, Bool.false_or,
        Bool.or_false] at hc
      have := bool_num_ne y ⟨i, 0⟩ (by simpa [is01, Num.eq] using hc)
      simpa [pyEq, Num.eq] using this
    · simp only [boolNumClash, hasBool, has01, Bool.or_true, Bool.true_and, Bool.false_or,
        Bool.or_false] at hc
      simpa [pyEq] using bool_num_ne y ⟨m, e⟩ hc

theorem hasBoolList_mem (xs : List Val) (x : Val) (hx : x ∈ xs) (h : hasBool x = true) :
    hasBoolList xs = true := by
  induction xs with
  | nil => cases hx
  | cons y r ih =>
    rcases List.mem_cons.mp hx with e | hr
    · subst e; simp [hasBoolList, h]
    · simp [hasBoolList, ih hr]

theorem has01List_mem (xs : List Val) (x : Val) (hx : x ∈ xs) (h : has01 x = true) :
    has01List xs = true := by
  induction xs with
  | nil => cases hx
  | cons y r ih =>
    rcases List.mem_cons.mp hx with e | hr
    · subst e; simp [has01List, h]
    · simp [has01List, ih hr]

/-- arrays of scalars -/
theorem list_eq_cmp (xs ys : List Val) (hx : ∀ x ∈ xs, cmpScalar x = true)
    (hy : ∀ y ∈ ys, cmpScalar y = true)
    (hc : ∀ x ∈ xs, ∀ y ∈ ys, boolNumClash x y = false) :
    ∃ o, bsonCmpList xs ys = .ok o ∧ pyEqList xs ys = (o == .eq) := by
  induction xs generalizing ys with
  | nil => cases ys <;> simp [bsonCmpList, pyEqList]
  | cons x xs ih =>
    cases ys with
    | nil => simp [bsonCmpList, pyEqList]
    | cons y ys =>
      obtain ⟨o, ho, he⟩ := scalar_eq_cmp x y (hx x (by simp)) (hy y (by simp))
        (hc x (by simp) y (by simp))
      cases hp : pyEq x y
      · refine ⟨o, by simp [bsonCmpList, hp, ho], ?_⟩
        rw [hp] at he
        simp [pyEqList, hp, ← he]
      · obtain ⟨o', ho', he'⟩ := ih ys (fun a ha => hx a (by simp [ha]))
          (fun b hb => hy b (by simp [hb])) (fun a ha b hb => hc a (by simp [ha]) b (by simp [hb]))
        exact ⟨o', by simp [bsonCmpList, hp, ho'], by simp [pyEqList, hp, he']⟩

theorem pyEq_arr_left (xs : List Val) (b : Val) (h : b.isArr = false) : pyEq (.arr xs) b = false := by
  cases b with
  | date u o => cases o <;> rfl
  | arr ys => simp [Val.isArr] at h
  | _ => rfl

theorem pyEq_arr_right (a : Val) (ys : List Val) (h : a.isArr = false) : pyEq a (.arr ys) = false := by
  cases a with
  | date u o => cases o <;> rfl
  | arr xs => simp [Val.isArr] at h
  | _ => rfl

theorem flat_not_arr (a : Val) (h : cmpFlat a = true) (ha : a.isArr = false) : cmpScalar a = true := by
  cases a <;> simp [Val.isArr] at ha <;> simpa [cmpFlat] using h

theorem isArr_eq (a : Val) (h : a.isArr = true) : ∃ xs, a = .arr xs := by
  cases a <;> first | exact ⟨_, rfl⟩ | cases h

theorem tc_arr (a : Val) (xs : List Val) (ha : a.isArr = false) : a.tc ≠ (Val.arr xs).tc := by
  cases a <;> simp [Val.isArr] at ha <;> simp [Val.tc]

/-- the boolean/number clash of two arrays is inherited by their items -/
theorem clash_items (xs ys : List Val) (hc : boolNumClash (.arr xs) (.arr ys) = false) :
    ∀ x ∈ xs, ∀ y ∈ ys, boolNumClash x y = false := by
  intro x hx y hy
  have nb : ∀ (l : List Val) (v : Val), v ∈ l → hasBoolList l = false → hasBool v = false := by
    intro l v hv h
    cases hb : hasBool v
    · rfl
    · rw [hasBoolList_mem l v hv hb] at h; cases h
  have n01 : ∀ (l : List Val) (v : Val), v ∈ l → has01List l = false → has01 v = false := by
    intro l v hv h
    cases hb : has01 v
    · rfl
    · rw [has01List_mem l v hv hb] at h; cases h
  simp only [boolNumClash, hasBool, has01, Bool.and_eq_false_iff, Bool.or_eq_false_iff] at hc ⊢
  rcases hc with ⟨h1, h2⟩ | ⟨h1, h2⟩
  · exact .inl ⟨nb xs x hx h1, nb ys y hy h2⟩
  · exact .inr ⟨n01 xs x hx h1, n01 ys y hy h2⟩

/-- flat values (scalars and arrays of scalars) without a boolean/number clash: the comparison
    does not raise and Python `==` is exactly its "equal" outcome -/
theorem flat_eq_cmp (a b : Val) (ha : cmpFlat a = true) (hb : cmpFlat b = true)
    (hc : boolNumClash a b = false) :
    ∃ o, bsonCmp a b = .ok o ∧ pyEq a b = (o == .eq) := by
  cases haa : a.isArr <;> cases hbb : b.isArr
  · exact scalar_eq_cmp a b (flat_not_arr a ha haa) (flat_not_arr b hb hbb) hc
  · obtain ⟨ys, rfl⟩ := isArr_eq b hbb
    have htc := tc_arr a ys haa
    exact ⟨_, bsonCmp_tc_ne _ _ htc, by rw [natCmp_ne _ _ htc]; exact pyEq_arr_right a ys haa⟩
  · obtain ⟨xs, rfl⟩ := isArr_eq a haa
    have htc := (tc_arr b xs hbb).symm
    exact ⟨_, bsonCmp_tc_ne _ _ htc, by rw [natCmp_ne _ _ htc]; exact pyEq_arr_left xs b hbb⟩
  · obtain ⟨xs, rfl⟩ := isArr_eq a haa
    obtain ⟨ys, rfl⟩ := isArr_eq b hbb
    simp only [cmpFlat, List.all_eq_true] at ha hb
    obtain ⟨o, ho, he⟩ := list_eq_cmp xs ys ha hb (clash_items xs ys hc)
    exact ⟨o, by simpa [bsonCmp] using ho, by simpa [pyEq] using he⟩

/-- **cmp_ops_total** on the stated domain: exactly one of `$lt`, `$eq`, `$gt` holds -/
theorem cmp_ops_total (a b : Val) (ha : cmpFlat a = true) (hb : cmpFlat b = true)
    (hc : boolNumClash a b = false) :
    ∃ o : Ordering,
      compareOp "$lt" a b = .ok (.bool (o == .lt)) ∧
      compareOp "$eq" a b = .ok (.bool (o == .eq)) ∧
      compareOp "$gt" a b = .ok (.bool (o == .gt)) ∧
      compareOp "$ne" a b = .ok (.bool (o != .eq)) ∧
      compareOp "$lte" a b = .ok (.bool (o != .gt)) ∧
      compareOp "$gte" a b = .ok (.bool (o != .lt)) := by
  obtain ⟨o, ho, he⟩ := flat_eq_cmp a b ha hb hc
  obtain ⟨h1, h2, h3, h4⟩ := ordering_ops a b o ho
  refine ⟨o, h1, ?_, h2, ?_, h3, h4⟩
  · simp [compareOp, he]
  · simp [compareOp, he, bne]

/-! ### `bsonCmp` is the BSON order of the rules on flat values -/

theorem scalar_ord (a b : Val) (ha : cmpScalar a = true) (hb : cmpScalar b = true) :
    bsonCmp a b = .ok (ord a b) := by
  rcases cmpScalar_cases a ha with rfl | ⟨x, rfl⟩ | ⟨i, rfl⟩ | ⟨m, e, rfl⟩ | ⟨s, rfl⟩ | ⟨u, rfl⟩ <;>
  rcases cmpScalar_cases b hb with rfl | ⟨y, rfl⟩ | ⟨j, rfl⟩ | ⟨m', e', rfl⟩ | ⟨s', rfl⟩ | ⟨u', rfl⟩ <;>
  rfl

theorem list_ord (xs ys : List Val) (hx : ∀ x ∈ xs, cmpScalar x = true)
    (hy : ∀ y ∈ ys, cmpScalar y = true)
    (hc : ∀ x ∈ xs, ∀ y ∈ ys, boolNumClash x y = false) :
    bsonCmpList xs ys = .ok (ordList xs ys) := by
  induction xs generalizing ys with
  | nil => cases ys <;> simp [bsonCmpList, ordList]
  | cons x xs ih =>
    cases ys with
    | nil => simp [bsonCmpList, ordList]
    | cons y ys =>
      have hsx := hx x (by simp)
      have hsy := hy y (by simp)
      obtain ⟨o, ho, he⟩ := scalar_eq_cmp x y hsx hsy (hc x (by simp) y (by simp))
      have hord := scalar_ord x y hsx hsy
      rw [hord] at ho
      cases ho
      have ih' := ih ys (fun a ha => hx a (by simp [ha])) (fun b hb => hy b (by simp [hb]))
        (fun a ha b hb => hc a (by simp [ha]) b (by simp [hb]))
      simp only [bsonCmpList, ordList, he]
      cases h : ord x y <;> simp [h, hord, ih']

theorem cmpFlat_cases (a : Val) (h : cmpFlat a = true) :
    (∃ xs, a = .arr xs ∧ ∀ x ∈ xs, cmpScalar x = true) ∨ cmpScalar a = true := by
  cases a with
  | arr xs => exact Or.inl ⟨xs, rfl, by simpa [cmpFlat] using h⟩
  | _ => all_goals exact Or.inr (by simpa [cmpFlat] using h)

/-- flat operands (no boolean/number clash when arrays are involved) -/
theorem flat_ord (a b : Val) (ha : cmpFlat a = true) (hb : cmpFlat b = true)
    (hc : (a.isArr || b.isArr) = true → boolNumClash a b = false) :
    bsonCmp a b = .ok (ord a b) := by
  rcases cmpFlat_cases a ha with ⟨xs, rfl, hxs⟩ | hsa <;>
    rcases cmpFlat_cases b hb with ⟨ys, rfl, hys⟩ | hsb
  · simpa [bsonCmp, ord] using
      list_ord xs ys hxs hys (clash_items xs ys (hc rfl))
  · -- an array against a scalar: the types decide
    rcases cmpScalar_cases b hsb with rfl | ⟨y, rfl⟩ | ⟨j, rfl⟩ | ⟨m', e', rfl⟩ | ⟨s', rfl⟩ | ⟨u', rfl⟩ <;>
      simp [bsonCmp, Val.tc, ord, rank, natCmp] <;> rfl
  · rcases cmpScalar_cases a hsa with rfl | ⟨y, rfl⟩ | ⟨j, rfl⟩ | ⟨m', e', rfl⟩ | ⟨s', rfl⟩ | ⟨u', rfl⟩ <;>
      simp [bsonCmp, Val.tc, ord, rank, natCmp] <;> rfl
  · exact scalar_ord a b hsa hsb

end MongoModel.Proofs.C04
