/-
  Proofs.C14 — the theorems of Props/C14.lean other than `fam_*_spec_alt` (C14Fam).  Each one
  rewrites the operation by its equation (`update_one_core`, `delete_first`, `findOne_eq`,
  `go_eq`) and reads the claim off it.
-/
import Spec.Single
import Proofs.C14Fam
import Proofs.C14Cex

namespace MongoModel.Proofs.C14
open MongoModel MongoModel.Spec
open MongoModel.Proofs.C10Lemmas MongoModel.Proofs.C14Lemmas

theorem update_one_touches_first_only (cfg : Cfg) (now : Int) (c c1 c' : Coll) (fs : Fields) (u : Val)
    (q : Val × Val) (rest : List (Val × Val)) (r : R UpdateResult)
    (he : expire now c = .ok c1) (hi : IdInv c) (hg : GoodKeys c) (hn : c.ttlIndexes = [])
    (hs : selectDocs (patchDT (.doc fs)) c1.docs = .ok (q :: rest))
    (h : applyUpdateColl cfg now c (.doc fs) u false false = (c', r)) :
    sameExcept q.1 c1.docs c'.docs ∧ c'.docs.length = c1.docs.length := by
  rw [C09Lemmas.expire_nil now c hn] at he
  cases he
  rcases update_one_core cfg now c c' fs u false q rest r hn hi.1 hg hs h with
    ⟨rfl, _⟩ | ⟨new, res, _, _, _, rfl, _, _, _, _⟩
  · exact ⟨sameExcept_refl _ _, rfl⟩
  · have hq : q ∈ c.docs := (select_sublist _ _ _ hs).subset (List.mem_cons_self ..)
    rw [setDoc_docs new (hasKey_of_mem hg hq)]
    exact ⟨sameExcept_map q.1 q.1 new c.docs (fun _ _ h => h), List.length_map ..⟩

theorem delete_one_removes_first (now : Int) (c c1 : Coll) (fs : Fields)
    (q : Val × Val) (rest : List (Val × Val))
    (he : expire now c = .ok c1) (hi : IdInv c) (hg : GoodKeys c)
    (hs : selectDocs (patchDT (.doc fs)) c1.docs = .ok (q :: rest)) :
    (deleteColl now c (.doc fs) false).2 = .ok 1 ∧
    (deleteColl now c (.doc fs) false).1.docs = c1.docs.filter (fun p => !pyEq q.1 p.1) :=
  delete_first now c c1 fs q rest he hi hg hs

theorem find_one_is_first_sorted (now : Int) (c c1 : Coll) (fs : Fields) (proj : Val)
    (sort : Option SortSpec) (sel : List (Val × Val)) (out : Option Val)
    (he : expire now c = .ok c1) (hne : c1.docs ≠ [])
    (hs : selectDocs (patchDT (.doc fs)) c1.docs = .ok sel)
    (h : (findOneColl now c (.doc fs) proj sort).2 = .ok out) :
    ∃ t, firstSorted sort sel = .ok t ∧
      (match t with
       | none => out = none
       | some d => copyOnlyFields d proj = .ok (out.getD .null) ∧ out.isSome) := by
  rw [findOne_eq now c c1 fs proj sort sel he hne hs] at h
  obtain ⟨sorted, hg, hm⟩ := headProj_ok proj sort _ out h
  refine ⟨sorted.head?, by simp only [firstSorted, hg, Except.map], ?_⟩
  cases hh : sorted.head? with
  | none => rw [hh] at hm; exact hm
  | some d =>
    rw [hh] at hm
    obtain ⟨o, h1, rfl⟩ := hm
    exact ⟨h1, rfl⟩

theorem fam_no_match_noop (cfg : Cfg) (now : Int) (c c1 c' : Coll) (fs : Fields) (proj : Val)
    (u : Option Val) (sort : Option SortSpec) (after : Bool) (ret : Option Val)
    (he : expire now c = .ok c1) (hne : c1.docs ≠ [])
    (hs : selectDocs (patchDT (.doc fs)) c1.docs = .ok [])
    (h : findAndModify cfg now c (.doc fs) proj u false sort after = (c', .ok ret)) :
    ret = none ∧ c'.docs = c1.docs := by
  have hgo := findAndModify_go _ _ _ _ _ _ _ _ _ _ _ h
  rw [Shape.go_eq] at hgo
  rw [findOne_eq now c c1 fs .null sort [] he hne hs] at hgo
  cases hp : headProj .null sort (([] : List (Val × Val)).map (·.2)) with
  | error e => rw [hp] at hgo; cases hgo
  | ok o =>
    rw [hp] at hgo
    obtain ⟨sorted, hg, hm⟩ := headProj_ok _ _ _ _ hp
    have := getDataset_nil sort sorted hg
    subst this
    simp only [List.head?_nil] at hm
    subst hm
    simp only [Bool.not_false, if_true] at hgo
    cases hgo
    exact ⟨rfl, rfl⟩

end MongoModel.Proofs.C14
