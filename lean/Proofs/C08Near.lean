/-
  Proofs.C08Near — the states a failed all-or-nothing write (a single-document write,
  delete_many, a find_one_and_*, a request of a bulk) can leave behind: the original collection,
  possibly after the TTL pass, possibly with a consumed ObjectId, and possibly with the created
  flag set by a rejected insert that had stored its document.  That mark is what `Near` has and
  `Spec.Untouched` has not.
-/
import Spec.StoreInv
import Proofs.StoreFlag
import Proofs.C09Expire

namespace MongoModel.Proofs.C08Lemmas
open MongoModel MongoModel.Spec
open MongoModel.Proofs.C09Lemmas (expire_ok expire_eq_docs passDocs expire_bump)

/-! ### the expiry pass and the fields it does not look at -/

theorem expire_idem (now : Int) (c c' : Coll) (h : expire now c = .ok c') :
    expire now c' = .ok c' :=
  C09Lemmas.expire_idem now c c' h

/-- the expiry pass commutes with the mark a rejected insert leaves on the created flag -/
theorem expire_markStored (now : Int) (c : Coll) (b : Bool) :
    expire now (c.markStored b) = (expire now c).map (fun x => x.markStored b) := by
  cases b with
  | false => rw [markStored_false]; cases expire now c <;> rfl
  | true =>
    rw [expire_eq_docs, expire_eq_docs]
    show (passDocs now c.ttlIndexes c.docs).map _ = _
    cases passDocs now c.ttlIndexes c.docs <;> rfl

/-- `c'` is `c` as a failed write may leave it: `c` itself or `c` after the expiry pass at that
    clock, up to the counter of generated ObjectIds - and up to the created flag, which a
    rejected insert that had already stored its document leaves set (`Coll.markStored`); that
    can only happen where the uniqueness check can reject, i.e. on a collection with an index.
    Where existence is recorded (`Coll.Recorded`, every reachable state) such a collection has
    the flag already and `Near` is `Spec.Untouched` (`near_untouched`). -/
def Near (now : Int) (c c' : Coll) : Prop :=
  ∃ b : Bool, (b = true → c.indexes ≠ []) ∧
    ((∃ n, c' = ({ c with nextOid := n } : Coll).markStored b) ∨
     (∃ n c1, expire now c = .ok c1 ∧ c' = ({ c1 with nextOid := n } : Coll).markStored b))

theorem Near.refl (now : Int) (c : Coll) : Near now c c :=
  ⟨false, by simp, .inl ⟨c.nextOid, rfl⟩⟩

theorem Near.bump {now : Int} {c c' : Coll} (h : Near now c c') (n : Nat) :
    Near now c { c' with nextOid := n } := by
  obtain ⟨b, hb, ⟨m, rfl⟩ | ⟨m, c1, h1, rfl⟩⟩ := h
  · exact ⟨b, hb, .inl ⟨n, by rw [markStored_bump]⟩⟩
  · exact ⟨b, hb, .inr ⟨n, c1, h1, by rw [markStored_bump]⟩⟩

theorem Near.expire {now : Int} {c c' c'' : Coll} (h : Near now c c')
    (he : expire now c' = .ok c'') : Near now c c'' := by
  obtain ⟨b, hb, ⟨m, rfl⟩ | ⟨m, c1, h1, rfl⟩⟩ := h
  · rw [expire_markStored, expire_bump] at he
    cases h1 : MongoModel.expire now c with
    | error e => rw [h1] at he; cases he
    | ok c1 =>
      rw [h1] at he
      exact ⟨b, hb, .inr ⟨m, c1, h1, (Except.ok.inj he).symm⟩⟩
  · rw [expire_markStored, expire_bump, expire_idem now c c1 h1] at he
    exact ⟨b, hb, .inr ⟨m, c1, h1, (Except.ok.inj he).symm⟩⟩

theorem Near.expire' {now : Int} {c c' : Coll} (h : Near now c c') :
    Near now c (match MongoModel.expire now c' with | .ok x => x | .error _ => c') := by
  cases he : MongoModel.expire now c' with
  | error e => exact h
  | ok x => exact h.expire he

/-- a rejected insert that had stored its document, on a collection with an index -/
theorem Near.mark {now : Int} {c c' : Coll} (h : Near now c c') (b : Bool)
    (hb : b = true → c.indexes ≠ []) : Near now c (c'.markStored b) := by
  obtain ⟨a, ha, h⟩ := h
  have hab : (a || b) = true → c.indexes ≠ [] := by
    cases a
    · exact hb
    · exact fun _ => ha rfl
  rcases h with ⟨m, rfl⟩ | ⟨m, c1, h1, rfl⟩
  · exact ⟨a || b, hab, .inl ⟨m, by rw [markStored_markStored]⟩⟩
  · exact ⟨a || b, hab, .inr ⟨m, c1, h1, by rw [markStored_markStored]⟩⟩

theorem Near.indexes {now : Int} {c c' : Coll} (h : Near now c c') :
    c'.indexes = c.indexes ∧ c'.ttlIndexes = c.ttlIndexes := by
  obtain ⟨b, hb, ⟨m, rfl⟩ | ⟨m, c1, h1, rfl⟩⟩ := h
  · simp
  · have := (expire_ok now c c1 h1).2
    simp only [markStored_indexes, markStored_ttlIndexes]
    exact ⟨this.1, this.2.1⟩

theorem Near.trans {now : Int} {c c' c'' : Coll} (h : Near now c c') (h' : Near now c' c'') :
    Near now c c'' := by
  have hi := h.indexes.1
  obtain ⟨b, hb, ⟨m, rfl⟩ | ⟨m, c1, h1, rfl⟩⟩ := h'
  · exact (h.bump m).mark b (fun e => hi ▸ hb e)
  · exact ((h.expire h1).bump m).mark b (fun e => hi ▸ hb e)

theorem indexNames_bump (c : Coll) (n : Nat) : indexNames { c with nextOid := n } = indexNames c :=
  rfl

theorem Near.visible {now : Int} {c c' : Coll} (h : Near now c c') :
    visible ⟨now, c'⟩ = visible ⟨now, c⟩ := by
  unfold Spec.visible observe
  obtain ⟨b, hb, ⟨m, rfl⟩ | ⟨m, c1, h1, rfl⟩⟩ := h
  · simp only [expire_markStored, expire_bump]
    cases h1 : MongoModel.expire now c with
    | error e =>
      simp only [Except.map]
      rw [indexNames_markStored _ b (by simpa using hb), indexNames_bump]
    | ok c1 =>
      have hf := (expire_ok now c c1 h1).2.1
      simp only [Except.map, markStored_docs]
      rw [indexNames_markStored _ b (by simpa [hf] using hb), indexNames_bump]
  · have hf := (expire_ok now c c1 h1).2.1
    simp only [expire_markStored, expire_bump, expire_idem now c c1 h1, h1, Except.map,
      markStored_docs]
    rw [indexNames_markStored _ b (by simpa [hf] using hb), indexNames_bump]

/-- where existence is recorded, `Near` is exactly: `c` or `c` after the expiry pass, up to the
    ObjectId counter -/
theorem Near.exact {now : Int} {c c' : Coll} (h : Near now c c') (hr : c.Recorded) :
    (∃ n, c' = { c with nextOid := n }) ∨
    (∃ n c1, MongoModel.expire now c = .ok c1 ∧ c' = { c1 with nextOid := n }) := by
  obtain ⟨b, hb, ⟨m, rfl⟩ | ⟨m, c1, h1, rfl⟩⟩ := h
  · exact .inl ⟨m, markStored_of_recorded _ b hr hb⟩
  · obtain ⟨hs, hi, _, hf, _⟩ := expire_ok now c c1 h1
    refine .inr ⟨m, c1, h1, markStored_of_recorded _ b ?_ (by simpa [hi] using hb)⟩
    -- the pass keeps the flag, removes documents only, and leaves the indexes
    intro hne
    show c1.forceCreated = true
    rw [hf]
    refine hr (hne.imp (fun hd e => hd ?_) (fun hx => by simpa [hi] using hx))
    exact List.sublist_nil.1 (e ▸ hs)

end MongoModel.Proofs.C08Lemmas
