/-
  Proofs.C08Ext — the exact-state statements on find_one_and_*, update_many and bulk_write.
  The all-or-nothing ones are `Near` statements (C08Step, C08ExtFam) turned into `Untouched` on a
  recorded collection by `near_untouched`; the update_many ones unpack `many_split`
  (C08ExtManyLoop); the bulk ones are the statements on `bulkLoop` (C15Loop) with the failed
  request filled in.  And the witnesses: writes that raise AFTER having changed the collection.
-/
import Proofs.C08ExtFam
import Proofs.C08ExtManyLoop
import Proofs.C15Loop
import Proofs.StoreRecorded

namespace MongoModel.Proofs.C08Ext
open MongoModel MongoModel.Spec MongoModel.Proofs.C08Lemmas MongoModel.Proofs.C15Lemmas

theorem untouched_refl (now : Int) (c : Coll) : Untouched now c c := ⟨c.nextOid, .inl rfl⟩

theorem untouched_trans (now : Int) (c c' c'' : Coll) (h : Untouched now c c')
    (h' : Untouched now c' c'') : Untouched now c c'' := by
  obtain ⟨n, rfl | ⟨c1, h1, rfl⟩⟩ := h
  · obtain ⟨m, rfl | ⟨c2, h2, rfl⟩⟩ := h'
    · exact ⟨m, .inl rfl⟩
    · rw [C09Lemmas.expire_bump] at h2
      cases h1 : expire now c with
      | error e => simp [h1, Except.map] at h2
      | ok c1 =>
        simp only [h1, Except.map, Except.ok.injEq] at h2
        subst h2
        exact ⟨m, .inr ⟨c1, h1, rfl⟩⟩
  · obtain ⟨m, rfl | ⟨c2, h2, rfl⟩⟩ := h'
    · exact ⟨m, .inr ⟨c1, h1, rfl⟩⟩
    · rw [C09Lemmas.expire_bump, expire_idem now c c1 h1] at h2
      simp only [Except.map, Except.ok.injEq] at h2
      subst h2
      exact ⟨m, .inr ⟨c1, h1, rfl⟩⟩

theorem untouched_observable (now : Int) (c c' : Coll) (h : Untouched now c c') :
    visible ⟨now, c'⟩ = visible ⟨now, c⟩ ∧ c'.indexes = c.indexes ∧
    c'.ttlIndexes = c.ttlIndexes ∧ c'.forceCreated = c.forceCreated ∧
    (c'.docs = c.docs ∨ ∃ c1, expire now c = .ok c1 ∧ c'.docs = c1.docs) := by
  have hn := untouched_near now c c' h
  refine ⟨hn.visible, hn.indexes.1, hn.indexes.2, ?_, ?_⟩
  · obtain ⟨n, rfl | ⟨c1, h1, rfl⟩⟩ := h
    · rfl
    · exact (C09Lemmas.expire_ok now c c1 h1).2.2.2.1
  · obtain ⟨n, rfl | ⟨c1, h1, rfl⟩⟩ := h
    · exact .inl rfl
    · exact .inr ⟨c1, h1, rfl⟩

theorem fam_failed_partial (cfg : Cfg) (now : Int) (c : Coll) (op : Val) (hr : c.Recorded)
    (hop : famOp op = true) (he : (stepX cfg now c op).2.isErr = true) :
    Untouched now c (stepX cfg now c op).1 ∨
    (famAfter op = true ∧ projAcceptable (famProj op) = true ∧
      (stepX cfg now c (famBefore op)).2.isErr = false ∧
      Untouched now (stepX cfg now c (famBefore op)).1 (stepX cfg now c op).1) := by
  rcases fam_failed_near cfg now c op hop he with h | ⟨h1, hp, h2, h3⟩
  · exact .inl (near_untouched now c _ hr h)
  · exact .inr ⟨h1, hp, h2, near_untouched now _ _
      (MongoModel.Proofs.Recorded.recorded_stepX cfg now c _ hr) h3⟩

theorem fam_failed_noop (cfg : Cfg) (now : Int) (c : Coll) (op : Val) (hr : c.Recorded)
    (hop : famOp op = true) (ha : famAfter op = false)
    (he : (stepX cfg now c op).2.isErr = true) :
    Untouched now c (stepX cfg now c op).1 := by
  rcases fam_failed_partial cfg now c op hr hop he with h | ⟨h, _⟩
  · exact h
  · rw [ha] at h; cases h

theorem fam_failed_history_noop (cfg : Cfg) (s : St) (op : Val) (hop : famOp op = true)
    (ha : famAfter op = false) (he : (stepXS cfg s op).2.isErr = true) :
    visible (stepXS cfg s op).1 = visible s ∧
    (stepXS cfg s op).1.c.indexes = s.c.indexes ∧
    (stepXS cfg s op).1.c.ttlIndexes = s.c.ttlIndexes := by
  rw [Shape.stepXS_eq cfg s op fun us h => by subst h; cases hop] at he ⊢
  rcases fam_failed_near cfg s.now s.c op hop he with h | ⟨h, _⟩
  · exact ⟨h.visible, h.indexes.1, h.indexes.2⟩
  · rw [ha] at h; cases h

theorem failed_atomic_write_untouched (cfg : Cfg) (now : Int) (c : Coll) (op : Val)
    (hr : c.Recorded) (ha : atomicWrite op = true)
    (he : (stepColl cfg now c op).2.isErr = true) :
    Untouched now c (stepColl cfg now c op).1 :=
  near_untouched now c _ hr (atomic_fail_near cfg now c op ha he)

theorem update_many_iterates_single (now : Int) (spec document nowV : Val) (c : Coll) (m u : Nat) :
    updateLoop now spec document nowV true [] c m u = (c, .ok (m, u)) ∧
    ∀ (p : Val × Val) (rest : List (Val × Val)),
      updateLoop now spec document nowV true (p :: rest) c m u =
        match updateLoop now spec document nowV false [p] c m u with
        | (_, .error e) => (c, .error e)
        | (c1, .ok (m1, u1)) => updateLoop now spec document nowV true rest c1 m1 u1 :=
  ⟨Shape.updateLoop_nil .., fun p rest => many_cons now spec document nowV p rest c m u⟩

theorem update_many_stops_at_failing_document (now : Int) (spec document nowV : Val) (c c' : Coll)
    (m u : Nat) (e : Err) (hn : c.ttlIndexes = []) (hk : KeysDistinct c) (hg : GoodKeys c)
    (h : updateLoop now spec document nowV true c.docs c m u = (c', .error e)) :
    ∃ pre pre' q post, c.docs = pre ++ q :: post ∧ c'.docs = pre' ++ q :: post ∧
      List.Forall₂ (Updated spec document nowV) pre pre' ∧
      (∀ m2 u2, updateLoop now spec document nowV false [q] c' m2 u2 = (c', .error e)) ∧
      c'.indexes = c.indexes ∧ c'.ttlIndexes = c.ttlIndexes := by
  obtain ⟨h1, h2, pre, pre', post, h3, h4, h5, q, rest, rfl, h6⟩ :=
    many_split now spec document nowV c.docs [] c m u c' (.error e) rfl hn hk hg h
  exact ⟨pre, pre', q, rest, h3, by simpa using h4, h5, h6, h1, by rw [h2, hn]⟩

theorem update_many_updates_all_selected (now : Int) (spec document nowV : Val) (c c' : Coll)
    (m u m' u' : Nat) (hn : c.ttlIndexes = []) (hk : KeysDistinct c) (hg : GoodKeys c)
    (h : updateLoop now spec document nowV true c.docs c m u = (c', .ok (m', u'))) :
    List.Forall₂ (Updated spec document nowV) c.docs c'.docs := by
  obtain ⟨_, _, pre, pre', post, h3, h4, h5, h6⟩ :=
    many_split now spec document nowV c.docs [] c m u c' (.ok (m', u')) rfl hn hk hg h
  simp only at h6
  subst h6
  simp only [List.append_nil, List.nil_append] at h3 h4
  rw [h3, h4]; exact h5

theorem update_many_document_granularity (cfg : Cfg) (now : Int) (c : Coll) (f u up : Val)
    (hn : c.ttlIndexes = []) (hk : KeysDistinct c) (hg : GoodKeys c)
    (he : (stepColl cfg now c (.arr [.str "update_many", f, u, up])).2.isErr = true) :
    ∃ pre pre' post, c.docs = pre ++ post ∧
      (stepColl cfg now c (.arr [.str "update_many", f, u, up])).1.docs = pre' ++ post ∧
      List.Forall₂ (Updated (patchDT f) (patchDT u) (patchDT (.date now none))) pre pre' ∧
      (stepColl cfg now c (.arr [.str "update_many", f, u, up])).1.indexes = c.indexes ∧
      (stepColl cfg now c (.arr [.str "update_many", f, u, up])).1.ttlIndexes = c.ttlIndexes := by
  rw [C09Lemmas.step_update_many] at he ⊢
  cases hv : validateUpdate u with
  | error e => exact ⟨[], [], c.docs, rfl, rfl, .nil, rfl, rfl⟩
  | ok x =>
    cases x
    rw [hv] at he
    simp only at he ⊢
    cases ha : applyUpdateColl cfg now c f u (boolOf up) true with
    | mk c' r =>
      rw [ha] at he
      cases r with
      | ok res => cases he
      | error e =>
        obtain ⟨h1, h2, pre, pre', post, h3, h4, h5⟩ :=
          update_many_fail cfg now c c' f u (boolOf up) e hn hk hg ha
        exact ⟨pre, pre', post, h3, h4, h5, h1, h2⟩

theorem bulk_failed_request_noop (cfg : Cfg) (now : Int) (c c' : Coll) (idx : Nat) (req : Val)
    (o : BulkOut) (hr : c.Recorded) (ha : atomicRequest req = true)
    (h : bulkOne cfg now c idx req = (c', o)) (ho : requestFailed o = true) :
    Untouched now c c' :=
  near_untouched _ _ _ hr (bulkOne_fail_near cfg now c c' idx req o ha h ho)

theorem recorded_seqOps (cfg : Cfg) (now : Int) (ops : List Val) (c : Coll) (hr : c.Recorded) :
    (seqOps cfg now ops c).Recorded := by
  induction ops generalizing c with
  | nil => exact hr
  | cons op ops ih =>
    exact ih _ (MongoModel.Proofs.Recorded.recorded_stepColl cfg now c op hr)

theorem bulk_failed_update_many (cfg : Cfg) (now : Int) (c c' : Coll) (idx : Nat) (f u up : Val)
    (o : BulkOut) (hn : c.ttlIndexes = []) (hk : KeysDistinct c) (hg : GoodKeys c)
    (h : bulkOne cfg now c idx (.arr [.str "UpdateMany", f, u, up]) = (c', o))
    (ho : requestFailed o = true) :
    ∃ pre pre' post, c.docs = pre ++ post ∧ c'.docs = pre' ++ post ∧
      List.Forall₂ (Updated (patchDT f) (patchDT u) (patchDT (.date now none))) pre pre' ∧
      c'.indexes = c.indexes ∧ c'.ttlIndexes = c.ttlIndexes := by
  rw [Shape.bulkOne_UpdateMany] at h
  unfold Shape.bulkUpd at h
  cases ha : applyUpdateColl cfg now c f u (boolOf up) true with
  | mk c1 r =>
    rw [ha] at h
    cases r with
    | ok res => cases h; cases ho
    | error e =>
      cases h
      obtain ⟨h1, h2, pre, pre', post, h3, h4, h5⟩ :=
        update_many_fail cfg now c _ f u (boolOf up) e hn hk hg ha
      exact ⟨pre, pre', post, h3, h4, h5, h1, h2⟩

theorem errorPositions_toVal (t : BulkTotals) :
    errorPositions t.toVal = t.errors.map errorIndex := by
  simp [errorPositions, BulkTotals.toVal, dget]

theorem seqAllOk_iff_no_failures (cfg : Cfg) (now : Int) (ops : List Val) (c : Coll) (i : Nat) :
    seqAllOk cfg now ops c = true ↔ seqFailures cfg now ops c i = [] := by
  induction ops generalizing c i with
  | nil => simp [seqAllOk, seqFailures]
  | cons op ops ih =>
    simp only [seqAllOk, seqFailures, Bool.and_eq_true, Bool.not_eq_true', List.append_eq_nil_iff]
    rw [ih _ (i + 1)]
    cases (stepColl cfg now c op).2.isErr <;> simp

theorem bulk_ordered_stops_at_first_failure (cfg : Cfg) (now : Int) (c : Coll) (reqs : List Val)
    (hr : c.Recorded)
    (hp : reqs.all plainRequest = true) (hv : bulkPrecheck reqs = .ok ()) (hne : reqs ≠ []) :
    ((bulkWrite cfg now c reqs true).2.isErr = false →
      seqAllOk cfg now (reqs.map asSingle) c = true ∧
      (bulkWrite cfg now c reqs true).1 = seqOps cfg now (reqs.map asSingle) c) ∧
    ((bulkWrite cfg now c reqs true).2.isErr = true →
      ∃ pre r post, reqs = pre ++ r :: post ∧
        seqAllOk cfg now (pre.map asSingle) c = true ∧
        (stepColl cfg now (seqOps cfg now (pre.map asSingle) c) (asSingle r)).2.isErr = true ∧
        (bulkWrite cfg now c reqs true).1 =
          (stepColl cfg now (seqOps cfg now (pre.map asSingle) c) (asSingle r)).1 ∧
        (atomicRequest r = true →
          Untouched now (seqOps cfg now (pre.map asSingle) c) (bulkWrite cfg now c reqs true).1) ∧
        (∀ details, (bulkWrite cfg now c reqs true).2 = .bulkErr details →
          errorPositions details = [.int pre.length])) := by
  rw [bulkWrite_loop cfg now c reqs true hv hne]
  rcases loop_ordered cfg now reqs hp hv 0 c {} rfl with
    ⟨t', h1, h2⟩ | ⟨pre, r, post, h1, h2, h3, h4, ⟨o, h5, h6⟩, h7⟩
  · rw [h1]
    exact ⟨fun _ => ⟨h2, rfl⟩, fun h => by cases h⟩
  · constructor
    · intro h
      rcases h7 with ⟨e, h7⟩ | ⟨t', h7, _⟩ <;> rw [h7] at h <;> cases h
    · intro _
      refine ⟨pre, r, post, h1, h2, h3, h4, ?_, ?_⟩
      · intro ha
        exact bulk_failed_request_noop cfg now _ _ _ r o (recorded_seqOps cfg now _ c hr) ha h5 h6
      · intro details hd
        rcases h7 with ⟨e, h7⟩ | ⟨t', h7, h8⟩
        · rw [h7] at hd; cases hd
        · rw [h7] at hd
          cases hd
          rw [errorPositions_toVal, h8]
          simp

theorem bulk_unordered_applies_every_success (cfg : Cfg) (now : Int) (c : Coll) (reqs : List Val)
    (hp : reqs.all plainRequest = true) (hv : bulkPrecheck reqs = .ok ()) (hne : reqs ≠ [])
    (hw : ∀ e, (bulkWrite cfg now c reqs false).2 ≠ .err e) :
    (bulkWrite cfg now c reqs false).1 = seqOps cfg now (reqs.map asSingle) c ∧
    ((bulkWrite cfg now c reqs false).2.isErr = false ↔
      seqAllOk cfg now (reqs.map asSingle) c = true) ∧
    (∀ details, (bulkWrite cfg now c reqs false).2 = .bulkErr details →
      errorPositions details =
        (seqFailures cfg now (reqs.map asSingle) c 0).map (fun i : Nat => Val.int i)) := by
  rw [bulkWrite_loop cfg now c reqs false hv hne] at hw ⊢
  obtain ⟨t', h1, h2⟩ := loop_unordered cfg now reqs hp hv 0 c {} hw
  rw [h1]
  simp only [List.map_nil, List.nil_append] at h2
  refine ⟨rfl, ?_, ?_⟩
  · have hE : t'.errors = [] ↔ seqFailures cfg now (reqs.map asSingle) c 0 = [] := by
      rw [← List.map_eq_nil_iff (f := errorIndex), h2, List.map_eq_nil_iff]
    rw [seqAllOk_iff_no_failures cfg now _ c 0, ← hE]
    cases t'.errors <;> simp [Out.isErr]
  · intro details hd
    cases he : t'.errors with
    | nil => rw [he] at hd; cases hd
    | cons x l =>
      rw [he] at hd
      simp only [List.isEmpty_cons, Bool.false_eq_true, if_false] at hd
      cases hd
      rw [errorPositions_toVal, h2]

theorem untouched_docs_nottl (now : Int) (c c' : Coll) (hn : c.ttlIndexes = [])
    (h : Untouched now c c') : c'.docs = c.docs :=
  (untouched_near now c c' h).nottl hn

def famWitnessColl : Coll :=
  { docs := [(.int 1, .doc [("_id", .int 1), ("a", .arr [.int 1, .int 2])])], forceCreated := true }

/-- `find_one_and_update({_id: 1}, {$set: {a: 5}}, projection={a: {$slice: 1}},
    return_document=AFTER)`: the projection is fine in itself and fine on the document as it is
    (`a` is an array); the update turns `a` into a number, THEN the read-back raises
    OperationFailure (`$slice` of a non-array) — known finding `fam-after-projection-on-result` -/
def famWitnessOp : Val :=
  .arr [.str "find_one_and_update", .doc [("_id", .int 1)], .doc [("$set", .doc [("a", .int 5)])],
        .doc [("a", .doc [("$slice", .int 1)])], .null, .bool false, .bool true]

/-- the `a` of the first stored document is the integer `n` -/
def firstAIs (docs : List (Val × Val)) (n : Int) : Bool :=
  match docs with
  | (_, .doc fs) :: _ => (match dget "a" fs with | some (.int i) => i == n | _ => false)
  | _ => false

theorem fam_witness :
    famOp famWitnessOp = true ∧ (stepX {} 0 famWitnessColl famWitnessOp).2.isErr = true ∧
    firstAIs (stepX {} 0 famWitnessColl famWitnessOp).1.docs 5 = true ∧
    firstAIs famWitnessColl.docs 5 = false ∧
    projAcceptable (famProj famWitnessOp) = true := by decide +kernel

theorem fam_failed_noop_full_fails :
    ¬ (∀ (cfg : Cfg) (now : Int) (c : Coll) (op : Val), c.Recorded → famOp op = true →
      (stepX cfg now c op).2.isErr = true → Untouched now c (stepX cfg now c op).1) := by
  intro h
  have hu := h {} 0 famWitnessColl famWitnessOp (fun _ => rfl) fam_witness.1 fam_witness.2.1
  have hd := untouched_docs_nottl 0 famWitnessColl _ rfl hu
  have hl := fam_witness.2.2.1
  rw [hd, fam_witness.2.2.2.1] at hl
  cases hl

/-! ### the repaired finding `fam-after-projection-error` (library commit 7781c66)

A projection that is refused whatever the document — here one mixing inclusion and exclusion — used
to be met, on the upsert path, only by the read-back after the write: the call raised with the
upsert done.  `_find_and_modify` now applies the projection to the empty document before it
writes.  The former witness, kept as a regression example: the call raises and nothing is
written. -/

def famRepairedColl : Coll :=
  { docs := [(.int 1, .doc [("_id", .int 1), ("a", .int 1)])], forceCreated := true }

/-- `find_one_and_update({_id: 7}, {$set: {a: 5}}, projection={a: 1, b: 0}, upsert=True,
    return_document=AFTER)` -/
def famRepairedOp : Val :=
  .arr [.str "find_one_and_update", .doc [("_id", .int 7)], .doc [("$set", .doc [("a", .int 5)])],
        .doc [("a", .int 1), ("b", .int 0)], .null, .bool true, .bool true]

theorem fam_repaired :
    famOp famRepairedOp = true ∧ projAcceptable (famProj famRepairedOp) = false ∧
    (stepX {} 0 famRepairedColl famRepairedOp).2.isErr = true ∧
    (stepX {} 0 famRepairedColl famRepairedOp).1.docs == famRepairedColl.docs := by decide +kernel

/-! ### `UpdateMany` inside a bulk: the documents updated before the failing one stay updated -/

def manyWitnessColl : Coll :=
  { docs := [(.int 1, .doc [("_id", .int 1), ("a", .int 1)]),
             (.int 2, .doc [("_id", .int 2), ("a", .str "x")])], forceCreated := true }

def manyWitnessReq : Val :=
  .arr [.str "UpdateMany", .doc [], .doc [("$inc", .doc [("a", .int 1)])], .bool false]

theorem many_witness :
    requestFailed (bulkOne {} 0 manyWitnessColl 0 manyWitnessReq).2 = true ∧
    firstAIs (bulkOne {} 0 manyWitnessColl 0 manyWitnessReq).1.docs 2 = true ∧
    firstAIs manyWitnessColl.docs 2 = false := by decide +kernel

theorem bulk_failed_request_noop_full_fails :
    ¬ (∀ (cfg : Cfg) (now : Int) (c c' : Coll) (idx : Nat) (req : Val) (o : BulkOut),
      c.Recorded → bulkOne cfg now c idx req = (c', o) → requestFailed o = true →
      Untouched now c c') := by
  intro h
  have hu := h {} 0 manyWitnessColl (bulkOne {} 0 manyWitnessColl 0 manyWitnessReq).1 0
    manyWitnessReq (bulkOne {} 0 manyWitnessColl 0 manyWitnessReq).2 (fun _ => rfl)
    Prod.mk.eta.symm many_witness.1
  have hd := untouched_docs_nottl 0 manyWitnessColl _ rfl hu
  have h1 := many_witness.2.1
  rw [hd, many_witness.2.2] at h1
  cases h1

theorem goodKeys_of_scalar (c : Coll) (h : c.docs.all (fun p => isScalar p.1) = true) :
    GoodKeys c := by
  intro p hp
  have := List.all_eq_true.1 h p hp
  exact ⟨C05Lemmas.scalar_symm' _ this, C05Lemmas.scalar_refl _ this⟩

/-- four documents, the third of which cannot be incremented -/
def granColl : Coll :=
  { docs := [(.int 1, .doc [("_id", .int 1), ("a", .int 1)]),
             (.int 2, .doc [("_id", .int 2), ("a", .int 2)]),
             (.int 3, .doc [("_id", .int 3), ("a", .str "x")]),
             (.int 4, .doc [("_id", .int 4), ("a", .int 4)])], forceCreated := true }

theorem witness_colls_recorded :
    famWitnessColl.Recorded ∧ manyWitnessColl.Recorded ∧ granColl.Recorded :=
  ⟨fun _ => rfl, fun _ => rfl, fun _ => rfl⟩

theorem famRepairedColl_recorded : famRepairedColl.Recorded := fun _ => rfl

theorem granColl_hyps : granColl.ttlIndexes = [] ∧ KeysDistinct granColl ∧ GoodKeys granColl := by
  refine ⟨rfl, ?_, goodKeys_of_scalar _ (by decide)⟩
  unfold KeysDistinct granColl
  decide +kernel

end MongoModel.Proofs.C08Ext
