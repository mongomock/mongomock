/-
  Proofs.C03GroupKeys — the `$group` stage on scalar keys: the sort of `_handle_group_stage`
  (aggregate.py:1453) is the stable sort by the BSON order, whose ties are Python's `==` there, so
  the runs of `itertools.groupby` are the key classes in input order.
-/
import Proofs.C03Group
import Proofs.C11Model
import Spec.PipelineDomain

namespace MongoModel.Pipe.Proofs
open MongoModel MongoModel.Pipe MongoModel.Proofs.C11 MongoModel.Spec.Order MongoModel.Spec.Pipe

theorem strictWeak_valLt : StrictWeak valLt :=
  strictWeak_of_embedding valLt embV valLt_iff

theorem int_tie (x y : Int) : (x == y) = (!decide (x < y) && !decide (y < x)) := by
  rcases Int.lt_trichotomy x y with h | rfl | h
  · rw [beq_eq_false_iff_ne.2 (Int.ne_of_lt h), decide_eq_true h]; rfl
  · rw [beq_self_eq_true, decide_eq_false (Int.lt_irrefl x)]; rfl
  · rw [beq_eq_false_iff_ne.2 (Int.ne_of_gt h), decide_eq_true h, Bool.not_true, Bool.and_false]

theorem str_tie (x y : String) : (x == y) = (!decide (x < y) && !decide (y < x)) := by
  rcases lt_trichotomy x y with h | rfl | h
  · rw [beq_eq_false_iff_ne.2 (ne_of_lt h), decide_eq_true h]; rfl
  · rw [beq_self_eq_true, decide_eq_false (lt_irrefl x)]; rfl
  · rw [beq_eq_false_iff_ne.2 (ne_of_gt h), decide_eq_true h, Bool.not_true, Bool.and_false]

/-- values of different BSON types are never tied -/
theorem tie_of_typeOrder_ne {a b : Val} (h : typeOrder a ≠ typeOrder b) : tie valLt a b = false := by
  simp only [tie, valLt, h, h.symm, ne_eq, not_false_eq_true, if_true]
  rcases Nat.lt_or_gt_of_ne h with h' | h' <;> simp [h', Nat.lt_asymm h']

/-- on null, numbers, strings and naive dates Python's `==` is the tie of the BSON order: across
    types both are false; within a type both compare the payloads -/
theorem pyEq_eq_tie (a b : Val) (ha : groupKeyOk a = true) (hb : groupKeyOk b = true) :
    pyEq a b = tie valLt a b := by
  rcases a with _ | _ | x | ⟨m, e⟩ | x | ⟨u, _ | o⟩ | _ | _ | _ <;> try cases ha
  all_goals
    rcases b with _ | _ | y | ⟨m', e'⟩ | y | ⟨u', _ | o'⟩ | _ | _ | _ <;> try cases hb
  all_goals try exact (tie_of_typeOrder_ne (Nat.ne_of_beq_eq_false rfl)).symm
  · rfl                                                 -- null, null
  · exact int_tie _ _                                   -- int, int
  · exact int_tie _ _                                   -- int, double
  · exact (int_tie _ _).trans (Bool.and_comm _ _)       -- double, int
  · exact int_tie _ _                                   -- double, double
  · exact str_tie _ _
  · exact int_tie _ _                                   -- naive dates

theorem keyOrder_valLt : KeyOrder valLt (fun k => groupKeyOk k = true) :=
  ⟨strictWeak_valLt, pyEq_eq_tie⟩

theorem groupKeyOk_reasons (k : Val) (h : groupKeyOk k = true) : valReasons k = [] := by
  rcases k with _ | _ | _ | _ | _ | ⟨u, _ | o⟩ | _ | _ | _ <;> simp [groupKeyOk] at h <;> rfl

theorem keyedLt_ok (a b : Val × Val) (ha : groupKeyOk a.1 = true) (hb : groupKeyOk b.1 = true) :
    keyedLt a b = .ok (valLt a.1 b.1) := by
  have := keyLt_eq_spec ⟨1, a.1⟩ ⟨1, b.1⟩ (groupKeyOk_reasons _ ha) (groupKeyOk_reasons _ hb)
  simpa [MongoModel.keyLt, Spec.Order.keyLt, keyedLt] using this

/-- inside the domain the sort of `$group` is the stable sort by the BSON order of the keys -/
theorem group_sort_eq (kds : List (Val × Val)) (hK : ∀ p ∈ kds, groupKeyOk p.1 = true) :
    pySorted keyedLt false kds = .ok (isort (fun a b : Val × Val => valLt a.1 b.1) kds) := by
  have hok : pairsOk keyedLt kds = true := by
    apply pairsOk_of
    intro a ha b hb
    rw [keyedLt_ok a b (hK a ha) (hK b hb)]; rfl
  simp only [pySorted, hok, if_true, Bool.false_eq_true, if_false]
  congr 1
  apply isort_congr
  intro a ha b hb
  rw [keyedLt_ok a b (hK a ha) (hK b hb)]
  cases valLt a.1 b.1 <;> rfl

theorem strictWeak_pairs : StrictWeak (fun a b : Val × Val => valLt a.1 b.1) :=
  ⟨fun a b h => strictWeak_valLt.asymm a.1 b.1 h,
   fun a b c h1 h2 => strictWeak_valLt.negTrans a.1 b.1 c.1 h1 h2⟩

theorem keyShallow_of_ok (k : Val) (h : groupKeyOk k = true) : keyShallow k = true :=
  keyShallow_of_reasons k (groupKeyOk_reasons k h)

theorem keyed_ok (idExpr : Val) : ∀ (docs : List Val) (kds : List (Val × Val)),
    keyed idExpr docs = .ok kds →
    kds.map (·.2) = docs ∧ ∀ p ∈ kds, groupKey idExpr p.2 = .ok p.1
  | [], kds, h => by cases h; exact ⟨rfl, nofun⟩
  | d :: ds, kds, h => by
    unfold keyed at h
    split at h
    · cases h
    next k hk =>
    split at h
    · cases h
    next r hr =>
    cases h
    obtain ⟨i1, i2⟩ := keyed_ok idExpr ds r hr
    exact ⟨congrArg (d :: ·) i1, List.forall_mem_cons.2 ⟨hk, i2⟩⟩

theorem emitGroups_ok (options : Fields) : ∀ (rs : List (Val × List Val)) (out : List Val),
    emitGroups options rs = .ok out →
    List.Forall₂ (fun r o => ∃ fs, accumulate options r.2 = .ok fs ∧ o = .doc (dset "_id" r.1 fs))
      rs out
  | [], out, h => by cases h; exact .nil
  | (k, g) :: rest, out, h => by
    unfold emitGroups at h
    split at h
    · cases h
    next fs ha =>
    split at h
    · cases h
    next r hr =>
    cases h
    exact .cons ⟨fs, ha, rfl⟩ (emitGroups_ok options rest r hr)

/-! ### the accumulators are validated before anything is read -/

theorem groupStage_eq (options : Fields) (docs : List Val) :
    groupStage (.doc options) docs =
      (match validateAccs options with
       | .error e => .error e
       | .ok _ => groupBody options docs) := rfl

theorem groupStage_valid (options : Fields) (docs : List Val)
    (h : validateAccs options = .ok ()) : groupStage (.doc options) docs = groupBody options docs := by
  rw [groupStage_eq, h]

theorem groupStage_ok (options : Fields) (docs out : List Val)
    (h : groupStage (.doc options) docs = .ok out) :
    validateAccs options = .ok () ∧ groupBody options docs = .ok out := by
  rw [groupStage_eq] at h
  cases hv : validateAccs options with
  | error e => rw [hv] at h; cases h
  | ok u => rw [hv] at h; exact ⟨rfl, h⟩

/-- whatever the key expression, the groups cover the input exactly once -/
theorem groupBody_groups (options : Fields) (docs out : List Val)
    (h : groupBody options docs = .ok out) :
    ∃ rs : List (Val × List Val), emitGroups options rs = .ok out ∧
      (rs.flatMap (·.2)).Perm docs := by
  unfold groupBody at h
  split at h
  · cases h
  split at h
  · split at h
    · cases h
    next kds hk =>
    replace h := (of_ite_left_ne h nofun).2
    split at h
    · cases h
    next sorted hs =>
    refine ⟨groupRuns sorted, h, ?_⟩
    rw [groupRuns_flatten, ← (keyed_ok _ docs kds hk).1]
    exact (pySorted_perm _ _ _ _ hs).map _
  · exact ⟨_, h, by cases docs <;> simp⟩

/-- no input, no group — whatever the `_id` expression (a constant included) -/
theorem groupBody_empty (options : Fields) (idExpr : Val)
    (hid : dget "_id" options = some idExpr) : groupBody options [] = .ok [] := by
  have hs : pySorted keyedLt false ([] : List (Val × Val)) = .ok [] := by
    simp [pySorted, pairsOk, isort]
  cases hn : Expr.isNull idExpr <;>
    simp [groupBody, hid, hn, keyed, hs, groupRuns, emitGroups]

/-- `_id: null`: one group holding every document, in input order — none over no input -/
theorem groupBody_null_id (options : Fields) (docs : List Val)
    (hid : dget "_id" options = some .null) :
    groupBody options docs =
      emitGroups options (if docs.isEmpty then [] else [(.null, docs)]) := by
  rw [groupBody, hid]; rfl

/-- **`$group` partitions its input by key** (scalar keys): the groups have pairwise different
    keys, the group of key `k` holds exactly the documents whose key is `==` to `k`, in input
    order, and every document's key has its group. -/
theorem groupBody_partition (options : Fields) (idExpr : Val) (docs out : List Val)
    (kds : List (Val × Val))
    (hid : dget "_id" options = some idExpr) (ht : Expr.isNull idExpr = false)
    (hk : keyed idExpr docs = .ok kds) (hK : ∀ p ∈ kds, groupKeyOk p.1 = true)
    (h : groupBody options docs = .ok out) :
    ∃ rs : List (Val × List Val), emitGroups options rs = .ok out ∧
      rs.Pairwise (fun a b => pyEq a.1 b.1 = false) ∧
      (∀ r ∈ rs, (∃ p ∈ kds, p.1 = r.1) ∧
        r.2 = (kds.filter (fun p => pyEq r.1 p.1)).map (·.2)) ∧
      (∀ p ∈ kds, ∃ r ∈ rs, pyEq r.1 p.1 = true) := by
  have hshallow : kds.all (fun kd => keyShallow kd.1) = true :=
    List.all_eq_true.2 fun p hp => keyShallow_of_ok _ (hK p hp)
  simp only [groupBody, hid, ht, Bool.not_false, if_true, hk, hshallow, Bool.not_true,
    Bool.false_eq_true, if_false, group_sort_eq kds hK] at h
  set ltp := fun a b : Val × Val => valLt a.1 b.1 with hltp
  have hperm : (isort ltp kds).Perm kds := isort_perm _ _
  have hKs : ∀ p ∈ isort ltp kds, groupKeyOk p.1 = true := fun p hp => hK p (hperm.mem_iff.1 hp)
  obtain ⟨g1, g2, g3⟩ := groupRuns_sorted keyOrder_valLt _ (isort ltp kds)
    (Nat.le_refl _) hKs (isort_sorted strictWeak_pairs kds)
  refine ⟨_, h, g1, fun r hr => ?_, fun p hp => g3 p (hperm.mem_iff.2 hp)⟩
  obtain ⟨⟨p, hp, hpk⟩, hg⟩ := g2 r hr
  have hKr : groupKeyOk r.1 = true := hpk ▸ hKs p hp
  refine ⟨⟨p, hperm.mem_iff.1 hp, hpk⟩, ?_⟩
  -- the sort is stable: the documents tied with `r.1` come in input order
  have e : ∀ l : List (Val × Val), (∀ x ∈ l, groupKeyOk x.1 = true) →
      l.filter (fun p => pyEq r.1 p.1) = l.filter (tie ltp (r.1, Val.null)) := fun l hl =>
    List.filter_congr fun x hx => pyEq_eq_tie _ _ hKr (hl x hx)
  rw [hg, e _ hKs, e _ hK, isort_stable strictWeak_pairs kds (r.1, Val.null)]

end MongoModel.Pipe.Proofs
