/-
  Proofs.C03ExtLookup — `$lookup` against the oracle `specLookupDoc` on the domain
  `lookupReasons = []` (top-level field names, scalar local value, no boolean/number pair).
-/
import Proofs.C03ExtKeys
import Proofs.C03Spec
import Proofs.C01

namespace MongoModel.Pipe.Proofs
open MongoModel MongoModel.Pipe MongoModel.Spec MongoModel.Spec.Pipe MongoModel.Spec.Order
  MongoModel.Proofs.C11 MongoModel.Proofs.C01Lemmas

theorem startsWith_dollar (s : String) : s.startsWith "$" = startsWithDollar s := by
  rw [Bool.eq_iff_iff]
  simp only [String.startsWith, String.Slice.startsWith_string_iff, startsWithDollar]
  have : "$".toList = ['$'] := by decide
  rw [this]
  simp only [String.copy_toSlice]
  cases s.toList with
  | nil => simp
  | cons c r =>
    simp only [List.cons_prefix_cons, List.nil_prefix, and_true, beq_iff_eq]
    exact eq_comm

structure PlainName (s : String) : Prop where
  nodollar : startsWithDollar s = false
  nodollar' : s.startsWith "$" = false
  nodot : s.toList.contains '.' = false
  split : splitDots s = [s]

theorem plainName_ok (s : String) (h : plainName s = true) : PlainName s := by
  simp only [plainName, Bool.and_eq_true, Bool.not_eq_true', decide_eq_true_eq] at h
  obtain ⟨⟨_, h2⟩, h3⟩ := h
  have hd : startsWithDollar s = false := by
    unfold startsWithDollar
    cases hs : s.toList with
    | nil => rfl
    | cons c r =>
      rw [hs] at h3
      simp only [List.contains_cons, Bool.or_eq_false_iff, beq_eq_false_iff_ne] at h3
      simp only [beq_eq_false_iff_ne]
      exact fun e => h3.1 e.symm
  exact ⟨hd, by rw [startsWith_dollar]; exact hd, h2, splitDots_nodot s h2⟩

/-! ### the query `{foreignField: q}` on one foreign document -/

theorem filterApplies_plain (ff : String) (q : Val) (gs : Fields) (hn : PlainName ff)
    (hq : ∀ fs, q ≠ .doc fs) :
    filterApplies (.doc [(ff, q)]) (.doc gs) = .ok (plainMatch q (dget ff gs)) := by
  -- a plain name is none of the `$` keys the matcher looks for
  have hnot : ∀ l : List String, (∀ k ∈ l, k.startsWith "$" = true) → l.contains ff = false :=
    fun l hl => Bool.eq_false_iff.mpr fun h => by
      have := hl ff (List.contains_iff_mem.mp h)
      rw [hn.nodollar'] at this; cases this
  have n1 : ff ≠ "$comment" := ne_of_not_dollar hn.nodollar' (by decide +kernel)
  have n2 := hnot logicalKeys (by decide +kernel)
  have n3 : ff ≠ "$expr" := ne_of_not_dollar hn.nodollar' (by decide +kernel)
  have n4 := hnot topLevelOperators (by decide +kernel)
  have hc : candsKey ff (.doc gs) = .ok [dget ff gs] := by
    simp [candsKey, hn.split, cands]
  have hkey := applyKey_plain_nondoc q ff (.doc gs) [dget ff gs] (fun fs e => hq fs e) hc
  show applyFields [(ff, q)] (.doc gs) = _
  rw [applyFields_cons]
  simp only [applyHead, n1, n2, n3, n4, hn.nodollar', if_false, Bool.false_eq_true, hkey,
    List.any_cons, List.any_nil, Bool.or_false, bind, Except.bind]
  cases plainMatch q (dget ff gs) <;> simp [applyFields, pure, Except.pure]

/-! ### Python `==` against the oracle's equality on join values -/

theorem nat_tie (x y : Nat) : (x == y) = (!decide (x < y) && !decide (y < x)) := by
  rcases Nat.lt_trichotomy x y with h | h | h
  · simp [h, Nat.ne_of_lt h, Nat.lt_asymm h]
  · simp [h]
  · simp [h, Nat.ne_of_gt h, Nat.lt_asymm h]

/-- a foreign value `x` of another type than the scalar `q` is neither `==` nor tied with it;
    inside one type `==` is the tie of the order; a boolean next to a number and an aware date
    are excluded by `joinPair` -/
theorem pyEq_join (q x : Val) (hq : joinScalar q = true) (hp : joinPair q x = []) :
    pyEq x q = keyEq q x := by
  cases q with
  | null =>
    cases x with
    | date _ o => cases o <;> rfl
    | _ => rfl
  | bool b =>
    cases x with
    | bool b' => cases b <;> cases b' <;> rfl
    | int _ | dbl _ _ => nomatch hp
    | date _ o => cases o <;> rfl
    | _ => rfl
  | int i =>
    cases x with
    | int j => exact (int_tie j i).trans (Bool.and_comm _ _)
    | dbl m e => exact int_tie _ _
    | bool _ => nomatch hp
    | date _ o => cases o <;> rfl
    | _ => rfl
  | dbl m e =>
    cases x with
    | int j => exact (int_tie _ _).trans (Bool.and_comm _ _)
    | dbl m' e' => exact (int_tie _ _).trans (Bool.and_comm _ _)
    | bool _ => nomatch hp
    | date _ o => cases o <;> rfl
    | _ => rfl
  | str s =>
    cases x with
    | str t => exact (str_tie t s).trans (Bool.and_comm _ _)
    | date _ o => cases o <;> rfl
    | _ => rfl
  | date u o =>
    cases o with
    | some _ => nomatch hq
    | none =>
      cases x with
      | date u' o' =>
        cases o' with
        | none => exact (int_tie u' u).trans (Bool.and_comm _ _)
        | some _ => nomatch hp
      | _ => rfl
  | oid n =>
    cases x with
    | oid n' => exact (nat_tie n' n).trans (Bool.and_comm _ _)
    | date _ o => cases o <;> rfl
    | _ => rfl
  | doc _ | arr _ => nomatch hq

theorem plainMatch_eq_joins (q : Val) (fv : Option Val) (hq : joinScalar q = true)
    (hr : joinReasons q fv = []) : plainMatch q fv = joins q fv := by
  cases fv with
  | none => cases q <;> rfl
  | some v =>
    cases v with
    | arr xs =>
      have harr : pyEq q (.arr xs) = false := by
        cases q with
        | date _ o => cases o <;> rfl
        | doc _ | arr _ => nomatch hq
        | _ => rfl
      simp only [plainMatch, joins, harr, Bool.or_false, pyIn]
      exact any_congr' fun x hx => pyEq_join q x hq (List.flatMap_eq_nil_iff.mp hr x hx)
    | _ => exact pyEq_join q _ hq hr

theorem filterR_ok_of (p : Val → R Bool) (g : Val → Bool) : ∀ (xs : List Val),
    (∀ x ∈ xs, p x = .ok (g x)) → filterR p xs = .ok (xs.filter g)
  | [], _ => rfl
  | x :: xs, h => by
    simp only [filterR, h x List.mem_cons_self,
      filterR_ok_of p g xs (fun y hy => h y (List.mem_cons_of_mem _ hy)), List.filter_cons]

/-- the per-document reasons of `lookupReasons` -/
def lookupDocReasons (foreign : List Val) (lf ff : String) (d : Val) : List String :=
  match d with
  | .doc fs =>
    let q := (dget lf fs).getD .null
    (if joinScalar q then [] else ["joinscope"]) ++ (if normalV q then [] else ["datenorm"]) ++
    foreign.flatMap (fun f => match f with
      | .doc gs => (if normalV f then [] else ["datenorm"]) ++ joinReasons q (dget ff gs)
      | _ => ["nondoc"])
  | _ => ["nondoc"]

theorem lookupDoc_eq_spec (foreign : List Val) (lf ff as : String) (d : Val)
    (hlf : PlainName lf) (hff : PlainName ff)
    (hD : lookupDocReasons foreign lf ff d = []) :
    lookupDoc foreign lf ff as d = .ok (specLookupDoc foreign lf ff as d) := by
  cases d with
  | doc fs =>
    simp only [lookupDocReasons, List.append_eq_nil_iff] at hD
    obtain ⟨⟨h1, h2⟩, h3⟩ := hD
    generalize hq : (dget lf fs).getD .null = q at h1 h2 h3
    have hjs : joinScalar q = true := of_ite_nil h1
    have hqd : ∀ gs, q ≠ .doc gs := by
      intro gs e; rw [e] at hjs; cases hjs
    have hquery : lookupQuery fs lf = .ok q := by
      simp only [lookupQuery, getByDot, hlf.split, getByDotParts]
      cases hg : dget lf fs with
      | none => rw [hg] at hq; cases hq; rfl
      | some v =>
        rw [hg] at hq
        change v = q at hq
        subst hq
        cases v with
        | doc _ | arr _ => cases hjs
        | _ => rfl
    have hpatch : patch (.doc [(ff, q)]) = .doc [(ff, q)] := by
      simp [patch, patchFields, normalV_patch q (of_ite_nil h2)]
    -- every foreign document is a document in stored form whose join value is in the domain
    have hfor : ∀ f ∈ foreign, patch f = f ∧ filterApplies (.doc [(ff, q)]) f =
        .ok (match f with | .doc gs => joins q (dget ff gs) | _ => false) := by
      intro f hf
      have := List.flatMap_eq_nil_iff.mp h3 f hf
      cases f with
      | doc gs =>
        rw [List.append_eq_nil_iff] at this
        exact ⟨normalV_patch _ (of_ite_nil this.1), by
          rw [filterApplies_plain ff q gs hff hqd, plainMatch_eq_joins q _ hjs this.2]⟩
      | _ => cases this
    have hfind : findDocs (.doc [(ff, q)]) foreign = .ok (foreign.filter (fun f =>
        match f with | .doc gs => joins q (dget ff gs) | _ => false)) := by
      simp only [findDocs, hpatch]
      cases foreign with
      | nil => simp only [filterApplies_plain ff q [] hff hqd]; rfl
      | cons a r => exact filterR_ok_of _ _ _ fun f hf => (hfor f hf).2
    -- the fetched documents are in stored form: normalising them changes nothing
    have hms : ∀ l : List Val, (∀ f ∈ l, f ∈ foreign) → patchList l = l := fun l hl =>
      (MongoModel.Proofs.C18.patchList_eq_map l).trans
        ((List.map_congr_left fun f hf => (hfor f (hl f hf)).1).trans (List.map_id' l))
    simp only [lookupDoc, hquery, hfind, specLookupDoc, hq,
      hms _ fun f hf => (List.mem_filter.mp hf).1]
    rfl
  | _ => cases hD

theorem lookupArgs_some (opts : Val) (fr lf ff as : String)
    (h : lookupArgs opts = some (fr, lf, ff, as)) :
    ∃ o, opts = .doc o ∧ dhas "let" o = false ∧ dhas "pipeline" o = false ∧
      dget "from" o = some (.str fr) ∧ dget "localField" o = some (.str lf) ∧
      dget "foreignField" o = some (.str ff) ∧ dget "as" o = some (.str as) ∧
      PlainName lf ∧ PlainName ff ∧ PlainName as := by
  cases opts with
  | doc o =>
    simp only [lookupArgs] at h
    obtain ⟨hany, h⟩ := Option.ite_none_left_eq_some.mp h
    -- a key that is none of the four is not there
    have hkeys : ∀ k, ["from", "localField", "foreignField", "as"].contains k = false →
        dhas k o = false := by
      intro k hk
      cases hd : dget k o with
      | none => simp only [dhas, hd, Option.isSome_none]
      | some v =>
        exact absurd (List.any_eq_true.mpr ⟨(k, v), dget_mem hd, by rw [hk]; rfl⟩) hany
    split at h
    · rename_i fr' lf' ff' as' e1 e2 e3 e4
      obtain ⟨hp, h⟩ := Option.ite_none_right_eq_some.mp h
      simp only [Bool.and_eq_true] at hp
      cases h
      exact ⟨o, rfl, hkeys _ (by decide), hkeys _ (by decide), e1, e2, e3, e4,
        plainName_ok _ hp.1.1, plainName_ok _ hp.1.2, plainName_ok _ hp.2⟩
    · cases h
  | _ => cases h

/-- **`$lookup` = the oracle** on the domain -/
theorem lookup_eq_spec (db : Db) (opts : Val) (docs s : List Val)
    (hD : lookupReasons db opts docs = []) (hs : specLookupStage db opts docs = some s) :
    lookupStage db opts docs = .ok s := by
  simp only [specLookupStage] at hs
  cases ha : lookupArgs opts with
  | none => simp [ha] at hs
  | some a =>
    obtain ⟨fr, lf, ff, as⟩ := a
    simp only [ha, Option.map_some, Option.some.injEq] at hs
    obtain ⟨o, rfl, hlet, hpipe, e1, e2, e3, e4, p2, p3, p4⟩ := lookupArgs_some _ _ _ _ _ ha
    simp only [lookupReasons, ha, List.append_eq_nil_iff] at hD
    obtain ⟨hcoll, hdocs⟩ := hD
    have a1 : lookupArg o "from" = .ok fr := by simp [lookupArg, e1]
    have a2 : lookupArg o "localField" = .ok lf := by simp [lookupArg, e2, p2.nodollar]
    have a3 : lookupArg o "foreignField" = .ok ff := by simp [lookupArg, e3, p3.nodollar]
    have a4 : lookupArg o "as" = .ok as := by simp [lookupArg, e4, p4.nodollar]
    have hc : (!(db.colls.any (fun p => p.1 = fr)) && !validCollName fr) = false := by
      rw [← Bool.not_or, of_ite_nil hcoll]; rfl
    simp only [lookupStage, hlet, hpipe, Bool.or_self, Bool.false_eq_true, if_false, a1, a2, a3,
      a4, p4.nodot, hc]
    rw [← hs]
    apply mapR_ok
    intro d hd
    exact lookupDoc_eq_spec _ lf ff as d p2 p3 (List.flatMap_eq_nil_iff.mp hdocs d hd)

end MongoModel.Pipe.Proofs
