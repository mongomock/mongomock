import Proofs.Basics
import Proofs.BsonClass
import Proofs.C01
import Proofs.C01Basic
import Proofs.C01Cond
import Proofs.C01Leaf
import Proofs.C01Main
import Proofs.C01Values
import Proofs.C02
import Proofs.C02Basic
import Proofs.C02Ext
import Proofs.C02ExtBase
import Proofs.C02ExtFlat
import Proofs.C02ExtMain
import Proofs.C02ExtReplace
import Proofs.C02Frame
import Proofs.C02Ops
import Proofs.C02PosFrame
import Proofs.C02Positional
import Proofs.C02Validate
import Proofs.C03
import Proofs.C03Acc
import Proofs.C03Basic
import Proofs.C03Bucket
import Proofs.C03Docs
import Proofs.C03Ext
import Proofs.C03ExtAcc
import Proofs.C03ExtBucket
import Proofs.C03ExtFields
import Proofs.C03ExtGroup
import Proofs.C03ExtKeys
import Proofs.C03ExtLookup
import Proofs.C03ExtStage
import Proofs.C03Group
import Proofs.C03GroupKeys
import Proofs.C03Project
import Proofs.C03Spec
import Proofs.C03Stages
import Proofs.C04
import Proofs.C04Acc
import Proofs.C04Arith
import Proofs.C04Basic
import Proofs.C04Bind
import Proofs.C04Cmp
import Proofs.C04Cond
import Proofs.C04Date
import Proofs.C04Order
import Proofs.C04Parts
import Proofs.C04Spec
import Proofs.C04SpecEnv
import Proofs.C04SpecNamed
import Proofs.C04SpecOps
import Proofs.C04SpecRun
import Proofs.C04SpecStrict
import Proofs.C04SpecWalk
import Proofs.C05
import Proofs.C05Cex
import Proofs.C05Eq
import Proofs.C05Ext
import Proofs.C05ExtStep
import Proofs.C05Inv
import Proofs.C05Loop
import Proofs.C05Step
import Proofs.C05Store
import Proofs.C05Update
import Proofs.C06
import Proofs.C06Bridge
import Proofs.C06Check
import Proofs.C06Ensure
import Proofs.C06Ext
import Proofs.C06Extra
import Proofs.C06Pairs
import Proofs.C06Scalar
import Proofs.C06Step
import Proofs.C07
import Proofs.C07Heap
import Proofs.C07Step
import Proofs.C08
import Proofs.C08Ext
import Proofs.C08ExtFam
import Proofs.C08ExtManyLoop
import Proofs.C08Near
import Proofs.C08Step
import Proofs.C09
import Proofs.C09Expire
import Proofs.C09Ext
import Proofs.C09Ops
import Proofs.C10
import Proofs.C10ExtBulk
import Proofs.C10ExtDistinct
import Proofs.C10ExtInsert
import Proofs.C10ExtLazy
import Proofs.C10ExtMatch
import Proofs.C10ExtModified
import Proofs.C10Keys
import Proofs.C10Scan
import Proofs.C10Update
import Proofs.C11Model
import Proofs.C11Order
import Proofs.C11Sort
import Proofs.C12
import Proofs.C12Agg
import Proofs.C12Combine
import Proofs.C12Exact
import Proofs.C12Id
import Proofs.C12Main
import Proofs.C12Map
import Proofs.C12Ops
import Proofs.C12Sub
import Proofs.C13
import Proofs.C13ExtConflict
import Proofs.C13ExtExpand
import Proofs.C13ExtId
import Proofs.C13ExtPaths
import Proofs.C13ExtSeed
import Proofs.C13ExtSet
import Proofs.C13ExtUpsert
import Proofs.C13Loop
import Proofs.C13Seed
import Proofs.C14
import Proofs.C14Base
import Proofs.C14Cex
import Proofs.C14Fam
import Proofs.C14Find
import Proofs.C14Id
import Proofs.C14Update
import Proofs.C15Loop
import Proofs.C15Once
import Proofs.C15Step
import Proofs.C16
import Proofs.C16Inv
import Proofs.C16Top
import Proofs.C17Coll
import Proofs.C17Laws
import Proofs.C17Refine
import Proofs.C17Server
import Proofs.C18
import Proofs.C18Agg
import Proofs.C18Filter
import Proofs.C18Provenance
import Proofs.C19Cert
import Proofs.C19Docs
import Proofs.C19Eval
import Proofs.C19Fast
import Proofs.C19Inv
import Proofs.C19Lift
import Proofs.C19Main
import Proofs.C19Sim
import Proofs.C20
import Proofs.C20Tables
import Proofs.StepShape
import Proofs.StoreFlag
import Proofs.StoreRecorded
import Proofs.ValDecEq
