/-
  C19 — the lock protocol on its own: N threads, each repeatedly entering and leaving reader or
  writer sections (the "most general client": which kind of section it enters next, and whether
  the section body raises, are free choices).  Every program over sections, of any length, is an
  instance, so a set of states closed under `pstep` covers all programs at once.

  A thread's position is the `Phase` tag of its next instruction; the full interpreter
  (`RWLock.step`) refines this machine for every flat code that is `phase-conformant`
  (`Proofs/C19Sim.lean`).
-/
import MongoModel.RWLock
namespace MongoModel.RWLock

structure PState where
  lk : Locks
  pos : List Phase
  deriving DecidableEq, Repr, Inhabited

/-- what a thread does next: its pending protocol instruction, or one of the free choices -/
inductive Lab
  | op                    -- execute the protocol instruction at the current position
  | begin (w : Bool)      -- (outside) enter a writer / reader section
  | leave (raised : Bool) -- (inside) the body ends, normally or with an exception
  deriving DecidableEq, Repr, Inhabited

def beginPos (P : Protocol) (w : Bool) : Phase :=
  if (P.acqSeq w).isEmpty then .body w else .acq w 0
def afterAcq (P : Protocol) (w : Bool) (j : Nat) : Phase :=
  if j + 1 < (P.acqSeq w).length then .acq w (j + 1) else .body w
def leavePos (P : Protocol) (w r : Bool) : Phase :=
  if (P.relSeq w r).isEmpty then .out else .rel w r 0
def afterRel (P : Protocol) (w r : Bool) (j : Nat) : Phase :=
  if j + 1 < (P.relSeq w r).length then .rel w r (j + 1) else .out

def PState.setPos (s : PState) (t : Nat) (p : Phase) : PState := { s with pos := s.pos.set t p }

/-- the protocol instruction at a position (`none`: the position has none) -/
def instrAt (P : Protocol) : Phase → Option Instr
  | .acq w j => (P.acqSeq w)[j]?
  | .rel w r j => (P.relSeq w r)[j]?
  | _ => none

def nextPos (P : Protocol) : Phase → Phase
  | .acq w j => afterAcq P w j
  | .rel w r j => afterRel P w r j
  | p => p

def pstep (P : Protocol) (s : PState) (t : Nat) (lab : Lab) : Option PState :=
  match s.pos[t]? with
  | none => none
  | some p =>
    match lab with
    | .begin w => if p == .out then some (s.setPos t (beginPos P w)) else none
    | .leave r => match p with
      | .body w => some (s.setPos t (leavePos P w r))
      | _ => none
    | .op => match instrAt P p with
      | none => none
      | some ins => match protoOp P.reentrant s.lk t ins with
        | some (.ok lk') => some { lk := lk', pos := s.pos.set t (nextPos P p) }
        | some .error => some (s.setPos t .out)
        | _ => none

def pinit (n : Nat) : PState := { lk := Locks.init, pos := List.replicate n .out }

def ptids (s : PState) : List Nat := List.range s.pos.length

/-! ### bad states of the protocol machine -/

def isBody (p : Phase) : Bool := match p with | .body _ => true | _ => false
def isWBody (p : Phase) : Bool := match p with | .body true => true | _ => false

/-- a writer is inside together with another thread (writer or reader) -/
def pexclusionViolated (s : PState) : Bool :=
  Nat.ble 1 (s.pos.countP isWBody) && Nat.ble 2 (s.pos.countP isBody)

/-- `p i x` for some / every element `x` at index `i` (counting from `i0`) -/
def anyIdx {α} (p : Nat → α → Bool) : Nat → List α → Bool
  | _, [] => false
  | i, x :: xs => p i x || anyIdx p (Nat.add i 1) xs

def allIdx {α} (p : Nat → α → Bool) : Nat → List α → Bool
  | _, [] => true
  | i, x :: xs => p i x && allIdx p (Nat.add i 1) xs

/-- the pending protocol instruction of thread `t` at position `p` would raise -/
def relErrAt (P : Protocol) (lk : Locks) (t : Nat) (p : Phase) : Bool :=
  match instrAt P p with
  | some ins => protoOp P.reentrant lk t ins == some .error
  | none => false

def prelError (P : Protocol) (s : PState) : Bool := anyIdx (relErrAt P s.lk) 0 s.pos

def pleaked (s : PState) : Bool := s.pos.all (· == .out) && !s.lk.free

def pbad (P : Protocol) (s : PState) : Bool := pexclusionViolated s || prelError P s || pleaked s

/-- thread `t` at position `p` is inside a section body, or its pending instruction can execute -/
def canMoveAt (P : Protocol) (lk : Locks) (t : Nat) (p : Phase) : Bool :=
  match p with
  | .body _ => true
  | .out => false
  | p => match instrAt P p with
    | some ins => match protoOp P.reentrant lk t ins with
      | some .blocked => false
      | some _ => true
      | none => false
    | none => false

/-- some thread is in the middle of the protocol and none of those can move -/
def pdeadlocked (P : Protocol) (s : PState) : Bool :=
  s.pos.any (· != .out) && allIdx (fun t p => !canMoveAt P s.lk t p) 0 s.pos

/-! ### reachability -/

inductive PReach (P : Protocol) (n : Nat) : PState → Prop
  | init : PReach P n (pinit n)
  | step {s s' : PState} {t : Nat} {lab : Lab} : PReach P n s → pstep P s t lab = some s' →
      PReach P n s'

/-! ### state codes and the certificate checker

  A certificate is a search tree whose nodes carry a state written as a flat list of numbers
  (`pencodeL`), keyed by a hash of that list.  The certified set is
  `{ s | 5 locks ∧ the tree has a node carrying pencodeL s }`; `pdecodeL (pencodeL s) = s` is a
  lemma (`Proofs/C19Cert.lean`), nothing about the hash is needed. -/

def b2n (b : Bool) : Nat := bif b then 1 else 0
def n2b (n : Nat) : Bool := Nat.beq n 1

def encInt (i : Int) : Nat :=
  match i with
  | .ofNat n => Nat.mul 2 n
  | .negSucc n => Nat.add (Nat.mul 2 n) 1

def decInt (n : Nat) : Int :=
  bif Nat.beq (Nat.mod n 2) 0 then .ofNat (Nat.div n 2) else .negSucc (Nat.div n 2)

/-- position as one number; the unbounded component `j` is the most significant -/
def encPhase : Phase → Nat
  | .out => 0
  | .body w => Nat.add 1 (Nat.mul 4 (b2n w))
  | .acq w j => Nat.add 2 (Nat.mul 4 (Nat.add (b2n w) (Nat.mul 4 j)))
  | .rel w r j => Nat.add 3 (Nat.mul 4 (Nat.add (Nat.add (b2n w) (Nat.mul 2 (b2n r))) (Nat.mul 4 j)))

def decPhase (b : Nat) : Phase :=
  bif Nat.beq (Nat.mod b 4) 0 then .out
  else bif Nat.beq (Nat.mod b 4) 1 then .body (n2b (Nat.mod (Nat.div b 4) 2))
  else bif Nat.beq (Nat.mod b 4) 2 then .acq (n2b (Nat.mod (Nat.div b 4) 2)) (Nat.div b 16)
  else .rel (n2b (Nat.mod (Nat.div b 4) 2)) (n2b (Nat.mod (Nat.div b 8) 2)) (Nat.div b 16)

/-- a state as a flat list of numbers: thread count, (owner, count) of the five locks, the two
    counters, one number per thread position -/
def pencodeL (s : PState) : List Nat :=
  match s.lk.locks with
  | [a, b, c, d, e] =>
    s.pos.length :: a.owner :: a.count :: b.owner :: b.count :: c.owner :: c.count :: d.owner
      :: d.count :: e.owner :: e.count :: encInt s.lk.rc :: encInt s.lk.wc :: s.pos.map encPhase
  | _ => []

/-- a code list as one number, base 256 -/
def packL (bs : List Nat) : Nat := bs.foldr (fun b acc => Nat.add b (Nat.mul 256 acc)) 0

/-- entry `i` of a packed code list -/
def fieldAt (k i : Nat) : Nat := Nat.land (Nat.shiftRight k (Nat.mul 8 i)) 255

def posFrom (k : Nat) : Nat → Nat → List Phase
  | _, 0 => []
  | i, n + 1 => decPhase (fieldAt k i) :: posFrom k (Nat.add i 1) n

/-- the state with `n` threads whose packed code list is `k` -/
def pdecodeK (n k : Nat) : PState :=
  { lk := { locks := [⟨fieldAt k 1, fieldAt k 2⟩, ⟨fieldAt k 3, fieldAt k 4⟩,
                      ⟨fieldAt k 5, fieldAt k 6⟩, ⟨fieldAt k 7, fieldAt k 8⟩,
                      ⟨fieldAt k 9, fieldAt k 10⟩],
            rc := decInt (fieldAt k 11), wc := decInt (fieldAt k 12) },
    pos := posFrom k 13 n }

/-- number of entries of the code list of a state with `n` threads -/
def codeLen (n : Nat) : Nat := Nat.add 13 n

/-- `cnt` keys of `W` bits each, ascending, concatenated into one number; `lo` = the first -/
structure Leaf where
  lo : Nat
  blob : Nat
  cnt : Nat
  deriving Repr, Inhabited

/-- a certificate: the keys (`packL` of the code lists) of a set of states, in sorted leaves -/
abbrev Cert := List Leaf

def keyAt (W blob j : Nat) : Nat :=
  Nat.land (Nat.shiftRight blob (Nat.mul W j)) (Nat.sub (Nat.pow 2 W) 1)

/-- binary search for `x` among the keys `[lo, hi)` of a leaf (`fuel` halvings) -/
def bsearch (W blob x : Nat) : List Unit → Nat → Nat → Bool
  | [], _, _ => false
  | _ :: f, lo, hi =>
    bif Nat.ble hi lo then false else
      bif Nat.beq (keyAt W blob (Nat.div (Nat.add lo hi) 2)) x then true
      else bif Nat.blt x (keyAt W blob (Nat.div (Nat.add lo hi) 2)) then
        bsearch W blob x f lo (Nat.div (Nat.add lo hi) 2)
      else bsearch W blob x f (Nat.add (Nat.div (Nat.add lo hi) 2) 1) hi

def fuel32 : List Unit :=
  [(), (), (), (), (), (), (), (), (), (), (), (), (), (), (), (), (), (), (), (), (), (), (), (),
   (), (), (), (), (), (), (), ()]

/-- search the last leaf whose first key is `≤ x` -/
def Cert.mem (W : Nat) (x : Nat) : Cert → Bool
  | [] => false
  | [l] => bsearch W l.blob x fuel32 0 l.cnt
  | l :: l' :: rest =>
    bif Nat.blt x l'.lo then bsearch W l.blob x fuel32 0 l.cnt else Cert.mem W x (l' :: rest)

/-- `p` holds of the keys `0 .. j-1` of a leaf -/
def leafAll (W : Nat) (p : Nat → Bool) (blob : Nat) : Nat → Bool
  | 0 => true
  | j + 1 => p (keyAt W blob j) && leafAll W p blob j

def Cert.all (W : Nat) (p : Nat → Bool) (C : Cert) : Bool :=
  List.all C fun l => leafAll W p l.blob l.cnt

/-- `k` is one of the keys of the certificate -/
def Cert.Has (W : Nat) (C : Cert) (k : Nat) : Prop :=
  ∃ l, l ∈ C ∧ ∃ j, j < l.cnt ∧ keyAt W l.blob j = k

def keyWidth (n : Nat) : Nat := Nat.mul 8 (codeLen n)

def allSmall (bs : List Nat) : Bool := bs.all fun b => Nat.blt b 256

/-- the certified set of states with `n` threads -/
def Cert.Holds (C : Cert) (n : Nat) (s : PState) : Prop :=
  s.lk.locks.length = 5 ∧ s.pos.length = n ∧ allSmall (pencodeL s) = true ∧
    C.Has (keyWidth n) (packL (pencodeL s))

def psuccIn (C : Cert) (n : Nat) (s' : PState) : Bool :=
  allSmall (pencodeL s') && Cert.mem (keyWidth n) (packL (pencodeL s')) C

/-- the labels that can apply at a position -/
def labsAt : Phase → List Lab
  | .out => [.begin false, .begin true]
  | .body _ => [.leave false, .leave true]
  | _ => [.op]

def pcheckState (P : Protocol) (C : Cert) (n : Nat) (s : PState) : Bool :=
  !pbad P s && !pdeadlocked P s &&
    allIdx (fun t p => (labsAt p).all fun lab =>
      match pstep P s t lab with
      | none => true
      | some s' => psuccIn C n s') 0 s.pos

def pcheckKey (P : Protocol) (C : Cert) (n : Nat) (k : Nat) : Bool :=
  pcheckState P C n (pdecodeK n k)

/-- leaves `i*sz .. i*sz+sz-1` pass the check -/
def pcheckPart (P : Protocol) (C : Cert) (n sz i : Nat) : Bool :=
  Cert.all (keyWidth n) (pcheckKey P C n) ((C.drop (i * sz)).take sz)

def pcheckCert (P : Protocol) (C : Cert) (n : Nat) : Bool :=
  psuccIn C n (pinit n) && Cert.all (keyWidth n) (pcheckKey P C n) C

end MongoModel.RWLock
