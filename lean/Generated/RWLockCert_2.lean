-- GENERATED by harness/c19_certs.py (states found by the explorer for the regenerated protocol) — do not edit
import Proofs.C19Fast
import Generated.RWLockProtocol
namespace MongoModel.Generated
open MongoModel.RWLock

-- 691 states, 6 leaves
def C2 : Cert := [⟨2, 0x52f04000101000000000100010002052704000101000000000100010002052604000101000000000100010002051f04000000000000000100010002051704000000000000000100010002051602000101000000000100010002051202000000000001010100010002050602000000000000000100010002050202000000000000000100010002050002000000000000000100010002037200040000000001010100000002036200040000000001010100010002035200040000010101010100010002034f00020101000000000100000002034700020101000000000100000002034602020000000000000100010002034200040000010101010100010002033b00020000010100000100000002033602020101000000000100010002033300020000010100000100000002033200020000010101010100010002032b00020000010100000100000002032602020101000000000100000002032300020000010100000100000002032200020000000001010100010002031b00040000010100000100000002031600020101000000000100000002031300040000010100000100000002031200020000000001010100000002030b00040000000000000100000002030600020000000000000100000002030300040000000000000100000002030200020000000000000100000002030100040000000000000100000002030000020000000000000100000002027200020000000001010100000002026200020000000001010100010002025200020000010101010100010002024f00000101000000000000000002024700000101000000000000000002024602000000000000000000010002024200020000010101010000010002023f00000101000000000000010002023b00000000010100000000000002023700000101000000000000010002023602000101000000000000010002023300000000010100000000000002023200000000010101010000010002022f02000101000000000000010002022b00000000010100000100000002022702000101000000000000010002022602000101000000000000000002022300000000010100000100000002022200000000000001010000010002021f02000000000000000000010002021b00020000010100000100000002021702000000000000000000010002021600000101000000000000000002021300020000010100000100000002021200000000000001010000000002020f02000000000000000100010002020b00020000000000000100000002020702000000000000000100010002020600000000000000000000000002020502000000000000000100010002020300020000000000000100000002020200000000000000000000000002020100020000000000000100000002020000000000000000000000000002017200040000000001010100000002016200040000000001010100010002015200040000010101010100010002014f00020101000000000100000002014700020101000000000100000002014602020000000000000100010002014200040000010101010100010002013b00020000010100000100000002013602020101000000000100010002013300020000010100000100000002013200020000010101010100010002012b00020000010100000100000002012602020101000000000100000002012300020000010100000100000002012200020000000001010100010002011b00040000010100000100000002011600020101000000000100000002011300040000010100000100000002011200020000000001010100000002010b00040000000000000100000002010600020000000000000100000002010300040000000000000100000002010200020000000000000100000002010100040000000000000100000002010000020000000000000100000002007200020000000001010100000002006200020000000001010100010002005200020000010101010100010002004f00000101000000000000000002004700000101000000000000000002004602000000000000000000010002004200020000010101010000010002003f00000101000000000000010002003b00000000010100000000000002003700000101000000000000010002003602000101000000000000010002003300000000010100000000000002003200000000010101010000010002002f02000101000000000000010002002b00000000010100000100000002002702000101000000000000010002002602000101000000000000000002002300000000010100000100000002002200000000000001010000010002001f02000000000000000000010002001b00020000010100000100000002001702000000000000000000010002001600000101000000000000000002001300020000010100000100000002001200000000000001010000000002000f02000000000000000100010002000b00020000000000000100000002000702000000000000000100010002000600000000000000000000000002000502000000000000000100010002000300020000000000000100000002000200000000000000000000000002000100020000000000000100000002000000000000000000000000000002, 128⟩,
  ⟨26996045638785420381750650592100354, 0x124602000000000001020000010002123f00000101000001020000010002123b00000000010101020000000002123700000101000001020000010002123602000101000001020000010002123300000000010101020000000002122f02000101000001020000010002122b00000000010101020100000002122702000101000001020000010002122602000101000001020000000002122300000000010101020100000002121f02000000000001020000010002121b00020000010101020100000002121702000000000001020000010002121600000101000001020000000002121300020000010101020100000002120f02000000000001020100010002120b000200000000010201000000021207020000000000010201000100021206000000000000010200000000021205020000000000010201000100021203000200000000010201000000021202000000000000010200000000021201000200000000010201000000021200000000000000010200000000020f4f020001010000000001000100020f47020001010000000001000100020f46040000000000000001000100020f3f020001010000000001000100020f3b020000000101000001000100020f37020001010000000001000100020f36040001010000000001000100020f33020000000101000001000100020f2f040001010000000001000100020f27040001010000000001000100020f26040001010000000001000100020f1f040000000000000001000100020f17040000000000000001000100020f16020001010000000001000100020f12020000000000010101000100020f06020000000000000001000100020f02020000000000000001000100020f00020000000000000001000100020b72000400000000010101000000020b62000400000000010101000100020b52000400000101010101000100020b4f000201010000000001000000020b47000201010000000001000000020b46020200000000000001000100020b42000400000101010101000100020b3b000200000101000001000000020b36020201010000000001000100020b33000200000101000001000000020b32000200000101010101000100020b2b000200000101000001000000020b26020201010000000001000000020b23000200000101000001000000020b22000200000000010101000100020b1b000400000101000001000000020b16000201010000000001000000020b13000400000101000001000000020b12000200000000010101000000020b0b000400000000000001000000020b06000200000000000001000000020b03000400000000000001000000020b02000200000000000001000000020b01000400000000000001000000020b0000020000000000000100000002074f02000101000000000100010002074702000101000000000100010002074604000000000000000100010002073f02000101000000000100010002073b02000000010100000100010002073702000101000000000100010002073604000101000000000100010002073302000000010100000100010002072f04000101000000000100010002072704000101000000000100010002072604000101000000000100010002071f04000000000000000100010002071704000000000000000100010002071602000101000000000100010002071202000000000001010100010002070602000000000000000100010002070202000000000000000100010002070002000000000000000100010002067200020000000001010100000002066200020000000001010100010002065200020000010101010100010002064f00000101000000000000000002064700000101000000000000000002064602000000000000000000010002064200020000010101010000010002063f00000101000000000000010002063b00000000010100000000000002063700000101000000000000010002063602000101000000000000010002063300000000010100000000000002063200000000010101010000010002062f02000101000000000000010002062b00000000010100000100000002062702000101000000000000010002062602000101000000000000000002062300000000010100000100000002062200000000000001010000010002061f02000000000000000000010002061b00020000010100000100000002061702000000000000000000010002061600000101000000000000000002061300020000010100000100000002061200000000000001010000000002060f02000000000000000100010002060b00020000000000000100000002060702000000000000000100010002060600000000000000000000000002060502000000000000000100010002060300020000000000000100000002060200000000000000000000000002060100020000000000000100000002060000000000000000000000000002054f02000101000000000100010002054702000101000000000100010002054604000000000000000100010002053f02000101000000000100010002053b02000000010100000100010002053702000101000000000100010002053604000101000000000100010002053302000000010100000100010002, 128⟩,
  ⟨94901394536699814100030361587154946, 0x233602000101010200000100010002232602000101010200000100000002232200000000010201010100010002231600000101010200000100000002231200000000010201010100000002230b00020000010200000100000002230600000000010200000100000002230300020000010200000100000002230200000000010200000100000002230100020000010200000100000002230000000000010200000100000002224f00000101000001020000010002224700000101000001020000010002223b00000000010101020000010002223300000000010101020000010002222b00000000010101020100010002222602000101000001020000010002222300000000010101020100010002221b00020000010101020100010002221600000101000001020000010002221300020000010101020100010002220b000200000000010201000100022206000000000000010200000100022203000200000000010201000100022202000000000000010200000100022201000200000000010201000100022200000000000000010200000100021f4f020001010000000000000100021f47020001010000000000000100021f46040000000000000000000100021f3f020001010000000000000100021f3b020000000101000000000100021f37020001010000000000000100021f36040001010000000000000100021f33020000000101000000000100021f2f040001010000000000000100021f27040001010000000000000100021f26040001010000000000000100021f1f040000000000000000000100021f17040000000000000000000100021f16020001010000000000000100021f12020000000000010100000100021f0f040000000000000001000100021f07040000000000000001000100021f06020000000000000000000100021f05040000000000000001000100021f02020000000000000000000100021f00020000000000000000000100021b72000400000102010101000000021b62000400000102010101000100021b4f000201010102000001000000021b47000201010102000001000000021b46020200000102000001000100021b36020201010102000001000100021b26020201010102000001000000021b22000200000102010101000100021b16000201010102000001000000021b12000200000102010101000000021b0b000400000102000001000000021b06000200000102000001000000021b03000400000102000001000000021b02000200000102000001000000021b01000400000102000001000000021b0000020000010200000100000002174f02000101000000000000010002174702000101000000000000010002174604000000000000000000010002173f02000101000000000000010002173b02000000010100000000010002173702000101000000000000010002173604000101000000000000010002173302000000010100000000010002172f04000101000000000000010002172704000101000000000000010002172604000101000000000000010002171f04000000000000000000010002171704000000000000000000010002171602000101000000000000010002171202000000000001010000010002170f04000000000000000100010002170704000000000000000100010002170602000000000000000000010002170504000000000000000100010002170202000000000000000000010002170002000000000000000000010002167200020102000001010100000002166200020102000001010100010002165200020102010101010100010002164602000102000000000000010002164200020102010101010000010002163b00000102010100000000000002163300000102010100000000000002163200000102010101010000010002162b00000102010100000100000002162300000102010100000100000002162200000102000001010000010002161f02000102000000000000010002161b00020102010100000100000002161702000102000000000000010002161300020102010100000100000002161200000102000001010000000002160f02000102000000000100010002160b00020102000000000100000002160702000102000000000100010002160600000102000000000000000002160502000102000000000100010002160300020102000000000100000002160200000102000000000000000002160100020102000000000100000002160000000102000000000000000002137200040000010201010100000002136200040000010201010100010002134f00020101010200000100000002134700020101010200000100000002134602020000010200000100010002133602020101010200000100010002132602020101010200000100000002132200020000010201010100010002131600020101010200000100000002131200020000010201010100000002130b00040000010200000100000002130600020000010200000100000002130300040000010200000100000002130200020000010200000100000002130100040000010200000100000002130000020000010200000100000002124f00000101000001020000000002124700000101000001020000000002, 128⟩,
  ⟨183150317177299631047778132281065474, 0x370502000102000000000100010002370200000102000000000000010002370000000102000000000000010002367202020102000001010100010002364604000102000000000000010002363b02000102010100000000010002363302000102010100000000010002362b02000102010100000100010002362302000102010100000100010002361f04000102000000000000010002361b02020102010100000100010002361704000102000000000000010002361302020102010100000100010002361202000102000001010000010002360f04000102000000000100010002360b02020102000000000100010002360704000102000000000100010002360602000102000000000000010002360504000102000000000100010002360302020102000000000100010002360202000102000000000000010002360102020102000000000100010002360002000102000000000000010002337200020000010201010100000002336200020000010201010100010002334f00000101010200000000000002334700000101010200000000000002334602000000010200000000010002333f00000101010200000000010002333700000101010200000000010002333602000101010200000000010002332f02000101010200000000010002332702000101010200000000010002332602000101010200000000000002332200000000010201010000010002331f02000000010200000000010002331702000000010200000000010002331600000101010200000000000002331200000000010201010000000002330f02000000010200000100010002330b00020000010200000100000002330702000000010200000100010002330600000000010200000000000002330502000000010200000100010002330300020000010200000100000002330200000000010200000000000002330100020000010200000100000002330000000000010200000000000002324f00000101010201020000010002324700000101010201020000010002322602000101010201020000010002321600000101010201020000010002320b000200000102010201000100023206000000000102010200000100023203000200000102010201000100023202000000000102010200000100023201000200000102010201000100023200000000000102010200000100022f46040001020000000000000100022f3b020001020101000000000100022f33020001020101000000000100022f1f040001020000000000000100022f17040001020000000000000100022f12020001020000010100000100022f0f040001020000000001000100022f07040001020000000001000100022f06020001020000000000000100022f05040001020000000001000100022f02020001020000000000000100022f00020001020000000000000100022b72000200000102010101000000022b62000200000102010101000100022b4f000001010102000001000000022b47000001010102000001000000022b46020000000102000001000100022b36020001010102000001000100022b26020001010102000001000000022b22000000000102010101000100022b16000001010102000001000000022b12000000000102010101000000022b0b000200000102000001000000022b06000000000102000001000000022b03000200000102000001000000022b02000000000102000001000000022b01000200000102000001000000022b0000000000010200000100000002274604000102000000000000010002273b02000102010100000000010002273302000102010100000000010002271f04000102000000000000010002271704000102000000000000010002271202000102000001010000010002270f04000102000000000100010002270704000102000000000100010002270602000102000000000000010002270504000102000000000100010002270202000102000000000000010002270002000102000000000000010002267202020102000001010100000002266202020102000001010100010002265202020102010101010100010002264604000102000000000000010002264202020102010101010000010002263b02000102010100000000000002263302000102010100000000000002263202000102010101010000010002262b02000102010100000100000002262302000102010100000100000002262202000102000001010000010002261f04000102000000000000010002261b02020102010100000100000002261704000102000000000000010002261302020102010100000100000002261202000102000001010000000002260f04000102000000000100010002260b02020102000000000100000002260704000102000000000100010002260602000102000000000000000002260504000102000000000100010002260302020102000000000100000002260202000102000000000000000002260102020102000000000100000002260002000102000000000000000002237200020000010201010100000002236200020000010201010100010002234f00000101010200000100000002234700000101010200000100000002234602000000010200000100010002, 128⟩,
  ⟨285698021678255800144301350080020482, 0x4f32000001020101010100000100024f2b000001020101000001000000024f23000001020101000001000000024f22000001020000010100000100024f1f020001020000000000000100024f1b000201020101000001000000024f17020001020000000000000100024f13000201020101000001000000024f12000001020000010100000000024f0f020001020000000001000100024f0b000201020000000001000000024f07020001020000000001000100024f06000001020000000000000000024f05020001020000000001000100024f03000201020000000001000000024f02000001020000000000000000024f01000201020000000001000000024f0000000102000000000000000002477200020102000001010100000002476200020102000001010100010002475200020102010101010100010002474602000102000000000000010002474200020102010101010000010002473b00000102010100000000000002473300000102010100000000000002473200000102010101010000010002472b00000102010100000100000002472300000102010100000100000002472200000102000001010000010002471f02000102000000000000010002471b00020102010100000100000002471702000102000000000000010002471300020102010100000100000002471200000102000001010000000002470f02000102000000000100010002470b00020102000000000100000002470702000102000000000100010002470600000102000000000000000002470502000102000000000100010002470300020102000000000100000002470200000102000000000000000002470100020102000000000100000002470000000102000000000000000002467202020000000001010100010002464f02000101000000000000010002464702000101000000000000010002464604000000000000000000010002463f02000101000000000000010002463b02000000010100000000010002463702000101000000000000010002463604000101000000000000010002463302000000010100000000010002462f04000101000000000000010002462b02000000010100000100010002462704000101000000000000010002462604000101000000000000010002462302000000010100000100010002461f04000000000000000000010002461b02020000010100000100010002461704000000000000000000010002461602000101000000000000010002461302020000010100000100010002461202000000000001010000010002460f04000000000000000100010002460b02020000000000000100010002460704000000000000000100010002460602000000000000000000010002460504000000000000000100010002460302020000000000000100010002460202000000000000000000010002460102020000000000000100010002460002000000000000000000010002424f00020101010201020000010002424700020101010201020000010002422602020101010201020000010002421600020101010201020000010002420b000400000102010201000100024206000200000102010200000100024203000400000102010201000100024202000200000102010200000100024201000400000102010201000100024200000200000102010200000100023f46020001020000000000000100023f3b000001020101000000000100023f33000001020101000000000100023f1f020001020000000000000100023f17020001020000000000000100023f12000001020000010100000100023f0f020001020000000001000100023f07020001020000000001000100023f06000001020000000000000100023f05020001020000000001000100023f02000001020000000000000100023f00000001020000000000000100023b72000200000102010101000000023b62000200000102010101000100023b4f000001010102000000000000023b47000001010102000000000000023b46020000000102000000000100023b3f000001010102000000000100023b37000001010102000000000100023b36020001010102000000000100023b2f020001010102000000000100023b27020001010102000000000100023b26020001010102000000000000023b22000000000102010100000100023b1f020000000102000000000100023b17020000000102000000000100023b16000001010102000000000000023b12000000000102010100000000023b0f020000000102000001000100023b0b000200000102000001000000023b07020000000102000001000100023b06000000000102000000000000023b05020000000102000001000100023b03000200000102000001000000023b02000000000102000000000000023b01000200000102000001000000023b0000000000010200000000000002374602000102000000000000010002373b00000102010100000000010002373300000102010100000000010002371f02000102000000000000010002371702000102000000000000010002371200000102000001010000010002370f02000102000000000100010002370702000102000000000100010002370600000102000000000000010002, 128⟩,
  ⟨411225854715256006916912556036587522, 0x724f00020101000001020100000002724700020101000001020100000002724602020000000001020100010002723b00020000010101020100000002723602020101000001020100010002723300020000010101020100000002722b00020000010101020100000002722602020101000001020100000002722300020000010101020100000002721b00040000010101020100000002721600020101000001020100000002721300040000010101020100000002720b00040000000001020100000002720600020000000001020100000002720300040000000001020100000002720200020000000001020100000002720100040000000001020100000002720000020000000001020100000002624f00020101000001020100010002624700020101000001020100010002623b00020000010101020100010002623300020000010101020100010002622b00020000010101020100010002622602020101000001020100010002622300020000010101020100010002621b00040000010101020100010002621600020101000001020100010002621300040000010101020100010002620b00040000000001020100010002620600020000000001020100010002620300040000000001020100010002620200020000000001020100010002620100040000000001020100010002620000020000000001020100010002524f00020101010201020100010002524700020101010201020100010002522602020101010201020100010002521600020101010201020100010002520b000400000102010201000100025206000200000102010201000100025203000400000102010201000100025202000200000102010201000100025201000400000102010201000100025200000200000102010201000100024f72000201020000010101000000024f62000201020000010101000100024f52000201020101010101000100024f46020001020000000000000100024f42000201020101010100000100024f3b000001020101000000000000024f3300000102010100000000000002, 51⟩]

theorem cert2_ok : pcheckCert protocol C2 2 = true := fastCert_sound (by decide +kernel)

end MongoModel.Generated
