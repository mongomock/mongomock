-- GENERATED by harness/c19_certs.py (states found by the explorer for the regenerated protocol) — do not edit
import Proofs.C19Fast
import Generated.RWLockCert_3_data
namespace MongoModel.Generated
open MongoModel.RWLock

theorem cert3_ok : pcheckCert protocol C3 3 = true := fastCert_sound (by decide +kernel)

end MongoModel.Generated
